/-
  The library `Rl`: executable models of the rustyline code (`Rl/*.lean`), declarative specifications and
  oracles (`Rl/Spec`), helper lemmas (`Rl/Lemmas`), the property theorems (`Rl/Props/Cxx.lean`).  The driver
  (`Main.lean`, `Rl/Drv`) is built by the target `rldrv`.
-/
import Rl.Cmd
import Rl.Completion
import Rl.Direct
import Rl.Editor
import Rl.FileSession
import Rl.Highlight
import Rl.Hint
import Rl.HistFile
import Rl.History
import Rl.Keys
import Rl.KillRing
import Rl.Layout
import Rl.LineBuffer
import Rl.Printer
import Rl.RawMode
import Rl.Render
import Rl.RenderOp
import Rl.Seg
import Rl.Sqlite
import Rl.Term
import Rl.Text
import Rl.Types
import Rl.Undo
import Rl.Wire
import Rl.Spec.Completion
import Rl.Spec.Direct
import Rl.Spec.Doc
import Rl.Spec.EdObs
import Rl.Spec.EdOracle
import Rl.Spec.FileSession
import Rl.Spec.Highlight
import Rl.Spec.Hint
import Rl.Spec.HistFile
import Rl.Spec.History
import Rl.Spec.LineBuffer
import Rl.Spec.Motion
import Rl.Spec.OracleComplete
import Rl.Spec.OracleDoc
import Rl.Spec.OracleKillUndo
import Rl.Spec.OracleNav
import Rl.Spec.OracleScreen
import Rl.Spec.OracleSearch
import Rl.Spec.Printer
import Rl.Spec.RawMode
import Rl.Spec.Screen
import Rl.Spec.Sqlite
import Rl.Lemmas.AlphaLM
import Rl.Lemmas.ArgKeys
import Rl.Lemmas.CharSearch
import Rl.Lemmas.CharSearchClamp
import Rl.Lemmas.CompleteList
import Rl.Lemmas.CompleteLoop
import Rl.Lemmas.CompleteUndo
import Rl.Lemmas.CompleteUndoCursor
import Rl.Lemmas.Completion
import Rl.Lemmas.CompletionReplacement
import Rl.Lemmas.Direct
import Rl.Lemmas.DirectGap
import Rl.Lemmas.EditorFrame
import Rl.Lemmas.EditorGrow
import Rl.Lemmas.EditorInp
import Rl.Lemmas.EditorKillAcc
import Rl.Lemmas.EditorKillFlag
import Rl.Lemmas.EditorKillReports
import Rl.Lemmas.EditorLog
import Rl.Lemmas.EditorLogVi
import Rl.Lemmas.EditorLogViLoops
import Rl.Lemmas.EditorLoops
import Rl.Lemmas.EditorM
import Rl.Lemmas.EditorNext
import Rl.Lemmas.EditorNextAll
import Rl.Lemmas.EditorNextRet
import Rl.Lemmas.EditorOps
import Rl.Lemmas.EditorPop
import Rl.Lemmas.EditorPopLocal
import Rl.Lemmas.EditorRead
import Rl.Lemmas.EditorReadRet
import Rl.Lemmas.EditorReplaceChar
import Rl.Lemmas.EditorRing
import Rl.Lemmas.EditorSafe
import Rl.Lemmas.EditorSafe2
import Rl.Lemmas.EditorUndoSafe
import Rl.Lemmas.ExecRefines
import Rl.Lemmas.ExecRefines2
import Rl.Lemmas.ExecRefines3
import Rl.Lemmas.ExecWalk
import Rl.Lemmas.FileSession
import Rl.Lemmas.FileSession2
import Rl.Lemmas.FirstPrint
import Rl.Lemmas.Highlight
import Rl.Lemmas.HighlightOracle
import Rl.Lemmas.Hint
import Rl.Lemmas.HistFile
import Rl.Lemmas.History
import Rl.Lemmas.HistoryLog
import Rl.Lemmas.Indent
import Rl.Lemmas.Keymap
import Rl.Lemmas.KeymapVi
import Rl.Lemmas.KeymapWalk
import Rl.Lemmas.Keys
import Rl.Lemmas.KeysProgress
import Rl.Lemmas.KillRing
import Rl.Lemmas.KillRingSafe
import Rl.Lemmas.KillRingSim
import Rl.Lemmas.KillSpan
import Rl.Lemmas.LBFaithful
import Rl.Lemmas.Layout
import Rl.Lemmas.LineBuffer
import Rl.Lemmas.LineBufferGrow
import Rl.Lemmas.LineBufferSafe
import Rl.Lemmas.LineBufferSeq
import Rl.Lemmas.LineSpan
import Rl.Lemmas.Lines
import Rl.Lemmas.Motion
import Rl.Lemmas.PopUndoWF
import Rl.Lemmas.Printer
import Rl.Lemmas.PrinterLive
import Rl.Lemmas.RawMode
import Rl.Lemmas.RawModeSession
import Rl.Lemmas.RecallFrame
import Rl.Lemmas.Render
import Rl.Lemmas.RenderGhost
import Rl.Lemmas.RenderLog
import Rl.Lemmas.RenderLogAlpha
import Rl.Lemmas.RenderLogBd
import Rl.Lemmas.RenderLogBdExec
import Rl.Lemmas.RenderLogBdTop
import Rl.Lemmas.RenderLogEd
import Rl.Lemmas.RenderLogExec
import Rl.Lemmas.RenderLogLift
import Rl.Lemmas.RenderLogReturn
import Rl.Lemmas.RenderLogTop
import Rl.Lemmas.ReturnNoHint
import Rl.Lemmas.RowStore
import Rl.Lemmas.SearchLoopInv
import Rl.Lemmas.Span
import Rl.Lemmas.Sqlite
import Rl.Lemmas.SqliteRefine
import Rl.Lemmas.Steps
import Rl.Lemmas.Term
import Rl.Lemmas.Undo
import Rl.Lemmas.UndoBottom
import Rl.Lemmas.UndoUnits
import Rl.Lemmas.Vertical
import Rl.Lemmas.WordBeforeEnd
import Rl.Props.C01
import Rl.Props.C02
import Rl.Props.C03
import Rl.Props.C04
import Rl.Props.C05
import Rl.Props.C06
import Rl.Props.C07
import Rl.Props.C08
import Rl.Props.C09
import Rl.Props.C10
import Rl.Props.C11
import Rl.Props.C12
import Rl.Props.C13
import Rl.Props.C14
import Rl.Props.C15
import Rl.Props.C16
import Rl.Props.C17
import Rl.Props.C18
import Rl.Props.C19
import Rl.Props.C20
