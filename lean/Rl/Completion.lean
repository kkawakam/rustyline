/-
  Model of the string functions of `src/completion.rs` (unix configuration):
  `unescape`, `escape`, `extract_word` (reverse scan with the escape-run counter),
  `find_unclosed_quote` (five-mode scanner), `bare_word_start` (the private forward scan over the
  same five modes that `complete_path` uses when no quote is open), `longest_common_prefix` (byte loop and the
  char-boundary back-off), `filename_complete` / `FilenameCompleter::complete_path` over a
  directory listing passed in as data.  Parametric in the break set and the escape character.
  Panics (`&line[..pos]` off a boundary or past the end) are `none`.
-/
import Rl.Text
namespace Rl.Completion

/-- `completion::Quote` -/
inductive Quote | double | single | none
deriving DecidableEq, Repr

/-! ### unescape / escape -/

/-- the `while let Some(ch) = chars.next()` loop of `unescape` (not windows): an escape character
    is dropped and the character after it is copied; an escape character at the end is dropped -/
def unescapeGo (e : Char) : Text → Text
  | [] => []
  | [c] => if c = e then [] else [c]
  | c :: d :: t => if c = e then d :: unescapeGo e t else c :: unescapeGo e (d :: t)

/-- `unescape(input, esc_char)` -/
def unescape (esc : Option Char) (s : Text) : Text :=
  match esc with
  | none => s
  | some e => if !(s.any (· == e)) then s else unescapeGo e s

/-- what `escape` writes for one character -/
def escChar (e : Char) (isBreak : Char → Bool) (c : Char) : Text :=
  if isBreak c then [e, c] else [c]

/-- `escape(input, esc_char, is_break_char, quote)` (not windows) -/
def escape (esc : Option Char) (isBreak : Char → Bool) (q : Quote) (s : Text) : Text :=
  if q = .single then s
  else if (s.filter isBreak).length = 0 then s
  else
    match esc with
    | none => s
    | some e => s.flatMap (escChar e isBreak)

/-! ### extract_word -/

/-- The `for (i, c) in line.char_indices().rev()` loop of `extract_word`.  The list is the
    not yet visited part of the line, reversed, so the byte index of its head `c` is
    `blen rest`.  State: `start`, `escapes`.  Returning is `break` or the end of the loop. -/
def extractGo (esc : Option Char) (isBreak : Char → Bool) :
    List Char → Option Nat → Nat → Option Nat × Nat
  | [], start, k => (start, k)
  | c :: rest, start, k =>
    match esc, start with
    | some e, some s =>
      if e = c then extractGo esc isBreak rest (some s) (k + 1)
      else if k % 2 = 0 then (some s, k)
      else if isBreak c then extractGo esc isBreak rest (some (blen rest + c.utf8Size)) 0
      else extractGo esc isBreak rest none 0
    | none, _ =>
      if isBreak c then (some (blen rest + c.utf8Size), k)
      else extractGo esc isBreak rest start k
    | some _, none =>
      if isBreak c then extractGo esc isBreak rest (some (blen rest + c.utf8Size)) k
      else extractGo esc isBreak rest none k

/-- `extract_word(line, pos, esc_char, is_break_char)`; `none` = panic of `&line[..pos]` -/
def extractWord (line : Text) (pos : Nat) (esc : Option Char) (isBreak : Char → Bool) :
    Option (Nat × Text) :=
  match splitAtByte line pos with
  | none => none
  | some (l, _) =>
    if l.isEmpty then some (0, l)
    else
      let r := extractGo esc isBreak l.reverse none 0
      let start := if r.2 % 2 = 1 then none else r.1
      match start with
      | some s =>
        match splitAtByte l s with
        | some (_, w) => some (s, w)
        | none => none
      | none => some (0, l)

/-! ### find_unclosed_quote -/

inductive ScanMode | doubleQuote | escape | escapeInDoubleQuote | normal | singleQuote
deriving DecidableEq, Repr

/-- one iteration of the scanner: (mode, quote_index) at (index, char) -/
def scanStep (mode : ScanMode) (qi : Nat) (index : Nat) (c : Char) : ScanMode × Nat :=
  match mode with
  | .doubleQuote =>
    if c = '"' then (.normal, qi) else if c = '\\' then (.escapeInDoubleQuote, qi) else (.doubleQuote, qi)
  | .escape => (.normal, qi)
  | .escapeInDoubleQuote => (.doubleQuote, qi)
  | .normal =>
    if c = '"' then (.doubleQuote, index)
    else if c = '\\' then (.escape, qi)
    else if c = '\'' then (.singleQuote, index)
    else (.normal, qi)
  | .singleQuote => if c = '\'' then (.normal, qi) else (.singleQuote, qi)

def scanGo : Text → Nat → ScanMode → Nat → ScanMode × Nat
  | [], _, mode, qi => (mode, qi)
  | c :: t, index, mode, qi =>
    let r := scanStep mode qi index c
    scanGo t (index + c.utf8Size) r.1 r.2

/-- `find_unclosed_quote(s)` (not windows) -/
def findUnclosedQuote (s : Text) : Option (Nat × Quote) :=
  let r := scanGo s 0 .normal 0
  if r.1 = .doubleQuote ∨ r.1 = .escapeInDoubleQuote then some (r.2, .double)
  else if r.1 = .singleQuote then some (r.2, .single)
  else none

/-! ### bare_word_start (private helper of `complete_path`, since the repair of D26) -/

/-- one iteration of the forward loop of `bare_word_start`: (mode, start) at (index, char).
    `brk` is the final `if may_break && is_break_char(char)`. -/
def bareStep (isBreak : Char → Bool) (mode : ScanMode) (start : Nat) (index : Nat) (c : Char) :
    ScanMode × Nat :=
  let brk := if isBreak c then index + c.utf8Size else start
  match mode with
  | .doubleQuote =>
    if c = '"' then (.normal, brk) else if c = '\\' then (.escapeInDoubleQuote, start) else (.doubleQuote, start)
  | .escape => (.normal, start)
  | .escapeInDoubleQuote => (.doubleQuote, start)
  | .normal =>
    if c = '\\' then (.escape, start)
    else if c = '"' then (.doubleQuote, brk)
    else if c = '\'' then (.singleQuote, brk)
    else (.normal, brk)
  | .singleQuote => if c = '\'' then (.normal, brk) else (.singleQuote, start)

def bareGo (isBreak : Char → Bool) : Text → Nat → ScanMode → Nat → ScanMode × Nat
  | [], _, mode, start => (mode, start)
  | c :: t, index, mode, start =>
    let r := bareStep isBreak mode start index c
    bareGo isBreak t (index + c.utf8Size) r.1 r.2

/-- `bare_word_start(s, is_break_char)` (not windows) -/
def bareWordStart (isBreak : Char → Bool) (s : Text) : Nat := (bareGo isBreak s 0 .normal 0).2

/-! ### longest_common_prefix (on bytes) -/

/-- `str::as_bytes` -/
def bytes (t : Text) : List UInt8 := t.flatMap String.utf8EncodeChar

/-- the inner `for` of the `'o` loop does not `break`: every adjacent pair of candidates has a
    byte at `n` and the two bytes are equal -/
def agreeAt : List (List UInt8) → Nat → Bool
  | [], _ => true
  | [_], _ => true
  | b1 :: b2 :: bs, n =>
    if b1.length ≤ n ∨ b2.length ≤ n ∨ b1[n]? ≠ b2[n]? then false else agreeAt (b2 :: bs) n

/-- the `'o: loop`, with fuel (the loop stops at the latest when `n` reaches the length of the
    first candidate; `lcpLoop_spec` in the lemma file shows the fuel given is never exhausted) -/
def lcpLoop (bs : List (List UInt8)) : Nat → Nat → Nat
  | 0, n => n
  | fuel + 1, n => if agreeAt bs n then lcpLoop bs fuel (n + 1) else n

/-- `str::is_char_boundary` on the bytes -/
def isCharBoundary (b : List UInt8) (i : Nat) : Bool :=
  if i = 0 then true
  else if i ≥ b.length then i = b.length
  else
    match b[i]? with
    | some x => x < 128 || x ≥ 192      -- `(x as i8) >= -0x40`
    | none => false

/-- `while !candidate.is_char_boundary(n) { n -= 1 }` (index 0 is a boundary, so no underflow) -/
def backOff (b : List UInt8) : Nat → Nat
  | 0 => 0
  | n + 1 => if isCharBoundary b (n + 1) then n + 1 else backOff b n

/-- byte length of the reported prefix for at least two candidates -/
def lcpLen (cs : List Text) : Nat :=
  let bs := cs.map bytes
  backOff (bs.headD []) (lcpLoop bs ((bs.headD []).length + 1) 0)

/-- `longest_common_prefix(candidates)`; outer `none` = panic of the final slice -/
def longestCommonPrefix (cs : List Text) : Option (Option Text) :=
  match cs with
  | [] => some none
  | [c] => some (some c)
  | c :: _ =>
    let n := lcpLen cs
    if n = 0 then some none
    else
      match splitAtByte c n with
      | some (p, _) => some (some p)
      | none => none

/-! ### filename_complete / complete_path over a listing -/

/-- one directory entry: the directory it lives in (path relative to the current directory,
    `[]` = the current directory itself), its name, and whether it is a directory -/
structure Entry where
  dir : Text
  name : Text
  isDir : Bool
deriving Repr, DecidableEq

abbrev Listing := List Entry

def Entry.full (e : Entry) : Text := if e.dir.isEmpty then e.name else e.dir ++ ['/'] ++ e.name

/-- `path.rfind('/')` then `split_at(idx + 1)`: (dir_name, file_name) -/
def splitPath (path : Text) : Text × Text :=
  let rn := path.reverse.takeWhile (· ≠ '/')
  (path.take (path.length - rn.length), rn.reverse)

/-- components of a relative directory path (`Path` ignores repeated and trailing separators) -/
def components : Text → List Text
  | [] => []
  | t =>
    let go := fun (acc : List Text × Text) (c : Char) =>
      if c = '/' then (if acc.2.isEmpty then acc.1 else acc.1 ++ [acc.2], []) else (acc.1, acc.2 ++ [c])
    let r := t.foldl go ([], [])
    if r.2.isEmpty then r.1 else r.1 ++ [r.2]

/-- lexicographic order on code points (= byte order of the UTF-8 strings) -/
def textLe : Text → Text → Bool
  | [], _ => true
  | _ :: _, [] => false
  | a :: s, b :: t => a.toNat < b.toNat || (a = b && textLe s t)

/-- `filename_complete`; the outer `none` means the addressed directory is outside what the
    listing describes (absolute path, `.`/`..`/`~` components) -/
def filenameComplete (fs : Listing) (path : Text) (esc : Option Char) (isBreak : Char → Bool)
    (q : Quote) : Option (List (Text × Text)) :=
  let (dirName, fileName) := splitPath path
  let comps := components dirName
  if dirName.head? = some '/' ∨ comps.any (fun c => c = ['.'] ∨ c = ['.', '.'] ∨ c = ['~']) then none
  else
    let key : Text := (comps.intersperse ['/']).flatten
    let exists_ := key.isEmpty || fs.any (fun e => e.isDir && e.full == key)
    if !exists_ then some []
    else
      some ((fs.filter (fun e => e.dir == key && fileName.isPrefixOf e.name)).map (fun e =>
        (e.name, escape esc isBreak q (dirName ++ e.name ++ (if e.isDir then ['/'] else [])))))

/-- the first part of `complete_path_unsorted`: (start, path, esc_char, break_chars, quote) -/
def parsePath (isBreak dqSpecial : Char → Bool) (line : Text) (pos : Nat) :
    Option (Nat × Text × Option Char × (Char → Bool) × Quote) :=
  match splitAtByte line pos with
  | none => none
  | some (l, _) =>
    match findUnclosedQuote l with
    | some (idx, q) =>
      match splitAtByte l (idx + 1) with
      | none => none
      | some (_, seg) =>
        if q = .double then some (idx + 1, unescape (some '\\') seg, some '\\', dqSpecial, q)
        else some (idx + 1, seg, none, isBreak, q)
    | none =>
      let start := bareWordStart isBreak l
      match splitAtByte l start with
      | none => none      -- panic of `&line[start..pos]`; excluded by `bareWordStart_split`
      | some (_, w) => some (start, unescape (some '\\') w, some '\\', isBreak, .none)

inductive Outcome (α : Type) | ok (a : α) | panic | outOfModel
deriving Repr, DecidableEq

/-- `FilenameCompleter::complete_path` (candidates sorted by display) -/
def completePath (isBreak dqSpecial : Char → Bool) (fs : Listing) (line : Text) (pos : Nat) :
    Outcome (Nat × List (Text × Text)) :=
  match parsePath isBreak dqSpecial line pos with
  | none => .panic
  | some (start, path, esc, brk, q) =>
    match filenameComplete fs path esc brk q with
    | none => .outOfModel
    | some ms => .ok (start, ms.mergeSort (fun a b => textLe a.1 b.1))

/-- unix `default_break_chars` -/
def defaultBreak (c : Char) : Bool :=
  c = ' ' || c = '\t' || c = '\n' || c = '"' || c = '\\' || c = '\'' || c = '`' || c = '@' || c = '$'
    || c = '>' || c = '<' || c = '=' || c = ';' || c = '|' || c = '&' || c = '{' || c = '(' || c = '\x00'

/-- unix `double_quotes_special_chars` -/
def dqSpecial (c : Char) : Bool := c = '"' || c = '$' || c = '\\' || c = '`'

end Rl.Completion
