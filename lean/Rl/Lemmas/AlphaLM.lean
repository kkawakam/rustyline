/-
  C02, towards "inputs over the alphabet ⇒ `LogAlpha`": the closure calculus at the level of the line-buffer
  monad `LM` (`Rl/LineBuffer.lean`).

  `AOp A op`: from a buffer written over the alphabet `A`, whenever `op` returns, the new buffer is over `A`, so is
  every text it answers (`AllA`) and every text it notifies (`NotifA`: what reaches the undo log and the kill ring).
  Rules for the primitives of `Rl/LineBuffer.lean` and a structural tactic `aop`.  A method that inserts
  nothing keeps buffer and notifications inside `A` because each of its steps does (`StaysA`, an instance of
  the walk of Rl/Lemmas/LineBuffer.lean); only the methods through which a text travels need the rules: that
  a text answered by one step and inserted by a later one is over `A` is known to the later step only because
  `AOp.bind` hands the answer's `AllA` on, which the `bind` of the walk cannot do.
-/
import Rl.Lemmas.RenderLogAlpha
import Rl.Lemmas.LineBuffer
namespace Rl

/-- "every text inside this value is written over `A`" -/
class AllA (α : Type) where
  allA : (Char → Bool) → α → Prop

instance : AllA Nat := ⟨fun _ _ => True⟩
instance : AllA Bool := ⟨fun _ _ => True⟩
instance : AllA Unit := ⟨fun _ _ => True⟩
instance : AllA Text := ⟨OverA⟩
instance : AllA LB := ⟨fun A l => OverA A l.buf⟩
instance {α : Type} [AllA α] : AllA (Option α) := ⟨fun A o => ∀ a, o = some a → AllA.allA A a⟩
instance {α β : Type} [AllA α] [AllA β] : AllA (α × β) := ⟨fun A p => AllA.allA A p.1 ∧ AllA.allA A p.2⟩

def NotifA (A : Char → Bool) : Notif → Prop
  | .insChar _ c => A c = true
  | .insStr _ s => OverA A s
  | .del _ s _ => OverA A s
  | .repl _ old new => OverA A old ∧ OverA A new
  | _ => True

/-- the line-buffer operation `op` stays inside the alphabet -/
def AOp {α : Type} [AllA α] (A : Char → Bool) (op : LM α) : Prop :=
  ∀ lb r lb' ns, OverA A lb.buf → op lb = .ok (r, lb', ns) →
    OverA A lb'.buf ∧ AllA.allA A r ∧ ∀ n ∈ ns, NotifA A n

theorem OverA.append {A : Char → Bool} {a b : Text} (ha : OverA A a) (hb : OverA A b) : OverA A (a ++ b) := by
  intro c hc
  rcases List.mem_append.1 hc with h | h
  · exact ha c h
  · exact hb c h

theorem overA_split {A : Char → Bool} {t x z : Text} {p : Nat} (h : OverA A t) (hs : splitAtByte t p = some (x, z)) :
    OverA A x ∧ OverA A z := by
  obtain ⟨e, _⟩ := splitAtByte_some hs
  rw [e] at h
  exact ⟨h.append_left, h.append_right⟩

theorem overA_split3 {A : Char → Bool} {t x y z : Text} {a b : Nat} (h : OverA A t)
    (hs : split3 t a b = .ok (x, y, z)) : OverA A x ∧ OverA A y ∧ OverA A z := by
  obtain ⟨e, _, _⟩ := split3_ok hs
  rw [e] at h
  exact ⟨h.append_left.append_left, h.append_left.append_right, h.append_right⟩

theorem overA_slice {A : Char → Bool} {t y : Text} {a b : Nat} (h : OverA A t) (hs : slice t a b = .ok y) :
    OverA A y := by
  unfold slice at hs
  split at hs
  · rename_i h3; cases hs; exact (overA_split3 h h3).2.1
  · cases hs

theorem overA_sliceTo {A : Char → Bool} {t y : Text} {b : Nat} (h : OverA A t) (hs : sliceTo t b = .ok y) :
    OverA A y := by
  unfold sliceTo at hs
  split at hs
  · rename_i h3; cases hs; exact (overA_split h h3).1
  · cases hs

theorem overA_sliceFrom {A : Char → Bool} {t y : Text} {b : Nat} (h : OverA A t) (hs : sliceFrom t b = .ok y) :
    OverA A y := by
  unfold sliceFrom at hs
  split at hs
  · rename_i h3; cases hs; exact (overA_split h h3).2
  · cases hs

namespace AOp
variable {α β : Type} [AllA α] [AllA β] {A : Char → Bool}

theorem ro {f : LB → Except Panic α} (h : ∀ lb a, OverA A lb.buf → f lb = .ok a → AllA.allA A a) :
    AOp A (LM.ro f) := by
  intro lb r lb' ns hb hr
  unfold LM.ro at hr
  split at hr
  · rename_i hf; cases hr; exact ⟨hb, h lb _ hb hf, fun _ hn => by cases hn⟩
  · cases hr

theorem pure {a : α} (h : AllA.allA A a) : AOp A (Pure.pure a : LM α) :=
  ro (f := fun _ => .ok a) fun _ _ _ e => by cases e; exact h

theorem panic : AOp A (LM.panic : LM α) := ro (f := fun _ => .error .panic) fun _ _ _ e => nomatch e

theorem get : AOp A LM.get := ro (f := .ok) fun _ _ hb e => by cases e; exact hb

theorem lift {e : Except Panic α} (h : ∀ a, e = .ok a → AllA.allA A a) : AOp A (LM.lift e) :=
  ro (f := fun _ => e) fun _ a _ he => h a he

theorem setPos (p : Nat) : AOp A (LM.setPos p) := by
  intro lb r lb' ns hb hr; cases hr; exact ⟨hb, trivial, fun _ hn => by cases hn⟩

theorem notify {n : Notif} (h : NotifA A n) : AOp A (LM.notify n) := by
  intro lb r lb' ns hb hr; cases hr
  exact ⟨hb, trivial, fun m hm => by simp at hm; subst hm; exact h⟩

theorem bind {m : LM α} {k : α → LM β} (hm : AOp A m) (hk : ∀ a, AllA.allA A a → AOp A (k a)) :
    AOp A (m >>= k) := by
  intro lb r lb' ns hb hr
  obtain ⟨a, lb1, n1, n2, h1, h2, rfl⟩ := LM.bind_ok hr
  obtain ⟨hb1, ha, hn1⟩ := hm _ _ _ _ hb h1
  obtain ⟨hb2, hr2, hn2⟩ := hk a ha _ _ _ _ hb1 h2
  refine ⟨hb2, hr2, fun n hn => ?_⟩
  rcases List.mem_append.1 hn with h | h
  · exact hn1 n h
  · exact hn2 n h

theorem drain (a b : Nat) (d : Direction) : AOp A (LB.drain a b d) := by
  intro lb r lb' ns hb hr
  unfold LB.drain at hr
  split at hr
  · rename_i x y z h3
    cases hr
    obtain ⟨hx, hy, hz⟩ := overA_split3 hb h3
    exact ⟨hx.append hz, hy, fun n hn => by simp at hn; subst hn; exact hy⟩
  · cases hr

theorem insertStr (S : Segmenter) (U : UData) (i : Nat) {s : Text} (hs : OverA A s) :
    AOp A (LB.insertStr S U i s) := by
  intro lb r lb' ns hb hr
  unfold LB.insertStr at hr
  split at hr
  · rename_i x z h3
    cases hr
    obtain ⟨hx, hz⟩ := overA_split hb h3
    exact ⟨(hx.append hs).append hz, trivial, fun n hn => by simp at hn; subst hn; exact hs⟩
  · cases hr

theorem insertCharAtPos {ch : Char} (hc : A ch = true) : AOp A (LB.insertCharAtPos ch) := by
  intro lb r lb' ns hb hr
  unfold LB.insertCharAtPos at hr
  split at hr
  · rename_i x z h3
    cases hr
    obtain ⟨hx, hz⟩ := overA_split hb h3
    have h1 : OverA A [ch] := fun c hcm => by simp at hcm; subst hcm; exact hc
    exact ⟨(hx.append h1).append hz, trivial, fun n hn => by simp at hn; subst hn; exact hc⟩
  · cases hr

theorem replace (S : Segmenter) (U : UData) (a b : Nat) {t : Text} (ht : OverA A t) :
    AOp A (LB.replace S U a b t) := by
  intro lb r lb' ns hb hr
  unfold LB.replace at hr
  split at hr
  · rename_i x y z h3
    cases hr
    obtain ⟨hx, hy, hz⟩ := overA_split3 hb h3
    exact ⟨(hx.append ht).append hz, trivial, fun n hn => by simp at hn; subst hn; exact ⟨hy, ht⟩⟩
  · cases hr

end AOp

theorem overA_replicate {A : Char → Bool} {c : Char} (n : Nat) (h : A c = true) : OverA A (List.replicate n c) :=
  fun x hx => by rw [(List.mem_replicate.1 hx).2]; exact h

theorem overA_replicate_flatten {A : Char → Bool} {t : Text} (n : Nat) (h : OverA A t) :
    OverA A (List.replicate n t).flatten := by
  intro c hc
  obtain ⟨l, hl, hcl⟩ := List.mem_flatten.1 hc
  rw [(List.mem_replicate.1 hl).2] at hcl
  exact h c hcl

theorem allA_text {A : Char → Bool} {x : Text} (h : AllA.allA A x) : OverA A x := h

theorem allA_some {A : Char → Bool} {x : Option Text} {g : Text} (h : AllA.allA A x) (e : x = some g) :
    OverA A g := h g e

/-- closes the side goals `AllA.allA A r` -/
macro "alla" : tactic => `(tactic| first
  | trivial
  | assumption
  | (intro _ _; trivial)
  | (intro _ h; cases h; assumption)
  | (intro _ h; cases h; done)
  | exact ⟨by assumption, by assumption⟩
  | (apply overA_replicate; assumption)
  | (apply overA_replicate_flatten; assumption)
  | exact allA_text (by assumption)
  | exact allA_some (by assumption) rfl
  | exact allA_some (by assumption) (by assumption))

/-- closes the side goal of `AOp.lift` (`LM.lift e`: a step that only computes `e`, a panic or an answer): the answer —
    no text, or a slice of a text over `A` — is over `A` -/
macro "aop_lift" : tactic => `(tactic| first
  | (intro _ _; trivial)
  | (intro _ he; exact overA_slice (by assumption) he)
  | (intro _ he; exact overA_sliceTo (by assumption) he)
  | (intro _ he; exact overA_sliceFrom (by assumption) he)
  | (intro _ _ _ _; trivial))

/-- structural descent through a `do` block with the rules of `AOp`: the steps that neither take nor
    answer a text are built in, the others and the methods already treated are given; every premise
    "this text is over `A`" is closed on the spot by `alla` -/
syntax "aop" "[" term,* "]" : tactic
macro_rules
  | `(tactic| aop [$ts,*]) => `(tactic| repeat' (first
      | with_reducible (first
        | intro _ | apply AOp.bind | apply AOp.get | apply AOp.setPos | apply AOp.drain | apply AOp.panic)
      | ((with_reducible apply AOp.pure) <;> alla)
      | ((with_reducible apply AOp.lift) <;> aop_lift)
      | ((with_reducible apply AOp.ro) <;> (intro _ _ _ _; alla))
      | ((with_reducible apply AOp.notify) <;> trivial)
      $[| ((with_reducible apply $ts) <;> alla)]*
      | with_reducible apply lm_ite
      | dsimp only
      | split))

/-- `AOp` without the clause on the answer -/
def StaysA (A : Char → Bool) {α : Type} (m : LM α) : Prop :=
  ∀ lb r lb' ns, OverA A lb.buf → m lb = .ok (r, lb', ns) → OverA A lb'.buf ∧ ∀ n ∈ ns, NotifA A n

theorem AOp.stays {α : Type} [AllA α] {A : Char → Bool} {m : LM α} (h : AOp A m) : StaysA A m :=
  fun lb r lb' ns hb hr => ⟨(h lb r lb' ns hb hr).1, (h lb r lb' ns hb hr).2.2⟩

/-- an answer that holds no text -/
theorem AOp.of_stays {α : Type} [AllA α] {A : Char → Bool} {m : LM α} (h : StaysA A m)
    (ha : ∀ a : α, AllA.allA A a := by exact fun _ => trivial) : AOp A m :=
  fun lb r lb' ns hb hr => ⟨(h lb r lb' ns hb hr).1, ha r, (h lb r lb' ns hb hr).2⟩

theorem StaysA.bind {A : Char → Bool} {α β : Type} {m : LM α} {k : α → LM β} (hm : StaysA A m)
    (hk : ∀ a, StaysA A (k a)) : StaysA A (m >>= k) := by
  intro lb r lb' ns hb hr
  obtain ⟨a, lb1, n1, n2, h1, h2, rfl⟩ := LM.bind_ok hr
  obtain ⟨hb1, hn1⟩ := hm _ _ _ _ hb h1
  obtain ⟨hb2, hn2⟩ := hk a _ _ _ _ hb1 h2
  exact ⟨hb2, fun n hn => (List.mem_append.1 hn).elim (hn1 n) (hn2 n)⟩

theorem StaysA.of_posOnly {A : Char → Bool} {α : Type} {m : LM α} (hm : PosOnly m) : StaysA A m := by
  intro lb r lb' ns hb hr
  obtain ⟨e, _, _, rfl⟩ := hm.h _ _ _ _ hr
  exact ⟨by rw [e]; exact hb, fun _ hn => by cases hn⟩

theorem staysA_prims (A : Char → Bool) : CutPrims (StaysA A) where
  toPosPrims := .of_posOnly StaysA.bind StaysA.of_posOnly
  startKill := (AOp.notify (n := .startKill) trivial).stays
  stopKill := (AOp.notify (n := .stopKill) trivial).stays
  drain a b d := (AOp.drain a b d).stays

section
variable {S : Segmenter} {U : UData} {A : Char → Bool}

theorem aop_backspace (n : Nat) : AOp A (LB.backspace S U n) :=
  .of_stays ((staysA_prims A).backspace S U n)

theorem aop_moveBackward (n : Nat) : AOp A (LB.moveBackward S U n) :=
  .of_stays ((staysA_prims A).moveBackward S U n)

theorem aop_moveForward (n : Nat) : AOp A (LB.moveForward S U n) :=
  .of_stays ((staysA_prims A).moveForward S U n)

theorem aop_moveHome  : AOp A (LB.moveHome S U) :=
  .of_stays ((staysA_prims A).moveHome S U)

theorem aop_moveEnd  : AOp A (LB.moveEnd S U) :=
  .of_stays ((staysA_prims A).moveEnd S U)

theorem aop_moveBufferStart  : AOp A (LB.moveBufferStart S U) :=
  .of_stays ((staysA_prims A).moveBufferStart S U)

theorem aop_moveBufferEnd  : AOp A (LB.moveBufferEnd S U) :=
  .of_stays ((staysA_prims A).moveBufferEnd S U)

theorem aop_moveToFirstPrint  : AOp A (LB.moveToFirstPrint S U) :=
  .of_stays ((staysA_prims A).moveToFirstPrint S U)

theorem aop_moveToPrevWord (w : Word) (n : Nat) : AOp A (LB.moveToPrevWord S U w n) :=
  .of_stays ((staysA_prims A).moveToPrevWord S U w n)

theorem aop_moveToNextWord (a : At) (w : Word) (n : Nat) : AOp A (LB.moveToNextWord S U a w n) :=
  .of_stays ((staysA_prims A).moveToNextWord S U a w n)

theorem aop_moveTo (cs : CharSearch) (n : Nat) : AOp A (LB.moveTo S U cs n) :=
  .of_stays ((staysA_prims A).moveTo S U cs n)

theorem aop_moveToLineUp (n : Nat) (pc : Nat) : AOp A (LB.moveToLineUp S U n pc) :=
  .of_stays ((staysA_prims A).moveToLineUp S U n pc)

theorem aop_moveToLineDown (n : Nat) (pc : Nat) : AOp A (LB.moveToLineDown S U n pc) :=
  .of_stays ((staysA_prims A).moveToLineDown S U n pc)

theorem aop_setPosChecked (p : Nat) : AOp A (LB.setPosChecked S U p) :=
  .of_stays ((staysA_prims A).setPosChecked S U p)

theorem aop_killLine  : AOp A (LB.killLine S U) :=
  .of_stays ((staysA_prims A).killLine S U)

theorem aop_killBuffer  : AOp A (LB.killBuffer S U) :=
  .of_stays ((staysA_prims A).killBuffer S U)

theorem aop_discardLine  : AOp A (LB.discardLine S U) :=
  .of_stays ((staysA_prims A).discardLine S U)

theorem aop_discardBuffer  : AOp A (LB.discardBuffer S U) :=
  .of_stays ((staysA_prims A).discardBuffer S U)

theorem aop_deletePrevWord (w : Word) (n : Nat) : AOp A (LB.deletePrevWord S U w n) :=
  .of_stays ((staysA_prims A).deletePrevWord S U w n)

theorem aop_deleteWord (a : At) (w : Word) (n : Nat) : AOp A (LB.deleteWord S U a w n) :=
  .of_stays ((staysA_prims A).deleteWord S U a w n)

theorem aop_deleteTo (cs : CharSearch) (n : Nat) : AOp A (LB.deleteTo S U cs n) :=
  .of_stays ((staysA_prims A).deleteTo S U cs n)

theorem aop_deleteRange (a : Nat) (b : Nat) : AOp A (LB.deleteRange S U a b) :=
  .of_stays ((staysA_prims A).deleteRange S U a b)

theorem aop_kill (m : Movement) : AOp A (LB.kill S U m) :=
  .of_stays ((staysA_prims A).kill S U m)

-- kept folded while walking, so that `apply` does not go looking for binders inside it
attribute [local irreducible] AOp

theorem aop_insert {ch : Char} (hc : A ch = true) (n : Nat) : AOp A (LB.insert S U ch n) := by
  unfold LB.insert; aop [AOp.insertCharAtPos _, AOp.insertStr _ _ _ _]

theorem aop_yank {t : Text} (ht : OverA A t) (n : Nat) : AOp A (LB.yank S U t n) := by
  unfold LB.yank; aop [AOp.insertStr _ _ _ _]

theorem aop_delete (n : Nat) : AOp A (LB.delete S U n) := by
  unfold LB.delete; aop []

theorem aop_drainAround (a : Nat) (b : Nat) (c : Nat) : AOp A (LB.drainAround a b c) := by
  unfold LB.drainAround; aop []

theorem aop_transposeChars  : AOp A (LB.transposeChars S U) := by
  unfold LB.transposeChars; aop [aop_moveBackward _, aop_moveForward _, aop_delete _, aop_yank _ _]

theorem aop_transposeWords (n : Nat) : AOp A (LB.transposeWords S U n) := by
  unfold LB.transposeWords; aop [aop_moveToNextWord _ _ _, aop_moveToPrevWord _ _, AOp.insertStr _ _ _ _]

theorem aop_yankPop (k : Nat) (t : Text) (ht : OverA A t) : AOp A (LB.yankPop S U k t) := by
  unfold LB.yankPop; aop [aop_yank _ _]

theorem aop_update (t : Text) (p : Nat) (ht : OverA A t) : AOp A (LB.update S U t p) := by
  unfold LB.update; aop [AOp.insertStr _ _ _ _]

end
end Rl
