/-
  The loop of `emacs_digit_argument` on an arbitrary sequence of digit keys: which key ends it and
  which pending argument it leaves (helper lemmas for `C01_numeric_argument_keys`).
-/
import Rl.Editor
import Rl.Lemmas.EditorM
import Rl.Lemmas.EditorFrame
import Rl.Lemmas.Keymap
namespace Rl
open EM

/-- the digit a key contributes to a numeric argument in emacs mode (`0`–`9`, plain or with Meta) -/
def argDigit (k : KeyEvent) : Option Nat :=
  match k.code with
  | .char d => if isDigit d && (k.mods == 0 || k.mods == Mods.alt) then some (d.toNat - '0'.toNat) else none
  | _ => none

/-- keys the argument loop swallows: digits and `-`, plain or with Meta -/
def isArgKey (k : KeyEvent) : Bool :=
  match k.code with
  | .char d => (isDigit d || d == '-') && (k.mods == 0 || k.mods == Mods.alt)
  | _ => false

/-- `ReadsArg i ds k i'`: decoding the terminal input `i` key by key (`next_key(true)`) yields keys
    that are the digits `ds`, then the key `k`, which is neither a digit nor `-`; `i'` is the input
    left after `k`. -/
inductive ReadsArg : Input → List Nat → KeyEvent → Input → Prop
  | done {i i' : Input} {k : KeyEvent} :
      i.nextKey true = .ok (k, i') → isArgKey k = false → ReadsArg i [] k i'
  | digit {i i1 i' : Input} {k k' : KeyEvent} {n : Nat} {ns : List Nat} :
      i.nextKey true = .ok (k, i1) → argDigit k = some n → ReadsArg i1 ns k' i' → ReadsArg i (n :: ns) k' i'

section
variable (S : Segmenter) (U : UData) (cfg : EdCfg)

/-- what the argument loop reads and writes besides the display: decoder state and terminal input -/
def Ed.ki (s : Ed) : InputState × Input := (s.inp, s.input)

theorem keeps_ki_refreshLine : Keeps Ed.ki (refreshLine S U cfg) := by
  unfold refreshLine
  refine Keeps.bind (Keeps.updateHint_of cfg fun _ _ _ => rfl) fun _ => ?_
  refine Keeps.bind (Keeps.highlightCharStep_of cfg fun _ _ => rfl) fun _ => ?_
  exact Keeps.bind (Keeps.modify fun _ => rfl) fun _ => Keeps.modify fun _ => rfl

theorem keeps_ki_refreshPromptAndLine (p : Text) : Keeps Ed.ki (refreshPromptAndLine S U cfg p) := by
  unfold refreshPromptAndLine
  refine Keeps.bind (Keeps.updateHint_of cfg fun _ _ _ => rfl) fun _ => ?_
  refine Keeps.bind (Keeps.highlightCharStep_of cfg fun _ _ => rfl) fun _ => ?_
  exact Keeps.bind (Keeps.modify fun _ => rfl) fun _ => Keeps.modify fun _ => rfl

theorem refreshPromptAndLine_frame (hnp : cfg.hinterPanicAt = none) (p : Text) (s : Ed) :
    ∃ s', refreshPromptAndLine S U cfg p s = .ok ((), s') ∧ s'.inp = s.inp ∧ s'.input = s.input := by
  have hw := wp_refreshPromptAndLine S U cfg (p := p) (Q := fun _ _ => True) (E := fun _ _ => False) (s := s)
    (fun _ _ => trivial) (fun _ _ hne => absurd hnp hne)
  obtain ⟨_, s', h, _⟩ := returns_iff_wp.mpr hw
  have hk := (keeps_ki_refreshPromptAndLine S U cfg p).ok h
  exact ⟨s', h, congrArg Prod.fst hk, congrArg Prod.snd hk⟩

theorem refreshLine_frame (hnp : cfg.hinterPanicAt = none) (s : Ed) :
    ∃ s', refreshLine S U cfg s = .ok ((), s') ∧ s'.inp = s.inp ∧ s'.input = s.input := by
  have hw := wp_refreshLine_np S U cfg hnp (Q := fun _ _ => True) (E := fun _ _ => False) (s := s) (fun _ _ => trivial)
  obtain ⟨_, s', h, _⟩ := returns_iff_wp.mpr hw
  have hk := (keeps_ki_refreshLine S U cfg).ok h
  exact ⟨s', h, congrArg Prod.fst hk, congrArg Prod.snd hk⟩

theorem nextKey_of_input {sea : Bool} {s : Ed} {k : KeyEvent} {i' : Input}
    (h : s.input.nextKey sea = .ok (k, i')) : nextKey sea s = .ok (k, { s with input := i' }) := by
  unfold nextKey; rw [h]

theorem emacsDigitLoop_turn (hnp : cfg.hinterPanicAt = none) (neg : Bool) (fuel : Nat) (mag : Option Nat) (s : Ed)
    {k : KeyEvent} {i' : Input} (hk : s.input.nextKey true = .ok (k, i')) :
    ∃ s2, s2.inp = { s.inp with numArgs := argOf neg mag } ∧ s2.input = i' ∧
      emacsDigitLoop S U cfg neg (fuel + 1) mag s =
        (match k.code with
         | .char d =>
           if isDigit d && (k.mods == 0 || k.mods == Mods.alt) then
             emacsDigitLoop S U cfg neg fuel (digitAccum mag (d.toNat - '0'.toNat))
           else if d == '-' && (k.mods == 0 || k.mods == Mods.alt) then emacsDigitLoop S U cfg neg fuel mag
           else do refreshLine S U cfg; pure k
         | _ => do refreshLine S U cfg; pure k) s2 := by
  obtain ⟨s2, h2, h2a, h2b⟩ := refreshPromptAndLine_frame S U cfg hnp (argPrompt (argOf neg mag))
    { s with inp := { s.inp with numArgs := argOf neg mag } }
  have hk2 : nextKey true s2 = .ok (k, { s2 with input := i' }) := nextKey_of_input (by rw [h2b]; exact hk)
  refine ⟨{ s2 with input := i' }, h2a, rfl, ?_⟩
  conv => lhs; rw [emacsDigitLoop]
  simp only [EM.bind_apply, EM.modify, h2, hk2]
  rfl

theorem emacsDigitLoop_reads (hnp : cfg.hinterPanicAt = none) (neg : Bool)
    {i i' : Input} {ds : List Nat} {k : KeyEvent} (hr : ReadsArg i ds k i') :
    ∀ (fuel : Nat) (mag : Option Nat) (s : Ed), s.input = i → ds.length < fuel →
      ∃ s1, emacsDigitLoop S U cfg neg fuel mag s = .ok (k, s1) ∧
        s1.inp = { s.inp with numArgs := argOf neg (ds.foldl digitAccum mag) } ∧ s1.input = i' := by
  induction hr with
  | @done i i' k hk hna =>
    intro fuel mag s hi hf
    obtain ⟨f, rfl⟩ : ∃ f, fuel = f + 1 := ⟨fuel - 1, by simp at hf; omega⟩
    obtain ⟨s2, h2a, h2b, h2⟩ := emacsDigitLoop_turn S U cfg hnp neg f mag s (hi ▸ hk)
    obtain ⟨s3, h3, h3a, h3b⟩ := refreshLine_frame S U cfg hnp s2
    refine ⟨s3, ?_, h3a.trans h2a, h3b.trans h2b⟩
    have h3' : (do refreshLine S U cfg; pure k : EM KeyEvent) s2 = .ok (k, s3) := EM.bind_ok h3
    rw [h2]
    obtain ⟨code, mods⟩ := k
    cases code <;> try exact h3'
    rename_i d
    dsimp only [isArgKey] at hna ⊢
    rw [if_neg, if_neg]
    · exact h3'
    · intro h; rw [(Bool.and_eq_true_iff.mp h).1, (Bool.and_eq_true_iff.mp h).2, Bool.or_true] at hna; cases hna
    · intro h; rw [(Bool.and_eq_true_iff.mp h).1, (Bool.and_eq_true_iff.mp h).2] at hna; cases hna
  | @digit i i1 i' k k' n ns hk hd _ ih =>
    intro fuel mag s hi hf
    obtain ⟨f, rfl⟩ : ∃ f, fuel = f + 1 := ⟨fuel - 1, by simp at hf; omega⟩
    obtain ⟨s2, h2a, h2b, h2⟩ := emacsDigitLoop_turn S U cfg hnp neg f mag s (hi ▸ hk)
    obtain ⟨s1, h1, h1a, h1b⟩ := ih f (digitAccum mag n) s2 h2b (by simp at hf; omega)
    refine ⟨s1, ?_, by rw [h1a, h2a]; rfl, h1b⟩
    rw [h2]
    obtain ⟨code, mods⟩ := k
    cases code <;> try (cases hd; done)
    rename_i d
    dsimp only [argDigit] at hd ⊢
    split at hd
    · rename_i hdd; cases hd; rw [if_pos hdd]; exact h1
    · cases hd
end

theorem ReadsArg.term_not_arg {i i' : Input} {ds : List Nat} {k : KeyEvent} (h : ReadsArg i ds k i') :
    isArgKey k = false := by
  induction h with
  | done _ h => exact h
  | digit _ _ _ ih => exact ih

theorem startsArg_of_not_argKey {k : KeyEvent} (h : isArgKey k = false) : startsArg k = false := by
  obtain ⟨code, mods⟩ := k
  cases code <;> try rfl
  rename_i d
  dsimp only [isArgKey, startsArg] at h ⊢
  generalize isDigit d = a at h ⊢
  generalize (d == '-') = b at h ⊢
  generalize (mods == Mods.alt) = e at h ⊢
  revert h
  cases a <;> cases b <;> cases e <;> cases (mods == 0) <;> decide

theorem digitAccum_fold_start (v : Nat) (ds : List Nat) :
    ds.foldl digitAccum (some v) = (v :: ds).foldl digitAccum none := by
  simp [List.foldl_cons, digitAccum]

/-- all digits of the argument `M-d0 d1 … dn` (`M--` contributes the sign only) -/
def argDigits (d0 : Char) (ds : List Nat) : List Nat := if d0 == '-' then ds else (d0.toNat - '0'.toNat) :: ds

section
variable (S : Segmenter) (U : UData) (cfg : EdCfg)

theorem emacs_arg_keys (hnp : cfg.hinterPanicAt = none) (fuel : Nat) (d0 : Char)
    (hd0 : (d0 == '-' || isDigit d0) = true) (s : Ed) (ds : List Nat) (k : KeyEvent) (i' : Input)
    (hr : ReadsArg s.input ds k i') (hf : ds.length < fuel) :
    ∃ s1, s1.core = s.core ∧ s1.input = i' ∧
      s1.inp = { s.inp with numArgs := argOf (d0 == '-') ((argDigits d0 ds).foldl digitAccum none) } ∧
      emacs S U cfg fuel ⟨.char d0, Mods.alt⟩ s = emacs S U cfg fuel k s1 := by
  obtain ⟨s1, h1, h1a, h1b⟩ := emacsDigitLoop_reads S U cfg hnp (d0 == '-') hr fuel
    (if d0 == '-' then none else some (d0.toNat - '0'.toNat)) s rfl hf
  have hcore := (keeps_emacsDigitLoop S U cfg (d0 == '-') fuel _).ok h1
  refine ⟨s1, hcore, h1b, ?_, ?_⟩
  · rw [h1a]
    by_cases hm : (d0 == '-') = true
    · simp only [argDigits, hm, if_true]
    · simp only [argDigits, hm, Bool.false_eq_true, if_false, digitAccum_fold_start]
  · have hk := startsArg_of_not_argKey hr.term_not_arg
    unfold emacs
    refine (congrFun (emacs_arg d0 hd0 _ _) s).trans ?_
    refine (EM.bind_ok h1).trans ?_
    refine Eq.symm ?_
    exact (congrFun (emacs_noArg hk _ _) s1).trans rfl
end
end Rl
