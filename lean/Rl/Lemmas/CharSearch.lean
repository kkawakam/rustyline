/-
  Character searches (vi `f` = `CharSearch::Forward`, `t` = `ForwardBefore`, `F` = `Backward`, `T` = `BackwardAfter`):
  the model's `search_char_pos` computes the declarative target of `Rl/Spec/Motion.lean`; kills / copies with
  a character search cover exactly the declarative span.
-/
import Rl.Lemmas.Motion
import Rl.Lemmas.Span
import Rl.Lemmas.Steps
namespace Rl
open Rl.Spec

theorem cs_take_getLast? {α : Type} (l : List α) (n : Nat) (v : α) (hn : n ≠ 0)
    (h : l[n - 1]? = some v) : (l.take n).getLast? = some v := by
  rw [List.getLast?_take, if_neg hn, h]; rfl

theorem cs_occFwd_some {S : Segmenter} {lb : LB} {c : Char} {n t : Nat} (h : WF lb)
    (ht : occFwd S lb.buf lb.pos c n = some t) :
    ∃ x g r p, lb.buf = x ++ g ++ r ∧ lb.pos = blen x ∧ g ≠ [] ∧ (S.seg (g ++ r)).head? = some g ∧
      (occ c r)[n - 1]? = some p ∧ t = lb.pos + blen g + p := by
  obtain ⟨x, s, hb, hp, hsp, -⟩ := h.cut
  unfold occFwd splitAt? at ht
  simp only [hsp, bind, Option.bind] at ht
  by_cases hs : s = []
  · subst hs
    simp [seg_nil] at ht
  · obtain ⟨g, r, hg, hgr, hgne⟩ := seg_head S hs
    subst hgr
    have hsh : splitAtByte lb.buf (lb.pos + blen g) = some (x ++ g, r) := by
      rw [hb, hp]
      have := splitAtByte_append (x ++ g) r
      simpa using this
    simp only [hg, hsh] at ht
    rw [List.getElem?_map] at ht
    cases ho : (occ c r)[n - 1]? with
    | none => simp [ho] at ht
    | some p =>
      simp [ho] at ht
      exact ⟨x, g, r, p, by rw [hb]; simp, hp, hgne, hg, ho, by omega⟩

theorem searchCharPos_forward_eq (S : Segmenter) (lb : LB) (c : Char) (n t : Nat) (h : WF lb)
    (hn : n ≠ 0) (ht : occFwd S lb.buf lb.pos c n = some t) :
    LB.searchCharPos S lb (.forward c) n = .ok (some t) := by
  obtain ⟨x, g, r, p, hb, hp, hgne, hg, ho, rfl⟩ := cs_occFwd_some h ht
  rw [searchCharPos_forward_eval S c n hb hp hg hgne, cs_take_getLast? _ n _ hn ho]
  rfl

theorem cs_occBwd_some {lb : LB} {c : Char} {n t : Nat} (h : WF lb)
    (ht : occBwd lb.buf lb.pos c n = some t) :
    ∃ x s, lb.buf = x ++ s ∧ lb.pos = blen x ∧ sliceTo lb.buf lb.pos = .ok x ∧
      (occ c x).reverse[n - 1]? = some t := by
  obtain ⟨x, s, hb, hp, hsp, hst, -⟩ := h.cut
  unfold occBwd splitAt? at ht
  simp only [hsp, bind, Option.bind] at ht
  exact ⟨x, s, hb, hp, hst, ht⟩

theorem searchCharPos_backward_eq (S : Segmenter) (lb : LB) (c : Char) (n t : Nat) (h : WF lb)
    (hn : n ≠ 0) (ht : occBwd lb.buf lb.pos c n = some t) :
    LB.searchCharPos S lb (.backward c) n = .ok (some t) := by
  obtain ⟨x, s, -, -, hst, ho⟩ := cs_occBwd_some h ht
  rw [searchCharPos_backward_eval S c n hst, cs_take_getLast? _ n _ hn ho]

theorem cs_offOf_lt {gs : List Text} (hne : ∀ g ∈ gs, g ≠ []) {i j : Nat} (hij : i < j)
    (hj : j ≤ gs.length) : offOf gs i < offOf gs j := by
  induction j with
  | zero => omega
  | succ j ih =>
    have hs := offOf_succ gs j (by omega)
    have := blen_pos_of_ne_nil (hne _ (List.getElem_mem (by omega : j < gs.length)))
    by_cases h : i = j
    · subst h; omega
    · have := ih (by omega) (by omega); omega

theorem cs_offOf_le {gs : List Text} (hne : ∀ g ∈ gs, g ≠ []) {i j : Nat} (hij : i ≤ j)
    (hj : j ≤ gs.length) : offOf gs i ≤ offOf gs j := by
  by_cases h : i = j
  · subst h; exact Nat.le_refl _
  · exact Nat.le_of_lt (cs_offOf_lt hne (by omega) hj)

theorem cs_bounds_mem {base : Nat} {gs : List Text} {p : Nat} (h : (bounds base gs).contains p = true) :
    ∃ k, k ≤ gs.length ∧ p = base + offOf gs k := by
  simp [bounds] at h
  obtain ⟨k, hk, rfl⟩ := h
  exact ⟨k, by omega, rfl⟩

theorem cs_bounds_filter_lt (base : Nat) {gs : List Text} (hne : ∀ g ∈ gs, g ≠ []) (k : Nat)
    (hk : k ≤ gs.length) :
    (bounds base gs).filter (· < base + offOf gs k) = (List.range k).map (fun i => base + offOf gs i) := by
  unfold bounds
  have hl : gs.length + 1 = k + (gs.length + 1 - k) := by omega
  rw [hl, List.range_add, List.map_append, List.filter_append]
  have h1 : ((List.range k).map (fun i => base + offOf gs i)).filter (· < base + offOf gs k) =
      (List.range k).map (fun i => base + offOf gs i) := by
    rw [List.filter_eq_self]
    intro a ha
    simp only [List.mem_map, List.mem_range] at ha
    obtain ⟨i, hi, rfl⟩ := ha
    have := cs_offOf_lt hne hi hk
    simp; omega
  have h2 : (((List.range (gs.length + 1 - k)).map (k + ·)).map (fun i => base + offOf gs i)).filter
      (· < base + offOf gs k) = [] := by
    rw [List.filter_eq_nil_iff]
    intro a ha
    simp only [List.mem_map, List.mem_range] at ha
    obtain ⟨i, ⟨j, hj, rfl⟩, rfl⟩ := ha
    have := cs_offOf_le hne (Nat.le_add_right k j) (by omega)
    simp; omega
  rw [h1, h2]; simp

theorem cs_range_map_getLast? (f : Nat → Nat) (k : Nat) (hk : k ≠ 0) :
    ((List.range k).map f).getLast? = some (f (k - 1)) := by
  obtain ⟨j, rfl⟩ : ∃ j, k = j + 1 := ⟨k - 1, by omega⟩
  rw [List.range_succ]; simp

theorem cs_bounds_find_gt {gs : List Text} (hne : ∀ g ∈ gs, g ≠ []) (k : Nat) (hk : k ≤ gs.length) :
    (bounds 0 gs).find? (· > offOf gs k) = if k < gs.length then some (offOf gs (k + 1)) else none := by
  unfold bounds
  have hl : gs.length + 1 = (k + 1) + (gs.length - k) := by omega
  rw [hl, List.range_add, List.map_append, List.find?_append]
  have h1 : ((List.range (k + 1)).map (fun i => 0 + offOf gs i)).find? (· > offOf gs k) = none := by
    rw [List.find?_eq_none]
    intro a ha
    simp only [List.mem_map, List.mem_range] at ha
    obtain ⟨i, hi, rfl⟩ := ha
    have := cs_offOf_le hne (show i ≤ k by omega) hk
    simp; omega
  rw [h1]
  cases hm : gs.length - k with
  | zero =>
    have : ¬ k < gs.length := by omega
    simp [this]
  | succ m =>
    have hlt : k < gs.length := by omega
    have := cs_offOf_lt hne (Nat.lt_succ_self k) (show k + 1 ≤ gs.length by omega)
    rw [List.range_succ_eq_map]
    simp [hlt, this]

/-- Segmentation is stable under cutting at its own cluster boundaries: the text made of the first
    `k` clusters of `s` (resp. of all clusters but the first `k`) is segmented into exactly those
    clusters.  Holds for every segmenter given by a left-to-right scan whose state is reset at each
    break (`Segmenter.ofGroup_stable`), in particular for `uaxSeg` and `charSeg`; it is what makes
    "the last cluster of `buf[pos..p]`" (the code) and "the cluster boundary before `p` in the
    segmentation of `buf[pos..]`" (the spec) the same thing. -/
def Segmenter.Stable (S : Segmenter) : Prop :=
  ∀ (s : Text) (k : Nat), S.seg ((S.seg s).take k).flatten = (S.seg s).take k ∧
                           S.seg ((S.seg s).drop k).flatten = (S.seg s).drop k

theorem searchCharPos_forwardBefore_eq (S : Segmenter) (hS : S.Stable) (lb : LB) (c : Char) (n t : Nat)
    (h : WF lb) (hn : n ≠ 0) (ht : charSearchTarget S lb.buf lb.pos (.forwardBefore c) n = some t) :
    LB.searchCharPos S lb (.forwardBefore c) n = .ok (some t) := by
  simp only [charSearchTarget, bind, Option.bind] at ht
  cases hocc : occFwd S lb.buf lb.pos c n with
  | none => simp [hocc] at ht
  | some q =>
    simp only [hocc] at ht
    obtain ⟨x, g, r, p, hb, hp, hgne, hg, ho, rfl⟩ := cs_occFwd_some h hocc
    have hsp : splitAt? lb.buf lb.pos = some (x, g ++ r) := by
      unfold splitAt?; rw [hb, hp, List.append_assoc]; exact splitAtByte_append x (g ++ r)
    simp only [hsp] at ht
    have hgp := blen_pos_of_ne_nil hgne
    split at ht
    · rename_i hc
      obtain ⟨k, hk, hpk⟩ := cs_bounds_mem hc
      have hne := S.ne_nil (g ++ r)
      have hk0 : k ≠ 0 := by
        intro h0; subst h0; rw [offOf_zero] at hpk; omega
      rw [hpk, cs_bounds_filter_lt _ hne k hk, cs_range_map_getLast? _ k hk0] at ht
      simp only [Option.some.injEq] at ht
      subst ht
      have hm : p ∈ occ c r := List.mem_of_getElem? ho
      obtain ⟨a, b, rfl, rfl⟩ := occ_mem hm
      have hr := cs_take_getLast? _ n _ hn ho
      have hmid : slice lb.buf lb.pos (lb.pos + blen g + blen a) = .ok (g ++ a) := by
        rw [hb, hp]
        have := slice_mid x (g ++ a) (c :: b)
        simp at this ⊢
        rw [← this]; congr 1; omega
      -- `g ++ a` is the first `k` clusters
      have hfl : ((S.seg (g ++ (a ++ c :: b))).take k).flatten ++ ((S.seg (g ++ (a ++ c :: b))).drop k).flatten
          = (g ++ a) ++ c :: b := by
        rw [cs_take_drop_flatten, S.flatten_eq]; simp
      have hbl : blen ((S.seg (g ++ (a ++ c :: b))).take k).flatten = blen (g ++ a) := by
        have : offOf (S.seg (g ++ (a ++ c :: b))) k = blen g + blen a := by omega
        simpa [offOf] using this
      obtain ⟨hga, _⟩ := cs_append_inj_blen hfl hbl
      have hseg : S.seg (g ++ a) = (S.seg (g ++ (a ++ c :: b))).take k := by
        rw [← hga]; exact (hS _ k).1
      have hkl : k - 1 < (S.seg (g ++ (a ++ c :: b))).length := by omega
      have hlast : (S.seg (g ++ a)).getLast? = some (S.seg (g ++ (a ++ c :: b)))[k - 1] := by
        rw [hseg, List.getLast?_take, if_neg hk0, List.getElem?_eq_getElem hkl]; rfl
      have hsucc := offOf_succ (S.seg (g ++ (a ++ c :: b))) (k - 1) hkl
      have hk1 : k - 1 + 1 = k := by omega
      rw [hk1] at hsucc
      have hll : blen (S.seg (g ++ (a ++ c :: b)))[k - 1] ≤ lb.pos + blen g + blen a := by omega
      have hres : lb.pos + blen g + blen a - blen (S.seg (g ++ (a ++ c :: b)))[k - 1] =
          lb.pos + offOf (S.seg (g ++ (a ++ c :: b))) (k - 1) := by omega
      rw [searchCharPos_forwardBefore_some S c n hb hp hg hgne hr hmid hlast hll, hres]
    · simp at ht

theorem searchCharPos_backwardAfter_eq (S : Segmenter) (hS : S.Stable) (lb : LB) (c : Char) (n t : Nat)
    (h : WF lb) (hn : n ≠ 0) (ht : charSearchTarget S lb.buf lb.pos (.backwardAfter c) n = some t) :
    LB.searchCharPos S lb (.backwardAfter c) n = .ok (some t) := by
  simp only [charSearchTarget, bind, Option.bind] at ht
  cases hocc : occBwd lb.buf lb.pos c n with
  | none => simp [hocc] at ht
  | some p =>
    simp only [hocc] at ht
    obtain ⟨x, s, hb, hp, hst, ho⟩ := cs_occBwd_some h hocc
    have hsp : splitAt? lb.buf lb.pos = some (x, s) := by
      unfold splitAt?; rw [hb, hp]; exact splitAtByte_append x s
    simp only [hsp] at ht
    split at ht
    · rename_i hc
      obtain ⟨k, hk, hpk⟩ := cs_bounds_mem hc
      have hne := S.ne_nil x
      rw [Nat.zero_add] at hpk
      rw [hpk, cs_bounds_find_gt hne k hk] at ht
      split at ht
      · rename_i hkl
        simp only [Option.some.injEq] at ht
        subst ht
        have hr := cs_take_getLast? _ n _ hn ho
        have hm : p ∈ occ c x := List.mem_reverse.mp (List.mem_of_getElem? ho)
        obtain ⟨a, b, rfl, rfl⟩ := occ_mem hm
        have hmid : slice lb.buf (blen a) lb.pos = .ok (c :: b) := by
          rw [hb, hp]
          have := slice_mid a (c :: b) s
          simpa using this
        have hfl : ((S.seg (a ++ c :: b)).take k).flatten ++ ((S.seg (a ++ c :: b)).drop k).flatten
            = a ++ c :: b := by
          rw [cs_take_drop_flatten, S.flatten_eq]
        have hbl : blen ((S.seg (a ++ c :: b)).take k).flatten = blen a := by
          simpa [offOf] using hpk.symm
        obtain ⟨_, hcb⟩ := cs_append_inj_blen hfl hbl
        have hseg : S.seg (c :: b) = (S.seg (a ++ c :: b)).drop k := by
          have := (hS (a ++ c :: b) k).2
          rw [hcb] at this; exact this
        have hhead : (S.seg (c :: b)).head? = some (S.seg (a ++ c :: b))[k] := by
          rw [hseg, List.head?_drop, List.getElem?_eq_getElem hkl]
        have hsucc := offOf_succ (S.seg (a ++ c :: b)) k hkl
        have hres : blen a + blen (S.seg (a ++ c :: b))[k] = offOf (S.seg (a ++ c :: b)) (k + 1) := by omega
        rw [searchCharPos_backwardAfter_some S c n hst hr hmid hhead, hres]
      · simp at ht
    · simp at ht

theorem searchCharPos_eq_target (S : Segmenter) (hS : S.Stable) (lb : LB) (cs : CharSearch) (n t : Nat)
    (h : WF lb) (hn : n ≠ 0) (ht : charSearchTarget S lb.buf lb.pos cs n = some t) :
    LB.searchCharPos S lb cs n = .ok (some t) := by
  cases cs with
  | forward c => exact searchCharPos_forward_eq S lb c n t h hn ht
  | forwardBefore c => exact searchCharPos_forwardBefore_eq S hS lb c n t h hn ht
  | backward c => exact searchCharPos_backward_eq S lb c n t h hn ht
  | backwardAfter c => exact searchCharPos_backwardAfter_eq S hS lb c n t h hn ht

theorem cs_groupGo_take {σ : Type} (glue : σ → Char → Bool) (upd : σ → Char → σ) (init : Char → σ)
    (st : σ) (cur t : Text) (k : Nat) (hk : k ≠ 0) :
    ∃ t1, ((groupGo glue upd init st cur t).take k).flatten = cur.reverse ++ t1 ∧
      groupGo glue upd init st cur t1 = (groupGo glue upd init st cur t).take k := by
  induction t generalizing st cur k with
  | nil =>
    obtain ⟨j, rfl⟩ : ∃ j, k = j + 1 := ⟨k - 1, by omega⟩
    exact ⟨[], by simp [groupGo], by simp [groupGo]⟩
  | cons c t ih =>
    by_cases hgl : glue st c = true
    · obtain ⟨t1, h1, h2⟩ := ih (upd st c) (c :: cur) k hk
      refine ⟨c :: t1, ?_, ?_⟩
      · simp only [groupGo, hgl, if_true]; rw [h1]; simp
      · simp only [groupGo, hgl, if_true]; exact h2
    · obtain ⟨j, rfl⟩ : ∃ j, k = j + 1 := ⟨k - 1, by omega⟩
      by_cases hj : j = 0
      · subst hj
        exact ⟨[], by simp [groupGo, hgl], by simp [groupGo, hgl]⟩
      · obtain ⟨t1, h1, h2⟩ := ih (init c) [c] j hj
        refine ⟨c :: t1, ?_, ?_⟩
        · simp only [groupGo, hgl]
          simp only [Bool.false_eq_true, if_false, List.take_succ_cons, List.flatten_cons]
          rw [h1]; simp
        · simp only [groupGo, hgl, Bool.false_eq_true, if_false, List.take_succ_cons]
          rw [h2]

theorem cs_groupGo_drop {σ : Type} (glue : σ → Char → Bool) (upd : σ → Char → σ) (init : Char → σ)
    (st : σ) (cur t : Text) (k : Nat) (hk : k ≠ 0) :
    group glue upd init ((groupGo glue upd init st cur t).drop k).flatten =
      (groupGo glue upd init st cur t).drop k := by
  induction t generalizing st cur k with
  | nil =>
    obtain ⟨j, rfl⟩ : ∃ j, k = j + 1 := ⟨k - 1, by omega⟩
    simp [groupGo, group]
  | cons c t ih =>
    by_cases hgl : glue st c = true
    · simp only [groupGo, hgl, if_true]
      exact ih (upd st c) (c :: cur) k hk
    · obtain ⟨j, rfl⟩ : ∃ j, k = j + 1 := ⟨k - 1, by omega⟩
      simp only [groupGo, hgl, Bool.false_eq_true, if_false, List.drop_succ_cons]
      by_cases hj : j = 0
      · subst hj
        simp only [List.drop_zero, groupGo_flatten]
        simp [group]
      · exact ih (init c) [c] j hj

theorem Segmenter.ofGroup_stable {σ : Type} (glue : σ → Char → Bool) (upd : σ → Char → σ)
    (init : Char → σ) : (Segmenter.ofGroup glue upd init).Stable := by
  intro s k
  show group glue upd init ((group glue upd init s).take k).flatten = (group glue upd init s).take k ∧
    group glue upd init ((group glue upd init s).drop k).flatten = (group glue upd init s).drop k
  cases s with
  | nil => simp [group]
  | cons c t =>
    by_cases hk : k = 0
    · subst hk
      refine ⟨by simp [group], ?_⟩
      simp only [List.drop_zero]
      have := (Segmenter.ofGroup glue upd init).flatten_eq (c :: t)
      show group glue upd init (group glue upd init (c :: t)).flatten = _
      rw [show (group glue upd init (c :: t)).flatten = c :: t from this]
    · constructor
      · obtain ⟨t1, h1, h2⟩ := cs_groupGo_take glue upd init (init c) [c] t k hk
        simp only [group]
        rw [h1]
        simpa [group] using h2
      · simp only [group]
        exact cs_groupGo_drop glue upd init (init c) [c] t k hk

theorem uaxSeg_stable (cls : Char → String) : (uaxSeg cls).Stable :=
  Segmenter.ofGroup_stable _ _ _

theorem charSeg_stable : charSeg.Stable :=
  Segmenter.ofGroup_stable _ _ _

/-- the search `delete_to` / `copy` actually run (`t`/`T` kills go up to the occurrence itself) -/
def cs_srch : CharSearch → CharSearch
  | .forwardBefore c => .forward c
  | cs => cs

/-- the interval `delete_to` / `copy` cover once the search returned `p` -/
def cs_iv (lb : LB) (cs : CharSearch) (p : Nat) : Nat × Nat :=
  match cs with
  | .forward c => (lb.pos, p + c.utf8Size)
  | .forwardBefore _ => (lb.pos, p)
  | _ => (p, lb.pos)

theorem cs_iv_boundaries (S : Segmenter) (lb : LB) (cs : CharSearch) (n p : Nat) (h : WF lb)
    (hr : LB.searchCharPos S lb (cs_srch cs) n = .ok (some p)) :
    IsBoundary lb.buf (cs_iv lb cs p).1 ∧ IsBoundary lb.buf (cs_iv lb cs p).2 ∧
      (cs_iv lb cs p).1 ≤ (cs_iv lb cs p).2 := by
  obtain ⟨r, hr', hprop⟩ := searchCharPos_ok S lb (cs_srch cs) n h
  rw [hr] at hr'
  cases hr'
  have := hprop p rfl
  cases cs with
  | forward c =>
    simp only [cs_srch] at this
    exact ⟨h, this.2.2, by simp only [cs_iv]; omega⟩
  | forwardBefore c =>
    simp only [cs_srch] at this
    exact ⟨h, this.1, by simp only [cs_iv]; omega⟩
  | backward c | backwardAfter c =>
    simp only [cs_srch] at this
    exact ⟨this.1, h, by simp only [cs_iv]; omega⟩

theorem cs_deleteTo_eval (S : Segmenter) (U : UData) (lb : LB) (cs : CharSearch) (n : Nat) (h : WF lb) :
    ∃ q r l ns, LB.searchCharPos S lb (cs_srch cs) n = .ok q ∧ LB.deleteTo S U cs n lb = .ok (r, l, ns) ∧
      Killed lb l ns (q.map (cs_iv lb cs)) := by
  obtain ⟨q, hr, _⟩ := searchCharPos_ok S lb (cs_srch cs) n h
  cases q with
  | none =>
    refine ⟨none, false, lb, [], hr, ?_, rfl⟩
    cases cs <;> simp only [cs_srch] at hr <;> simp [LB.deleteTo, LM.bind_apply, LM.ro, hr]
  | some p =>
    obtain ⟨h1, h2, h3⟩ := cs_iv_boundaries S lb cs n p h hr
    cases cs with
    | forward c | forwardBefore c =>
      simp only [cs_iv] at h1 h2 h3
      obtain ⟨y, buf', hd, hcut⟩ := drain_cut .forward h1 h2 h3
      refine ⟨some p, true, _, _, hr, ?_, Nat.le_refl _, h3, hcut⟩
      simp only [cs_srch] at hr
      simp [LB.deleteTo, LM.bind_apply, LM.ro, hr, LM.get, hd]
    | backward c | backwardAfter c =>
      simp only [cs_iv] at h1 h2 h3
      obtain ⟨y, buf', hd, hcut⟩ := drain_cut (lb := { lb with pos := p }) .backward h1 h2 h3
      refine ⟨some p, true, _, _, hr, ?_, h3, Nat.le_refl _, hcut⟩
      simp only [cs_srch] at hr
      simp [LB.deleteTo, LM.bind_apply, LM.ro, hr, LM.get, LM.setPos, hd]

theorem cs_copy_eval (S : Segmenter) (U : UData) (lb : LB) (cs : CharSearch) (n : Nat) (h : WF lb)
    (hne : lb.buf.isEmpty = false) :
    ∃ q r, LB.searchCharPos S lb (cs_srch cs) n = .ok q ∧ LB.copy S U lb (.viCharSearch n cs) = .ok r ∧
      Copied lb r (q.map (cs_iv lb cs)) := by
  obtain ⟨q, hr, _⟩ := searchCharPos_ok S lb (cs_srch cs) n h
  cases q with
  | none =>
    refine ⟨none, none, hr, ?_, rfl⟩
    cases cs <;> simp only [cs_srch] at hr <;>
      simp [LB.copy, hne, hr, bind, Except.bind, pure, Except.pure]
  | some p =>
    obtain ⟨h1, h2, h3⟩ := cs_iv_boundaries S lb cs n p h hr
    obtain ⟨y, hy, hc⟩ := slice_cut h1 h2 h3
    refine ⟨some p, some y, hr, ?_, hc⟩
    cases cs <;> simp only [cs_srch] at hr <;> simp only [cs_iv] at hy <;>
      simp [LB.copy, hne, hr, hy, bind, Except.bind, pure, Except.pure]

/-- the declarative span of a kill / copy with a character search is the interval the model covers, or is
    not judged. Only `T` needs the stable segmenter: `f`, `t`, `F` cover up to the occurrence itself, which
    the model finds for every lawful segmenter -/
theorem cs_judged (S : Segmenter) (U : UData) (lb : LB) (n : Nat) (cs : CharSearch)
    (hS : ∀ c, cs = .backwardAfter c → S.Stable) (h : WF lb) {q : Option Nat}
    (hq : LB.searchCharPos S lb (cs_srch cs) n = .ok q) (fc : Bool) :
    Judged S U lb (.viCharSearch n cs) fc (q.map (cs_iv lb cs)) := by
  by_cases hemp : lb.buf.isEmpty = true
  · -- on the empty text whatever the search answers gives an empty interval
    refine Or.inr ?_
    rw [spanOf_of_isEmpty hemp]
    cases q with
    | none => rfl
    | some p =>
      obtain ⟨h1, h2, _⟩ := cs_iv_boundaries S lb cs n p h hq
      have hb : lb.buf = [] := by simpa using hemp
      have := h1.le_len; have := h2.le_len
      simp only [hb, blen_nil] at *
      simp only [Option.map_some, rangeSpan, mkSpan]
      rw [if_neg (by omega)]
  have hne : lb.buf.isEmpty = false := by simpa using hemp
  unfold Judged
  rw [spanOf_viCharSearch hne]
  by_cases hn : n = 0
  · left; simp [hn]
  have hn' : (n == 0) = false := by simp [hn]
  simp only [hn', Bool.false_eq_true, if_false]
  cases cs with
  | forward c | forwardBefore c =>
    dsimp only
    cases hocc : occFwd S lb.buf lb.pos c n with
    | none => exact Or.inl rfl
    | some p => cases hq.symm.trans (searchCharPos_forward_eq S lb c n p h hn hocc); exact Or.inr rfl
  | backward c =>
    dsimp only
    cases hocc : occBwd lb.buf lb.pos c n with
    | none => exact Or.inl rfl
    | some p => cases hq.symm.trans (searchCharPos_backward_eq S lb c n p h hn hocc); exact Or.inr rfl
  | backwardAfter c =>
    dsimp only
    cases hocc : charSearchTarget S lb.buf lb.pos (.backwardAfter c) n with
    | none => exact Or.inl rfl
    | some p =>
      cases hq.symm.trans (searchCharPos_backwardAfter_eq S (hS c rfl) lb c n p h hn hocc); exact Or.inr rfl

theorem deleteTo_eval (S : Segmenter) (U : UData) (lb : LB) (cs : CharSearch) (n : Nat) (h : WF lb) :
    KillsSpan S U (∀ c, cs = .backwardAfter c → S.Stable) (.viCharSearch n cs) (LB.deleteTo S U cs n) lb := by
  obtain ⟨q, r, l, ns, hq, hd, hk⟩ := cs_deleteTo_eval S U lb cs n h
  exact ⟨_, r, l, ns, hd, hk, fun hS => cs_judged S U lb n cs hS h hq false⟩

theorem copy_viCharSearch_eval (S : Segmenter) (U : UData) (lb : LB) (cs : CharSearch) (n : Nat) (h : WF lb) :
    CopiesSpan S U (∀ c, cs = .backwardAfter c → S.Stable) (.viCharSearch n cs) lb := by
  by_cases hemp : lb.buf.isEmpty = true
  · exact copiesSpan_of_isEmpty hemp
  obtain ⟨q, r, hq, hr, hc⟩ := cs_copy_eval S U lb cs n h (by simpa using hemp)
  exact ⟨_, r, hr, hc, fun hS => cs_judged S U lb n cs hS h hq true⟩

example : charSearchTarget charSeg ['a', 'b', 'c', 'b'] 0 (.forwardBefore 'b') 2 = some 2 := by rfl
example : charSearchTarget charSeg ['a', 'b', 'c', 'b'] 4 (.backwardAfter 'b') 2 = some 2 := by rfl

end Rl
