/-
  Character searches with a count larger than the number of occurrences: `search_char_pos` answers
  `….take(n).last()`, so the count is clamped to the number of occurrences in the region searched.
-/
import Rl.Lemmas.CharSearch
namespace Rl
open Rl.Spec

/-- number of occurrences of the searched character in the region a character search scans: after the
    cluster under the cursor (`f`, `t`), before the cursor (`F`, `T`) -/
def csTotal (S : Segmenter) (buf : Text) (pos : Nat) : CharSearch → Nat
  | .forward c | .forwardBefore c =>
    match splitAt? buf pos with
    | none => 0
    | some (_, suf) =>
      match (S.seg suf).head? with
      | none => 0
      | some g =>
        match splitAt? buf (pos + blen g) with
        | none => 0
        | some (_, rest) => (occ c rest).length
  | .backward c | .backwardAfter c =>
    match splitAt? buf pos with
    | none => 0
    | some (pre, _) => (occ c pre).length

/-- the model's answer depends on the count only through `min n (number of occurrences)` -/
theorem searchCharPos_clamp (S : Segmenter) (lb : LB) (cs : CharSearch) (n : Nat) (h : WF lb) :
    LB.searchCharPos S lb cs n = LB.searchCharPos S lb cs (min n (csTotal S lb.buf lb.pos cs)) := by
  obtain ⟨x, s, hb, hp, hsp, hst, hsf⟩ := h.cut
  have bwd : ∀ c, (occ c x).reverse.take (min n (occ c x).length) = (occ c x).reverse.take n := by
    intro c
    have := List.take_eq_take_min (l := (occ c x).reverse) (i := n)
    simp
  have fwd : ∀ (c : Char) (r : Text), (occ c r).take (min n (occ c r).length) = (occ c r).take n := by
    intro c r
    exact (List.take_eq_take_min (l := occ c r) (i := n)).symm
  have fwdcase : ∀ c (cs : CharSearch), (cs = .forward c ∨ cs = .forwardBefore c) →
      LB.searchCharPos S lb cs n = LB.searchCharPos S lb cs (min n (csTotal S lb.buf lb.pos cs)) := by
    intro c cs hcs
    by_cases hs : s = []
    · subst hs
      have he : (lb.pos == lb.len) = true := by simp [LB.len, hb, hp]
      rcases hcs with rfl | rfl <;>
        simp [LB.searchCharPos, LB.graphemeAtCursor, he, bind, Except.bind, pure, Except.pure]
    · obtain ⟨g, r, hg, hgr, hgne⟩ := seg_head S hs
      subst hgr
      have hgp := blen_pos_of_ne_nil hgne
      have he : (lb.pos == lb.len) = false := by simp [LB.len, hb, hp]; omega
      have hsh : sliceFrom lb.buf (lb.pos + blen g) = .ok r := by
        rw [hb, hp]
        have := sliceFrom_mid (x ++ g) r
        simpa using this
      have hsh2 : splitAtByte lb.buf (lb.pos + blen g) = some (x ++ g, r) := by
        rw [hb, hp]
        have := splitAtByte_append (x ++ g) r
        simpa using this
      rcases hcs with rfl | rfl <;>
        simp only [LB.searchCharPos, LB.graphemeAtCursor, csTotal, splitAt?, hsp, hg, hsh2, he, hsf, hsh, fwd,
          bind, Except.bind, pure, Except.pure, Bool.false_eq_true, if_false]
  cases cs with
  | forward c => exact fwdcase c _ (Or.inl rfl)
  | forwardBefore c => exact fwdcase c _ (Or.inr rfl)
  | backward c =>
    simp only [LB.searchCharPos, csTotal, splitAt?, hsp, hst, bind, Except.bind, bwd]
  | backwardAfter c =>
    simp only [LB.searchCharPos, csTotal, splitAt?, hsp, hst, bind, Except.bind, bwd]

theorem searchCharPos_none_of_total_zero (S : Segmenter) (lb : LB) (cs : CharSearch) (n : Nat) (h : WF lb)
    (h0 : csTotal S lb.buf lb.pos cs = 0) : LB.searchCharPos S lb cs n = .ok none := by
  rw [searchCharPos_clamp S lb cs n h, h0, Nat.min_zero]
  obtain ⟨x, s, hb, hp, -, hst, -⟩ := h.cut
  cases cs with
  | backward c => exact searchCharPos_backward_eval S c 0 hst
  | backwardAfter c => exact searchCharPos_backwardAfter_none S c 0 hst rfl
  | forward c =>
    by_cases hs : s = []
    · exact (searchCharPos_fwd_end S c 0 (by simp [LB.len, hb, hp, hs])).1
    · obtain ⟨g, r, hg, hgr, hgne⟩ := seg_head S hs
      subst hgr
      exact searchCharPos_forward_eval S c 0 (by rw [hb, List.append_assoc]) hp hg hgne
  | forwardBefore c =>
    by_cases hs : s = []
    · exact (searchCharPos_fwd_end S c 0 (by simp [LB.len, hb, hp, hs])).2
    · obtain ⟨g, r, hg, hgr, hgne⟩ := seg_head S hs
      subst hgr
      exact searchCharPos_forwardBefore_none S c 0 (by rw [hb, List.append_assoc]) hp hg hgne rfl

theorem cs_occFwd_isSome (S : Segmenter) (lb : LB) (c : Char) (m : Nat) (h : WF lb) (hm : m ≠ 0) :
    (occFwd S lb.buf lb.pos c m).isSome = decide (m ≤ csTotal S lb.buf lb.pos (.forward c)) := by
  obtain ⟨x, s, hb, hp, hsp, -⟩ := h.cut
  by_cases hs : s = []
  · subst hs
    simp [occFwd, csTotal, splitAt?, hsp, seg_nil, bind, Option.bind]
    omega
  · obtain ⟨g, r, hg, hgr, hgne⟩ := seg_head S hs
    subst hgr
    have hsh2 : splitAtByte lb.buf (lb.pos + blen g) = some (x ++ g, r) := by
      rw [hb, hp]
      have := splitAtByte_append (x ++ g) r
      simpa using this
    simp only [occFwd, csTotal, splitAt?, hsp, hg, hsh2, bind, Option.bind, List.getElem?_map]
    cases ho : (occ c r)[m - 1]? with
    | none =>
      have := List.getElem?_eq_none_iff.mp ho
      simp
      omega
    | some p =>
      have := (List.getElem?_eq_some_iff.mp ho).1
      simp
      omega

theorem cs_occBwd_isSome (S : Segmenter) (lb : LB) (c : Char) (m : Nat) (h : WF lb) (hm : m ≠ 0) :
    (occBwd lb.buf lb.pos c m).isSome = decide (m ≤ csTotal S lb.buf lb.pos (.backward c)) := by
  obtain ⟨x, s, hb, hp, hsp, -⟩ := h.cut
  simp only [occBwd, csTotal, splitAt?, hsp, bind, Option.bind]
  cases ho : (occ c x).reverse[m - 1]? with
  | none =>
    have := List.getElem?_eq_none_iff.mp ho
    simp at this ⊢
    omega
  | some p =>
    have := (List.getElem?_eq_some_iff.mp ho).1
    simp at this ⊢
    omega

theorem cs_plain_isSome (S : Segmenter) (lb : LB) (cs : CharSearch) (c : Char)
    (hcs : cs = .forward c ∨ cs = .backward c) (m : Nat) (h : WF lb) (hm : m ≠ 0) :
    (charSearchTarget S lb.buf lb.pos cs m).isSome = decide (m ≤ csTotal S lb.buf lb.pos cs) := by
  rcases hcs with rfl | rfl
  · exact cs_occFwd_isSome S lb c m h hm
  · exact cs_occBwd_isSome S lb c m h hm

theorem cs_target_none_of_total_zero (S : Segmenter) (lb : LB) (cs : CharSearch) (m : Nat) (h : WF lb)
    (hm : m ≠ 0) (h0 : csTotal S lb.buf lb.pos cs = 0) : charSearchTarget S lb.buf lb.pos cs m = none := by
  have e1 : ∀ c, csTotal S lb.buf lb.pos (.forwardBefore c) = csTotal S lb.buf lb.pos (.forward c) := fun _ => rfl
  have e2 : ∀ c, csTotal S lb.buf lb.pos (.backwardAfter c) = csTotal S lb.buf lb.pos (.backward c) := fun _ => rfl
  have f : ∀ c, csTotal S lb.buf lb.pos (.forward c) = 0 → occFwd S lb.buf lb.pos c m = none := by
    intro c hc
    have := cs_occFwd_isSome S lb c m h hm
    rw [hc] at this
    cases ho : occFwd S lb.buf lb.pos c m with
    | none => rfl
    | some t => rw [ho] at this; simp at this; exact absurd this hm
  have b : ∀ c, csTotal S lb.buf lb.pos (.backward c) = 0 → occBwd lb.buf lb.pos c m = none := by
    intro c hc
    have := cs_occBwd_isSome S lb c m h hm
    rw [hc] at this
    cases ho : occBwd lb.buf lb.pos c m with
    | none => rfl
    | some t => rw [ho] at this; simp at this; exact absurd this hm
  cases cs with
  | forward c => exact f c h0
  | backward c => exact b c h0
  | forwardBefore c => simp [charSearchTarget, f c (by rw [← e1]; exact h0), bind, Option.bind]
  | backwardAfter c => simp [charSearchTarget, b c (by rw [← e2]; exact h0), bind, Option.bind]

end Rl
