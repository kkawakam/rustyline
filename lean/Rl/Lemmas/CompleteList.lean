/-
  C14, list mode: `complete_line` with `CompletionType::List` rewrites the span between the completer's
  start and the cursor to the longest common prefix when that is longer than the span (or there is one
  candidate), and leaves line and cursor alone otherwise — whatever follows (second Tab, listing):
  `completeLine_list`.  Second half: the model's prefix function `lcpChars` is the spec's `Spec.lcpOf`
  (`lcpChars_spec`), which is a prefix of every candidate (`lcpOf_prefix`).
-/
import Rl.Lemmas.CompleteLoop
namespace Rl
variable (S : Segmenter) (U : UData) (cfg : EdCfg)

theorem wp_lbQuiet_any {α : Type} {op : LM α} {s : Ed} {Q : α → Ed → Prop} {E : Outcome → Ed → Prop}
    (hq : ∀ a l ns, op s.line = .ok (a, l, ns) → Q a { s with line := l }) (he : E .panic s) :
    wp (lbQuiet op) Q E s := by
  unfold wp lbQuiet
  cases h : op s.line with
  | error e => exact he
  | ok r => obtain ⟨a, l, ns⟩ := r; exact hq a l ns h

/-- what list mode leaves on the line (`x ++ y ++ z`, start `blen x`, cursor after `y`) -/
def listShown (x y z : Text) (cands : List Text) : Text × Nat :=
  match lcpChars cands with
  | some lcp =>
    if blen lcp > blen y || cands.length == 1 then (x ++ lcp ++ z, blen x + blen lcp)
    else (x ++ y ++ z, blen x + blen y)
  | none => (x ++ y ++ z, blen x + blen y)

theorem completeLine_list (x y z : Text) (cands : List Text) (fuel : Nat) (s : Ed)
    (hlist : cfg.listCompletion = true) (hne : cands.isEmpty = false)
    (hb : s.line.buf = x ++ y ++ z) (hp : s.line.pos = blen x + blen y)
    (hc : cfg.completer s.line.buf s.line.pos = (blen x, cands)) :
    wp (completeLine S U cfg fuel) (fun _ s' => (s'.line.buf, s'.line.pos) = listShown x y z cands)
      (fun _ _ => True) s := by
  -- the part after the prefix has been put in: nothing changes the text, the cursor comes back
  have tail : ∀ s1 : Ed, (s1.line.buf, s1.line.pos) = listShown x y z cands →
      wp (if cands.length ≤ 1 then pure none
          else do
            let cmd ← nextCmd S U cfg fuel true true
            if (cmd != Cmd.complete) = true then pure (some cmd)
            else do
              let savePos ← (fun s => .ok (s.line.pos, s) : EM Nat)
              editMove S U cfg (LB.moveEnd S U)
              lbQuiet (LB.setPosChecked S U savePos)
              refreshLine S U cfg
              pure none : EM (Option Cmd))
        (fun _ s' => (s'.line.buf, s'.line.pos) = listShown x y z cands) (fun _ _ => True) s1 := by
    intro s1 h1
    split
    · exact h1
    · rw [wp_bind]
      refine wp_nextCmd S U cfg (fun cmd s2 hc2 => ?_) (fun _ _ _ => trivial)
      obtain ⟨l2, _⟩ := Ed.coreNC_eq hc2
      split
      · rw [wp_pure, l2]; exact h1
      · rw [wp_bind', wp_read, wp_bind]
        unfold editMove
        rw [wp_bind]
        refine wp_lbQuiet_any (fun a l ns ho => ?_) trivial
        obtain ⟨e1, _, _, _⟩ := (PosOnly.moveEnd S U).h _ _ _ _ ho
        have fin : ∀ s3 : Ed, s3.line = l →
            wp (do
              lbQuiet (LB.setPosChecked S U s2.line.pos)
              refreshLine S U cfg
              pure none : EM (Option Cmd))
              (fun _ s' => (s'.line.buf, s'.line.pos) = listShown x y z cands) (fun _ _ => True) s3 := by
          intro s3 h3
          rw [wp_bind]
          refine wp_lbQuiet_any (fun a l' ns' ho' => ?_) trivial
          rw [wp_bind]
          refine wp_refreshLine S U cfg (fun s5 hc5 => ?_) (fun _ _ _ => trivial)
          rw [wp_pure, (Ed.core_eq hc5).1]
          unfold LB.setPosChecked at ho'
          split at ho'
          · cases ho'
            show (s3.line.buf, s2.line.pos) = _
            rw [h3, e1, l2]; exact h1
          · cases ho'
        split
        · refine wp_moveCursor S U cfg fun s3 hc3 => ?_
          exact fin s3 (Ed.core_eq hc3).1
        · rw [wp_pure]
          exact fin _ rfl
  unfold completeLine
  simp only [wp_bind, wp_getLine, hc, hne, hlist, Bool.false_eq_true, if_false, Bool.not_true]
  cases hl : lcpChars cands with
  | none =>
    refine tail s ?_
    unfold listShown; rw [hl, hb, hp]
  | some lcp =>
    have hnp : ¬ (blen x > s.line.pos) := by rw [hp]; omega
    simp only [hnp, if_false]
    have hsub : s.line.pos - blen x = blen y := by rw [hp]; omega
    rw [hsub]
    by_cases hext : (decide (blen lcp > blen y) || cands.length == 1) = true
    · rw [if_pos hext]
      simp only [wp_bind]
      refine wp_lb S U (LB.replace_span S U x y z lcp s.line hb hp) ?_
      refine wp_refreshLine S U cfg (fun s2 hc2 => ?_) (fun _ _ _ => trivial)
      refine tail s2 ?_
      rw [(Ed.core_eq hc2).1]
      unfold listShown; simp only [hl, if_pos hext]
    · rw [if_neg hext]
      refine tail s ?_
      unfold listShown; simp only [hl, if_neg hext, hb, hp]

theorem lcpChars_common_fun : lcpChars.common = Spec.commonPrefix := by
  funext a b
  induction a generalizing b with
  | nil => cases b <;> rfl
  | cons x xs ih =>
    cases b with
    | nil => rfl
    | cons y ys => unfold lcpChars.common Spec.commonPrefix; rw [ih]

/-- the model's prefix function in terms of the spec's: nothing for no candidate, the candidate itself
    for one (even an empty one), the spec's common prefix for two or more unless that is empty -/
theorem lcpChars_spec (cands : List Text) :
    lcpChars cands =
      match cands with
      | [] => none
      | [c] => some c
      | c :: d :: cs => if (Spec.lcpOf (c :: d :: cs)).isEmpty then none else some (Spec.lcpOf (c :: d :: cs)) := by
  match cands with
  | [] => rfl
  | [c] => rfl
  | c :: d :: cs =>
    simp only [lcpChars, Spec.lcpOf, lcpChars_common_fun]
    rfl

theorem commonPrefix_prefix : ∀ a b : Text, Spec.commonPrefix a b <+: a ∧ Spec.commonPrefix a b <+: b
  | [], b => by cases b <;> exact ⟨List.nil_prefix, List.nil_prefix⟩
  | _ :: _, [] => ⟨List.nil_prefix, List.nil_prefix⟩
  | x :: xs, y :: ys => by
    unfold Spec.commonPrefix
    split
    · rename_i h
      have : x = y := by simpa using h
      exact ⟨List.cons_prefix_cons.mpr ⟨rfl, (commonPrefix_prefix xs ys).1⟩,
             List.cons_prefix_cons.mpr ⟨this, (commonPrefix_prefix xs ys).2⟩⟩
    · exact ⟨List.nil_prefix, List.nil_prefix⟩

theorem foldl_commonPrefix_prefix (cs : List Text) : ∀ acc : Text,
    cs.foldl Spec.commonPrefix acc <+: acc ∧ ∀ c ∈ cs, cs.foldl Spec.commonPrefix acc <+: c := by
  induction cs with
  | nil => intro acc; exact ⟨List.prefix_refl _, fun _ h => by cases h⟩
  | cons d cs ih =>
    intro acc
    obtain ⟨h1, h2⟩ := ih (Spec.commonPrefix acc d)
    refine ⟨h1.trans (commonPrefix_prefix acc d).1, fun c hc => ?_⟩
    rcases List.mem_cons.mp hc with rfl | hc
    · exact h1.trans (commonPrefix_prefix acc c).2
    · exact h2 c hc

theorem lcpOf_prefix (cands : List Text) : ∀ c ∈ cands, Spec.lcpOf cands <+: c := by
  cases cands with
  | nil => intro c h; cases h
  | cons c0 cs =>
    intro c hc
    obtain ⟨h1, h2⟩ := foldl_commonPrefix_prefix cs c0
    rcases List.mem_cons.mp hc with rfl | hc
    · exact h1
    · exact h2 c hc
end Rl
