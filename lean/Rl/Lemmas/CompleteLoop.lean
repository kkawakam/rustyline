/-
  C14: the circular completion loop of the editor model (`completeCircular`, `completeLine` in
  Rl/Editor.lean) against the spec (`Spec.shownFor` / `Spec.spliceCand` in Rl/Spec/OracleComplete.lean).

  The original line is `x ++ y ++ z` with the completer's start at `blen x` and the cursor at
  `blen x + blen y` (every start on a boundary at or before a cursor on a boundary has this form).

  Three views of the loop.  The two rules of Lemmas/EditorLoops: `wp_completeCircular_turns` (an
  invariant at the loop head and one per decoded command; what the proofs about the line use, here
  and in CompleteUndo*) and `wp_completeCircular` (the turn in its steps, for invariants that every
  step keeps: undo log, display, safety).  `CircPath` below is a relation, for statements about a
  given sequence of Tab / Shift-Tab keys (`CircPath.run`, `CircPath.inv`, `compWalk`).

  The exceptional postcondition is `fun _ _ => True` throughout: a run that panics or runs out of
  fuel (the loop leaves with `.fuel` when `fuel = 0`) is not described by these theorems.
-/
import Rl.Lemmas.EditorLoops
import Rl.Lemmas.Keymap
import Rl.Spec.OracleComplete
namespace Rl
variable (S : Segmenter) (U : UData) (cfg : EdCfg)

/-- Tab advances through candidates 0 … n-1, then the original text (index n), then wraps;
    Shift-Tab goes the other way.  Either way the index stays within 0 … n. -/
theorem compNext_le (n i : Nat) : compNext n i ≤ n := by
  unfold compNext
  have : (i + 1) % (n + 1) < n + 1 := Nat.mod_lt _ (by omega)
  omega

theorem compPrev_le (n i : Nat) : compPrev n i ≤ n := by
  unfold compPrev
  split
  · omega
  · have : (i - 1) % (n + 1) < n + 1 := Nat.mod_lt _ (by omega)
    omega

/-- the spec state of a completion started on `backup` with the cursor at `backupPos`, showing index `i` -/
def compSt (start : Nat) (cands : List Text) (backup : Text) (backupPos : Nat) (i : Nat) : Spec.CompSt :=
  { start := start, cands := cands, i := i, backup := (backup, backupPos), tail := Spec.dropB backup backupPos }

theorem takeB_append (x r : Text) : Spec.takeB (x ++ r) (blen x) = x := by
  simp [Spec.takeB, splitAtByte_append]

theorem dropB_append3 (x y z : Text) : Spec.dropB (x ++ y ++ z) (blen x + blen y) = z := by
  have := splitAtByte_append (x ++ y) z
  simp only [blen_append] at this
  unfold Spec.dropB
  rw [this]

theorem spliceCand_compSt (x y z : Text) (cands : List Text) (i : Nat) (c : Text) :
    Spec.spliceCand (compSt (blen x) cands (x ++ y ++ z) (blen x + blen y) i) c =
      (x ++ c ++ z, blen x + blen c) := by
  simp only [Spec.spliceCand, compSt, dropB_append3]
  rw [List.append_assoc x y z, takeB_append]

/-- what the spec prescribes for index `i` (index `cands.length` = the original text), spelled out -/
theorem shownFor_compSt (x y z : Text) (cands : List Text) (i : Nat) :
    Spec.shownFor (compSt (blen x) cands (x ++ y ++ z) (blen x + blen y) i) =
      match cands[i]? with
      | some c => (x ++ c ++ z, blen x + blen c)
      | none => (x ++ y ++ z, blen x + blen y) := by
  unfold Spec.shownFor
  show (match cands[i]? with | some c => _ | none => _) = _
  cases h : cands[i]? with
  | none => rfl
  | some c => exact spliceCand_compSt x y z cands i c

theorem LB.replace_span (x mid z c : Text) (l : LB) (hb : l.buf = x ++ mid ++ z) (hp : l.pos = blen x + blen mid) :
    LB.replace S U (blen x) l.pos c l = .ok ((),
      { l with buf := x ++ c ++ z, pos := blen x + blen c, cap := growCap l.cap (blen x + blen z + blen c) },
      [.repl (blen x) mid c]) := by
  unfold LB.replace
  rw [hb, hp, split3_append]

/-- the line is the original one with the span between start and cursor rewritten to something -/
def SpanOnly (x z : Text) (s : Ed) : Prop :=
  ∃ mid, s.line.buf = x ++ mid ++ z ∧ s.line.pos = blen x + blen mid

/-- the line shows what the spec prescribes for index `i` -/
def Shows (x y z : Text) (cands : List Text) (i : Nat) (s : Ed) : Prop :=
  (s.line.buf, s.line.pos) = Spec.shownFor (compSt (blen x) cands (x ++ y ++ z) (blen x + blen y) i)

theorem Shows.spanOnly {x y z : Text} {cands : List Text} {i : Nat} {s : Ed} (h : Shows x y z cands i s) :
    SpanOnly x z s := by
  unfold Shows at h
  rw [shownFor_compSt] at h
  cases hc : cands[i]? with
  | none => rw [hc] at h; simp only [Prod.mk.injEq] at h; exact ⟨y, h.1, h.2⟩
  | some c => rw [hc] at h; simp only [Prod.mk.injEq] at h; exact ⟨c, h.1, h.2⟩

/-- index reached from `i` by a sequence of Tab (`true`) / Shift-Tab (`false`) presses -/
def compWalk (n : Nat) : Nat → List Bool → Nat
  | i, [] => i
  | i, true :: ks => compWalk n (compNext n i) ks
  | i, false :: ks => compWalk n (compPrev n i) ks

/-- `CircPath … fuel i s ks fuel' i' s'`: from the loop head `(fuel, i, s)` the commands decoded in the
    successive turns were `ks` (`true` = `Complete`, `false` = `CompleteBackward`) and the loop is then at
    the head `(fuel', i', s')` -/
inductive CircPath (start : Nat) (cands : List Text) (backup : Text) (backupPos : Nat) :
    Nat → Nat → Ed → List Bool → Nat → Nat → Ed → Prop
  | nil (fuel i : Nat) (s : Ed) : CircPath start cands backup backupPos fuel i s [] fuel i s
  | tab {fuel i : Nat} {s s1 : Ed} {ks : List Bool} {fuel' i' : Nat} {s' : Ed} :
      circTurn S U cfg start cands backup backupPos fuel i s = .ok (.complete, s1) →
      CircPath start cands backup backupPos fuel (compNext cands.length i) s1 ks fuel' i' s' →
      CircPath start cands backup backupPos (fuel + 1) i s (true :: ks) fuel' i' s'
  | backTab {fuel i : Nat} {s s1 : Ed} {ks : List Bool} {fuel' i' : Nat} {s' : Ed} :
      circTurn S U cfg start cands backup backupPos fuel i s = .ok (.completeBackward, s1) →
      CircPath start cands backup backupPos fuel (compPrev cands.length i) s1 ks fuel' i' s' →
      CircPath start cands backup backupPos (fuel + 1) i s (false :: ks) fuel' i' s'

/-- the relation describes the model's loop: running the loop from the first head is running it from
    the head reached (with the mark possibly lowered) -/
theorem CircPath.run {start : Nat} {cands : List Text} {backup : Text} {backupPos : Nat}
    {fuel i : Nat} {s : Ed} {ks : List Bool} {fuel' i' : Nat} {s' : Ed}
    (h : CircPath S U cfg start cands backup backupPos fuel i s ks fuel' i' s') (mark : Nat) :
    ∃ mark', completeCircular S U cfg start cands mark backup backupPos fuel i s =
      completeCircular S U cfg start cands mark' backup backupPos fuel' i' s' := by
  induction h generalizing mark with
  | nil fuel i s => exact ⟨mark, rfl⟩
  | @tab fuel i s s1 ks fuel' i' s' ht _ ih =>
    obtain ⟨m', e⟩ := ih (min mark s1.changes.undos.length)
    refine ⟨m', ?_⟩
    rw [completeCircular_succ, EM.bind_apply, ht]
    exact e
  | @backTab fuel i s s1 ks fuel' i' s' ht _ ih =>
    obtain ⟨m', e⟩ := ih (min mark s1.changes.undos.length)
    refine ⟨m', ?_⟩
    rw [completeCircular_succ, EM.bind_apply, ht]
    exact e

/-- **what is on the line when a key is read**: in the turn for index `i`, started on a line that is the
    original one with only the span rewritten, the command is decoded while the line shows exactly what
    the spec prescribes for `i` -/
theorem wp_circTurn_shows (x y z : Text) (cands : List Text) (fuel i : Nat) (s : Ed)
    (hg : s.line.canGrow = true) (hs : SpanOnly x z s) :
    wp (circTurn S U cfg (blen x) cands (x ++ y ++ z) (blen x + blen y) fuel i)
      (fun _ s1 => Shows x y z cands i s1 ∧ s1.line.canGrow = true) (fun _ _ => True) s := by
  have hbp : blen x + blen y ≤ blen (x ++ y ++ z) := by simp
  obtain ⟨mid, hb, hp⟩ := hs
  -- the repaint and the read leave the line alone
  have rest : ∀ s1 : Ed, s1.line.canGrow = true → Shows x y z cands i s1 →
      wp (refreshLine S U cfg) (fun _ s2 => wp (nextCmd S U cfg fuel true true)
        (fun _ s3 => Shows x y z cands i s3 ∧ s3.line.canGrow = true) (fun _ _ => True) s2) (fun _ _ => True) s1 := by
    intro s1 hg1 hs1
    refine wp_refreshLine S U cfg (fun s2 hc2 => ?_) (fun _ _ _ => trivial)
    obtain ⟨l2, _⟩ := Ed.core_eq hc2
    refine wp_nextCmd S U cfg (fun cmd s3 hc3 => ?_) (fun _ _ _ => trivial)
    obtain ⟨l3, _⟩ := Ed.coreNC_eq hc3
    exact ⟨by unfold Shows; rw [l3, l2]; exact hs1, by rw [l3, l2]; exact hg1⟩
  unfold circTurn
  by_cases hlt : i < cands.length
  · rw [if_pos hlt]
    have hci : cands[i]? = some cands[i] := by simp [hlt]
    rw [hci]
    simp only [wp_bind, wp_getLine]
    refine wp_lb S U (LB.replace_span S U x mid z cands[i] s.line hb hp) (rest _ hg ?_)
    unfold Shows; rw [shownFor_compSt, hci]
  · rw [if_neg hlt]
    simp only [wp_bind]
    have hn : cands[i]? = none := by simp; omega
    refine wp_lb_update S U hg hbp (rest _ hg ?_)
    unfold Shows; rw [shownFor_compSt, hn]; rfl

theorem circTurn_shows (x y z : Text) (cands : List Text) (fuel i : Nat) (s s1 : Ed) (cmd : Cmd)
    (hg : s.line.canGrow = true) (hs : SpanOnly x z s)
    (ht : circTurn S U cfg (blen x) cands (x ++ y ++ z) (blen x + blen y) fuel i s = .ok (cmd, s1)) :
    Shows x y z cands i s1 ∧ s1.line.canGrow = true :=
  wp_ok (wp_circTurn_shows S U cfg x y z cands fuel i s hg hs) ht

/-- **circular completion, every exit**: started at a loop head with index `i ≤ n` on a line that is the
    original one with only the span rewritten, the loop ends either with `none` and the original text and
    cursor, or with `some cmd` (a command the loop does not handle) and the line showing what the spec
    prescribes for some index `j ≤ n` — in particular text before the start and after the original cursor
    is intact. -/
theorem completeCircular_shows (x y z : Text) (cands : List Text) (mark : Nat) :
    ∀ (fuel i : Nat) (s : Ed), i ≤ cands.length → s.line.canGrow = true → SpanOnly x z s →
      wp (completeCircular S U cfg (blen x) cands mark (x ++ y ++ z) (blen x + blen y) fuel i)
        (fun r s' => s'.line.canGrow = true ∧
          match r with
          | none => s'.line.buf = x ++ y ++ z ∧ s'.line.pos = blen x + blen y
          | some cmd => Cmd.endsCompletion cmd ∧ ∃ j, j ≤ cands.length ∧ Shows x y z cands j s')
        (fun _ _ => True) s := by
  intro fuel i s hi hg hs
  refine wp_completeCircular_turns S U cfg
    (I := fun _ i s => i ≤ cands.length ∧ s.line.canGrow = true ∧ SpanOnly x z s)
    (T := fun _ i _ s => i ≤ cands.length ∧ s.line.canGrow = true ∧ Shows x y z cands i s)
    (fun _ _ _ _ => trivial) ?_ ?_ ?_ ?_ ?_ fuel mark i s ⟨hi, hg, hs⟩
  · intro fuel _ i s ⟨hi, hg, hs⟩
    exact wp_mono (wp_circTurn_shows S U cfg x y z cands fuel i s hg hs) (fun _ _ h => ⟨hi, h.2, h.1⟩)
      (fun _ _ h => h)
  · intro _ i s ⟨_, hg, hs⟩; exact ⟨compNext_le _ _, hg, hs.spanOnly⟩
  · intro _ i s ⟨hi, hg, hs⟩; exact ⟨compPrev_le _ _, hg, hs.spanOnly⟩
  · intro _ i s ⟨_, hg, hs⟩
    refine wp_circAbort_restores S U cfg (by simp) hg ?_ (fun _ a b c => ⟨c, a, b⟩)
    intro hle
    have hn : cands[i]? = none := by simp; omega
    unfold Shows at hs
    rw [shownFor_compSt, hn] at hs
    exact ⟨(Prod.mk.inj hs).1, (Prod.mk.inj hs).2⟩
  · intro _ i s cmd hc ⟨hi, hg, hs⟩
    exact ⟨hg, hc, i, hi, hs⟩


/-- along a path the line stays "original with only the span rewritten", and the index follows the keys -/
theorem CircPath.inv (x y z : Text) (cands : List Text)
    {fuel i : Nat} {s : Ed} {ks : List Bool} {fuel' i' : Nat} {s' : Ed}
    (h : CircPath S U cfg (blen x) cands (x ++ y ++ z) (blen x + blen y) fuel i s ks fuel' i' s')
    (hi : i ≤ cands.length) (hg : s.line.canGrow = true) (hs : SpanOnly x z s) :
    i' = compWalk cands.length i ks ∧ i' ≤ cands.length ∧ s'.line.canGrow = true ∧ SpanOnly x z s' := by
  induction h with
  | nil fuel i s => exact ⟨rfl, hi, hg, hs⟩
  | tab ht _ ih =>
    obtain ⟨h1, h2⟩ := circTurn_shows S U cfg x y z cands _ _ _ _ _ hg hs ht
    exact ih (compNext_le _ _) h2 h1.spanOnly
  | backTab ht _ ih =>
    obtain ⟨h1, h2⟩ := circTurn_shows S U cfg x y z cands _ _ _ _ _ hg hs ht
    exact ih (compPrev_le _ _) h2 h1.spanOnly

/-- the last turn: a command the loop does not handle is handed back, the line is the one shown in
    that turn and the undo group is closed -/
theorem completeCircular_accept (start : Nat) (cands : List Text) (mark : Nat) (backup : Text) (backupPos : Nat)
    (fuel i : Nat) (s s1 : Ed) (cmd : Cmd) (hc : Cmd.endsCompletion cmd)
    (ht : circTurn S U cfg start cands backup backupPos fuel i s = .ok (cmd, s1)) :
    completeCircular S U cfg start cands mark backup backupPos (fuel + 1) i s =
      .ok (some cmd, { s1 with changes := s1.changes.end_.1 }) := by
  rw [completeCircular_succ, EM.bind_apply, ht]
  simp only [EM.bind_apply, lowerMark]
  split
  · exact absurd rfl hc.1
  · exact absurd rfl hc.2.1
  · exact absurd rfl hc.2.2
  · rfl

theorem compWalk_tabs (n k : Nat) : ∀ i, i ≤ n → compWalk n i (List.replicate k true) = (i + k) % (n + 1) := by
  induction k with
  | zero => intro i hi; simp only [List.replicate, compWalk, Nat.add_zero]; exact (Nat.mod_eq_of_lt (by omega)).symm
  | succ k ih =>
    intro i hi
    simp only [List.replicate, compWalk]
    rw [ih _ (compNext_le n i)]
    unfold compNext
    rw [Nat.mod_add_mod]
    congr 1; omega

theorem completeLine_noCands {fuel : Nat} {s : Ed}
    (h : (cfg.completer s.line.buf s.line.pos).2.isEmpty = true) :
    completeLine S U cfg fuel s = .ok (none, s) := by
  unfold completeLine
  simp only [EM.bind_apply, getLine, h, if_true]
  rfl

theorem completeLine_circular_eq (s : Ed) (fuel : Nat)
    (hcirc : cfg.listCompletion = false) (hne : (cfg.completer s.line.buf s.line.pos).2.isEmpty = false) :
    completeLine S U cfg fuel s =
      completeCircular S U cfg (cfg.completer s.line.buf s.line.pos).1 (cfg.completer s.line.buf s.line.pos).2
        s.changes.undos.length s.line.buf s.line.pos fuel 0 { s with changes := s.changes.begin.1 } := by
  unfold completeLine
  simp only [EM.bind_apply, getLine, hne, hcirc, Bool.false_eq_true, if_false, Bool.not_false, if_true]
  rfl

/-- a run of `complete_line` in circular mode either found no candidate and did nothing, or is a run
    of the circular loop -/
theorem completeLine_circular {fuel : Nat} {s s' : Ed} {r : Option Cmd} (hcirc : cfg.listCompletion = false)
    (hrun : completeLine S U cfg fuel s = .ok (r, s')) :
    (r = none ∧ s' = s) ∨
    (0 < (cfg.completer s.line.buf s.line.pos).2.length ∧
      completeCircular S U cfg (cfg.completer s.line.buf s.line.pos).1 (cfg.completer s.line.buf s.line.pos).2
        s.changes.undos.length s.line.buf s.line.pos fuel 0 { s with changes := s.changes.begin.1 } = .ok (r, s')) := by
  cases hne : (cfg.completer s.line.buf s.line.pos).2.isEmpty with
  | true =>
    rw [completeLine_noCands S U cfg hne] at hrun
    cases hrun
    exact Or.inl ⟨rfl, rfl⟩
  | false =>
    rw [completeLine_circular_eq S U cfg s fuel hcirc hne] at hrun
    exact Or.inr ⟨List.length_pos_iff.2 (fun h => by rw [h] at hne; cases hne), hrun⟩

/-- with a helper configured, the dispatcher on `Complete` runs `complete_line` and goes on with the
    command it hands back -/
theorem preCmds_complete (hh : cfg.hasHelper = true) (fuel : Nat) :
    preCmds S U cfg (fuel + 1) .complete = (do
      match ← completeLine S U cfg fuel with
      | some next => preCmds S U cfg fuel next
      | none => pure none) := by
  have h1 : (Cmd.complete == Cmd.complete && cfg.hasHelper) = true := by rw [hh]; decide
  conv => lhs; unfold preCmds
  rw [if_pos h1]
  rfl
end Rl
