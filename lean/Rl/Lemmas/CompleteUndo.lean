/-
  C14, "one Undo after an accepted completion restores the pre-completion text" (emacs mode):
  the undo log of the circular completion loop is ONE group — `End :: body ++ Begin :: log before`,
  no marker inside `body` — and it replays to the accepted line.
-/
import Rl.Props.C05
import Rl.Lemmas.EditorLog
import Rl.Lemmas.CompleteLoop
namespace Rl
open EM
variable (S : Segmenter) (U : UData) (cfg : EdCfg)

/-- the undo log inside a completion started on the log `c0`: `extra ++ Begin :: c0.undos` with no
    marker in `extra`, one level above `c0` -/
def GroupLog (c0 c : Changeset) (extra : List Change) : Prop :=
  c.undos = extra ++ .begin :: c0.undos ∧ (∀ ch ∈ extra, ch.isMarker = false) ∧ c.level = c0.level + 1

theorem GroupLog.start (c0 : Changeset) : GroupLog c0 c0.begin.1 [] :=
  ⟨rfl, fun _ h => (by cases h), rfl⟩

theorem GroupLog.notif {c0 c : Changeset} {extra : List Change} (h : GroupLog c0 c extra) (n : Notif) :
    ∃ extra', GroupLog c0 (c.onNotif S U.alnum n) extra' ∧ (extra ≠ [] → extra' ≠ []) := by
  obtain ⟨hu, hm, hl⟩ := h
  have hlv : (c.onNotif S U.alnum n).level = c0.level + 1 := by rw [Changeset.onNotif_level]; exact hl
  rcases Changeset.onNotif_shape S U.alnum c n with h1 | ⟨ch, hch, h1⟩ | ⟨hd, rest, ch, hu', hm1, hm2, h1⟩
  · exact ⟨extra, ⟨by rw [h1, hu], hm, hlv⟩, id⟩
  · refine ⟨ch :: extra, ⟨by rw [h1, hu]; rfl, ?_, hlv⟩, fun _ => List.cons_ne_nil _ _⟩
    intro x hx
    rcases List.mem_cons.mp hx with rfl | hx
    · exact hch
    · exact hm x hx
  · cases extra with
    | nil =>
      rw [hu] at hu'
      simp only [List.nil_append, List.cons.injEq] at hu'
      rw [← hu'.1] at hm1; simp [Change.isMarker] at hm1
    | cons e extra' =>
      rw [hu] at hu'
      simp only [List.cons_append, List.cons.injEq] at hu'
      obtain ⟨rfl, rfl⟩ := hu'
      refine ⟨ch :: extra', ⟨by rw [h1]; rfl, ?_, hlv⟩, fun _ => List.cons_ne_nil _ _⟩
      intro x hx
      rcases List.mem_cons.mp hx with rfl | hx
      · exact hm2
      · exact hm x (List.mem_cons_of_mem _ hx)

theorem GroupLog.notifs {c0 c : Changeset} {extra : List Change} (h : GroupLog c0 c extra) (ns : List Notif) :
    ∃ extra', GroupLog c0 (c.onNotifs S U.alnum ns) extra' ∧ (extra ≠ [] → extra' ≠ []) := by
  unfold Changeset.onNotifs
  induction ns generalizing c extra with
  | nil => exact ⟨extra, h, id⟩
  | cons n ns ih =>
    obtain ⟨e1, h1, hn1⟩ := h.notif S U n
    obtain ⟨e2, h2, hn2⟩ := ih h1
    exact ⟨e2, h2, fun hne => hn2 (hn1 hne)⟩

/-- a `replace` notification always leaves something in the group -/
theorem GroupLog.repl {c0 c : Changeset} {extra : List Change} (h : GroupLog c0 c extra) (i : Nat) (o n : Text) :
    ∃ extra', GroupLog c0 (c.onNotifs S U.alnum [.repl i o n]) extra' ∧ extra' ≠ [] := by
  obtain ⟨e1, h1, _⟩ := h.notif S U (.repl i o n)
  refine ⟨e1, h1, ?_⟩
  intro he
  subst he
  have hu := h1.1
  simp only [Changeset.onNotif, Changeset.replace_undos, List.nil_append] at hu
  split at hu
  · split at hu <;> cases hu
  · cases hu

/-- closing the group (level of the log before: 0): `End` goes on top of the non-empty body -/
theorem GroupLog.end_ {c0 c : Changeset} {extra : List Change} (h : GroupLog c0 c extra) (hl0 : c0.level = 0)
    (hne : extra ≠ []) :
    c.end_.1.undos = .end_ :: extra ++ .begin :: c0.undos ∧ c.end_.1.level = 0 := by
  obtain ⟨hu, hm, hl⟩ := h
  cases extra with
  | nil => exact absurd rfl hne
  | cons e ex =>
    have hme := hm e (List.mem_cons_self ..)
    simp only [Changeset.end_, hl, hl0, hu, Nat.zero_add]
    cases e <;> simp [Change.isMarker] at hme <;> simp [Changeset.endLoop]

/-- the state after a turn of the circular loop in emacs mode: `R` held of the line and the log when
    the candidate had been put into the line; since then the line is untouched, and the log is untouched
    or `next_cmd` has opened a group for a bound `Replace` -/
def AfterTurn (R : LB → Changeset → Prop) (cmd : Cmd) (s : Ed) : Prop :=
  ∃ c, R s.line c ∧ (s.changes = c ∨ (s.changes = c.begin.1 ∧ ∃ a b, cmd = .replace a b))

theorem AfterTurn.same {R : LB → Changeset → Prop} {cmd : Cmd} {s : Ed} (h : AfterTurn R cmd s)
    (hc : ∀ a b, cmd ≠ .replace a b) : R s.line s.changes := by
  obtain ⟨c, hR, e | ⟨_, a, b, hab⟩⟩ := h
  · rw [e]; exact hR
  · exact absurd hab (hc a b)

/-- closing the groups forgets a group that was only just opened -/
theorem AfterTurn.end_ {R : LB → Changeset → Prop} {cmd : Cmd} {s : Ed} (h : AfterTurn R cmd s) :
    ∃ c, R s.line c ∧ s.changes.end_.1 = c.end_.1 := by
  obtain ⟨c, hR, e | ⟨e, _⟩⟩ := h
  · exact ⟨c, hR, by rw [e]⟩
  · exact ⟨c, hR, by rw [e]; rfl⟩

/-- one turn of the circular loop in emacs mode: what the show step establishes of line and log is what
    the decoded command finds (`AfterTurn`) -/
theorem wp_circTurn_emacs (hvi : cfg.vi = false) {R : LB → Changeset → Prop} {start : Nat} {cands : List Text}
    {backup : Text} {backupPos fuel i : Nat} {s : Ed}
    (hcand : ∀ (h : i < cands.length) l ns, LB.replace S U start s.line.pos cands[i] s.line = .ok ((), l, ns) →
      R l (s.changes.onNotifs S U.alnum ns))
    (hback : cands.length ≤ i → ∀ l ns, LB.update S U backup backupPos s.line = .ok ((), l, ns) →
      R l (s.changes.onNotifs S U.alnum ns)) :
    wp (circTurn S U cfg start cands backup backupPos fuel i) (AfterTurn R) (fun _ _ => True) s := by
  have rest : ∀ s1 : Ed, R s1.line s1.changes →
      wp (refreshLine S U cfg) (fun _ s2 => wp (nextCmd S U cfg fuel true true) (AfterTurn R) (fun _ _ => True) s2)
        (fun _ _ => True) s1 := by
    intro s1 h1
    refine wp_refreshLine S U cfg (fun s2 hc2 => ?_) (fun _ _ _ => trivial)
    obtain ⟨l2, _, c2, _⟩ := Ed.core_eq hc2
    refine wp_nextCmd_emacs_line_changes S U cfg hvi (fun cmd s3 l3 hch => ?_)
    exact ⟨s1.changes, by rw [l3, l2]; exact h1, by rw [← c2]; exact hch⟩
  unfold circTurn
  by_cases hlt : i < cands.length
  · rw [if_pos hlt]
    have hci : cands[i]? = some cands[i] := by simp [hlt]
    rw [hci]
    simp only [wp_bind, wp_getLine]
    exact wp_lb_any S U (fun a l ns ho => rest _ (hcand hlt l ns ho)) trivial
  · rw [if_neg hlt]
    simp only [wp_bind]
    exact wp_lb_any S U (fun a l ns ho => rest _ (hback (Nat.le_of_not_lt hlt) l ns ho)) trivial

/-- loop-head invariant of `completeCircular_accept_log`: inside the group opened on `c0`, and the
    log replays the text `t0` to the line -/
def AccI (c0 : Changeset) (t0 : Text) (s : Ed) (extra : List Change) : Prop :=
  GroupLog c0 s.changes extra ∧ s.line.canGrow = true ∧ replayLog s.changes.undos.reverse t0 = some s.line.buf

/-- when the loop hands a command back (the completion is accepted): one closed, non-empty group
    without inner markers on top of `c0`'s log, replaying `t0` to the line -/
def AccPost (c0 : Changeset) (t0 : Text) (r : Option Cmd) (s' : Ed) : Prop :=
  ∀ cmd, r = some cmd → ∃ body, body ≠ [] ∧ (∀ ch ∈ body, ch.isMarker = false) ∧
    s'.changes.undos = .end_ :: body ++ .begin :: c0.undos ∧ s'.changes.level = 0 ∧
    replayLog s'.changes.undos.reverse t0 = some s'.line.buf

/-- circular completion in emacs mode, accepted: the log is the log before plus ONE closed group -/
theorem completeCircular_accept_log (hvi : cfg.vi = false) (c0 : Changeset) (t0 : Text) (hl0 : c0.level = 0)
    (start : Nat) (cands : List Text) (backup : Text) (backupPos : Nat) :
    ∀ (fuel mark i : Nat) (s : Ed) (extra : List Change), AccI c0 t0 s extra →
      (extra ≠ [] ∨ i < cands.length) →
      wp (completeCircular S U cfg start cands mark backup backupPos fuel i) (AccPost c0 t0) (fun _ _ => True) s := by
  intro fuel mark i s extra hs hne
  refine wp_completeCircular_turns S U cfg
    (I := fun _ i s => ∃ extra, AccI c0 t0 s extra ∧ (extra ≠ [] ∨ i < cands.length))
    (T := fun _ _ => AfterTurn fun l c => ∃ e1, e1 ≠ [] ∧ GroupLog c0 c e1 ∧ l.canGrow = true ∧
      replayLog c.undos.reverse t0 = some l.buf)
    (fun _ _ _ _ => trivial) ?_ ?_ ?_ (fun _ _ _ _ => wp_circAbort_any S U cfg (fun _ _ h => by cases h)) ?_
    fuel mark i s ⟨extra, hs, hne⟩
  · intro fuel _ i s ⟨extra, ⟨g1, g2, g3⟩, hne⟩
    refine wp_circTurn_emacs S U cfg hvi (fun hlt l ns ho => ?_) (fun hle l ns ho => ?_)
    · have hns : ∃ y, ns = [.repl start y cands[i]] := by
        unfold LB.replace at ho
        split at ho
        · cases ho; exact ⟨_, rfl⟩
        · cases ho
      obtain ⟨y, rfl⟩ := hns
      obtain ⟨e1, h1, hn1⟩ := g1.repl S U start y cands[i]
      exact ⟨e1, hn1, h1, (LB.replace_canGrow S U ho).trans g2,
        C05_log_replay S U.alnum s.changes _ t0 s.line.buf l.buf g3
          (replayNotifs_of_replay _ ((Replays.replace S U _ _ _).h _ _ _ _ ho))⟩
    · obtain ⟨e1, h1, hn1⟩ := g1.notifs S U ns
      exact ⟨e1, hn1 (hne.resolve_right (Nat.not_lt.2 hle)), h1, LB.update_keeps_canGrow S U ho g2,
        C05_log_replay S U.alnum s.changes ns t0 s.line.buf l.buf g3
          (replayNotifs_of_replay ns ((Replays.update S U backup backupPos).h _ _ _ _ ho))⟩
  · intro _ i s h
    obtain ⟨e1, hn1, g⟩ := h.same (fun _ _ h => by cases h)
    exact ⟨e1, g, Or.inl hn1⟩
  · intro _ i s h
    obtain ⟨e1, hn1, g⟩ := h.same (fun _ _ h => by cases h)
    exact ⟨e1, g, Or.inl hn1⟩
  · intro _ i s cmd _ h cmd' _
    obtain ⟨c, ⟨e1, hn1, g, _, rp⟩, hend⟩ := h.end_
    obtain ⟨u1, u2⟩ := g.end_ hl0 hn1
    refine ⟨e1, hn1, g.2.1, ?_, ?_, ?_⟩
    · show s.changes.end_.1.undos = _; rw [hend]; exact u1
    · show s.changes.end_.1.level = _; rw [hend]; exact u2
    · show replayLog s.changes.end_.1.undos.reverse t0 = some s.line.buf
      rw [hend]; exact (C05_log_markers c t0 _ rp).2

theorem nested_of_no_marker : ∀ b : List Change, (∀ ch ∈ b, ch.isMarker = false) → Nested b
  | [], _ => .nil
  | ch :: l, hb =>
    .change ch l (hb ch (List.mem_cons_self ..)) (nested_of_no_marker l fun x hx => hb x (List.mem_cons_of_mem _ hx))

/-- `undo 1` on a log whose top is one closed group `End :: body ++ [Begin]` (no marker in `body`) runs
    the undo steps of exactly that group and leaves the log below it -/
theorem undo_closed_group (c : Changeset) (body rest : List Change) (lb lb2 : LB)
    (hu : c.undos = .end_ :: body ++ .begin :: rest) (hm : ∀ ch ∈ body, ch.isMarker = false)
    (hall : undoAll (fun ch lb => ch.undoOn S U lb) (.end_ :: body ++ [.begin]) lb = .ok lb2) :
    ∃ c' undone, c.undo S U lb 1 = .ok (c', lb2, undone) ∧ c'.undos = rest := by
  have hsplit : c.undos = (.end_ :: body ++ [.begin]) ++ rest := by rw [hu]; simp
  obtain ⟨lvl, h3⟩ := C05_undo_unit_model S U _ rest c.redos (UndoUnit.group body (nested_of_no_marker body hm))
    lb lb2 c.level hall
  refine ⟨{ level := lvl, undos := rest, redos := (Change.end_ :: body ++ [Change.begin]).reverse ++ c.redos },
    (Change.end_ :: body ++ [Change.begin]).any (fun c => !c.isMarker), ?_, rfl⟩
  unfold Changeset.undo
  rw [hsplit, h3]

/-- **one Undo takes back one closed group**: on a log `End :: body ++ Begin :: rest` (no marker in
    `body`) that replays from `t0` to the text of the line, while `rest` replays from `t0` to `t`,
    `undo 1` succeeds, leaves the text `t` and the stack `rest` -/
theorem undo_one_group (c : Changeset) (body rest : List Change) (t0 t : Text) (lb : LB)
    (hu : c.undos = .end_ :: body ++ .begin :: rest) (hm : ∀ ch ∈ body, ch.isMarker = false)
    (hlog : replayLog c.undos.reverse t0 = some lb.buf) (hrest : replayLog rest.reverse t0 = some t) :
    ∃ c' lb' undone, c.undo S U lb 1 = .ok (c', lb', undone) ∧ lb'.buf = t ∧ c'.undos = rest := by
  have hsplit : c.undos = (.end_ :: body ++ [.begin]) ++ rest := by rw [hu]; simp
  rw [hsplit] at hlog
  obtain ⟨lb', h1, h2⟩ := undoAll_replay S U _ rest t0 lb.buf lb hlog rfl
  rw [hrest] at h2
  obtain ⟨c', undone, hc, hr⟩ := undo_closed_group S U c body rest lb lb' hu hm h1
  exact ⟨c', lb', undone, hc, (Option.some.inj h2).symm, hr⟩
end Rl
