/-
  C14, "one Undo after an accepted completion": where the CURSOR lands.  The oldest change of the
  completion's undo group is `Replace start y _` (`y` = the original text between the completer's
  start and the cursor); `Change::undo` of a `Replace idx old new` leaves the cursor at
  `idx + old.len()`; so one Undo puts the cursor back to `start + |y|` = the pre-completion cursor.
-/
import Rl.Lemmas.CompleteUndo
namespace Rl
open EM
variable (S : Segmenter) (U : UData) (cfg : EdCfg)

/-- **one Undo takes back one closed group, cursor included**: the group is
    `End :: pre ++ [Replace i o n] ++ Begin`; the last undo step applied is the one of the OLDEST change
    `Replace i o n`, which leaves the cursor at `i + |o|` -/
theorem undo_one_group_cursor (c : Changeset) (pre rest : List Change) (i : Nat) (o n : Text) (t0 t : Text) (lb : LB)
    (hu : c.undos = .end_ :: (pre ++ [.replace i o n]) ++ .begin :: rest)
    (hm : ∀ ch ∈ pre, ch.isMarker = false)
    (hlog : replayLog c.undos.reverse t0 = some lb.buf) (hrest : replayLog rest.reverse t0 = some t) :
    ∃ c' lb' undone, c.undo S U lb 1 = .ok (c', lb', undone) ∧ lb'.buf = t ∧ lb'.pos = i + blen o ∧
      c'.undos = rest := by
  have hmb : ∀ ch ∈ pre ++ [Change.replace i o n], ch.isMarker = false := by
    intro ch hch
    rcases List.mem_append.mp hch with h | h
    · exact hm ch h
    · rw [List.mem_singleton.mp h]; rfl
  have hsplit1 : c.undos = (.end_ :: pre) ++ (.replace i o n :: .begin :: rest) := by rw [hu]; simp
  rw [hsplit1] at hlog
  obtain ⟨lb1, h1, h2⟩ := undoAll_replay S U _ _ t0 lb.buf lb hlog rfl
  obtain ⟨u, hu1, hf⟩ := replay_cons.mp h2
  obtain ⟨lb2, k1, k2, k3⟩ := undoOn_replace S U i o n u lb1.buf lb1 hf rfl
  obtain ⟨u', hu2, hf2⟩ := replay_cons.mp hu1
  rw [applyFwd_marker (by rfl : Change.begin.isMarker = true)] at hf2
  have huu : u' = u := Option.some.inj hf2
  rw [hrest] at hu2
  have htu : t = u := (Option.some.inj hu2).trans huu
  have hall : undoAll (fun ch lb => ch.undoOn S U lb) (.end_ :: (pre ++ [.replace i o n]) ++ [.begin]) lb = .ok lb2 := by
    have e : (Change.end_ :: (pre ++ [Change.replace i o n]) ++ [Change.begin])
        = (Change.end_ :: pre) ++ [Change.replace i o n, Change.begin] := by simp
    rw [e]
    refine (undoAll_append_iff _ _ _ _ _).mpr ⟨lb1, h1, ?_⟩
    rw [undoAll_cons_change _ (by rfl : (Change.replace i o n).isMarker = false)]
    simp only [k1]
    rw [undoAll_cons_marker _ (by rfl : Change.begin.isMarker = true)]
    rfl
  obtain ⟨c', undone, hc, hr⟩ := undo_closed_group S U c _ rest lb lb2 hu hmb hall
  exact ⟨c', lb2, undone, hc, by rw [k2, htu], k3, hr⟩

/-- the stack holds `Replace start y _` directly above the `Begin` of the completion -/
def HasR (u0 : List Change) (st : Nat) (y : Text) (us : List Change) : Prop :=
  ∃ pre n, us = pre ++ .replace st y n :: .begin :: u0

theorem HasR.cons {u0 : List Change} {st : Nat} {y : Text} {us : List Change} (h : HasR u0 st y us) (ch : Change) :
    HasR u0 st y (ch :: us) := by
  obtain ⟨pre, n, e⟩ := h
  exact ⟨ch :: pre, n, by rw [e]; rfl⟩

theorem HasR.endLoop {u0 : List Change} {st : Nat} {y : Text} :
    ∀ (k : Nat) (us : List Change) (t : Bool), HasR u0 st y us → HasR u0 st y (Changeset.endLoop k us t).1 :=
  endLoop_induct (P := HasR u0 st y)
    (fun rest h => by
      obtain ⟨pre, n, e⟩ := h
      cases pre with
      | nil => cases e
      | cons p ps => cases e; exact ⟨ps, n, rfl⟩)
    (fun us h => h.cons _)

theorem HasR.end_ {u0 : List Change} {st : Nat} {y : Text} {c : Changeset} (h : HasR u0 st y c.undos) :
    HasR u0 st y c.end_.1.undos := by
  have := HasR.endLoop c.level c.undos false h
  simpa [Changeset.end_] using this

/-- a notification on a stack whose top is above the `Replace` keeps the `Replace` (and something above it) -/
theorem onNotif_above (c : Changeset) (p : Change) (ps tl : List Change) (hu : c.undos = p :: ps ++ tl) (n : Notif) :
    ∃ p' ps', (c.onNotif S U.alnum n).undos = p' :: ps' ++ tl := by
  rcases Changeset.onNotif_shape S U.alnum c n with h1 | ⟨ch, _, h1⟩ | ⟨hd, rest, ch, hu', _, _, h1⟩
  · exact ⟨p, ps, by rw [h1, hu]⟩
  · exact ⟨ch, p :: ps, by rw [h1, hu]; rfl⟩
  · rw [hu] at hu'
    simp only [List.cons_append, List.cons.injEq] at hu'
    exact ⟨ch, ps, by rw [h1, ← hu'.2]; rfl⟩

theorem onNotifs_above (ns : List Notif) : ∀ (c : Changeset) (p : Change) (ps tl : List Change),
    c.undos = p :: ps ++ tl → ∃ p' ps', (c.onNotifs S U.alnum ns).undos = p' :: ps' ++ tl := by
  unfold Changeset.onNotifs
  induction ns with
  | nil => intro c p ps tl h; exact ⟨p, ps, h⟩
  | cons n ns ih =>
    intro c p ps tl h
    obtain ⟨p1, ps1, h1⟩ := onNotif_above S U c p ps tl h n
    exact ih _ p1 ps1 tl h1

/-- a `replace(start..pos, c)` notification on a stack whose top is the `Begin` of the completion (first
    candidate shown), the `Replace` itself (`replace_on_R`: merged into it, or pushed above it) or something above it
    (`onNotifs_above`); `update_on_R` is the same for the notifications of `update` -/
theorem replace_first (c : Changeset) (u0 : List Change) (hu : c.undos = .begin :: u0) (st : Nat) (y n : Text) :
    (c.onNotifs S U.alnum [.repl st y n]).undos = .replace st y n :: .begin :: u0 := by
  simp only [Changeset.onNotifs, List.foldl, Changeset.onNotif, Changeset.replace_undos, hu]

theorem replace_on_R (c : Changeset) (u0 : List Change) (st : Nat) (y n cnew : Text)
    (hu : c.undos = .replace st y n :: .begin :: u0) :
    (c.onNotifs S U.alnum [.repl st n cnew]).undos = .replace st y cnew :: .begin :: u0 ∨
    (c.onNotifs S U.alnum [.repl st n cnew]).undos = .replace st n cnew :: .replace st y n :: .begin :: u0 := by
  simp only [Changeset.onNotifs, List.foldl, Changeset.onNotif, Changeset.replace_undos, hu]
  split
  · rename_i h
    have hn : n = [] := by
      have : blen n = 0 := by simp at h; omega
      exact blen_eq_zero.mp this
    subst hn
    left; simp
  · right; rfl

theorem update_on_R (c : Changeset) (tl : List Change) (st : Nat) (y n old new : Text)
    (hu : c.undos = .replace st y n :: tl) :
    (c.onNotifs S U.alnum (updNotifs old new)).undos = .replace st y n :: tl ∧ old = [] ∧ new = [] ∨
    ∃ p ps, (c.onNotifs S U.alnum (updNotifs old new)).undos = p :: ps ++ .replace st y n :: tl := by
  simp only [updNotifs, Changeset.onNotifs, List.foldl, Changeset.onNotif]
  cases old with
  | nil =>
    cases new with
    | nil => left; simp [Changeset.delete, Changeset.insertStr, hu]
    | cons a l => right; exact ⟨.insert 0 (a :: l), [], by simp [Changeset.delete, Changeset.insertStr, hu]⟩
  | cons a l =>
    right
    cases new with
    | nil => exact ⟨.delete 0 (a :: l), [], by simp [Changeset.delete, Changeset.insertStr, hu]⟩
    | cons a' l' => exact ⟨.insert 0 (a' :: l'), [.delete 0 (a :: l)], by simp [Changeset.delete, Changeset.insertStr, hu]⟩

/-- after the show step: span-only line, and the `Replace start y n` is in the stack; when it is the
    top of the stack its new text `n` is what the span holds now -/
def CurShown (u0 : List Change) (x y z : Text) (l : LB) (c : Changeset) : Prop :=
  l.canGrow = true ∧ ∃ mid, l.buf = x ++ mid ++ z ∧ l.pos = blen x + blen mid ∧
    ∃ pre n, c.undos = pre ++ .replace (blen x) y n :: .begin :: u0 ∧ (pre = [] → mid = n)

/-- loop-head invariant: either nothing was logged yet (first head, index 0) or `CurShown` -/
def CurI (u0 : List Change) (x y z : Text) (cands : List Text) (i : Nat) (s : Ed) : Prop :=
  (s.line.canGrow = true ∧ s.line.buf = x ++ y ++ z ∧ s.line.pos = blen x + blen y ∧
    s.changes.undos = .begin :: u0 ∧ i < cands.length) ∨ CurShown u0 x y z s.line s.changes

/-- when the loop hands a command back, the `Replace start y _` is still directly above the `Begin` -/
def CurPost (u0 : List Change) (x y : Text) (r : Option Cmd) (s' : Ed) : Prop :=
  ∀ cmd, r = some cmd → HasR u0 (blen x) y s'.changes.undos

/-- circular completion in emacs mode, accepted: the oldest change of the group is
    `Replace start y _` with `y` the original span -/
theorem completeCircular_accept_oldest (hvi : cfg.vi = false) (u0 : List Change) (x y z : Text) (cands : List Text) :
    ∀ (fuel mark i : Nat) (s : Ed), CurI u0 x y z cands i s →
      wp (completeCircular S U cfg (blen x) cands mark (x ++ y ++ z) (blen x + blen y) fuel i)
        (CurPost u0 x y) (fun _ _ => True) s := by
  have hbp : blen x + blen y ≤ blen (x ++ y ++ z) := by simp
  refine wp_completeCircular_turns S U cfg (I := fun _ => CurI u0 x y z cands) (T := fun _ _ => AfterTurn (CurShown u0 x y z))
    (fun _ _ _ _ => trivial) ?_ (fun _ _ _ h => Or.inr (h.same (fun _ _ h => by cases h)))
    (fun _ _ _ h => Or.inr (h.same (fun _ _ h => by cases h)))
    (fun _ _ _ _ => wp_circAbort_any S U cfg (fun _ _ h => by cases h)) ?_
  · intro fuel _ i s hs
    refine wp_circTurn_emacs S U cfg hvi (fun hlt l ns ho => ?_) (fun hle l ns ho => ?_)
    · -- the span before the show step and the stack after it
      have key : ∃ mid, s.line.canGrow = true ∧ s.line.buf = x ++ mid ++ z ∧ s.line.pos = blen x + blen mid ∧
          ∃ pre n, (s.changes.onNotifs S U.alnum [.repl (blen x) mid cands[i]]).undos
            = pre ++ .replace (blen x) y n :: .begin :: u0 ∧ (pre = [] → cands[i] = n) := by
        rcases hs with ⟨hg, hb, hp, hu, _⟩ | ⟨hg, mid, hb, hp, pre, n, hu, hm⟩
        · exact ⟨y, hg, hb, hp, [], cands[i], replace_first S U _ u0 hu _ _ _, fun _ => rfl⟩
        · refine ⟨mid, hg, hb, hp, ?_⟩
          cases pre with
          | nil =>
            have hmn := hm rfl
            subst hmn
            rcases replace_on_R S U s.changes u0 (blen x) y mid cands[i] hu with h | h
            · exact ⟨[], cands[i], h, fun _ => rfl⟩
            · exact ⟨[.replace (blen x) mid cands[i]], mid, h, fun h => by cases h⟩
          | cons p ps =>
            obtain ⟨p', ps', h⟩ := onNotifs_above S U [.repl (blen x) mid cands[i]] s.changes p ps _ hu
            exact ⟨p' :: ps', n, h, fun h => by cases h⟩
      obtain ⟨mid, hg, hb, hp, pre, n, hu, hm⟩ := key
      rw [LB.replace_span S U x mid z cands[i] s.line hb hp] at ho
      cases ho
      exact ⟨hg, cands[i], rfl, rfl, pre, n, hu, hm⟩
    · rcases hs with ⟨_, _, _, _, h⟩ | ⟨hg, mid, hb, hp, pre, n, hu, hm⟩
      · exact absurd h (Nat.not_lt.2 hle)
      · have key : ∃ pre' n', (s.changes.onNotifs S U.alnum (updNotifs s.line.buf (x ++ y ++ z))).undos
            = pre' ++ .replace (blen x) y n' :: .begin :: u0 ∧ (pre' = [] → y = n') := by
          cases pre with
          | nil =>
            have hmn := hm rfl
            subst hmn
            rcases update_on_R S U s.changes _ (blen x) y mid s.line.buf (x ++ y ++ z) hu with ⟨h, ho, hn⟩ | ⟨p, ps, h⟩
            · refine ⟨[], mid, h, fun _ => ?_⟩
              rw [hb] at ho
              have hy : y = [] := by
                simp only [List.append_eq_nil_iff] at hn; exact hn.1.2
              have hmid : mid = [] := by
                simp only [List.append_eq_nil_iff] at ho; exact ho.1.2
              rw [hy, hmid]
            · exact ⟨p :: ps, mid, h, fun h => by cases h⟩
          | cons p ps =>
            obtain ⟨p', ps', h⟩ := onNotifs_above S U (updNotifs s.line.buf (x ++ y ++ z)) s.changes p ps _ hu
            exact ⟨p' :: ps', n, h, fun h => by cases h⟩
        obtain ⟨pre', n', hu', hm'⟩ := key
        rw [LB.update_canGrow S U _ _ s.line hg hbp] at ho
        cases ho
        exact ⟨hg, y, rfl, rfl, pre', n', hu', hm'⟩
  · intro _ i s cmd _ h cmd' _
    obtain ⟨c, ⟨_, mid, _, _, pre, n, e, _⟩, hend⟩ := h.end_
    show HasR u0 (blen x) y s.changes.end_.1.undos
    rw [hend]
    exact HasR.end_ ⟨pre, n, e⟩

end Rl
