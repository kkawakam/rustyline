/- Lemmas about Rl/Completion.lean for property C15, in this order: `unescape ∘ escape = id`;
   the reversed scan of `extract_word` (`extractGo`) step by step and on an escaped word after an
   unquoted prefix (`extractWord_escaped`); the quote scanner (`scanGo`, `bareGo`) as a fold and
   its agreement with the spec's lexer (`bareGo_lex`); UTF-8 bytes of a text and
   `is_char_boundary` on them; `longest_common_prefix` (`lcpLoop_spec`, `backOff_spec`,
   `lcp_core`). -/
import Rl.Completion
import Rl.Spec.Completion
namespace Rl.Completion

theorem unescapeGo_cons_ne {e c : Char} (h : c ≠ e) (r : Text) :
    unescapeGo e (c :: r) = c :: unescapeGo e r := by
  cases r with
  | nil => simp [unescapeGo, h]
  | cons d t => simp [unescapeGo, h]

theorem unescapeGo_esc_cons (e d : Char) (r : Text) :
    unescapeGo e (e :: d :: r) = d :: unescapeGo e r := by
  simp [unescapeGo]

/-- the fast path of `unescape` (no escape character present) agrees with the loop -/
theorem unescapeGo_of_not_mem {e : Char} : ∀ {s : Text}, (s.any (· == e)) = false → unescapeGo e s = s
  | [], _ => rfl
  | c :: t, h => by
    simp only [List.any_cons, Bool.or_eq_false_iff, beq_eq_false_iff_ne] at h
    rw [unescapeGo_cons_ne h.1, unescapeGo_of_not_mem h.2]

theorem unescape_some (e : Char) (s : Text) : unescape (some e) s = unescapeGo e s := by
  unfold unescape
  cases h : s.any (· == e) <;> simp [unescapeGo_of_not_mem, h]

theorem unescapeGo_flatMap_escChar (e : Char) (isBreak : Char → Bool) (hb : isBreak e = true)
    (s r : Text) :
    unescapeGo e (s.flatMap (escChar e isBreak) ++ r) = s ++ unescapeGo e r := by
  induction s with
  | nil => rfl
  | cons c t ih =>
    simp only [List.flatMap_cons, List.append_assoc, escChar]
    by_cases hc : isBreak c = true
    · simp only [hc, if_true, List.cons_append, List.nil_append]
      rw [unescapeGo_esc_cons, ih]
    · have hne : c ≠ e := fun h => hc (h ▸ hb)
      have hc' : isBreak c = false := by simpa using hc
      simp only [hc', Bool.false_eq_true, if_false, List.cons_append, List.nil_append]
      rw [unescapeGo_cons_ne hne, ih]

theorem escape_eq_flatMap (e : Char) (isBreak : Char → Bool) (q : Quote) (hq : q ≠ .single) (s : Text) :
    escape (some e) isBreak q s = s.flatMap (escChar e isBreak) := by
  unfold escape
  simp only [hq, if_false]
  split
  · rename_i h
    have hf : ∀ c ∈ s, isBreak c = false := fun c hc =>
      Bool.eq_false_iff.2 (List.filter_eq_nil_iff.1 (List.eq_nil_of_length_eq_zero h) c hc)
    clear h
    induction s with
    | nil => rfl
    | cons c t ih =>
      have h1 := hf c (by simp)
      simp only [List.flatMap_cons, escChar, h1]
      rw [← ih (fun d hd => hf d (by simp [hd]))]; rfl
  · rfl

section extract
variable (e : Char) (B : Char → Bool)

/- `go_…`: one step of `extractGo` with escape char `e`, by loop state and head character.
   `none` = no break char seen yet; `some s` = a break char gave the start `s` and `k` escape chars
   have been seen to its left.  `_b` / `_nb`: the head is / is not a break char; `_e`: the head is
   the escape char; `_even` / `_odd`: parity of `k` when the run of escape chars ends. -/
theorem go_nil (st : Option Nat) (k : Nat) : extractGo (some e) B [] st k = (st, k) := by
  simp [extractGo]

theorem go_none_nb {c : Char} (h : B c = false) (r : List Char) (k : Nat) :
    extractGo (some e) B (c :: r) none k = extractGo (some e) B r none k := by
  simp [extractGo, h]

theorem go_none_b {c : Char} (h : B c = true) (r : List Char) (k : Nat) :
    extractGo (some e) B (c :: r) none k = extractGo (some e) B r (some (blen r + c.utf8Size)) k := by
  simp [extractGo, h]

theorem go_some_e (r : List Char) (s k : Nat) :
    extractGo (some e) B (e :: r) (some s) k = extractGo (some e) B r (some s) (k + 1) := by
  simp [extractGo]

theorem go_some_even {c : Char} (hc : c ≠ e) (r : List Char) (s : Nat) {k : Nat} (hk : k % 2 = 0) :
    extractGo (some e) B (c :: r) (some s) k = (some s, k) := by
  simp [extractGo, Ne.symm hc, hk]

theorem go_some_odd_b {c : Char} (hc : c ≠ e) (hb : B c = true) (r : List Char) (s : Nat) {k : Nat}
    (hk : k % 2 = 1) :
    extractGo (some e) B (c :: r) (some s) k
      = extractGo (some e) B r (some (blen r + c.utf8Size)) 0 := by
  simp [extractGo, Ne.symm hc, hk, hb]

theorem go_some_odd_nb {c : Char} (hc : c ≠ e) (hb : B c = false) (r : List Char) (s : Nat) {k : Nat}
    (hk : k % 2 = 1) :
    extractGo (some e) B (c :: r) (some s) k = extractGo (some e) B r none 0 := by
  simp [extractGo, Ne.symm hc, hk, hb]

/-- the start reported from the final loop state (`if escapes % 2 == 1 { start = None }`,
    then `None => 0`) -/
def fin (r : Option Nat × Nat) : Nat := if r.2 % 2 = 1 then 0 else r.1.getD 0

/-- a found break char stays the start iff the run of escape chars before it is even -/
theorem fin_go_run (r : List Char) (X k : Nat)
    (h : (k + (r.takeWhile (· == e)).length) % 2 = 0) :
    fin (extractGo (some e) B r (some X) k) = X := by
  induction r generalizing k with
  | nil =>
    simp at h
    simp [go_nil, fin, h]
  | cons x r ih =>
    by_cases hx : x = e
    · subst hx
      rw [go_some_e]
      apply ih
      simp at h
      omega
    · have : ((x :: r).takeWhile (· == e)) = [] := by
        have : (x == e) = false := by simpa using hx
        simp [List.takeWhile, this]
      rw [this] at h
      simp at h
      rw [go_some_even e B hx r X h]
      simp [fin, h]

/-- what is typed before the word, reversed: empty, or a break char other than the escape char
    preceded by an even run of escape chars -/
def UnquotedRev (R : List Char) : Prop :=
  R = [] ∨ ∃ b r, R = b :: r ∧ B b = true ∧ b ≠ e ∧ ((r.takeWhile (· == e)).length) % 2 = 0

/-- from either loop state that can arise at the left end of an escaped word, the scan of an
    unquoted prefix reports the end of the prefix -/
def BaseOK (R : List Char) : Prop :=
  (∀ st k, k % 2 = 1 → fin (extractGo (some e) B R (some st) k) = blen R)
    ∧ fin (extractGo (some e) B R none 0) = blen R

theorem baseOK_of_unquotedRev {R : List Char} (h : UnquotedRev e B R) : BaseOK e B R := by
  rcases h with rfl | ⟨b, r, rfl, hb, hne, hpar⟩
  · constructor
    · intro st k hk; simp [go_nil, fin, hk]
    · simp [go_nil, fin]
  · have hX : blen r + b.utf8Size = blen (b :: r) := by simp; omega
    constructor
    · intro st k hk
      rw [go_some_odd_b e B hne hb r st hk, hX]
      exact fin_go_run e B r _ 0 (by simpa using hpar)
    · rw [go_none_b e B hb, hX]
      exact fin_go_run e B r _ 0 (by simpa using hpar)

/-- the escape of a word, read backwards: the escape char comes AFTER each break char -/
def rescape (sr : List Char) : List Char := sr.flatMap (fun c => if B c then [c, e] else [c])

theorem reverse_flatMap_escChar (s : Text) :
    (s.flatMap (escChar e B)).reverse = rescape e B s.reverse := by
  induction s with
  | nil => rfl
  | cons c t ih =>
    simp only [List.flatMap_cons, List.reverse_append, ih, List.reverse_cons, rescape,
      List.flatMap_append, escChar]
    cases B c <;> simp

theorem go_rescape (he : B e = true) {R : List Char} (hR : BaseOK e B R) (sr : List Char) :
    (∀ st k, k % 2 = 1 → fin (extractGo (some e) B (rescape e B sr ++ R) (some st) k) = blen R)
      ∧ fin (extractGo (some e) B (rescape e B sr ++ R) none 0) = blen R := by
  induction sr with
  | nil => simpa [rescape, BaseOK] using hR
  | cons d sr ih =>
    obtain ⟨ih1, ih2⟩ := ih
    have hcons : rescape e B (d :: sr) ++ R
        = (if B d then [d, e] else [d]) ++ (rescape e B sr ++ R) := by
      simp [rescape]
    rw [hcons]
    by_cases hd : B d = true
    · simp only [hd, if_true, List.cons_append, List.nil_append]
      by_cases hde : d = e
      · subst hde
        constructor
        · intro st k hk
          rw [go_some_e, go_some_e]
          exact ih1 st (k + 1 + 1) (by omega)
        · rw [go_none_b d B hd, go_some_e]
          exact ih1 _ 1 rfl
      · constructor
        · intro st k hk
          rw [go_some_odd_b e B hde hd _ st hk, go_some_e]
          exact ih1 _ 1 rfl
        · rw [go_none_b e B hd, go_some_e]
          exact ih1 _ 1 rfl
    · have hd' : B d = false := by simpa using hd
      have hde : d ≠ e := fun h => hd (h ▸ he)
      simp only [hd', Bool.false_eq_true, if_false, List.cons_append, List.nil_append]
      constructor
      · intro st k hk
        rw [go_some_odd_nb e B hde hd' _ st hk]
        exact ih2
      · rw [go_none_nb e B hd']
        exact ih2

theorem blen_reverse (t : Text) : blen t.reverse = blen t := by
  induction t with
  | nil => rfl
  | cons c t ih => simp [ih]; omega

theorem splitAtByte_full (t : Text) : splitAtByte t (blen t) = some (t, []) := by
  have := splitAtByte_append t []
  simpa using this

theorem extractWord_end (l : Text) :
    extractWord l (blen l) (some e) B =
      (splitAtByte l (fin (extractGo (some e) B l.reverse none 0))).map
        fun p => (fin (extractGo (some e) B l.reverse none 0), p.2) := by
  unfold extractWord
  rw [splitAtByte_full]
  cases l with
  | nil => rfl
  | cons a l =>
    simp only [List.isEmpty_cons, Bool.false_eq_true, if_false, fin]
    generalize extractGo (some e) B (a :: l).reverse none 0 = r
    by_cases hk : r.2 % 2 = 1
    · simp only [hk, if_true]; rfl
    · simp only [hk, if_false]
      cases r.1 with
      | none => rfl
      | some st => simp only [Option.getD_some]; cases splitAtByte (a :: l) st <;> rfl

/-- `extract_word` with the cursor at the end of `pre ++ E`, where `E` is an escaped text and
    `pre` is unquoted: the word is `E` -/
theorem extractWord_escaped (he : B e = true) (pre s : Text) (hpre : UnquotedRev e B pre.reverse) :
    extractWord (pre ++ s.flatMap (escChar e B)) (blen (pre ++ s.flatMap (escChar e B))) (some e) B
      = some (blen pre, s.flatMap (escChar e B)) := by
  have hfin : fin (extractGo (some e) B (pre ++ s.flatMap (escChar e B)).reverse none 0) = blen pre := by
    rw [List.reverse_append, reverse_flatMap_escChar]
    have := (go_rescape e B he (baseOK_of_unquotedRev e B hpre) s.reverse).2
    rw [this, blen_reverse]
  rw [extractWord_end, hfin, splitAtByte_append]
  rfl
end extract

/-- the shape of the scanners: a fold over the characters that is told the byte index of each -/
def idxFold {σ : Type} (step : σ → Nat → Char → σ) : Text → Nat → σ → σ
  | [], _, s => s
  | c :: t, i, s => idxFold step t (i + c.utf8Size) (step s i c)

section fold
variable {σ τ : Type} (f : σ → Nat → Char → σ) (g : τ → Nat → Char → τ)

theorem idxFold_append (a b : Text) (i : Nat) (s : σ) :
    idxFold f (a ++ b) i s = idxFold f b (i + blen a) (idxFold f a i s) := by
  induction a generalizing i s with
  | nil => rfl
  | cons c t ih => rw [List.cons_append, idxFold, ih, blen_cons, Nat.add_assoc]; rfl

/-- a state that unbroken characters leave alone and that comes back after an escaped character
    survives every escaped text -/
theorem idxFold_escaped (D : Char → Bool) (s0 : σ) (hp : ∀ i c, D c = false → f s0 i c = s0)
    (he : ∀ i j c, D c = true → f (f s0 i '\\') j c = s0) (t : Text) (i : Nat) :
    idxFold f (t.flatMap (escChar '\\' D)) i s0 = s0 := by
  induction t generalizing i with
  | nil => rfl
  | cons c t ih =>
    rw [List.flatMap_cons, idxFold_append, escChar]
    cases hc : D c with
    | true => rw [if_pos rfl, idxFold, idxFold, idxFold, he _ _ _ hc]; exact ih _
    | false => rw [if_neg Bool.false_ne_true, idxFold, idxFold, hp _ _ hc]; exact ih _

theorem idxFold_rel (R : σ → τ → Prop) (h : ∀ s t i c, R s t → R (f s i c) (g t i c)) (l : Text) (i : Nat)
    {s : σ} {t : τ} (h0 : R s t) : R (idxFold f l i s) (idxFold g l i t) := by
  induction l generalizing i s t with
  | nil => exact h0
  | cons c l ih => exact ih _ (h _ _ _ _ h0)
end fold

theorem scanGo_eq (l : Text) (i : Nat) (m : ScanMode) (qi : Nat) :
    scanGo l i m qi = idxFold (fun s i c => scanStep s.1 s.2 i c) l i (m, qi) := by
  induction l generalizing i m qi with
  | nil => rfl
  | cons c t ih => exact ih _ _ _

theorem scanGo_append (a b : Text) (i : Nat) (m : ScanMode) (qi : Nat) :
    scanGo (a ++ b) i m qi
      = scanGo b (i + blen a) (scanGo a i m qi).1 (scanGo a i m qi).2 := by
  simp only [scanGo_eq, idxFold_append]

theorem ne_of_unbroken {D : Char → Bool} {c b : Char} (hc : D c = false) (hb : D b = true) : c ≠ b :=
  fun h => by rw [h, hb] at hc; cases hc

/-- inside double quotes the escaped text keeps the scanner inside the quotes -/
theorem scanGo_escaped_dq (D : Char → Bool) (h1 : D '"' = true) (h2 : D '\\' = true) (s : Text)
    (i qi : Nat) :
    scanGo (s.flatMap (escChar '\\' D)) i .doubleQuote qi = (.doubleQuote, qi) := by
  rw [scanGo_eq]
  refine idxFold_escaped _ D _ (fun i c hc => ?_) (fun _ _ _ _ => rfl) s i
  simp only [scanStep, ne_of_unbroken hc h1, ne_of_unbroken hc h2, if_false]

/-- bare: the escaped text leaves the scanner in normal mode -/
theorem scanGo_escaped_bare (B : Char → Bool) (h1 : B '"' = true) (h2 : B '\\' = true)
    (h3 : B '\'' = true) (s : Text) (i qi : Nat) :
    scanGo (s.flatMap (escChar '\\' B)) i .normal qi = (.normal, qi) := by
  rw [scanGo_eq]
  refine idxFold_escaped _ B _ (fun i c hc => ?_) (fun _ _ _ _ => rfl) s i
  simp only [scanStep, ne_of_unbroken hc h1, ne_of_unbroken hc h2, ne_of_unbroken hc h3, if_false]

theorem scanGo_sq (s : Text) (hs : '\'' ∉ s) (i qi : Nat) :
    scanGo s i .singleQuote qi = (.singleQuote, qi) := by
  induction s generalizing i with
  | nil => rfl
  | cons c t ih =>
    have n : c ≠ '\'' := fun h => hs (by simp [h])
    simp only [scanGo, scanStep, n, if_false]
    exact ih (fun h => hs (by simp [h])) _


section bare
variable (B : Char → Bool)

theorem bareGo_eq (l : Text) (i : Nat) (m : ScanMode) (st : Nat) :
    bareGo B l i m st = idxFold (fun s i c => bareStep B s.1 s.2 i c) l i (m, st) := by
  induction l generalizing i m st with
  | nil => rfl
  | cons c t ih => exact ih _ _ _

theorem bareGo_append (a b : Text) (i : Nat) (m : ScanMode) (st : Nat) :
    bareGo B (a ++ b) i m st
      = bareGo B b (i + blen a) (bareGo B a i m st).1 (bareGo B a i m st).2 := by
  simp only [bareGo_eq, idxFold_append]

theorem bareStep_start (m : ScanMode) (st i : Nat) (c : Char) :
    (bareStep B m st i c).2 = st ∨ (bareStep B m st i c).2 = i + c.utf8Size := by
  have hb : (if B c = true then i + c.utf8Size else st) = st
      ∨ (if B c = true then i + c.utf8Size else st) = i + c.utf8Size := by
    cases B c
    · exact Or.inl rfl
    · exact Or.inr rfl
  unfold bareStep
  -- every branch yields the old start or `brk`
  generalize (if B c = true then i + c.utf8Size else st) = brk at hb
  cases m <;> dsimp only <;> (repeat' split) <;> first | exact Or.inl rfl | exact hb

theorem bareGo_boundary (rest done : Text) (m : ScanMode) (st : Nat)
    (hst : ∃ a b, done = a ++ b ∧ st = blen a) :
    ∃ a b, done ++ rest = a ++ b ∧ (bareGo B rest (blen done) m st).2 = blen a := by
  induction rest generalizing done m st with
  | nil =>
    obtain ⟨a, b, h1, h2⟩ := hst
    exact ⟨a, b, by simpa using h1, by simpa [bareGo] using h2⟩
  | cons c t ih =>
    simp only [bareGo]
    have hb : blen done + c.utf8Size = blen (done ++ [c]) := by simp
    have hl : done ++ c :: t = (done ++ [c]) ++ t := by simp
    rw [hb, hl]
    apply ih
    rcases bareStep_start B m st (blen done) c with h | h
    · obtain ⟨a, b, h1, h2⟩ := hst
      exact ⟨a, b ++ [c], by rw [h1]; simp, by rw [h, h2]⟩
    · exact ⟨done ++ [c], [], by simp, by rw [h, hb]⟩

/-- the slice `&line[start..pos]` of `complete_path` never panics -/
theorem bareWordStart_split (l : Text) :
    ∃ a w, l = a ++ w ∧ bareWordStart B l = blen a ∧ splitAtByte l (bareWordStart B l) = some (a, w) := by
  obtain ⟨a, w, h1, h2⟩ := bareGo_boundary B l [] .normal 0 ⟨[], [], rfl, rfl⟩
  simp only [List.nil_append, blen_nil] at h1 h2
  refine ⟨a, w, h1, h2, ?_⟩
  unfold bareWordStart
  rw [h2]
  conv => lhs; arg 1; rw [h1]
  exact splitAtByte_append a w

/-- in normal mode the escaped text is read as one word: neither the mode nor `start` moves -/
theorem bareGo_escaped (h1 : B '"' = true) (h2 : B '\\' = true) (h3 : B '\'' = true) (s : Text)
    (i st : Nat) :
    bareGo B (s.flatMap (escChar '\\' B)) i .normal st = (.normal, st) := by
  rw [bareGo_eq]
  refine idxFold_escaped _ B _ (fun i c hc => ?_) (fun _ _ _ _ => rfl) s i
  simp only [bareStep, ne_of_unbroken hc h1, ne_of_unbroken hc h2, ne_of_unbroken hc h3, hc, if_false,
    Bool.false_eq_true]

theorem bareWordStart_escaped (h1 : B '"' = true) (h2 : B '\\' = true) (h3 : B '\'' = true)
    (pre s : Text) (hpre : bareGo B pre 0 .normal 0 = (.normal, blen pre)) :
    bareWordStart B (pre ++ s.flatMap (escChar '\\' B)) = blen pre := by
  unfold bareWordStart
  simp only [bareGo_append, hpre, bareGo_escaped B h1 h2 h3]

/-- the mode after one character; the two scanners share it -/
def modeStep (m : ScanMode) (c : Char) : ScanMode := (scanStep m 0 0 c).1

theorem scanStep_fst (m : ScanMode) (qi i : Nat) (c : Char) : (scanStep m qi i c).1 = modeStep m c := by
  cases m <;> simp only [modeStep, scanStep, apply_ite Prod.fst]

theorem bareStep_fst (m : ScanMode) (st i : Nat) (c : Char) : (bareStep B m st i c).1 = modeStep m c := by
  cases m <;> simp only [modeStep, scanStep, bareStep, apply_ite Prod.fst]
  -- normal mode: the two scanners test `"` and `\\` in opposite order
  by_cases h1 : c = '"'
  · subst h1; rfl
  · by_cases h2 : c = '\\'
    · subst h2; rfl
    · simp only [h1, h2, if_false]

/-- the loop of `bare_word_start` and the loop of `find_unclosed_quote` are in the same mode
    after every text, whatever the break set -/
theorem bareGo_mode (l : Text) (i st qi : Nat) (m : ScanMode) :
    (bareGo B l i m st).1 = (scanGo l i m qi).1 := by
  rw [bareGo_eq, scanGo_eq]
  refine idxFold_rel _ _ (fun (s t : ScanMode × Nat) => s.1 = t.1) (fun s t i c h => ?_) l i rfl
  simp only [bareStep_fst, scanStep_fst, h]

end bare

section reader
open Rl.Spec.Completion

/-- the spec lexer's modes are the scanner's -/
def modeOf : LMode → ScanMode
  | .bare => .normal
  | .bareEsc => .escape
  | .dq => .doubleQuote
  | .dqEsc => .escapeInDoubleQuote
  | .sq => .singleQuote

variable (B : Char → Bool) (b1 : B '"' = true) (b3 : B '\'' = true)
include b1 b3

theorem bareStep_lexStep (st : Lexed) (i : Nat) (c : Char) :
    bareStep B (modeOf st.mode) st.start i c
      = (modeOf (lexStep B st i c).mode, (lexStep B st i c).start) := by
  obtain ⟨start, mode, path, plain⟩ := st
  cases mode with
  | bare =>
    simp only [modeOf, bareStep, lexStep]
    by_cases h2 : c = '\\'
    · simp [h2]
    · by_cases h1 : c = '"'
      · subst h1; simp [b1]
      · by_cases h3 : c = '\''
        · subst h3; simp [b3]
        · cases hb : B c <;> simp [h1, h2, h3]
  | bareEsc => simp [modeOf, bareStep, lexStep]
  | dq =>
    simp only [modeOf, bareStep, lexStep]
    by_cases h1 : c = '"'
    · subst h1; simp [b1]
    · by_cases h2 : c = '\\'
      · simp [h2]
      · simp [h1, h2]
  | dqEsc => simp [modeOf, bareStep, lexStep]
  | sq =>
    simp only [modeOf, bareStep, lexStep]
    by_cases h3 : c = '\''
    · subst h3; simp [b3]
    · simp [h3]

/-- the loop of `bare_word_start` computes the reader's mode and the reader's word start, on every
    text, for every break set that holds both quotes -/
theorem bareGo_lexGo (l : Text) (i : Nat) (st : Lexed) :
    bareGo B l i (modeOf st.mode) st.start
      = (modeOf (lexGo B l i st).mode, (lexGo B l i st).start) := by
  induction l generalizing i st with
  | nil => rfl
  | cons c t ih =>
    simp only [bareGo, lexGo]
    rw [bareStep_lexStep B b1 b3]
    exact ih _ _

theorem bareGo_lex (l : Text) :
    bareGo B l 0 .normal 0 = (modeOf (lex B l).mode, (lex B l).start) :=
  bareGo_lexGo B b1 b3 l 0 {}

end reader

theorem bytes_cons (c : Char) (t : Text) : bytes (c :: t) = String.utf8EncodeChar c ++ bytes t := by
  simp [bytes]

theorem bytes_append (a b : Text) : bytes (a ++ b) = bytes a ++ bytes b := by
  simp [bytes]

theorem length_bytes (t : Text) : (bytes t).length = blen t := by
  induction t with
  | nil => rfl
  | cons c t ih => simp [bytes_cons, ih]

theorem byte_cont (y : UInt8) : ((y &&& 0x3f ||| 0x80) < 128 || (y &&& 0x3f ||| 0x80) ≥ 192) = false := by
  have : ∀ n : Fin 256, ((UInt8.ofNat n.val &&& 0x3f ||| 0x80) < 128
      || (UInt8.ofNat n.val &&& 0x3f ||| 0x80) ≥ 192) = false := by decide +kernel
  have h := this ⟨y.toNat, y.toNat_lt⟩
  simpa using h

theorem byte_first (x : UInt8) (h : x.IsUTF8FirstByte) : (x < 128 || x ≥ 192) = true := by
  have : ∀ n : Fin 256, (UInt8.ofNat n.val).IsUTF8FirstByte →
      ((UInt8.ofNat n.val) < 128 || (UInt8.ofNat n.val) ≥ 192) = true := by decide +kernel
  have h2 := this ⟨x.toNat, x.toNat_lt⟩
  simp at h2
  simpa using h2 h

/-- shape of one encoded character: a non-continuation byte, then continuation bytes only -/
theorem enc_shape (c : Char) : ∃ x rest, String.utf8EncodeChar c = x :: rest
    ∧ (x < 128 || x ≥ 192) = true ∧ ∀ y ∈ rest, (y < 128 || y ≥ 192) = false := by
  have hlen := String.length_utf8EncodeChar c
  cases henc : String.utf8EncodeChar c with
  | nil => exact absurd henc String.utf8EncodeChar_ne_nil
  | cons x rest =>
    refine ⟨x, rest, rfl, ?_, ?_⟩
    · have h0 : 0 < (String.utf8EncodeChar c).length := by simp [henc]
      have := (UInt8.isUTF8FirstByte_getElem_utf8EncodeChar (c := c) (i := 0) (hi := h0)).2 rfl
      have hx : (String.utf8EncodeChar c)[0] = x := by simp [henc]
      rw [hx] at this
      exact byte_first x this
    · match h : c.utf8Size, c.utf8Size_pos, c.utf8Size_le_four with
      | 1, _, _ =>
        rw [String.utf8EncodeChar_eq_singleton h] at henc
        have hr := (List.cons.inj henc).2
        intro y hy; rw [← hr] at hy; cases hy
      | 2, _, _ =>
        rw [String.utf8EncodeChar_eq_cons_cons h] at henc
        have hr := (List.cons.inj henc).2
        intro y hy; rw [← hr] at hy
        simp only [List.mem_cons, List.not_mem_nil, or_false] at hy
        subst hy; exact byte_cont _
      | 3, _, _ =>
        rw [String.utf8EncodeChar_eq_cons_cons_cons h] at henc
        have hr := (List.cons.inj henc).2
        intro y hy; rw [← hr] at hy
        simp only [List.mem_cons, List.not_mem_nil, or_false] at hy
        rcases hy with rfl | rfl <;> exact byte_cont _
      | 4, _, _ =>
        rw [String.utf8EncodeChar_eq_cons_cons_cons_cons h] at henc
        have hr := (List.cons.inj henc).2
        intro y hy; rw [← hr] at hy
        simp only [List.mem_cons, List.not_mem_nil, or_false] at hy
        rcases hy with rfl | rfl | rfl <;> exact byte_cont _

theorem enc_prefix_free {a b : Char} {X Y : List UInt8}
    (h : String.utf8EncodeChar a ++ X = String.utf8EncodeChar b ++ Y) : a = b := by
  have ha := ByteArray.utf8DecodeChar?_utf8EncodeChar_append (b := X.toByteArray) (c := a)
  have hb := ByteArray.utf8DecodeChar?_utf8EncodeChar_append (b := Y.toByteArray) (c := b)
  rw [← List.toByteArray_append] at ha hb
  rw [h, hb] at ha
  exact (Option.some.inj ha).symm

/-- the test of `is_char_boundary` for an index other than 0 -/
def bd (b : List UInt8) (i : Nat) : Bool :=
  if i ≥ b.length then i = b.length
  else
    match b[i]? with
    | some x => x < 128 || x ≥ 192
    | none => false

theorem isCharBoundary_eq (b : List UInt8) (i : Nat) :
    isCharBoundary b i = if i = 0 then true else bd b i := rfl

theorem bd_append_right (a b : List UInt8) (i : Nat) (h : a.length ≤ i) :
    bd (a ++ b) i = bd b (i - a.length) := by
  unfold bd
  simp only [List.length_append, List.getElem?_append_right h]
  by_cases h1 : i ≥ a.length + b.length
  · have h2 : i - a.length ≥ b.length := by omega
    simp only [h1, h2, if_true]
    by_cases h3 : i = a.length + b.length
    · have : i - a.length = b.length := by omega
      simp [h3]
    · have : ¬ (i - a.length = b.length) := by omega
      simp [h3, this]
  · have h2 : ¬ (i - a.length ≥ b.length) := by omega
    simp only [h1, h2, if_false]

theorem bd_bytes_zero (t : Text) : bd (bytes t) 0 = true := by
  cases t with
  | nil => simp [bd, bytes]
  | cons c t =>
    obtain ⟨x, rest, henc, hx, _⟩ := enc_shape c
    simp [bd, bytes_cons, henc]
    simpa using hx

theorem isCharBoundary_bytes_eq_bd (t : Text) (i : Nat) : isCharBoundary (bytes t) i = bd (bytes t) i := by
  rw [isCharBoundary_eq]
  split
  · rename_i h; subst h; exact (bd_bytes_zero t).symm
  · rfl

/-- `is_char_boundary` on the bytes of a text is exactly "the text can be split there" -/
theorem isCharBoundary_bytes (t : Text) (i : Nat) :
    isCharBoundary (bytes t) i = (splitAtByte t i).isSome := by
  induction t generalizing i with
  | nil =>
    cases i with
    | zero => simp [isCharBoundary, splitAtByte]
    | succ n => simp [isCharBoundary, splitAtByte, bytes]
  | cons c t ih =>
    cases i with
    | zero => simp [isCharBoundary, splitAtByte]
    | succ n =>
      obtain ⟨x, rest, henc, hx, hrest⟩ := enc_shape c
      have hsz : c.utf8Size = rest.length + 1 := by
        rw [← String.length_utf8EncodeChar, henc]; rfl
      rw [isCharBoundary_bytes_eq_bd, bytes_cons]
      simp only [splitAtByte]
      by_cases hle : c.utf8Size ≤ n + 1
      · simp only [hle, if_true]
        rw [bd_append_right _ _ _ (by simpa using hle), String.length_utf8EncodeChar,
          ← isCharBoundary_bytes_eq_bd, ih]
        cases splitAtByte t (n + 1 - c.utf8Size) <;> rfl
      · simp only [hle, if_false]
        have hn : n < rest.length := by omega
        unfold bd
        rw [henc]
        simp only [List.cons_append, List.getElem?_cons_succ]
        rw [List.getElem?_append_left hn, List.getElem?_eq_getElem hn]
        simp only [Option.isSome_none]
        rw [if_neg (by simp; omega)]
        exact hrest _ (List.getElem_mem hn)

theorem bytes_prefix {p c : Text} (h : bytes p <+: bytes c) : p <+: c := by
  induction p generalizing c with
  | nil => exact List.nil_prefix
  | cons a p ih =>
    cases c with
    | nil =>
      exfalso
      have := h.length_le
      simp [length_bytes] at this
      have := Char.utf8Size_pos a
      omega
    | cons b c =>
      obtain ⟨Z, hZ⟩ := h
      rw [bytes_cons, bytes_cons, List.append_assoc] at hZ
      have hab : a = b := enc_prefix_free hZ
      subst hab
      have hZ' := List.append_cancel_left hZ
      have := ih ⟨Z, hZ'⟩
      exact (List.cons_prefix_cons).2 ⟨rfl, this⟩

theorem bytes_getElem?_of_prefix {q c : Text} (h : q <+: c) {j : Nat} (hj : j < blen q) :
    j < (bytes c).length ∧ (bytes c)[j]? = (bytes q)[j]? := by
  obtain ⟨x, rfl⟩ := h
  rw [bytes_append, List.length_append, length_bytes q, List.getElem?_append_left (by rw [length_bytes]; exact hj)]
  exact ⟨by omega, rfl⟩

theorem prefix_of_prefix_blen_le {p q c : Text} (hq : q <+: c) (hp : p <+: c) (h : blen q ≤ blen p) : q <+: p := by
  rcases List.prefix_or_prefix_of_prefix hq hp with h' | ⟨x, hx⟩
  · exact h'
  · have hb : blen x = 0 := by
      have := congrArg blen hx
      rw [blen_append] at this; omega
    rw [blen_eq_zero.mp hb, List.append_nil] at hx
    rw [hx]; exact List.prefix_refl _

/-- the inner loop does not break at `n`: every candidate has a byte there, equal to the first candidate's -/
theorem agreeAt_iff (b0 : List UInt8) (tl : List (List UInt8)) (n : Nat) :
    agreeAt (b0 :: tl) n = true ↔ ∀ b ∈ tl, n < b0.length ∧ n < b.length ∧ b[n]? = b0[n]? := by
  induction tl generalizing b0 with
  | nil => exact ⟨fun _ _ h => (by cases h), fun _ => rfl⟩
  | cons b1 r ih =>
    have step : agreeAt (b0 :: b1 :: r) n = true ↔
        (n < b0.length ∧ n < b1.length ∧ b0[n]? = b1[n]?) ∧ agreeAt (b1 :: r) n = true := by
      rw [agreeAt]
      by_cases h : b0.length ≤ n ∨ b1.length ≤ n ∨ b0[n]? ≠ b1[n]?
      · rw [if_pos h]
        refine ⟨fun hf => (by cases hf), fun hc => ?_⟩
        rcases h with h | h | h
        · omega
        · omega
        · exact absurd hc.1.2.2 h
      · rw [if_neg h]
        simp only [not_or, Nat.not_le, ne_eq, Decidable.not_not] at h
        exact ⟨fun hr => ⟨h, hr⟩, fun hc => hc.2⟩
    rw [step, ih b1]
    constructor
    · rintro ⟨⟨h0, h1, h01⟩, hall⟩ b hb
      rcases List.mem_cons.mp hb with rfl | hb
      · exact ⟨h0, h1, h01.symm⟩
      · exact ⟨h0, (hall b hb).2.1, (hall b hb).2.2.trans h01.symm⟩
    · intro hall
      have h1 := hall b1 (List.mem_cons_self ..)
      exact ⟨⟨h1.1, h1.2.1, h1.2.2.symm⟩, fun b hb =>
        ⟨h1.2.1, (hall b (List.mem_cons_of_mem _ hb)).2.1, (hall b (List.mem_cons_of_mem _ hb)).2.2.trans h1.2.2.symm⟩⟩

theorem lcpLoop_spec (bs : List (List UInt8)) (fuel n : Nat) :
    n ≤ lcpLoop bs fuel n ∧ lcpLoop bs fuel n ≤ n + fuel
      ∧ (∀ j, n ≤ j → j < lcpLoop bs fuel n → agreeAt bs j = true)
      ∧ (lcpLoop bs fuel n < n + fuel → agreeAt bs (lcpLoop bs fuel n) = false) := by
  induction fuel generalizing n with
  | zero =>
    simp only [lcpLoop]
    refine ⟨Nat.le_refl _, by omega, ?_, ?_⟩
    · intro j h1 h2; omega
    · intro h; omega
  | succ f ih =>
    simp only [lcpLoop]
    by_cases ha : agreeAt bs n = true
    · rw [if_pos ha]
      obtain ⟨h1, h2, h3, h4⟩ := ih (n + 1)
      refine ⟨by omega, by omega, ?_, ?_⟩
      · intro j hj1 hj2
        by_cases hjn : j = n
        · subst hjn; exact ha
        · exact h3 j (by omega) hj2
      · intro h; exact h4 (by omega)
    · rw [if_neg ha]
      refine ⟨Nat.le_refl _, by omega, ?_, ?_⟩
      · intro j h1 h2; omega
      · intro _; simpa using ha

theorem backOff_spec (b : List UInt8) (n : Nat) :
    backOff b n ≤ n ∧ isCharBoundary b (backOff b n) = true
      ∧ ∀ j, backOff b n < j → j ≤ n → isCharBoundary b j = false := by
  induction n with
  | zero =>
    simp only [backOff]
    refine ⟨Nat.le_refl _, rfl, ?_⟩
    intro j h1 h2; omega
  | succ n ih =>
    simp only [backOff]
    by_cases h : isCharBoundary b (n + 1) = true
    · rw [if_pos h]
      refine ⟨Nat.le_refl _, h, ?_⟩
      intro j h1 h2; omega
    · rw [if_neg h]
      obtain ⟨h1, h2, h3⟩ := ih
      refine ⟨by omega, h2, ?_⟩
      intro j hj1 hj2
      by_cases hj : j = n + 1
      · subst hj; simpa using h
      · exact h3 j hj1 (by omega)

theorem take_eq_of_agree {a b : List UInt8} {m : Nat}
    (h : ∀ j, j < m → a[j]? = b[j]?) : a.take m = b.take m := by
  apply List.ext_getElem?
  intro i
  simp only [List.getElem?_take]
  split
  · rename_i hi; exact h i hi
  · rfl

/-- `longest_common_prefix` of two or more candidates is the length of their longest common
    prefix as TEXTS.  The loop stops at the first byte index `n0` where some candidate differs
    from the first one or ends (`lcpLoop_spec`); backing off to a character boundary of the first
    candidate gives a prefix `p` of whole characters (`backOff_spec`), common to all because the
    bytes below `n0` agree; a common prefix `q` has its bytes below `n0`, so it is no longer than
    `p`. -/
theorem lcp_core (c0 : Text) (ctl : List Text) (hne : ctl ≠ []) :
    ∃ p r, c0 = p ++ r ∧ lcpLen (c0 :: ctl) = blen p
      ∧ (∀ c ∈ c0 :: ctl, p <+: c)
      ∧ (∀ q, (∀ c ∈ c0 :: ctl, q <+: c) → q <+: p) := by
  have hlen : lcpLen (c0 :: ctl)
      = backOff (bytes c0) (lcpLoop (bytes c0 :: ctl.map bytes) ((bytes c0).length + 1) 0) := by
    simp [lcpLen]
  generalize hn0 : lcpLoop (bytes c0 :: ctl.map bytes) ((bytes c0).length + 1) 0 = n0 at hlen
  obtain ⟨_, hub, hagree, hstop⟩ := lcpLoop_spec (bytes c0 :: ctl.map bytes) ((bytes c0).length + 1) 0
  rw [hn0] at hub hagree hstop
  -- below `n0` every candidate has the byte of the first one
  have hall : ∀ j, j < n0 → ∀ c ∈ ctl,
      j < (bytes c0).length ∧ j < (bytes c).length ∧ (bytes c)[j]? = (bytes c0)[j]? :=
    fun j hj c hc => (agreeAt_iff _ _ j).1 (hagree j (Nat.zero_le _) hj) _ (List.mem_map_of_mem hc)
  obtain ⟨c1, hc1⟩ := List.exists_mem_of_ne_nil ctl hne
  have hn0le : n0 ≤ (bytes c0).length :=
    Nat.le_of_not_lt fun h => by have := (hall _ h c1 hc1).1; omega
  obtain ⟨hnle, hbnd, hmax⟩ := backOff_spec (bytes c0) n0
  rw [← hlen] at hnle hbnd hmax
  generalize lcpLen (c0 :: ctl) = n at *
  rw [isCharBoundary_bytes] at hbnd
  cases hsp : splitAtByte c0 n with
  | none => rw [hsp] at hbnd; cases hbnd
  | some pr =>
    obtain ⟨p, r⟩ := pr
    obtain ⟨hc0, hnp⟩ := splitAtByte_some hsp
    have hp0 : p <+: c0 := ⟨r, hc0.symm⟩
    refine ⟨p, r, hc0, hnp, ?_, fun q hq => ?_⟩
    · intro c hc
      rcases List.mem_cons.mp hc with rfl | hc
      · exact hp0
      · apply bytes_prefix
        have ht : (bytes c).take n = (bytes c0).take n :=
          take_eq_of_agree (fun j hj => (hall j (by omega) c hc).2.2)
        have : (bytes c0).take n = bytes p := by
          rw [hc0, bytes_append, hnp, ← length_bytes p, List.take_left']
          rfl
        rw [← this, ← ht]
        exact List.take_prefix _ _
    · have hq0 := hq c0 (List.mem_cons_self ..)
      -- `q` is no longer than the run of agreeing bytes …
      have hk : blen q ≤ n0 := by
        apply Nat.le_of_not_lt
        intro h
        have h0 := bytes_getElem?_of_prefix hq0 h
        have hf := hstop (by omega)
        have ht : agreeAt (bytes c0 :: ctl.map bytes) n0 = true := by
          refine (agreeAt_iff _ _ n0).2 fun b hb => ?_
          obtain ⟨c, hc, rfl⟩ := List.mem_map.mp hb
          have h1 := bytes_getElem?_of_prefix (hq c (List.mem_cons_of_mem _ hc)) h
          exact ⟨h0.1, h1.1, h1.2.trans h0.2.symm⟩
        rw [ht] at hf; cases hf
      -- … and ends on a character boundary of the first candidate, so the back-off does not pass it
      have hkb : isCharBoundary (bytes c0) (blen q) = true := by
        obtain ⟨r', hr'⟩ := hq0
        rw [isCharBoundary_bytes, ← hr', splitAtByte_append]; rfl
      have hkn : blen q ≤ n := Nat.le_of_not_lt fun h => by
        have := hmax (blen q) h hk
        rw [hkb] at this; cases this
      exact prefix_of_prefix_blen_le hq0 hp0 (hnp ▸ hkn)

/-- `longest_common_prefix` on at least two candidates returns, without panic, the longest text
    that is a prefix of all of them (nothing when that text is empty) -/
theorem longestCommonPrefix_cons_cons (c0 c1 : Text) (r : List Text) :
    ∃ p, longestCommonPrefix (c0 :: c1 :: r) = some (if blen p = 0 then none else some p)
      ∧ (∀ c ∈ c0 :: c1 :: r, p <+: c) ∧ ∀ q, (∀ c ∈ c0 :: c1 :: r, q <+: c) → q <+: p := by
  obtain ⟨p, s, hc0, hn, hcom, hmax⟩ := lcp_core c0 (c1 :: r) (List.cons_ne_nil _ _)
  refine ⟨p, ?_, hcom, hmax⟩
  simp only [longestCommonPrefix, hn]
  split
  · rfl
  · rw [hc0, splitAtByte_append]

end Rl.Completion
