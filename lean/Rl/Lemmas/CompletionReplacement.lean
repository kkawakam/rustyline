/-
  Helper lemmas for C15: what `filename_complete` puts into a candidate (the replacement is the
  escape of the WHOLE path: directory part, entry name, separator for a directory), and how the
  escape function treats the trailing separator.
-/
import Rl.Completion
import Rl.Lemmas.Completion
namespace Rl.Completion

/-- a directory part: empty or ending in the separator -/
def DirPart (dn : Text) : Prop := dn = [] ∨ ∃ dn', dn = dn' ++ ['/']

theorem splitPath_fst (path : Text) :
    (splitPath path).1 = (path.reverse.dropWhile (· ≠ '/')).reverse := by
  unfold splitPath
  simp only
  have h := List.takeWhile_append_dropWhile (p := (· ≠ '/')) (l := path.reverse)
  have hp : path = (path.reverse.dropWhile (· ≠ '/')).reverse ++ (path.reverse.takeWhile (· ≠ '/')).reverse := by
    rw [← List.reverse_append, h, List.reverse_reverse]
  have hl : path.length - (path.reverse.takeWhile (· ≠ '/')).length
      = ((path.reverse.dropWhile (· ≠ '/')).reverse).length := by
    have := congrArg List.length hp
    simp at this ⊢
    omega
  rw [hl]
  conv => lhs; arg 2; rw [hp]
  exact List.take_left' rfl

theorem dirPart_splitPath (path : Text) : DirPart (splitPath path).1 := by
  rw [splitPath_fst]
  cases h : path.reverse.dropWhile (· ≠ '/') with
  | nil => exact Or.inl rfl
  | cons x xs =>
    have := List.head_dropWhile_not (p := (· ≠ '/')) (l := path.reverse) (by rw [h]; exact List.cons_ne_nil _ _)
    simp only [h, List.head_cons] at this
    have hx : x = '/' := by simpa using this
    exact Or.inr ⟨xs.reverse, by rw [hx, List.reverse_cons]⟩

theorem splitPath_of_dirPart {dn d : Text} (h : DirPart dn) (hd : '/' ∉ d) : splitPath (dn ++ d) = (dn, d) := by
  have hT : dn.reverse.takeWhile (· ≠ '/') = [] := by
    rcases h with rfl | ⟨dn', rfl⟩
    · rfl
    · simp
  have htw : ((dn ++ d).reverse).takeWhile (· ≠ '/') = d.reverse := by
    rw [List.reverse_append,
      List.takeWhile_append_of_pos (by
        intro a ha
        have : a ∈ d := by simpa using ha
        simp; intro h; exact hd (h ▸ this)), hT, List.append_nil]
  unfold splitPath
  simp only [htw, List.reverse_reverse, List.length_append, List.length_reverse, Prod.mk.injEq, and_true]
  exact List.take_left' (by omega)

/-- the directory key `filename_complete` looks up for a path (the model's key, total and
    normalising; `Spec.Completion.dirKey` is the spec's, partial, on a directory part) -/
def dirKey (path : Text) : Text := ((components (splitPath path).1).intersperse ['/']).flatten

/-- the candidates (display, replacement) for the entries of directory `key` that start with
    `fname`, typed after the directory part `dn` -/
def offered (fs : Listing) (dn key fname : Text) (esc : Option Char) (brk : Char → Bool) (q : Quote) :
    List (Text × Text) :=
  (fs.filter (fun e => e.dir == key && fname.isPrefixOf e.name)).map (fun e =>
    (e.name, escape esc brk q (dn ++ e.name ++ (if e.isDir then ['/'] else []))))

theorem filenameComplete_eq (fs : Listing) (path : Text) (esc : Option Char) (brk : Char → Bool) (q : Quote) :
    filenameComplete fs path esc brk q =
      if (splitPath path).1.head? = some '/'
          ∨ (components (splitPath path).1).any (fun c => c = ['.'] ∨ c = ['.', '.'] ∨ c = ['~']) then none
      else if !((dirKey path).isEmpty || fs.any (fun e => e.isDir && e.full == dirKey path)) then some []
      else some (offered fs (splitPath path).1 (dirKey path) (splitPath path).2 esc brk q) := rfl

theorem mem_offered {fs : Listing} {dn key fname : Text} {esc : Option Char} {brk : Char → Bool} {q : Quote}
    {d r : Text} :
    (d, r) ∈ offered fs dn key fname esc brk q ↔
      ∃ e ∈ fs, e.dir = key ∧ fname <+: e.name ∧ e.name = d
        ∧ r = escape esc brk q (dn ++ e.name ++ (if e.isDir then ['/'] else [])) := by
  simp only [offered, List.mem_map, List.mem_filter, Bool.and_eq_true, beq_iff_eq,
    List.isPrefixOf_iff_prefix, Prod.mk.injEq]
  constructor
  · rintro ⟨e, ⟨he, hk, hp⟩, hn, hr⟩; exact ⟨e, he, hk, hp, hn, hr.symm⟩
  · rintro ⟨e, he, hk, hp, hn, hr⟩; exact ⟨e, ⟨he, hk, hp⟩, hn, hr.symm⟩

theorem dirExists_iff (fs : Listing) (key : Text) :
    (!(key.isEmpty || fs.any (fun e => e.isDir && e.full == key))) = false ↔
      (key.isEmpty = true ∨ ∃ e ∈ fs, e.isDir = true ∧ e.full = key) := by
  simp only [Bool.not_eq_false', Bool.or_eq_true, List.any_eq_true, Bool.and_eq_true, beq_iff_eq]

theorem filenameComplete_some {fs : Listing} {path : Text} {esc : Option Char} {brk : Char → Bool} {q : Quote}
    {ms : List (Text × Text)} (h : filenameComplete fs path esc brk q = some ms) :
    ¬ ((splitPath path).1.head? = some '/'
          ∨ (components (splitPath path).1).any (fun c => c = ['.'] ∨ c = ['.', '.'] ∨ c = ['~'])) ∧
    ms = if !((dirKey path).isEmpty || fs.any (fun e => e.isDir && e.full == dirKey path)) then []
      else offered fs (splitPath path).1 (dirKey path) (splitPath path).2 esc brk q := by
  rw [filenameComplete_eq] at h
  by_cases hc : (splitPath path).1.head? = some '/'
      ∨ (components (splitPath path).1).any (fun c => c = ['.'] ∨ c = ['.', '.'] ∨ c = ['~'])
  · rw [if_pos hc] at h; cases h
  · rw [if_neg hc, ← apply_ite some] at h
    exact ⟨hc, (Option.some.inj h).symm⟩

/-- every candidate of `filename_complete` comes from an entry of the addressed directory whose
    name starts with the typed file-name part; its display is the name and its replacement the
    escape of (directory part as typed ++ name ++ separator if it is a directory) -/
theorem filenameComplete_mem (fs : Listing) (path : Text) (esc : Option Char) (brk : Char → Bool)
    (q : Quote) (ms : List (Text × Text)) (h : filenameComplete fs path esc brk q = some ms)
    (d r : Text) (hm : (d, r) ∈ ms) :
    ∃ e ∈ fs, e.name = d ∧ (splitPath path).2 <+: d ∧ e.dir = dirKey path ∧
      r = escape esc brk q ((splitPath path).1 ++ d ++ (if e.isDir then ['/'] else [])) := by
  obtain ⟨_, rfl⟩ := filenameComplete_some h
  split at hm
  · cases hm
  · obtain ⟨e, he, hk, hp, rfl, hr⟩ := mem_offered.1 hm
    exact ⟨e, he, rfl, hp, hk, hr⟩

/-- conversely: when the addressed directory exists in the listing, every entry of it whose name
    starts with the typed file-name part is a candidate -/
theorem filenameComplete_complete (fs : Listing) (path : Text) (esc : Option Char) (brk : Char → Bool)
    (q : Quote) (ms : List (Text × Text)) (h : filenameComplete fs path esc brk q = some ms)
    (hex : (dirKey path).isEmpty = true ∨ ∃ e ∈ fs, e.isDir = true ∧ e.full = dirKey path)
    (e : Entry) (he : e ∈ fs) (hdir : e.dir = dirKey path) (hp : (splitPath path).2 <+: e.name) :
    (e.name, escape esc brk q ((splitPath path).1 ++ e.name ++ (if e.isDir then ['/'] else []))) ∈ ms := by
  obtain ⟨_, rfl⟩ := filenameComplete_some h
  rw [(dirExists_iff fs _).2 hex, if_neg Bool.false_ne_true]
  exact mem_offered.2 ⟨e, he, hdir, hp, rfl, rfl⟩

/-- an entry offered for a path is offered again for (directory part ++ its name), with the
    same replacement -/
theorem filenameComplete_again (fs : Listing) (path : Text) (esc : Option Char) (brk : Char → Bool)
    (q : Quote) (ms : List (Text × Text)) (h : filenameComplete fs path esc brk q = some ms)
    (d r : Text) (hm : (d, r) ∈ ms) (hd : '/' ∉ d) :
    ∃ ms', filenameComplete fs ((splitPath path).1 ++ d) esc brk q = some ms' ∧ (d, r) ∈ ms' := by
  have hs := splitPath_of_dirPart (dirPart_splitPath path) hd
  have hk : dirKey ((splitPath path).1 ++ d) = dirKey path := by unfold dirKey; rw [hs]
  obtain ⟨hc, rfl⟩ := filenameComplete_some h
  rw [filenameComplete_eq, hk, hs, if_neg hc]
  split at hm
  · cases hm
  · rename_i hx
    rw [if_neg hx]
    obtain ⟨e, he, hkey, _, rfl, hr⟩ := mem_offered.1 hm
    exact ⟨_, rfl, mem_offered.2 ⟨e, he, hkey, List.prefix_refl _, rfl, hr⟩⟩

/-- `complete_path` level: if the re-typed line is parsed to the same context and to the path
    (directory part ++ name), the entry is among the candidates again, same replacement -/
theorem completePath_again (B D : Char → Bool) (fs : Listing) (path : Text) (esc : Option Char)
    (brk : Char → Bool) (q : Quote) (ms : List (Text × Text))
    (h : filenameComplete fs path esc brk q = some ms) (d r : Text) (hm : (d, r) ∈ ms) (hd : '/' ∉ d)
    (line2 : Text) (start : Nat)
    (hp : parsePath B D line2 (blen line2) = some (start, (splitPath path).1 ++ d, esc, brk, q)) :
    ∃ cs, completePath B D fs line2 (blen line2) = .ok (start, cs) ∧ (d, r) ∈ cs := by
  obtain ⟨ms', h', hm'⟩ := filenameComplete_again fs path esc brk q ms h d r hm hd
  unfold completePath
  rw [hp]
  simp only [h']
  exact ⟨_, rfl, List.mem_mergeSort.mpr hm'⟩

/-- the separator appended to a directory candidate is not a break character, so it is copied:
    the replacement of a directory is the replacement of its name followed by the separator -/
theorem escape_append_sep (esc : Option Char) (brk : Char → Bool) (q : Quote)
    (hs : brk '/' = false) (x : Text) :
    escape esc brk q (x ++ ['/']) = escape esc brk q x ++ ['/'] := by
  unfold escape
  simp only [List.filter_append, List.filter_cons, hs, List.filter_nil, List.append_nil,
    Bool.false_eq_true, if_false]
  split
  · rfl
  · split
    · rfl
    · cases esc with
      | none => rfl
      | some e => simp [List.flatMap_append, escChar, hs]

/-- the local loop of `components` and its final step, named so that lemmas can speak of them
    (`components_eq`) -/
def compGo (acc : List Text × Text) (c : Char) : List Text × Text :=
  if c = '/' then (if acc.2.isEmpty then acc.1 else acc.1 ++ [acc.2], []) else (acc.1, acc.2 ++ [c])
def compFin (r : List Text × Text) : List Text := if r.2.isEmpty then r.1 else r.1 ++ [r.2]

theorem components_eq (t : Text) : components t = compFin (t.foldl compGo ([], [])) := by
  cases t with
  | nil => rfl
  | cons a t => rfl

theorem compGo_foldl_noSep (d : Text) (hd : '/' ∉ d) (cs : List Text) (w : Text) :
    d.foldl compGo (cs, w) = (cs, w ++ d) := by
  induction d generalizing w with
  | nil => simp
  | cons a t ih =>
    have ha : a ≠ '/' := fun h => hd (by simp [h])
    have ht : '/' ∉ t := fun h => hd (List.mem_cons_of_mem _ h)
    simp only [List.foldl_cons, compGo, if_neg ha]
    rw [ih ht]; simp

theorem compGo_foldl_dirPart (dn : Text) (h : DirPart dn) :
    dn.foldl compGo ([], []) = (components dn, []) := by
  rcases h with rfl | ⟨dn', rfl⟩
  · rfl
  · rw [components_eq]
    simp only [List.foldl_append, List.foldl_cons, List.foldl_nil]
    simp [compGo, compFin]

theorem components_dir_append (dn d : Text) (h : DirPart dn) (hd : '/' ∉ d) (hne : d ≠ []) :
    components (dn ++ d ++ ['/']) = components dn ++ [d] := by
  rw [components_eq]
  simp only [List.foldl_append, compGo_foldl_dirPart dn h, compGo_foldl_noSep d hd, List.foldl_cons,
    List.foldl_nil, List.nil_append]
  simp [compGo, compFin, hne]

theorem compGo_foldl_ne (t : Text) (acc : List Text × Text) (h : ∀ c ∈ acc.1, c ≠ []) :
    ∀ c ∈ (t.foldl compGo acc).1, c ≠ [] := by
  induction t generalizing acc with
  | nil => simpa using h
  | cons a t ih =>
    simp only [List.foldl_cons]
    apply ih
    unfold compGo
    split
    · split
      · exact h
      · rename_i hne
        intro c hc
        simp only [List.mem_append, List.mem_singleton] at hc
        rcases hc with hc | rfl
        · exact h c hc
        · simpa using hne
    · exact h

theorem components_ne (t : Text) : ∀ c ∈ components t, c ≠ [] := by
  -- closing the last component is what reading one more separator does
  have h : components t = ((t ++ ['/']).foldl compGo ([], [])).1 := by
    rw [components_eq, List.foldl_append]; rfl
  rw [h]
  exact compGo_foldl_ne _ ([], []) (by simp)

theorem flatten_intersperse_snoc (s : Text) (l : List Text) (hl : l ≠ []) (d : Text) :
    ((l ++ [d]).intersperse s).flatten = (l.intersperse s).flatten ++ s ++ d := by
  induction l with
  | nil => exact absurd rfl hl
  | cons a t ih =>
    cases t with
    | nil => simp [List.intersperse]
    | cons b t =>
      have := ih (by simp)
      simp only [List.cons_append, List.intersperse_cons_cons, List.flatten_cons] at this ⊢
      rw [this]; simp

theorem flatten_intersperse_ne (s : Text) (l : List Text) (hl : l ≠ []) (h : ∀ c ∈ l, c ≠ []) :
    (l.intersperse s).flatten ≠ [] := by
  cases l with
  | nil => exact absurd rfl hl
  | cons a t =>
    have ha : a ≠ [] := h a (by simp)
    cases t <;> simp [List.intersperse, ha]

/-- the key of the directory `d` inside the directory addressed by `dn` is the full path of the
    entry `d` -/
theorem dirKey_into (dn d : Text) (h : DirPart dn) (hd : '/' ∉ d) (hne : d ≠ []) :
    ((components (dn ++ d ++ ['/'])).intersperse ['/']).flatten
      = Entry.full ⟨((components dn).intersperse ['/']).flatten, d, true⟩ := by
  rw [components_dir_append dn d h hd hne]
  unfold Entry.full
  by_cases hc : components dn = []
  · simp [hc]
  · rw [flatten_intersperse_snoc _ _ hc]
    have := flatten_intersperse_ne ['/'] _ hc (components_ne dn)
    simp [this]

/-- completing from (directory part ++ name of a directory candidate ++ separator) lists exactly
    the entries of that directory, each replacement extending the typed path -/
theorem filenameComplete_into_dir (fs : Listing) (path : Text) (esc : Option Char) (brk : Char → Bool)
    (q : Quote) (ms : List (Text × Text)) (h : filenameComplete fs path esc brk q = some ms)
    (e : Entry) (he : e ∈ fs) (hdir : e.dir = dirKey path) (hisd : e.isDir = true)
    (hne : e.name ≠ []) (hd : '/' ∉ e.name)
    (hdot : e.name ≠ ['.'] ∧ e.name ≠ ['.', '.'] ∧ e.name ≠ ['~']) :
    filenameComplete fs ((splitPath path).1 ++ e.name ++ ['/']) esc brk q =
      some ((fs.filter (fun e' => e'.dir == e.full)).map (fun e' =>
        (e'.name, escape esc brk q ((splitPath path).1 ++ e.name ++ ['/'] ++ e'.name
            ++ (if e'.isDir then ['/'] else []))))) := by
  have hdp := dirPart_splitPath path
  have hcomp := components_dir_append (splitPath path).1 e.name hdp hd hne
  have hs : splitPath ((splitPath path).1 ++ e.name ++ ['/']) = ((splitPath path).1 ++ e.name ++ ['/'], []) := by
    have := splitPath_of_dirPart (d := []) (Or.inr ⟨(splitPath path).1 ++ e.name, rfl⟩) (by simp)
    rwa [List.append_nil] at this
  have hkey : dirKey ((splitPath path).1 ++ e.name ++ ['/']) = e.full := by
    unfold dirKey
    rw [hs, dirKey_into (splitPath path).1 e.name hdp hd hne]
    unfold Entry.full
    rw [hdir]; rfl
  obtain ⟨hcond, _⟩ := filenameComplete_some h
  rw [filenameComplete_eq, hs, hkey]
  generalize (splitPath path).1 = dn at *
  have hcond' : ¬ ((dn ++ e.name ++ ['/']).head? = some '/' ∨
      (components (dn ++ e.name ++ ['/'])).any (fun c => c = ['.'] ∨ c = ['.', '.'] ∨ c = ['~']) = true) := by
    rw [hcomp]
    intro hh
    rcases hh with h1 | h2
    · cases dn with
      | nil =>
        cases hn : e.name with
        | nil => exact hne hn
        | cons c t =>
          rw [hn] at h1 hd
          simp at h1
          exact hd (by simp [h1])
      | cons a t => exact hcond (Or.inl (by simpa using h1))
    · rw [List.any_append] at h2
      simp only [Bool.or_eq_true] at h2
      rcases h2 with h2 | h2
      · exact hcond (Or.inr h2)
      · simp [hdot.1, hdot.2.1, hdot.2.2] at h2
  rw [if_neg hcond', (dirExists_iff fs _).2 (Or.inr ⟨e, he, hisd, rfl⟩), if_neg Bool.false_ne_true]
  simp only [offered, List.isPrefixOf_nil_left, Bool.and_true]

end Rl.Completion
