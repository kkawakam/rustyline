/- Lemmas for C18.  The backspace loop computes the stack evaluation; `read_line` and the stripping of
   terminators give the spec's `lines`, because both obey the same recursion on the stream (`consH`);
   a read under a validator and the spec's `readV` are iterations of one `step`. -/
import Rl.Direct
import Rl.Spec.Direct
namespace Rl.Direct
open Rl.Spec.Direct

theorem applyGo_eq (w : Nat → Nat) (gs : List Text) (st : List Text)
    (hw : ∀ g ∈ gs, w (blen g) = blen g) :
    applyGo w gs st.reverse.flatten (st.map blen) = some (stackGo st gs).reverse.flatten := by
  induction gs generalizing st with
  | nil => simp [applyGo, stackGo]
  | cons g gs ih =>
    have hw' : ∀ g ∈ gs, w (blen g) = blen g := fun x hx => hw x (List.mem_cons_of_mem _ hx)
    by_cases hg : g = [bs]
    · cases st with
      | nil => simpa [applyGo, stackGo, hg] using ih [] hw'
      | cons s st' =>
        have h1 : (s :: st').reverse.flatten = st'.reverse.flatten ++ s := by simp
        have h2 : blen s ≤ blen (st'.reverse.flatten ++ s) := by simp
        have h3 : blen (st'.reverse.flatten ++ s) - blen s = blen st'.reverse.flatten := by simp
        simp only [applyGo, stackGo, hg, if_true, List.map_cons, h1, h2, h3, splitAtByte_append,
          List.tail_cons]
        exact ih st' hw'
    · have h1 : st.reverse.flatten ++ g = (g :: st).reverse.flatten := by simp
      have h2 : w (blen g) = blen g := hw g (List.mem_cons_self ..)
      simp only [applyGo, stackGo, hg, if_false, h1, h2]
      exact ih (g :: st) hw'

theorem applyGo_nil (w : Nat → Nat) (gs : List Text) (hw : ∀ g ∈ gs, w (blen g) = blen g) :
    applyGo w gs [] [] = some (stackEval gs).flatten :=
  applyGo_eq w gs [] hw

/-- `readLines` without the accumulator -/
def rawLines : Text → List Text
  | [] => []
  | c :: t =>
    if c = '\n' then [c] :: rawLines t
    else
      match rawLines t with
      | l :: ls => (c :: l) :: ls
      | [] => [[c]]

theorem readLinesGo_eq (cur t : Text) :
    readLinesGo cur t =
      match rawLines t with
      | l :: ls => (cur.reverse ++ l) :: ls
      | [] => if cur = [] then [] else [cur.reverse] := by
  induction t generalizing cur with
  | nil => simp [readLinesGo, rawLines]
  | cons c t ih =>
    by_cases hc : c = '\n'
    · simp only [readLinesGo, rawLines, hc, if_true]
      have := ih []
      simp only [List.reverse_nil, List.nil_append, if_true] at this
      rw [this]
      cases rawLines t <;> simp
    · simp only [readLinesGo, rawLines, hc, if_false]
      rw [ih]
      cases rawLines t <;> simp

theorem readLines_eq (t : Text) : readLines t = rawLines t := by
  simp only [readLines, readLinesGo_eq]
  cases rawLines t <;> simp

/-- put `c` in front of the first raw line: how `rawLines` grows by a character that is not LF
    (`rawLines_cons`) -/
def consHead (c : Char) : List Text → List Text
  | l :: ls => (c :: l) :: ls
  | [] => [[c]]

theorem rawLines_lf (t : Text) : rawLines ('\n' :: t) = ['\n'] :: rawLines t := by
  rw [rawLines, if_pos rfl]

theorem rawLines_cons (c : Char) (t : Text) (hc : c ≠ '\n') :
    rawLines (c :: t) = consHead c (rawLines t) := by
  rw [rawLines, if_neg hc]; rfl

theorem flatten_consHead (c : Char) (r : List Text) : (consHead c r).flatten = c :: r.flatten := by
  cases r <;> rfl

theorem consHead_ne_nil (c : Char) (r : List Text) (h : ∀ l ∈ r, l ≠ []) : ∀ l ∈ consHead c r, l ≠ [] := by
  cases r with
  | nil => exact fun l hl => List.mem_singleton.mp hl ▸ List.cons_ne_nil _ _
  | cons x r => exact List.forall_mem_cons.2 ⟨List.cons_ne_nil _ _, fun l hl => h l (.tail _ hl)⟩

theorem rawLines_ne_nil (t : Text) : ∀ l ∈ rawLines t, l ≠ [] := by
  induction t with
  | nil => exact fun _ h => nomatch h
  | cons c t ih =>
    by_cases hc : c = '\n'
    · subst hc; rw [rawLines_lf]; exact List.forall_mem_cons.2 ⟨List.cons_ne_nil _ _, ih⟩
    · rw [rawLines_cons c t hc]; exact consHead_ne_nil c _ ih

theorem readLines_ne_nil (t : Text) : ∀ l ∈ readLines t, l ≠ [] := by
  rw [readLines_eq]; exact rawLines_ne_nil t

theorem rawLines_flatten (t : Text) : (rawLines t).flatten = t := by
  induction t with
  | nil => rfl
  | cons c t ih =>
    by_cases hc : c = '\n'
    · subst hc; rw [rawLines_lf, List.flatten_cons, ih]; rfl
    · rw [rawLines_cons c t hc, flatten_consHead, ih]

/-- content and terminator of a raw line, as `stripKept` sees it with nothing kept -/
def lineOf (l : Text) : Text × Term :=
  match stripKept [] l with
  | (c, tr, tn) => (c, if tn then (if tr then .crlf else .lf) else .none)

def termOf (tr tn : Bool) : Term := if tn then (if tr then .crlf else .lf) else .none

theorem getLast?_append_ne (a l : List Char) (h : l ≠ []) : (a ++ l).getLast? = l.getLast? := by
  obtain ⟨d, l', rfl⟩ := List.exists_cons_of_ne_nil h
  rw [List.getLast?_append, List.getLast?_cons]
  simp

theorem dropLast_append_of_getLast? {l : List Char} {c : Char} (h : l.getLast? = some c) :
    l.dropLast ++ [c] = l := by
  have hne : l ≠ [] := by intro h0; simp [h0] at h
  rw [List.getLast?_eq_some_getLast hne] at h
  have := List.dropLast_concat_getLast hne
  simp only [Option.some.injEq] at h
  rw [h] at this; exact this

theorem snoc_or (l : Text) : (∃ p, l = p ++ ['\n']) ∨ l.getLast? ≠ some '\n' := by
  by_cases h : l.getLast? = some '\n'
  · exact .inl ⟨_, (dropLast_append_of_getLast? h).symm⟩
  · exact .inr h

theorem stripKept_snoc_lf (input p : Text) :
    stripKept input (p ++ ['\n']) =
      (input ++ (terminated p).1, decide ((terminated p).2 = .crlf), true) := by
  unfold stripKept popIf terminated
  rw [← List.append_assoc]
  simp only [List.getLast?_concat, List.dropLast_concat, if_true]
  by_cases hp : p = []
  · subst hp; simp
  · rw [getLast?_append_ne _ _ hp, List.dropLast_append_of_ne_nil hp, blen_append]
    have h0 : blen input < blen input + blen p := Nat.lt_add_of_pos_right (blen_pos_of_ne_nil hp)
    by_cases h : p.getLast? = some '\r' <;> simp [h, h0]

theorem stripKept_of_not_lf (input p : Text) (hp : p ≠ []) (h : p.getLast? ≠ some '\n') :
    stripKept input p = (input ++ p, false, false) := by
  simp [stripKept, popIf, getLast?_append_ne _ _ hp, h]

theorem terminated_ne_none (p : Text) : (terminated p).2 ≠ .none := by
  unfold terminated; split <;> exact nofun

theorem lineOf_snoc_lf (p : Text) : lineOf (p ++ ['\n']) = terminated p := by
  unfold lineOf; rw [stripKept_snoc_lf]
  refine Prod.ext rfl ?_
  show (if decide ((terminated p).2 = .crlf) then Term.crlf else .lf) = (terminated p).2
  cases h : (terminated p).2 with
  | none => exact absurd h (terminated_ne_none p)
  | lf => rfl
  | crlf => rfl

theorem lineOf_of_not_lf (p : Text) (h : p.getLast? ≠ some '\n') : lineOf p = (p, .none) := by
  simp [lineOf, stripKept, popIf, h]

theorem terminated_text (p : Text) : (terminated p).1 ++ (terminated p).2.text = p ++ ['\n'] := by
  unfold terminated
  split
  · rename_i h
    show p.dropLast ++ (['\r'] ++ ['\n']) = _
    rw [← List.append_assoc, dropLast_append_of_getLast? h]
  · rfl

theorem lineOf_text (l : Text) : (lineOf l).1 ++ (lineOf l).2.text = l := by
  rcases snoc_or l with ⟨p, rfl⟩ | h
  · rw [lineOf_snoc_lf, terminated_text]
  · rw [lineOf_of_not_lf l h]; exact List.append_nil l

/-- the two flags say which terminator was removed -/
theorem stripKept_lineOf (input l : Text) (hl : l ≠ []) :
    stripKept input l =
      (input ++ (lineOf l).1, decide ((lineOf l).2 = .crlf), decide ((lineOf l).2 ≠ .none)) := by
  rcases snoc_or l with ⟨p, rfl⟩ | h
  · rw [stripKept_snoc_lf, lineOf_snoc_lf, decide_eq_true (terminated_ne_none p)]
  · rw [stripKept_of_not_lf input l hl h, lineOf_of_not_lf l h]; rfl

theorem text_of_flags (k : Term) :
    (if decide (k = .crlf) then ['\r'] else []) ++ (if decide (k ≠ .none) then ['\n'] else []) = k.text := by
  cases k <;> rfl

/-- how a stripped line grows by a character in front (`lineOf_cons`): a CR directly before a
    bare LF terminator turns it into CRLF, anything else joins the content -/
def consLine (c : Char) (p : Text × Term) : Text × Term :=
  if c = '\r' ∧ p.1 = [] ∧ p.2 = .lf then ([], .crlf) else (c :: p.1, p.2)

theorem consLine_none (c : Char) (x : Text) : consLine c (x, .none) = (c :: x, .none) :=
  if_neg (fun h => nomatch h.2.2)

theorem consLine_fst_subset (c : Char) (p : Text × Term) : ∀ d ∈ (consLine c p).1, d ∈ c :: p.1 := by
  unfold consLine
  split
  · exact fun _ h => nomatch h
  · exact fun _ h => h

theorem terminated_cons (c : Char) (q : Text) : terminated (c :: q) = consLine c (terminated q) := by
  cases q with
  | nil => by_cases hr : c = '\r' <;> simp [terminated, consLine, hr]
  | cons d q' =>
    simp only [terminated, consLine, List.getLast?_cons_cons, List.dropLast_cons_cons]
    by_cases hr : (d :: q').getLast? = some '\r'
    · simp [hr]
    · simp [hr]

theorem lineOf_cons (c : Char) (l : Text) (hl : l ≠ []) : lineOf (c :: l) = consLine c (lineOf l) := by
  rcases snoc_or l with ⟨p, rfl⟩ | h
  · rw [← List.cons_append, lineOf_snoc_lf, lineOf_snoc_lf, terminated_cons]
  · obtain ⟨d, l', rfl⟩ := List.exists_cons_of_ne_nil hl
    rw [lineOf_of_not_lf _ (by rwa [List.getLast?_cons_cons]), lineOf_of_not_lf _ h]
    simp [consLine]

/-- how the first line changes when a non-LF character is put in front of the stream -/
def consH (c : Char) : List (Text × Term) → List (Text × Term)
  | [] => [([c], .none)]
  | p :: r => consLine c p :: r

theorem lineOf_lf : lineOf ['\n'] = ([], .lf) := lineOf_snoc_lf []

theorem map_lineOf_cons (c : Char) (t : Text) (hc : c ≠ '\n') :
    (rawLines (c :: t)).map lineOf = consH c ((rawLines t).map lineOf) := by
  rw [rawLines_cons c t hc]
  cases h : rawLines t with
  | nil => exact congrArg (· :: []) (lineOf_of_not_lf [c] (by simpa using hc))
  | cons l ls =>
    exact congrArg (· :: _) (lineOf_cons c l (rawLines_ne_nil t l (by rw [h]; exact List.mem_cons_self ..)))

theorem splitLF_ne_nil (t : Text) : splitLF t ≠ [] := by
  cases t with
  | nil => simp [splitLF]
  | cons c t =>
    simp only [splitLF]
    split
    · simp
    · split <;> simp

theorem lines_nil : lines [] = [] := by simp [lines, splitLF]

theorem lines_lf (t : Text) : lines ('\n' :: t) = ([], .lf) :: lines t := by
  obtain ⟨q, qs, h⟩ := List.exists_cons_of_ne_nil (splitLF_ne_nil t)
  simp [lines, splitLF, h, terminated]

theorem lines_cons (c : Char) (t : Text) (hc : c ≠ '\n') : lines (c :: t) = consH c (lines t) := by
  obtain ⟨q, qs, h⟩ := List.exists_cons_of_ne_nil (splitLF_ne_nil t)
  simp only [lines, splitLF, hc, if_false, h]
  cases qs with
  | nil =>
    by_cases hq : q = []
    · simp [hq, consH]
    · simp [hq, consH, consLine_none]
  | cons q' qs' =>
    simp only [List.dropLast_cons_cons, List.map_cons, List.getLast?_cons_cons, List.cons_append, consH,
      terminated_cons c q]

theorem map_lineOf_rawLines (t : Text) : (rawLines t).map lineOf = lines t := by
  induction t with
  | nil => simp [rawLines, lines_nil]
  | cons c t ih =>
    by_cases hc : c = '\n'
    · subst hc
      rw [lines_lf, ← ih]
      simp [rawLines, lineOf_lf]
    · rw [map_lineOf_cons c t hc, lines_cons c t hc, ih]

theorem applyBackspace_eq (S : Segmenter) (t : Text) :
    applyBackspaceW id S t = some (removeBackspaces S t) :=
  applyGo_nil id (S.seg t) (fun _ _ => rfl)

theorem readlineDirectW_none (S : Segmenter) (input l : Text) (ls : List Text) (hl : l ≠ []) :
    readlineDirectW id S none input (l :: ls) = (.line (removeBackspaces S (input ++ (lineOf l).1)), ls) := by
  simp only [readlineDirectW, hl, if_false, stripKept_lineOf input l hl, applyBackspace_eq]

/-- what a read does on the verdict `v` for the text `x` of the line just taken, `term` being that
    line's terminator: stop with a result, or go on with the text kept.  The model (`readlineDirectW`)
    and the specification (`readV`) are both iterations of this step. -/
def step (v : Verdict) (x term : Text) : DResult ⊕ Text :=
  match v with
  | .valid => .inl (.line x)
  | .error => .inl .err
  | .incomplete => .inr (x ++ term)
  | _ => .inr x

theorem step_inl {v : Verdict} {x t : Text} {r : DResult} (h : step v x t = .inl r) :
    (v = .valid ∧ r = .line x) ∨ (v = .error ∧ r = .err) := by
  cases v <;> cases h <;> simp

theorem step_inr {v : Verdict} {x t a : Text} (h : step v x t = .inr a) :
    (v = .incomplete ∧ a = x ++ t) ∨ ((v = .invalidMsg ∨ v = .invalidNone) ∧ a = x) := by
  cases v <;> cases h <;> simp

theorem readV_cons (S : Segmenter) (V : Text → Verdict) (acc : Text) (p : Text × Term)
    (ls : List (Text × Term)) :
    readV S V acc (p :: ls) =
      match step (V (removeBackspaces S (acc ++ p.1))) (removeBackspaces S (acc ++ p.1)) p.2.text with
      | .inl r => (r, ls)
      | .inr a => readV S V a ls := by
  simp only [readV, step]
  cases V (removeBackspaces S (acc ++ p.1)) <;> rfl

theorem readlineDirectW_cons (S : Segmenter) (V : Text → Verdict) (acc l : Text) (ls : List Text)
    (hl : l ≠ []) :
    readlineDirectW id S (some V) acc (l :: ls) =
      match step (V (removeBackspaces S (acc ++ (lineOf l).1))) (removeBackspaces S (acc ++ (lineOf l).1))
        (lineOf l).2.text with
      | .inl r => (r, ls)
      | .inr a => readlineDirectW id S (some V) a ls := by
  simp only [readlineDirectW, hl, if_false, stripKept_lineOf acc l hl, applyBackspace_eq, step,
    List.append_assoc, text_of_flags]
  cases V (removeBackspaces S (acc ++ (lineOf l).1)) <;> rfl

theorem readlineDirectW_some (S : Segmenter) (V : Text → Verdict) (ls : List Text)
    (hne : ∀ l ∈ ls, l ≠ []) (acc : Text) :
    readV S V acc (ls.map lineOf) =
      ((readlineDirectW id S (some V) acc ls).1, (readlineDirectW id S (some V) acc ls).2.map lineOf) := by
  induction ls generalizing acc with
  | nil => rfl
  | cons l ls ih =>
    rw [List.map_cons, readV_cons, readlineDirectW_cons S V acc l ls (hne l (List.mem_cons_self ..))]
    cases step _ _ _ with
    | inl r => rfl
    | inr a => exact ih (fun x hx => hne x (List.mem_cons_of_mem _ hx)) a

theorem readlineDirectW_suffix (S : Segmenter) (V : Text → Verdict) (ls : List Text)
    (hne : ∀ l ∈ ls, l ≠ []) (acc : Text) :
    ∃ used, ls = used ++ (readlineDirectW id S (some V) acc ls).2 := by
  induction ls generalizing acc with
  | nil => exact ⟨[], rfl⟩
  | cons l ls ih =>
    rw [readlineDirectW_cons S V acc l ls (hne l (List.mem_cons_self ..))]
    cases step _ _ _ with
    | inl r => exact ⟨[l], rfl⟩
    | inr a =>
      obtain ⟨u, hu⟩ := ih (fun x hx => hne x (List.mem_cons_of_mem _ hx)) a
      exact ⟨l :: u, congrArg (l :: ·) hu⟩

theorem readV_ne_panic (S : Segmenter) (V : Text → Verdict) (acc : Text) (l : List (Text × Term)) :
    (readV S V acc l).1 ≠ .panic := by
  induction l generalizing acc with
  | nil => exact nofun
  | cons x xs ih =>
    rw [readV_cons]
    cases h : step _ _ _ with
    | inl r => rcases step_inl h with ⟨_, rfl⟩ | ⟨_, rfl⟩ <;> exact nofun
    | inr a => exact ih a

theorem readlineDirectW_ne_panic (S : Segmenter) (V : Option (Text → Verdict)) (ls : List Text)
    (hne : ∀ l ∈ ls, l ≠ []) (acc : Text) :
    (readlineDirectW id S V acc ls).1 ≠ .panic := by
  cases V with
  | none =>
    cases ls with
    | nil => exact nofun
    | cons l ls => rw [readlineDirectW_none S acc l ls (hne l (List.mem_cons_self ..))]; exact nofun
  | some V =>
    rw [← congrArg Prod.fst (readlineDirectW_some S V ls hne acc)]
    exact readV_ne_panic S V acc _

theorem readV_rest (S : Segmenter) (V : Text → Verdict) (acc : Text) (l : List (Text × Term)) :
    (readV S V acc l).1 = .eof ∨ (readV S V acc l).2.length < l.length := by
  induction l generalizing acc with
  | nil => exact .inl rfl
  | cons x xs ih =>
    rw [readV_cons]
    cases step _ _ _ with
    | inl r => exact .inr (Nat.lt_succ_self _)
    | inr a => exact (ih a).imp id Nat.lt_succ_of_lt

theorem results_succ (S : Segmenter) (V : Text → Verdict) (f : Nat) (l : List (Text × Term)) :
    results S (some V) (f + 1) l =
      if (readV S V [] l).1 = .eof then [.eof]
      else (readV S V [] l).1 :: results S (some V) f (readV S V [] l).2 := by
  rw [results]
  generalize readV S V [] l = m
  obtain ⟨r, rest⟩ := m
  cases r <;> rfl

theorem results_some_last (S : Segmenter) (V : Text → Verdict) (fuel : Nat) (l : List (Text × Term))
    (hf : l.length < fuel) : (results S (some V) fuel l).getLast? = some .eof := by
  induction fuel generalizing l with
  | zero => omega
  | succ f ih =>
    rw [results_succ]
    split
    · rfl
    · rename_i h
      have := (readV_rest S V [] l).resolve_left h
      rw [List.getLast?_cons, ih _ (by omega)]; rfl

theorem results_some_no_panic (S : Segmenter) (V : Text → Verdict) (fuel : Nat) (l : List (Text × Term)) :
    DResult.panic ∉ results S (some V) fuel l := by
  induction fuel generalizing l with
  | zero => exact nofun
  | succ f ih =>
    rw [results_succ]
    split
    · exact fun h => nomatch List.mem_singleton.mp h
    · intro hm
      rcases List.mem_cons.mp hm with e | hm
      · exact readV_ne_panic S V [] l e.symm
      · exact ih _ hm

/-- `Accum S V acc used l`: starting with kept text `acc`, consuming exactly the lines `used` makes
    the validator accept the text `l`: every earlier verdict was Incomplete (line break kept) or
    Invalid (text unchanged), the last one Valid. -/
inductive Accum (S : Segmenter) (V : Text → Verdict) : Text → List (Text × Term) → Text → Prop
  | accept (acc c t) : V (removeBackspaces S (acc ++ c)) = .valid →
      Accum S V acc [(c, t)] (removeBackspaces S (acc ++ c))
  | incomplete (acc c t ls l) : V (removeBackspaces S (acc ++ c)) = .incomplete →
      Accum S V (removeBackspaces S (acc ++ c) ++ t.text) ls l → Accum S V acc ((c, t) :: ls) l
  | invalid (acc c t ls l) :
      (V (removeBackspaces S (acc ++ c)) = .invalidMsg ∨ V (removeBackspaces S (acc ++ c)) = .invalidNone) →
      Accum S V (removeBackspaces S (acc ++ c)) ls l → Accum S V acc ((c, t) :: ls) l

theorem readV_line (S : Segmenter) (V : Text → Verdict) (acc : Text) (ls : List (Text × Term))
    (l : Text) (rest : List (Text × Term)) (h : readV S V acc ls = (.line l, rest)) :
    V l = .valid ∧ ∃ used, ls = used ++ rest ∧ Accum S V acc used l := by
  induction ls generalizing acc with
  | nil => cases h
  | cons x xs ih =>
    obtain ⟨c, t⟩ := x
    rw [readV_cons] at h
    cases hs : step _ _ _ with
    | inl r =>
      rw [hs] at h; cases h
      obtain ⟨hv, e⟩ := (step_inl hs).resolve_right (fun h => nomatch h.2)
      cases e
      exact ⟨hv, [(c, t)], rfl, .accept acc c t hv⟩
    | inr a =>
      rw [hs] at h
      obtain ⟨h1, used, h2, h3⟩ := ih a h
      refine ⟨h1, (c, t) :: used, congrArg _ h2, ?_⟩
      rcases step_inr hs with ⟨hv, rfl⟩ | ⟨hv, rfl⟩
      · exact .incomplete acc c t used l hv h3
      · exact .invalid acc c t used l hv h3

theorem readV_err (S : Segmenter) (V : Text → Verdict) (acc : Text) (ls : List (Text × Term))
    (rest : List (Text × Term)) (h : readV S V acc ls = (.err, rest)) : ∃ x, V x = .error := by
  induction ls generalizing acc with
  | nil => cases h
  | cons x xs ih =>
    rw [readV_cons] at h
    cases hs : step _ _ _ with
    | inl r => rw [hs] at h; cases h; exact ⟨_, ((step_inl hs).resolve_left (fun h => nomatch h.2)).1⟩
    | inr a => rw [hs] at h; exact ih a h

theorem sessionW_succ (w : Nat → Nat) (S : Segmenter) (V : Option (Text → Verdict)) (f : Nat)
    (ls : List Text) :
    sessionW w S V (f + 1) ls =
      if (readlineDirectW w S V [] ls).1 = .eof then [.eof]
      else if (readlineDirectW w S V [] ls).1 = .panic then [.panic]
      else (readlineDirectW w S V [] ls).1 :: sessionW w S V f (readlineDirectW w S V [] ls).2 := by
  rw [sessionW]
  generalize readlineDirectW w S V [] ls = m
  obtain ⟨r, rest⟩ := m
  cases r <;> rfl

theorem sessionW_none (S : Segmenter) (ls : List Text) (hne : ∀ l ∈ ls, l ≠ []) (fuel : Nat)
    (hf : ls.length < fuel) :
    sessionW id S none fuel ls = ls.map (fun l => .line (removeBackspaces S (lineOf l).1)) ++ [.eof] := by
  induction ls generalizing fuel with
  | nil => cases fuel with
    | zero => exact absurd hf (Nat.lt_irrefl 0)
    | succ f => rfl
  | cons l ls ih => cases fuel with
    | zero => exact absurd hf (Nat.not_lt_zero _)
    | succ f =>
      rw [sessionW_succ, readlineDirectW_none S [] l ls (hne l (List.mem_cons_self ..)), if_neg nofun,
        if_neg nofun, ih (fun x hx => hne x (List.mem_cons_of_mem _ hx)) f (Nat.lt_of_succ_lt_succ hf)]
      rfl

theorem sessionW_some (S : Segmenter) (V : Text → Verdict) (fuel : Nat) (ls : List Text)
    (hne : ∀ l ∈ ls, l ≠ []) :
    sessionW id S (some V) fuel ls = results S (some V) fuel (ls.map lineOf) := by
  induction fuel generalizing ls with
  | zero => rfl
  | succ f ih =>
    obtain ⟨used, hu⟩ := readlineDirectW_suffix S V ls hne []
    rw [sessionW_succ, results_succ, readlineDirectW_some S V ls hne [],
      if_neg (readlineDirectW_ne_panic S (some V) ls hne []),
      ih _ (fun x hx => hne x (by rw [hu]; exact List.mem_append_right _ hx))]

theorem stackGo_append (st : List Text) (a b : List Text) :
    stackGo st (a ++ b) = stackGo (stackGo st a) b := by
  induction a generalizing st with
  | nil => rfl
  | cons g a ih =>
    simp only [List.cons_append, stackGo]
    split <;> exact ih _

theorem stackEval_push (gs : List Text) (g : Text) (hg : g ≠ [bs]) :
    stackEval (gs ++ [g]) = stackEval gs ++ [g] := by
  simp [stackEval, stackGo_append, stackGo, hg]

theorem stackEval_pop (gs : List Text) :
    stackEval (gs ++ [[bs]]) = (stackEval gs).dropLast := by
  simp [stackEval, stackGo_append, stackGo]

theorem stackGo_no_bs (st gs : List Text) (h : ∀ g ∈ gs, g ≠ [bs]) :
    stackGo st gs = gs.reverse ++ st := by
  induction gs generalizing st with
  | nil => simp [stackGo]
  | cons g gs ih =>
    have hg : g ≠ [bs] := h g (by simp)
    simp only [stackGo, hg, if_false]
    rw [ih _ (fun x hx => h x (by simp [hx]))]
    simp

theorem stackEval_no_bs (gs : List Text) (h : ∀ g ∈ gs, g ≠ [bs]) : stackEval gs = gs := by
  simp [stackEval, stackGo_no_bs [] gs h]

/-- the stream that `lines` came from: contents followed by their terminators -/
def unlines (ls : List (Text × Term)) : Text := (ls.map (fun l => l.1 ++ l.2.text)).flatten

/-- through `map_lineOf_rawLines`: each raw line is its content followed by its terminator -/
theorem unlines_lines (t : Text) : unlines (lines t) = t := by
  simp only [← map_lineOf_rawLines, unlines, List.map_map, Function.comp_def, lineOf_text, List.map_id',
    rawLines_flatten]

theorem consH_append (c : Char) (a b : List (Text × Term)) (ha : a ≠ []) :
    consH c (a ++ b) = consH c a ++ b := by
  cases a with
  | nil => exact absurd rfl ha
  | cons x r => obtain ⟨x, k⟩ := x; simp [consH]

theorem lines_unterminated (last : Text) (h1 : last ≠ []) (h2 : '\n' ∉ last) :
    lines last = [(last, .none)] := by
  induction last with
  | nil => exact absurd rfl h1
  | cons c t ih =>
    have hc : c ≠ '\n' := fun h => h2 (by simp [h])
    rw [lines_cons c t hc]
    by_cases ht : t = []
    · subst ht; simp [lines_nil, consH]
    · rw [ih ht (fun h => h2 (List.mem_cons_of_mem _ h))]
      simp [consH, consLine_none]

theorem lines_ne_nil (t : Text) (ht : t ≠ []) : lines t ≠ [] := fun h =>
  ht (by rw [← rawLines_flatten t, List.map_eq_nil_iff.1 ((map_lineOf_rawLines t).trans h)]; rfl)

theorem lines_append_lf (a b : Text) : lines (a ++ '\n' :: b) = lines (a ++ ['\n']) ++ lines b := by
  induction a with
  | nil => rw [List.nil_append, List.nil_append, lines_lf, lines_lf, lines_nil]; rfl
  | cons c a ih =>
    rw [List.cons_append, List.cons_append]
    by_cases hc : c = '\n'
    · subst hc; rw [lines_lf, lines_lf, ih]; rfl
    · rw [lines_cons c _ hc, lines_cons c _ hc, ih,
        consH_append c _ _ (lines_ne_nil _ (List.append_ne_nil_of_right_ne_nil _ (List.cons_ne_nil _ _)))]

theorem lines_append_unterminated (pre last : Text) (hp : pre = [] ∨ pre.getLast? = some '\n')
    (h1 : last ≠ []) (h2 : '\n' ∉ last) :
    lines (pre ++ last) = lines pre ++ [(last, .none)] := by
  rw [← lines_unterminated last h1 h2]
  rcases hp with rfl | hp
  · rw [lines_nil]; rfl
  · rw [← dropLast_append_of_getLast? hp, List.append_assoc]
    exact lines_append_lf _ last

theorem bracketsGo_eq (st : List Char) (t : Text) : bracketsGo st t = brackets st t := by
  induction t generalizing st with
  | nil => cases st <;> simp [bracketsGo, brackets]
  | cons c t ih =>
    simp only [bracketsGo, brackets, isOpen, isClose, pairs, List.mem_cons, List.not_mem_nil, or_false,
      Bool.or_eq_true, decide_eq_true_eq, Prod.mk.injEq, Bool.and_eq_true, ih, or_assoc]
    cases st <;> rfl

theorem consH_no_lf (c : Char) (hc : c ≠ '\n') (ls : List (Text × Term))
    (h : ∀ l ∈ ls, '\n' ∉ l.1) : ∀ l ∈ consH c ls, '\n' ∉ l.1 := by
  cases ls with
  | nil => simp [consH, hc.symm]
  | cons p r =>
    refine List.forall_mem_cons.2 ⟨fun hm => ?_, fun l hl => h l (.tail _ hl)⟩
    rcases List.mem_cons.mp (consLine_fst_subset c p _ hm) with e | hm
    · exact hc e.symm
    · exact h p (.head _) hm

theorem lines_no_lf (t : Text) : ∀ l ∈ lines t, '\n' ∉ l.1 := by
  induction t with
  | nil => simp [lines_nil]
  | cons c t ih =>
    by_cases hc : c = '\n'
    · subst hc; rw [lines_lf]; exact List.forall_mem_cons.2 ⟨nofun, ih⟩
    · rw [lines_cons c t hc]; exact consH_no_lf c hc _ ih

theorem lines_shape (t : Text) :
    ∃ a tail, lines t = a ++ tail ∧ (∀ x ∈ a, x.2 ≠ .none) ∧
      (tail = [] ∨ ∃ last, last ≠ [] ∧ tail = [(last, .none)]) := by
  refine ⟨(splitLF t).dropLast.map terminated, _, rfl, ?_, ?_⟩
  · intro x hx
    simp only [List.mem_map] at hx
    obtain ⟨p, -, rfl⟩ := hx
    unfold terminated
    split <;> simp
  · by_cases h : (splitLF t).getLast?.getD [] = []
    · left; simp [h]
    · right; exact ⟨_, h, by simp [h]⟩

end Rl.Direct
