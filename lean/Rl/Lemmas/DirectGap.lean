/- Closed forms over Rl/Lemmas/Direct.lean for C18: the stack evaluation as a fold (`bsStep`), runs
   of backspaces, the accumulation under a validator (`readlineDirectW_accum`), what is read after
   end of file, and Control characters under the UAX #29 segmenter (`uaxSeg_split`). -/
import Rl.Lemmas.Direct
namespace Rl.Direct
open Rl.Spec.Direct

/-- one step of the stack evaluation on the clusters kept so far, first to last -/
def bsStep (kept : List Text) (g : Text) : List Text := if g = [bs] then kept.dropLast else kept ++ [g]

theorem stackGo_fold (st gs : List Text) : (stackGo st gs).reverse = gs.foldl bsStep st.reverse := by
  induction gs generalizing st with
  | nil => rfl
  | cons g gs ih =>
    simp only [stackGo, List.foldl_cons, bsStep]
    split
    · rw [ih]; congr 1; cases st <;> simp
    · rw [ih]; simp

theorem stackEval_fold (gs : List Text) : stackEval gs = gs.foldl bsStep [] := by
  simpa [stackEval] using stackGo_fold [] gs

theorem stackGo_bs_run (st : List Text) (n : Nat) : stackGo st (List.replicate n [bs]) = st.drop n := by
  induction n generalizing st with
  | zero => simp [stackGo]
  | succ n ih =>
    simp only [List.replicate_succ, stackGo, if_true]
    rw [ih]; cases st <;> simp

theorem stackEval_append (a b : List Text) :
    stackEval (a ++ b) = (stackGo (stackEval a).reverse b).reverse := by
  simp [stackEval, stackGo_append]

theorem stackEval_bs_run (gs : List Text) (n : Nat) :
    stackEval (gs ++ List.replicate n [bs]) = (stackEval gs).take ((stackEval gs).length - n) := by
  rw [stackEval_append, stackGo_bs_run]
  simp [List.reverse_drop]

theorem stackGo_sublist (st gs : List Text) : (stackGo st gs).reverse.Sublist (st.reverse ++ gs) := by
  induction gs generalizing st with
  | nil => simp [stackGo]
  | cons g gs ih =>
    simp only [stackGo]
    split
    · refine (ih st.tail).trans ?_
      refine List.Sublist.append ?_ (List.sublist_cons_self _ _)
      cases st with
      | nil => simp
      | cons s st => simp
    · have := ih (g :: st)
      simpa using this

theorem stackEval_sublist (gs : List Text) : (stackEval gs).Sublist gs := by
  simpa [stackEval] using stackGo_sublist [] gs

theorem stackGo_no_bs_mem (st gs : List Text) (h : ∀ x ∈ st, x ≠ [bs]) : ∀ x ∈ stackGo st gs, x ≠ [bs] := by
  induction gs generalizing st with
  | nil => simpa [stackGo] using h
  | cons g gs ih =>
    simp only [stackGo]
    split
    · exact ih _ (fun x hx => h x (List.mem_of_mem_tail hx))
    · rename_i hg
      exact ih _ (List.forall_mem_cons.2 ⟨hg, h⟩)

theorem stackEval_no_bs_mem (gs : List Text) : ∀ x ∈ stackEval gs, x ≠ [bs] := by
  intro x hx
  exact stackGo_no_bs_mem [] gs (by simp) x (by simpa [stackEval] using hx)

theorem stackEval_length_le (gs : List Text) : (stackEval gs).length ≤ gs.length :=
  (stackEval_sublist gs).length_le

theorem stackEval_overrun (a b : List Text) (n : Nat) (hn : (stackEval a).length ≤ n) :
    stackEval (a ++ List.replicate n [bs] ++ b) = stackEval b := by
  rw [stackEval_append, stackEval_bs_run]
  have : (stackEval a).length - n = 0 := by omega
  rw [this]
  simp [stackEval]

theorem applyGo_id (gs : List Text) : applyGo id gs [] [] = some (stackEval gs).flatten :=
  applyGo_nil id gs (fun _ _ => rfl)

theorem seg_ne_bs (S : Segmenter) (t : Text) (h : bs ∉ t) : ∀ g ∈ S.seg t, g ≠ [bs] := by
  intro g hg hb
  apply h
  rw [← S.flatten_eq t]
  exact List.mem_flatten.mpr ⟨g, hg, by simp [hb]⟩

theorem removeBackspaces_of_not_mem (S : Segmenter) (t : Text) (h : bs ∉ t) : removeBackspaces S t = t := by
  rw [removeBackspaces, stackEval_no_bs _ (seg_ne_bs S t h), S.flatten_eq]

theorem mem_append_lineOf {acc l : Text} {c : Char} (hm : c ∈ acc ++ (lineOf l).1) : c ∈ acc ++ l := by
  rw [← lineOf_text l, ← List.append_assoc]; exact List.mem_append_left _ hm

/-- If no backspace occurs, the validator says Incomplete after each of the raw lines `pre` and
    Valid after the line `l`, the read returns everything consumed, terminators included, except
    the terminator of the last line. -/
theorem readlineDirectW_accum (S : Segmenter) (V : Text → Verdict) (pre : List Text) (l : Text)
    (rest : List Text) (acc : Text) (hne : ∀ x ∈ pre, x ≠ []) (hl : l ≠ [])
    (hbs : bs ∉ acc ++ pre.flatten ++ l)
    (hinc : ∀ p x q, pre = p ++ x :: q → V (acc ++ p.flatten ++ (lineOf x).1) = .incomplete)
    (hval : V (acc ++ pre.flatten ++ (lineOf l).1) = .valid) :
    readlineDirectW id S (some V) acc (pre ++ l :: rest) = (.line (acc ++ pre.flatten ++ (lineOf l).1), rest) := by
  induction pre generalizing acc with
  | nil =>
    rw [List.flatten_nil, List.append_nil] at hbs hval ⊢
    rw [List.nil_append, readlineDirectW_cons S V acc l rest hl,
      removeBackspaces_of_not_mem S _ (fun hm => hbs (mem_append_lineOf hm)), hval]
    rfl
  | cons x pre ih =>
    -- the line `x` joins the text kept: re-bracket once, for every tail `r` of lines and every end `z`
    have e : ∀ (r : List Text) (z : Text), acc ++ (x :: r).flatten ++ z = acc ++ x ++ r.flatten ++ z :=
      fun r z => by rw [List.flatten_cons, ← List.append_assoc acc]
    rw [e] at hbs hval ⊢
    have hv := hinc [] x pre rfl
    rw [List.flatten_nil, List.append_nil] at hv
    rw [List.cons_append, readlineDirectW_cons S V acc x _ (hne x (List.mem_cons_self ..)),
      removeBackspaces_of_not_mem S _ (fun hm => hbs (List.mem_append_left _ (List.mem_append_left _
        (mem_append_lineOf hm)))), hv]
    show readlineDirectW id S (some V) (acc ++ (lineOf x).1 ++ (lineOf x).2.text) _ = _
    rw [List.append_assoc acc, lineOf_text]
    exact ih (acc ++ x) (fun y hy => hne y (List.mem_cons_of_mem _ hy)) hbs
      (fun p y q hpq => by rw [← e]; exact hinc (x :: p) y q (congrArg _ hpq)) hval

/-- If the validator never says Valid and never fails, the read consumes the whole input and
    reports end of file: the text accumulated so far is dropped. -/
theorem readlineDirectW_never_valid (S : Segmenter) (V : Text → Verdict)
    (hV : ∀ x, V x ≠ .valid ∧ V x ≠ .error) (ls : List Text) (acc : Text) :
    readlineDirectW id S (some V) acc ls = (.eof, []) ∨
    ∃ r, readlineDirectW id S (some V) acc ls = (.eof, r) ∧ ∃ p, ls = p ++ [] :: r := by
  induction ls generalizing acc with
  | nil => left; rfl
  | cons l ls ih =>
    by_cases hl : l = []
    · right; exact ⟨ls, by simp [readlineDirectW, hl], [], by simp [hl]⟩
    · rw [readlineDirectW_cons S V acc l ls hl]
      cases hs : step _ _ _ with
      | inl r =>
        have hv := hV (removeBackspaces S (acc ++ (lineOf l).1))
        exact ((step_inl hs).elim (fun h => hv.1 h.1) (fun h => hv.2 h.1)).elim
      | inr a =>
        rcases ih a with h | ⟨r, h, p, hp⟩
        · left; exact h
        · right; exact ⟨r, h, l :: p, congrArg _ hp⟩

theorem readlineDirectW_eof_rest (S : Segmenter) (V : Option (Text → Verdict)) (ls : List Text)
    (hne : ∀ l ∈ ls, l ≠ []) (acc : Text) (h : (readlineDirectW id S V acc ls).1 = .eof) :
    (readlineDirectW id S V acc ls).2 = [] := by
  induction ls generalizing acc with
  | nil => rfl
  | cons l ls ih =>
    have hl : l ≠ [] := hne l (List.mem_cons_self ..)
    cases V with
    | none => rw [readlineDirectW_none S acc l ls hl] at h; cases h
    | some V =>
      rw [readlineDirectW_cons S V acc l ls hl] at h ⊢
      cases hs : step _ _ _ with
      | inl r => rw [hs] at h; rcases step_inl hs with ⟨_, rfl⟩ | ⟨_, rfl⟩ <;> cases h
      | inr a => rw [hs] at h; exact ih (fun x hx => hne x (List.mem_cons_of_mem _ hx)) a h

end Rl.Direct

namespace Rl

theorem groupGo_split {σ : Type} (glue : σ → Char → Bool) (upd : σ → Char → σ) (init : Char → σ)
    (c : Char) (h1 : ∀ st, glue st c = false) (h2 : ∀ d, glue (init c) d = false)
    (st : σ) (cur a b : Text) :
    groupGo glue upd init st cur (a ++ c :: b) =
      groupGo glue upd init st cur a ++ [c] :: group glue upd init b := by
  induction a generalizing st cur with
  | nil =>
    simp only [List.nil_append, groupGo, h1, Bool.false_eq_true, if_false, List.cons_append]
    cases b with
    | nil => simp [groupGo, group]
    | cons d b => simp [groupGo, group, h2]
  | cons x a ih =>
    simp only [List.cons_append, groupGo]
    split
    · exact ih _ _
    · simp [ih]

theorem group_split {σ : Type} (glue : σ → Char → Bool) (upd : σ → Char → σ) (init : Char → σ)
    (c : Char) (h1 : ∀ st, glue st c = false) (h2 : ∀ d, glue (init c) d = false) (a b : Text) :
    group glue upd init (a ++ c :: b) = group glue upd init a ++ [c] :: group glue upd init b := by
  cases a with
  | nil =>
    cases b with
    | nil => simp [group, groupGo]
    | cons d b => simp [group, groupGo, h2]
  | cons x a => exact groupGo_split glue upd init c h1 h2 (init x) [x] a b

theorem beq3_iff (k a b c : String) : (k == a || k == b || k == c) = true ↔ k = a ∨ k = b ∨ k = c := by
  rw [Bool.or_eq_true, Bool.or_eq_true, beq_iff_eq, beq_iff_eq, beq_iff_eq, or_assoc]

/-- GB4/GB5: apart from CR LF (GB3), no cluster continues after or before a CR, LF or Control -/
theorem uaxGlue_break (cls : Char → String) (st : UaxSt) (c : Char)
    (h1 : ¬(st.prev = "CR" ∧ gcbBase (cls c) = "LF"))
    (h2 : (st.prev = "CR" ∨ st.prev = "LF" ∨ st.prev = "Control") ∨
      (gcbBase (cls c) = "CR" ∨ gcbBase (cls c) = "LF" ∨ gcbBase (cls c) = "Control")) :
    uaxGlue cls st c = false := by
  unfold uaxGlue
  dsimp only
  rw [if_neg (by rw [Bool.and_eq_true, beq_iff_eq, beq_iff_eq]; exact h1)]
  by_cases hp : (st.prev == "CR" || st.prev == "LF" || st.prev == "Control") = true
  · rw [if_pos hp]
  · rw [if_neg hp, if_pos ((beq3_iff ..).mpr (h2.resolve_left (mt (beq3_iff ..).mpr hp)))]

theorem uaxGlue_control_right (cls : Char → String) (c : Char) (hc : gcbBase (cls c) = "Control")
    (st : UaxSt) : uaxGlue cls st c = false :=
  uaxGlue_break cls st c (fun h => absurd (hc.symm.trans h.2) (by decide)) (.inr (.inr (.inr hc)))

theorem uaxGlue_control_left (cls : Char → String) (c : Char) (hc : gcbBase (cls c) = "Control")
    (d : Char) : uaxGlue cls (uaxInit cls c) d = false :=
  uaxGlue_break cls _ d (fun h => absurd (hc.symm.trans h.1) (by decide)) (.inl (.inr (.inr hc)))

theorem uaxSeg_split (cls : Char → String) (c : Char) (hc : gcbBase (cls c) = "Control") (a b : Text) :
    (uaxSeg cls).seg (a ++ c :: b) = (uaxSeg cls).seg a ++ [c] :: (uaxSeg cls).seg b :=
  group_split _ _ _ c (uaxGlue_control_right cls c hc) (uaxGlue_control_left cls c hc) a b

theorem uaxSeg_nil (cls : Char → String) : (uaxSeg cls).seg [] = [] := rfl

theorem uaxSeg_split_run (cls : Char → String) (c : Char) (hc : gcbBase (cls c) = "Control")
    (a b : Text) (n : Nat) :
    (uaxSeg cls).seg (a ++ List.replicate (n + 1) c ++ b) =
      (uaxSeg cls).seg a ++ List.replicate (n + 1) [c] ++ (uaxSeg cls).seg b := by
  induction n generalizing a with
  | zero => simpa using uaxSeg_split cls c hc a b
  | succ n ih =>
    have e : a ++ List.replicate (n + 1 + 1) c ++ b = a ++ c :: ([] ++ List.replicate (n + 1) c ++ b) := by
      simp [List.replicate_succ]
    rw [e, uaxSeg_split cls c hc, ih []]
    simp [uaxSeg_nil, List.replicate_succ]

end Rl
