/-
  Frame facts about the keymap functions of Rl/Editor.lean (`next_cmd` and everything below it):
  reading and decoding a command never touches the line, the saved line, the kill ring, the history
  index, the validator log; in emacs mode it does not touch the undo log either (except for the
  group opened for a `Replace` command).
-/
import Rl.Lemmas.EditorM
import Rl.Lemmas.KeymapWalk
namespace Rl

variable (S : Segmenter) (U : UData) (cfg : EdCfg)

theorem keeps_argPrims : ArgPrims S U cfg (fun m => Keeps Ed.core m) where
  pure := Keeps.pure
  bind := Keeps.bind
  read := Keeps.read
  nextKey := keeps_nextKey
  readPasted := keeps_readPasted
  bound := fun keys n p _ hf =>
    Keeps.bindFact (keeps_customBinding cfg keys n p) (customBinding_inBinds cfg keys n p) hf
  termBinding := keeps_termBinding
  takeNumArgs := keeps_takeNumArgs
  redoBound := fun c new _ _ => keeps_redoCmd c new
  exitFuel := Keeps.exit _
  refreshLine := keeps_refreshLine S U cfg
  refreshPromptAndLine := keeps_refreshPromptAndLine S U cfg
  viSetArg := fun _ => Keeps.modify fun _ => rfl
  viDigitStep := fun _ => Keeps.modify fun _ => rfl

theorem keeps_emacsDigitLoop (negative : Bool) (fuel : Nat) (mag : Option Nat) :
    Keeps Ed.core (emacsDigitLoop S U cfg negative fuel mag) :=
  (keeps_argPrims S U cfg).emacsDigitLoop (fun _ => Keeps.modify fun _ => rfl) negative fuel mag

theorem keeps_viArgDigit (fuel : Nat) (d : Char) : Keeps Ed.core (viArgDigit S U cfg fuel d) :=
  (keeps_argPrims S U cfg).viArgDigit fuel d

theorem keeps_emacs (fuel : Nat) (key : KeyEvent) : Keeps Ed.core (emacs S U cfg fuel key) :=
  EmacsPrims.emacs ⟨(keeps_argPrims S U cfg).toKeyPrims, keeps_emacsDigitLoop S U cfg⟩ fuel key

section
variable {S U cfg} {C : ∀ {α : Type}, EM α → Prop}
  (pure : ∀ {α : Type} (a : α), C (Pure.pure a : EM α))
  (bind : ∀ {α β : Type} {m : EM α} {f : α → EM β}, C m → (∀ a, C (f a)) → C (m >>= f))
  (bound : ∀ {β : Type} keys n p {f : Option Cmd → EM β}, (∀ r, InBinds cfg r → C (f r)) →
    C (customBinding cfg keys n p >>= f))
  (of_core : ∀ {α : Type} {m : EM α}, Keeps Ed.core m → C m)
include pure bind bound of_core

/-- a predicate that holds of every step that keeps the core holds of the emacs key map -/
theorem EmacsPrims.ofCore : EmacsPrims S U cfg C where
  pure := pure
  bind := bind
  read := fun g => of_core (Keeps.read g)
  nextKey := fun sea => of_core (keeps_nextKey sea)
  readPasted := of_core keeps_readPasted
  bound := bound
  termBinding := fun k => of_core (keeps_termBinding k)
  takeNumArgs := of_core keeps_takeNumArgs
  redoBound := fun c new _ _ => of_core (keeps_redoCmd c new)
  digitLoop := fun ng fuel mag => of_core (keeps_emacsDigitLoop S U cfg ng fuel mag)

theorem ViPrims.ofCore (hb : C Rl.changesBegin) (he : C Rl.changesEnd) : ViPrims S U cfg C where
  toKeyPrims := (EmacsPrims.ofCore (S := S) (U := U) pure bind bound of_core).toKeyPrims
  viNumArgs := of_core (Keeps.bind keeps_takeNumArgs fun _ => Keeps.ite (Keeps.exit _) (Keeps.pure _))
  argDigit := fun fuel d => of_core (keeps_viArgDigit S U cfg fuel d)
  setInputMode := fun m => of_core (keeps_setInputMode m)
  setLastCmd := fun c => of_core (keeps_setLastCmd c)
  setLastCharSearch := fun _ => of_core (Keeps.modify fun _ => rfl)
  redoLast := fun c new _ => of_core (keeps_redoCmd c new)
  changesBegin := hb
  changesEnd := he

end

/-- the vi key maps open and close undo groups: the core without the undo log -/
theorem keepsNC_viPrims : ViPrims S U cfg (fun m => Keeps Ed.coreNC m) :=
  ViPrims.ofCore Keeps.pure Keeps.bind
    (fun keys n p _ hf =>
      Keeps.bindFact (keeps_customBinding cfg keys n p).nc (customBinding_inBinds cfg keys n p) hf)
    Keeps.nc keeps_changesBegin keeps_changesEnd

theorem keeps_viCommand (fuel : Nat) (key : KeyEvent) : Keeps Ed.coreNC (viCommand S U cfg fuel key) :=
  (keepsNC_viPrims S U cfg).viCommand fuel key

theorem keeps_viInsert (fuel : Nat) (key : KeyEvent) : Keeps Ed.coreNC (viInsert S U cfg fuel key) :=
  (keepsNC_viPrims S U cfg).viInsert fuel key

/-- **`next_cmd` frame**: reading and decoding the next command leaves the line, the saved line, the
    kill ring, the history index, the validator log and the suspend count alone. -/
theorem keeps_nextCmd (fuel : Nat) (sea iep : Bool) : Keeps Ed.coreNC (nextCmd S U cfg fuel sea iep) :=
  nextCmd_of_prims (fun _ => ⟨(keepsNC_viPrims S U cfg).toKeyPrims, fun ng fuel mag => (keeps_emacsDigitLoop S U cfg ng fuel mag).nc⟩)
    (fun _ => keepsNC_viPrims S U cfg) keeps_changesBegin fuel sea iep

theorem wp_nextCmd {fuel : Nat} {sea iep : Bool} {s : Ed} {Q : Cmd → Ed → Prop} {E : Outcome → Ed → Prop}
    (hq : ∀ c s', s'.coreNC = s.coreNC → Q c s') (he : ∀ o s', s'.coreNC = s.coreNC → E o s') :
    wp (nextCmd S U cfg fuel sea iep) Q E s :=
  wp_mono ((keeps_nextCmd S U cfg fuel sea iep).wp s) hq he

/-- `Cmd::Undo` sets the state it has read, with a new line and undo log: kept is whatever does not
    look at these two (and survives the repaint) -/
theorem Keeps.execute_undo {β : Type} {f : Ed → β} (hf : ∀ (s : Ed) c l, f { s with changes := c, line := l } = f s)
    (hr : Keeps f (refreshLine S U cfg)) (n : Nat) : Keeps f (execute S U cfg (.undo n)) := by
  constructor
  intro s
  unfold execute
  simp only [EM.bind_apply, EM.get]
  cases hu : s.changes.undo S U s.line n with
  | error e => rfl
  | ok r =>
    obtain ⟨c, l, undone⟩ := r
    simp only []
    have hk : Keeps f (do
        if undone then refreshLine S U cfg
        Pure.pure Status.proceed : EM Status) := by em_walk [Keeps.pure, Keeps.bind, hr]
    have := hk.h { s with changes := c, line := l }
    rw [hf] at this
    exact this

/-- `next_cmd` in emacs mode: the line is untouched; the undo log is untouched, or one group is opened
    and the command is a (bound) `Replace` -/
theorem wp_nextCmd_emacs_line_changes (hvi : cfg.vi = false) {fuel : Nat} {sea iep : Bool} {s : Ed}
    {Q : Cmd → Ed → Prop}
    (hq : ∀ c s', s'.line = s.line →
      (s'.changes = s.changes ∨ (s'.changes = s.changes.begin.1 ∧ ∃ a b, c = .replace a b)) → Q c s') :
    wp (nextCmd S U cfg fuel sea iep) Q (fun _ _ => True) s := by
  have tail : ∀ (key : KeyEvent) (s1 : Ed), s1.changes = s.changes → s1.line = s.line →
      wp (do
        let inCommand ← (fun s => .ok (s.inp.inputMode == .command, s) : EM Bool)
        let cmd ← emacs S U cfg fuel key
        match cmd with
        | .replace _ _ => do let _ ← changesBegin; pure cmd
        | _ => pure cmd) Q (fun _ _ => True) s1 := by
    intro key s1 h1 hl1
    rw [wp_bind', wp_read, wp_bind]
    refine wp_mono ((keeps_emacs S U cfg fuel key).wp s1) ?_ (fun _ _ _ => trivial)
    intro cmd s2 h2
    have hc2 : s2.changes = s.changes := by rw [(Ed.core_eq h2).2.2.1]; exact h1
    have hl2 : s2.line = s.line := by rw [(Ed.core_eq h2).1]; exact hl1
    split
    · rw [wp_bind, wp_changesBegin, wp_pure]
      exact hq _ _ hl2 (Or.inr ⟨by show s2.changes.begin.1 = _; rw [hc2], _, _, rfl⟩)
    · rw [wp_pure]; exact hq _ _ hl2 (Or.inl hc2)
  unfold nextCmd waitForInput
  simp only [hvi, Bool.not_false, Bool.false_eq_true, if_false, if_true, ite_self]
  rw [wp_bind]
  refine wp_mono ((keeps_nextKey _).wp s) ?_ (fun _ _ _ => trivial)
  intro key s1 h1
  have t := tail key s1 (Ed.core_eq h1).2.2.1 (Ed.core_eq h1).1
  simp only [wp_bind, wp_bind'] at t ⊢
  exact t


end Rl
