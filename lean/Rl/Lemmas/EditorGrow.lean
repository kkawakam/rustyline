/-
  C17: no command makes the edited line's buffer non-growable (`line.canGrow`): a frame fact about
  `execute` and the edit functions, by the walk of Rl/Lemmas/ExecWalk.lean over the `Grow` facts of
  Rl/Lemmas/LineBufferGrow.lean.
-/
import Rl.Lemmas.EditorM
import Rl.Lemmas.EditorFrame
import Rl.Lemmas.ExecWalk
import Rl.Lemmas.LineBufferGrow
namespace Rl
open EM

/-- the projection: may the edited line reallocate? -/
def Ed.grow (s : Ed) : Bool := s.line.canGrow

theorem Keeps.grow_of_nc {α : Type} {m : EM α} (h : Keeps Ed.coreNC m) : Keeps Ed.grow m :=
  Keeps.comp (fun c : CoreNC => c.line.canGrow) h

theorem Keeps.grow_of_core {α : Type} {m : EM α} (h : Keeps Ed.core m) : Keeps Ed.grow m :=
  Keeps.grow_of_nc h.nc

section
variable (S : Segmenter) (U : UData) (cfg : EdCfg)

theorem keeps_grow_lb {α : Type} {op : LM α} (h : Grow op) : Keeps Ed.grow (lb S U op) := by
  constructor; intro s; unfold lb
  cases ho : op s.line with
  | error e => rfl
  | ok r => obtain ⟨a, l, ns⟩ := r; exact h.h _ _ _ _ ho

theorem keeps_grow_lbQuiet {α : Type} {op : LM α} (h : Grow op) : Keeps Ed.grow (lbQuiet op) := by
  constructor; intro s; unfold lbQuiet
  cases ho : op s.line with
  | error e => rfl
  | ok r => obtain ⟨a, l, ns⟩ := r; exact h.h _ _ _ _ ho

theorem keeps_grow_lbKill {α : Type} {op : LM α} (h : Grow op) : Keeps Ed.grow (lbKill S U op) := by
  constructor; intro s; unfold lbKill
  cases ho : op s.line with
  | error e => rfl
  | ok r =>
    obtain ⟨a, l, ns⟩ := r
    simp only []
    cases lbKill.go ns s.ring with
    | error e => rfl
    | ok k => exact h.h _ _ _ _ ho

theorem keeps_grow_backup : Keeps Ed.grow (backup S U) := by
  constructor; intro s; unfold backup
  cases LB.update S U s.line.buf s.line.pos s.saved with
  | error e => rfl
  | ok r => obtain ⟨_, sv, _⟩ := r; rfl

theorem keeps_grow_ringYank : Keeps Ed.grow ringYank := by
  constructor; intro s; unfold ringYank
  cases s.ring.yank with
  | error e => rfl
  | ok r => rfl

theorem keeps_grow_ringYankPop : Keeps Ed.grow ringYankPop := by
  constructor; intro s; unfold ringYankPop
  cases s.ring.yankPop with
  | error e => rfl
  | ok r => rfl

theorem keeps_grow_ringKill (t : Text) : Keeps Ed.grow (ringKill t) := by
  constructor; intro s; unfold ringKill
  cases s.ring.kill t .append with
  | error e => rfl
  | ok r => rfl

theorem keeps_grow_ringYankCount (n : Nat) : Keeps Ed.grow (ringYankCount n) := ⟨fun _ => rfl⟩
theorem keeps_grow_setHistIdx (i : Nat) : Keeps Ed.grow (setHistIdx i) := ⟨fun _ => rfl⟩
theorem keeps_grow_truncateChanges (m : Nat) : Keeps Ed.grow (truncateChanges m) := ⟨fun _ => rfl⟩

end

section
variable (S : Segmenter) (U : UData) (cfg : EdCfg)

theorem GroupOp.grow {op : LM Bool} (h : GroupOp S U op) : Grow op := h.of_prims grow_prims

theorem EditOp.grow {α : Type} {op : LM α} (h : EditOp S U op) : Grow op := h.of_prims grow_prims

theorem MoveOp.grow {op : LM Bool} (h : MoveOp S U op) : Grow op := h.of_prims grow_prims.toPosPrims

theorem keeps_grow_execPrims : ExecPrims S U cfg (fun m => Keeps Ed.grow m) where
  pure := Keeps.pure
  bind := Keeps.bind
  read := Keeps.read
  exit := Keeps.exit
  liftP := Keeps.liftP
  backup := keeps_grow_backup S U
  setHistIdx := keeps_grow_setHistIdx
  changesBegin := Keeps.grow_of_nc keeps_changesBegin
  changesEnd := Keeps.grow_of_nc keeps_changesEnd
  logValidator := fun _ => ⟨fun _ => rfl⟩
  lb := fun h => keeps_grow_lb S U (h.grow S U)
  lbQuiet := fun h => keeps_grow_lbQuiet (h.grow S U)
  setPos := fun p => keeps_grow_lbQuiet (Grow.setPosChecked S U p)
  updateHint := Keeps.grow_of_core (keeps_updateHint cfg)
  highlightCharStep := Keeps.grow_of_core (keeps_highlightCharStep cfg)
  setRefreshLayout := fun _ _ => ⟨fun _ => rfl⟩
  logRender := fun _ => ⟨fun _ => rfl⟩
  clearHint := ⟨fun _ => rfl⟩
  setCursor := fun _ => ⟨fun _ => rfl⟩
  advanceCursor := fun _ => ⟨fun _ => rfl⟩
  resetCursor := ⟨fun _ => rfl⟩

theorem keeps_grow_ringUnits : RingUnits S U cfg (fun m => Keeps Ed.grow m) where
  editKill := (keeps_grow_execPrims S U cfg).editKill fun m => keeps_grow_lbKill S U (Grow.kill S U m)
  ringYank := keeps_grow_ringYank
  ringYankCount := keeps_grow_ringYankCount
  ringYankPop := keeps_grow_ringYankPop
  ringKill := keeps_grow_ringKill

theorem keeps_grow_editInsert (c : Char) (n : Nat) : Keeps Ed.grow (editInsert S U cfg c n) :=
  (keeps_grow_execPrims S U cfg).editInsert c n

/-- the `Undo` branch of `execute` (the only one that rewrites the line outside the `lb` wrappers) -/
def IsUndo : Cmd → Bool | .undo _ => true | _ => false

theorem isUndo_false_of_ne {cmd : Cmd} (h : ∀ n, cmd ≠ .undo n) : IsUndo cmd = false := by
  cases cmd
  case undo n => exact absurd rfl (h n)
  all_goals rfl

/-- **no command but `Undo` can make the line non-growable** (`Undo` does not either, through
    `Change::undo`'s `delete_range` / `insert_str` / `replace`: `undoLoop_wf_grow`) -/
theorem keeps_grow_execute (cmd : Cmd) (hc : IsUndo cmd = false) : Keeps Ed.grow (execute S U cfg cmd) :=
  (keeps_grow_execPrims S U cfg).toUnits.execute_of cmd (fun _ => keeps_grow_ringUnits S U cfg)
    fun n h => by rw [h] at hc; cases hc

end
end Rl
