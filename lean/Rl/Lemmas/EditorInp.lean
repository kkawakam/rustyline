/-
  C17: `execute` and the edit functions never touch the input state (`inp`: vi input mode, pending
  numeric argument, last command, last character search) — only `next_cmd` does.  A frame fact by
  one leaf lemma per primitive; the walk is that of Rl/Lemmas/ExecWalk.lean.
-/
import Rl.Lemmas.EditorM
import Rl.Lemmas.EditorFrame
import Rl.Lemmas.ExecWalk
namespace Rl
open EM

def Ed.inpOf (s : Ed) : InputState := s.inp

section
variable (S : Segmenter) (U : UData) (cfg : EdCfg)

theorem keeps_inp_lb {α : Type} (op : LM α) : Keeps Ed.inpOf (lb S U op) := Keeps.lb_of S U (fun _ _ _ => rfl) op
theorem keeps_inp_lbQuiet {α : Type} (op : LM α) : Keeps Ed.inpOf (lbQuiet op) := Keeps.lbQuiet_of (fun _ _ => rfl) op
theorem keeps_inp_truncateChanges (m : Nat) : Keeps Ed.inpOf (truncateChanges m) := ⟨fun _ => rfl⟩
theorem keeps_inp_changesBegin : Keeps Ed.inpOf changesBegin := ⟨fun _ => rfl⟩
theorem keeps_inp_changesEnd : Keeps Ed.inpOf changesEnd := ⟨fun _ => rfl⟩
theorem keeps_inp_getLine : Keeps Ed.inpOf getLine := ⟨fun _ => rfl⟩
theorem keeps_inp_nextChar : Keeps Ed.inpOf nextChar := Keeps.nextChar_of fun _ _ => rfl
theorem keeps_inp_nextKey (sea : Bool) : Keeps Ed.inpOf (nextKey sea) := Keeps.nextKey_of (fun _ _ => rfl) sea
theorem keeps_inp_readPasted : Keeps Ed.inpOf readPasted := Keeps.readPasted_of fun _ _ => rfl
theorem keeps_inp_customBinding (keys : List KeyEvent) (n : Nat) (p : Bool) :
    Keeps Ed.inpOf (customBinding cfg keys n p) := Keeps.customBinding_of cfg (fun _ _ _ => rfl) keys n p

theorem keeps_inp_execPrims : ExecPrims S U cfg (fun m => Keeps Ed.inpOf m) where
  pure := Keeps.pure
  bind := Keeps.bind
  read := Keeps.read
  exit := Keeps.exit
  liftP := Keeps.liftP
  backup := Keeps.backup_of S U fun _ _ => rfl
  setHistIdx := fun _ => ⟨fun _ => rfl⟩
  changesBegin := keeps_inp_changesBegin
  changesEnd := keeps_inp_changesEnd
  logValidator := fun _ => ⟨fun _ => rfl⟩
  lb := fun _ => keeps_inp_lb S U _
  lbQuiet := fun _ => keeps_inp_lbQuiet _
  setPos := fun _ => keeps_inp_lbQuiet _
  updateHint := Keeps.updateHint_of cfg fun _ _ _ => rfl
  highlightCharStep := Keeps.highlightCharStep_of cfg fun _ _ => rfl
  setRefreshLayout := fun _ _ => ⟨fun _ => rfl⟩
  logRender := fun _ => ⟨fun _ => rfl⟩
  clearHint := ⟨fun _ => rfl⟩
  setCursor := fun _ => ⟨fun _ => rfl⟩
  advanceCursor := fun _ => ⟨fun _ => rfl⟩
  resetCursor := ⟨fun _ => rfl⟩

theorem keeps_inp_ringUnits : RingUnits S U cfg (fun m => Keeps Ed.inpOf m) where
  editKill := (keeps_inp_execPrims S U cfg).editKill fun _ => Keeps.lbKill_of S U (fun _ _ _ _ => rfl) _
  ringYank := Keeps.ringYank_of fun _ _ => rfl
  ringYankCount := fun _ => ⟨fun _ => rfl⟩
  ringYankPop := Keeps.ringYankPop_of fun _ _ => rfl
  ringKill := Keeps.ringKill_of fun _ _ => rfl

theorem keeps_inp_refreshLine : Keeps Ed.inpOf (refreshLine S U cfg) := (keeps_inp_execPrims S U cfg).refreshLine

theorem keeps_inp_refreshPromptAndLine (p : Text) : Keeps Ed.inpOf (refreshPromptAndLine S U cfg p) :=
  (keeps_inp_execPrims S U cfg).refreshPromptAndLine p

theorem keeps_inp_moveCursor : Keeps Ed.inpOf (moveCursor S U cfg) := (keeps_inp_execPrims S U cfg).moveCursor

theorem keeps_inp_editInsert (c : Char) (n : Nat) : Keeps Ed.inpOf (editInsert S U cfg c n) :=
  (keeps_inp_execPrims S U cfg).editInsert c n

theorem keeps_inp_editMove (op : LM Bool) : Keeps Ed.inpOf (editMove S U cfg op) :=
  Keeps.bind (keeps_inp_lbQuiet op) fun _ => Keeps.ite (keeps_inp_moveCursor S U cfg) (Keeps.pure _)

/-- **`execute` never touches the input state** (all commands: the `Undo` branch rewrites line
    and undo log only) -/
theorem keeps_inp_execute (cmd : Cmd) : Keeps Ed.inpOf (execute S U cfg cmd) :=
  (keeps_inp_execPrims S U cfg).toUnits.execute (keeps_inp_ringUnits S U cfg)
    (Keeps.execute_undo S U cfg (fun _ _ _ => rfl) (keeps_inp_refreshLine S U cfg)) cmd

end
end Rl
