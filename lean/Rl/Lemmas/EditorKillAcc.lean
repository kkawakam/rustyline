/-
  C06 at the EDITOR level: what `execute (.kill m)` does to the kill ring, for every editor state
  (on top of `wp_execute_kill'`, Rl/Lemmas/EditorPopLocal.lean).
  * the fan-out of a kill's notifications accumulates the killed text in the ring (`lbKill_go_acc`);
  * character deletions (`Kill(ForwardChar n)`, `Kill(BackwardChar n)`) leave the ring alone;
  * `cmdStep` / `cmdSteps`: the main loop's treatment of a decoded command (reset decision, then `execute`)
    and of a list of them.  They restate those two lines of `mainLoop` so that a sequence of commands can be
    run without keys; no lemma ties them to `mainLoop`, which inlines them.
  * `wp_cmdSteps_kills`: a run of kills is the run of the line-buffer kills (`killsRun`) with the ring
    accumulating; `SameStore`, `Cmd.ringInert`, `wp_cmdSteps_inert`: commands that leave the slots alone;
    `wp_execute_yank`.
-/
import Rl.Lemmas.EditorKillReports
namespace Rl
open EM

open KillRing

/-- the listener's view of one notification: (killing?, accumulated text) -/
def accNotif (st : Bool × Text) : Notif → Bool × Text
  | .startKill => (true, st.2)
  | .stopKill => (false, st.2)
  | .del _ t d => if st.1 then (true, accDel st.2 t d) else st
  | _ => st

/-- **the fan-out accumulates**: whatever notifications a line-buffer operation emits, the ring comes out of
    `edit_kill`'s fan-out without panic, within its invariant, and the text its kill sequence has accumulated
    is the fold of the deletions reported between `start_killing` and `stop_killing`: forward deletions
    behind, backward deletions before, `delete_around` around what was there -/
theorem lbKill_go_acc : ∀ (ns : List Notif) {k : KillRing}, KillRing.WF k → 0 < k.cap →
    ∃ k', lbKill.go ns k = .ok k' ∧ KillRing.WF k' ∧ k'.cap = k.cap ∧
      (k'.killing, accOf k') = ns.foldl accNotif (k.killing, accOf k) := by
  intro ns k h hc
  have step : ∀ n ∈ ns, ∀ a b, (KillRing.WF a ∧ a.cap = k.cap) ∧ (a.killing, accOf a) = b →
      ∃ a', ringNotif a n = .ok a' ∧ (KillRing.WF a' ∧ a'.cap = k.cap) ∧ (a'.killing, accOf a') = accNotif b n := by
    rintro n _ a _ ⟨⟨hw, hcap⟩, rfl⟩
    cases n with
    | startKill => exact ⟨a.startKilling, rfl, ⟨wf_startKilling hw, hcap⟩, rfl⟩
    | stopKill => exact ⟨a.stopKilling, rfl, ⟨wf_stopKilling hw, hcap⟩, rfl⟩
    | del i t d =>
      cases hk : a.killing with
      | true =>
        obtain ⟨k1, he, hw1, hc1, hkl, ha⟩ := onDelete_acc hw (hcap ▸ hc) hk t d
        refine ⟨k1, he, ⟨hw1, hc1.trans hcap⟩, ?_⟩
        rw [hkl, ha]; rfl
      | false => exact ⟨a, onDelete_off hk t d, ⟨hw, hcap⟩, congrArg (·, accOf a) hk⟩
    | insChar i c => exact ⟨a, rfl, ⟨hw, hcap⟩, rfl⟩
    | insStr i s => exact ⟨a, rfl, ⟨hw, hcap⟩, rfl⟩
    | repl i o nw => exact ⟨a, rfl, ⟨hw, hcap⟩, rfl⟩
  obtain ⟨k', he, ⟨hw, hcap⟩, ha⟩ := lbKill_go_total step ⟨⟨h, rfl⟩, rfl⟩
  exact ⟨k', he, hw, hcap, ha⟩

/-- `m` reports nothing but deletions -/
def OnlyDels {α : Type} (m : LM α) : Prop :=
  ∀ lb a lb' ns, m lb = .ok (a, lb', ns) → ∀ x ∈ ns, ∃ i s d, x = Notif.del i s d

namespace OnlyDels
variable {α β : Type}
theorem of_sil {m : LM α} (h : KSil m) : OnlyDels m := by
  intro lb a lb' ns hr x hx
  rw [h lb a lb' ns hr] at hx; cases hx
theorem bind {m : LM α} {k : α → LM β} (hm : OnlyDels m) (hk : ∀ a, OnlyDels (k a)) : OnlyDels (m >>= k) := by
  intro lb r lb' ns h x hx
  obtain ⟨a, lb1, n1, n2, h1, h2, rfl⟩ := LM.bind_ok h
  exact (List.mem_append.mp hx).elim (hm _ _ _ _ h1 x) (hk a _ _ _ _ h2 x)
theorem drain (a b : Nat) (d : Direction) : OnlyDels (LB.drain a b d) := by
  intro lb r lb' ns h x hx
  unfold LB.drain at h
  split at h
  · cases h; exact ⟨_, _, _, List.mem_singleton.mp hx⟩
  · cases h
end OnlyDels

theorem LB.delete_onlyDels (S : Segmenter) (U : UData) (n : Nat) : OnlyDels (LB.delete S U n) := by
  unfold LB.delete
  refine .bind (.of_sil (KSil.ro _)) fun r => ?_
  cases r with
  | none => exact .of_sil (KSil.pure _)
  | some p => exact .bind (.of_sil KSil.get) fun lb => .bind (.drain _ _ _) fun _ => .of_sil (KSil.pure _)

theorem LB.backspace_onlyDels (S : Segmenter) (U : UData) (n : Nat) : OnlyDels (LB.backspace S U n) := by
  unfold LB.backspace
  refine .bind (.of_sil (KSil.ro _)) fun r => ?_
  cases r with
  | none => exact .of_sil (KSil.pure _)
  | some p =>
    exact .bind (.of_sil KSil.get) fun lb => .bind (.drain _ _ _) fun _ =>
      .bind (.of_sil (KSil.setPos _)) fun _ => .of_sil (KSil.pure _)

theorem LB.kill_char_notifs (S : Segmenter) (U : UData) {m : Movement}
    (hm : (∃ n, m = .forwardChar n) ∨ ∃ n, m = .backwardChar n) : OnlyDels (LB.kill S U m) := by
  rcases hm with ⟨n, rfl⟩ | ⟨n, rfl⟩ <;> unfold LB.kill <;> simp only [Bool.false_eq_true, if_false]
  · exact .bind (LB.delete_onlyDels S U n) fun _ => .bind (.of_sil (KSil.pure _)) fun _ => .of_sil (KSil.pure _)
  · exact .bind (LB.backspace_onlyDels S U n) fun _ => .of_sil (KSil.pure _)
section
variable (S : Segmenter) (U : UData) (cfg : EdCfg)

/-- the main loop's treatment of one decoded command (`lib.rs:732-734` + `command::execute`): the
    reset decision `Cmd::should_reset_kill_ring`, then `execute` -/
def cmdStep (cmd : Cmd) : EM Status := do
  if cmd.shouldResetKillRing then modify (fun s => { s with ring := s.ring.reset })
  execute S U cfg cmd

/-- a list of decoded commands, one after the other (a `submit` answer is ignored: the caller decides) -/
def cmdSteps : List Cmd → EM Unit
  | [] => pure ()
  | c :: cs => do let _ ← cmdStep S U cfg c; cmdSteps cs

theorem lbKill_go_dels (ns : List Notif) (hd : ∀ x ∈ ns, ∃ i s d, x = .del i s d)
    (k : KillRing) (hf : k.killing = false) : lbKill.go ns k = .ok k := by
  obtain ⟨k', he, rfl, _⟩ := lbKill_go_total (ns := ns) (f := fun _ _ => ()) (R := fun a _ => a = k) (k := k) (b := ())
    (fun n hn a _ ha => by
      obtain ⟨i, s, d, rfl⟩ := hd n hn
      exact ⟨a, KillRing.onDelete_off (ha ▸ hf) s d, ha⟩) rfl
  exact he

/-- `LineBuffer::kill` for a list of movements, one after the other: the final line and all the
    notifications in order (`none` if one of them panics) -/
def killsRun : List Movement → LB → Option (LB × List Notif)
  | [], lb => some (lb, [])
  | m :: ms, lb =>
    match LB.kill S U m lb with
    | .ok (_, lb', ns) =>
      (match killsRun ms lb' with
       | some (l, ns') => some (l, ns ++ ns')
       | none => none)
    | .error _ => none

theorem cmdStep_kill_eq (m : Movement) (hm : (Cmd.kill m).shouldResetKillRing = false) :
    cmdStep S U cfg (.kill m) = execute S U cfg (.kill m) := by
  unfold cmdStep; rw [hm]; rfl

theorem wp_cmdSteps_kills : ∀ (ms : List Movement) (s : Ed),
    (∀ m ∈ ms, (Cmd.kill m).shouldResetKillRing = false) → KillRing.WF s.ring → 0 < s.ring.cap →
    wp (cmdSteps S U cfg (ms.map Cmd.kill))
      (fun _ s' => ∃ ns, killsRun S U ms s.line = some (s'.line, ns) ∧ KillRing.WF s'.ring ∧
        s'.ring.cap = s.ring.cap ∧
        (s'.ring.killing, accOf s'.ring) = ns.foldl accNotif (s.ring.killing, accOf s.ring))
      (fun _ _ => True) s := by
  intro ms
  induction ms with
  | nil =>
    intro s _ hw _
    show wp (pure ()) _ _ s
    rw [wp_pure]; exact ⟨[], rfl, hw, rfl, rfl⟩
  | cons m ms ih =>
    intro s hall hw hc
    show wp (do let _ ← cmdStep S U cfg (.kill m); cmdSteps S U cfg (ms.map Cmd.kill)) _ _ s
    rw [wp_bind, cmdStep_kill_eq S U cfg m (hall m (List.mem_cons_self ..))]
    refine wp_execute_kill' S U cfg m s _ _ trivial (fun r l ns k s' ho hgo hl hr => ⟨?_, trivial⟩)
    obtain ⟨k', hgo', hw', hc', ha'⟩ := lbKill_go_acc ns hw hc
    rw [hgo] at hgo'; cases hgo'
    have hw1 : KillRing.WF s'.ring := hr ▸ hw'
    have hc1 : 0 < s'.ring.cap := by rw [hr, hc']; exact hc
    refine wp_mono (ih s' (fun x hx => hall x (List.mem_cons_of_mem _ hx)) hw1 hc1) ?_ (fun _ _ _ => trivial)
    rintro _ s2 ⟨ns2, hrun, hw2, hc2, ha2⟩
    refine ⟨ns ++ ns2, ?_, hw2, by rw [hc2, hr, hc'], ?_⟩
    · simp only [killsRun, ho]
      rw [hl] at hrun; rw [hrun]
    · rw [List.foldl_append, ← ha', ← hr]; exact ha2

/-- the ring stores the same: equal, or equal up to the reset of the last action -/
def SameStore (k k' : KillRing) : Prop := k' = k ∨ k' = k.reset

theorem SameStore.trans {a b c : KillRing} (h1 : SameStore a b) (h2 : SameStore b c) : SameStore a c := by
  rcases h1 with rfl | rfl <;> rcases h2 with rfl | rfl
  · exact Or.inl rfl
  · exact Or.inr rfl
  · exact Or.inr rfl
  · exact Or.inr rfl

theorem SameStore.fields {k k' : KillRing} (h : SameStore k k') :
    k'.slots = k.slots ∧ k'.index = k.index ∧ k'.yankIndex = k.yankIndex ∧ k'.cap = k.cap ∧
      k'.killing = k.killing := by
  rcases h with rfl | rfl <;> exact ⟨rfl, rfl, rfl, rfl, rfl⟩

/-- a character deletion or a command that does not use the ring -/
def Cmd.ringInert : Cmd → Bool
  | .kill (.forwardChar _) | .kill (.backwardChar _) => true
  | c => !c.usesRing

theorem wp_execute_charKill (m : Movement) (hm : (∃ n, m = .forwardChar n) ∨ ∃ n, m = .backwardChar n)
    (s : Ed) (hf : s.ring.killing = false) :
    wp (execute S U cfg (.kill m)) (fun _ s' => s'.ring = s.ring) (fun _ s' => s'.ring = s.ring) s := by
  refine wp_execute_kill S U cfg m s (fun _ k => k = s.ring) rfl (fun r l ns k ho hgo => ?_)
  rw [lbKill_go_dels ns (LB.kill_char_notifs S U hm _ _ _ _ ho) s.ring hf] at hgo
  cases hgo; rfl

theorem Cmd.ringInert_cases {c : Cmd} (h : c.ringInert = true) :
    c.usesRing = false ∨ ∃ m, c = .kill m ∧ ((∃ n, m = .forwardChar n) ∨ ∃ n, m = .backwardChar n) := by
  cases c
  case kill m =>
    cases m
    case forwardChar n => exact .inr ⟨_, rfl, .inl ⟨n, rfl⟩⟩
    case backwardChar n => exact .inr ⟨_, rfl, .inr ⟨n, rfl⟩⟩
    all_goals cases h
  case replace => cases h
  case viYankTo => cases h
  case yank => cases h
  case yankPop => cases h
  all_goals exact .inl rfl

theorem wp_execute_inert (c : Cmd) (hc : c.ringInert = true) (s : Ed) (hf : s.ring.killing = false) :
    wp (execute S U cfg c) (fun _ s' => s'.ring = s.ring) (fun _ s' => s'.ring = s.ring) s := by
  rcases Cmd.ringInert_cases hc with hu | ⟨m, rfl, hm⟩
  · exact (keeps_ring_execute S U cfg c hu).wp s
  · exact wp_execute_charKill S U cfg m hm s hf

theorem wp_cmdStep (c : Cmd) (s : Ed) (Q : Status → Ed → Prop) (E : Outcome → Ed → Prop)
    (h : wp (execute S U cfg c) Q E (if c.shouldResetKillRing then { s with ring := s.ring.reset } else s)) :
    wp (cmdStep S U cfg c) Q E s := by
  unfold cmdStep
  cases hr : c.shouldResetKillRing with
  | false => rw [hr] at h; exact h
  | true =>
    rw [hr] at h
    show wp (do modify (fun s => { s with ring := s.ring.reset }); execute S U cfg c) _ _ s
    rw [wp_bind, wp_modify]; exact h

theorem wp_cmdStep_inert (c : Cmd) (hc : c.ringInert = true) (s : Ed) (hf : s.ring.killing = false) :
    wp (cmdStep S U cfg c) (fun _ s' => SameStore s.ring s'.ring) (fun _ s' => SameStore s.ring s'.ring) s := by
  refine wp_cmdStep S U cfg c s _ _ ?_
  split
  · exact wp_mono (wp_execute_inert S U cfg c hc { s with ring := s.ring.reset } hf)
      (fun _ _ h => Or.inr h) (fun _ _ h => Or.inr h)
  · exact wp_mono (wp_execute_inert S U cfg c hc s hf) (fun _ _ h => Or.inl h) (fun _ _ h => Or.inl h)

theorem wp_cmdSteps_inv {I : Ed → Prop} : ∀ (cs : List Cmd),
    (∀ c ∈ cs, ∀ s, I s → wp (cmdStep S U cfg c) (fun _ s' => I s') (fun _ s' => I s') s) → ∀ s, I s →
    wp (cmdSteps S U cfg cs) (fun _ s' => I s') (fun _ s' => I s') s := by
  intro cs
  induction cs with
  | nil => intro _ s h; show wp (pure ()) _ _ s; rw [wp_pure]; exact h
  | cons c cs ih =>
    intro hstep s h
    show wp (do let _ ← cmdStep S U cfg c; cmdSteps S U cfg cs) _ _ s
    rw [wp_bind]
    exact wp_mono (hstep c (List.mem_cons_self ..) s h)
      (fun _ s1 h1 => ih (fun x hx => hstep x (List.mem_cons_of_mem _ hx)) s1 h1) (fun _ _ h => h)

theorem wp_cmdSteps_inert (cs : List Cmd) (s : Ed) (hall : ∀ c ∈ cs, c.ringInert = true) (hf : s.ring.killing = false) :
    wp (cmdSteps S U cfg cs) (fun _ s' => SameStore s.ring s'.ring) (fun _ s' => SameStore s.ring s'.ring) s := by
  have step : ∀ c ∈ cs, ∀ s1 : Ed, SameStore s.ring s1.ring ∧ s1.ring.killing = false →
      wp (cmdStep S U cfg c) (fun _ s' => SameStore s.ring s'.ring ∧ s'.ring.killing = false)
        (fun _ s' => SameStore s.ring s'.ring ∧ s'.ring.killing = false) s1 := fun c hc s1 h1 =>
    have key : ∀ s2 : Ed, SameStore s1.ring s2.ring → SameStore s.ring s2.ring ∧ s2.ring.killing = false :=
      fun _ h2 => ⟨h1.1.trans h2, h2.fields.2.2.2.2.trans h1.2⟩
    wp_mono (wp_cmdStep_inert S U cfg c (hall c hc) s1 h1.2) (fun _ => key) (fun _ => key)
  exact wp_mono (wp_cmdSteps_inv S U cfg cs step s ⟨Or.inl rfl, hf⟩) (fun _ _ h => h.1) (fun _ _ h => h.1)

theorem wp_execute_yank (n : Nat) (a : Anchor) (s : Ed) (hw : KillRing.WF s.ring) (hne : s.ring.slots ≠ []) :
    ∃ t, s.ring.slots[s.ring.yankIndex]? = some t ∧
      wp (execute S U cfg (.yank n a))
        (fun _ s' => s'.ring = { s.ring with lastAction := .yank (blen t * n) })
        (fun _ s' => s'.ring = { s.ring with lastAction := .yank (blen t * n) }) s := by
  rcases KillRing.yank_ok hw with ⟨h0, _⟩ | ⟨t, ht, hy⟩
  · exact absurd h0 hne
  · refine ⟨t, ht, ?_⟩
    unfold execute
    simp only [wp_bind]
    unfold wp ringYank
    rw [hy]
    simp only []
    show wp (do ringYankCount n; editYank S U cfg t a n; pure Status.proceed)
      (fun _ s' => s'.ring = { s.ring with lastAction := .yank (blen t * n) })
      (fun _ s' => s'.ring = { s.ring with lastAction := .yank (blen t * n) }) _
    rw [wp_bind, wp_ringYankCount, wp_bind]
    refine wp_mono ((keeps_ring_editYank S U cfg t a n).wp _) ?_ ?_
    · intro _ s' h
      rw [wp_pure]
      have h' : s'.ring = _ := h
      rw [h']; simp [KillRing.yankCount, Ed.ringOf]
    · intro _ s' h
      have h' : s'.ring = _ := h
      rw [h']; simp [KillRing.yankCount, Ed.ringOf]

end
end Rl
