/-
  C06: `killing = false` between two commands — every `LineBuffer::kill` closes the bracket it opens.
-/
import Rl.Lemmas.EditorKillAcc
namespace Rl
open EM LM

theorem foldl_accNotif_dels (ns : List Notif) (hd : ∀ x ∈ ns, ∃ i s d, x = .del i s d) (st : Bool × Text)
    (hst : st.1 = false) : ns.foldl accNotif st = st := by
  induction ns with
  | nil => rfl
  | cons x ns ih =>
    obtain ⟨i, s, d, rfl⟩ := hd _ (List.mem_cons_self ..)
    rw [List.foldl_cons]
    have : accNotif st (.del i s d) = st := by simp [accNotif, hst]
    rw [this]
    exact ih (fun y hy => hd y (List.mem_cons_of_mem _ hy))

theorem foldl_accNotif_bracket (mid : List Notif) (st : Bool × Text) :
    ((Notif.startKill :: (mid ++ [.stopKill])).foldl accNotif st).1 = false := by
  rw [List.foldl_cons, List.foldl_append]
  rfl

theorem kill_notifs_flag (S : Segmenter) (U : UData) (m : Movement) (lb lb' : LB) (r : Bool) (ns : List Notif)
    (h : LB.kill S U m lb = .ok (r, lb', ns)) (st : Bool × Text) (hst : st.1 = false) :
    (ns.foldl accNotif st).1 = false := by
  by_cases hc : (∃ n, m = .forwardChar n) ∨ ∃ n, m = .backwardChar n
  · rw [foldl_accNotif_dels ns (LB.kill_char_notifs S U hc lb r lb' ns h) st hst]; exact hst
  obtain ⟨X, e, _⟩ := kill_eq_wrapK S U m (fun n hn => hc (.inl ⟨n, hn⟩)) (fun n hn => hc (.inr ⟨n, hn⟩))
  rw [e] at h
  obtain ⟨mid, _, rfl⟩ := wrapK_ok h
  exact foldl_accNotif_bracket mid st

section
variable (S : Segmenter) (U : UData) (cfg : EdCfg)

/-- the ring is ready for a command: within its invariant, capacity > 0, not in the middle of a kill notification -/
def RingReady (s : Ed) : Prop := KillRing.WF s.ring ∧ 0 < s.ring.cap ∧ s.ring.killing = false

/-- a kill command (any movement) or a command that is inert for the ring -/
def Cmd.killOrInert : Cmd → Bool
  | .kill _ => true
  | c => c.ringInert

theorem Cmd.killOrInert_cases {c : Cmd} (h : c.killOrInert = true) : c.ringInert = true ∨ ∃ m, c = .kill m := by
  cases c
  case kill m => exact .inr ⟨m, rfl⟩
  all_goals exact .inl h

theorem wp_execute_kill_ready (m : Movement) (s : Ed) (h : RingReady s) :
    wp (execute S U cfg (.kill m)) (fun _ s' => RingReady s') (fun _ s' => RingReady s') s := by
  refine wp_execute_kill S U cfg m s (fun _ k => KillRing.WF k ∧ 0 < k.cap ∧ k.killing = false) h
    (fun r l ns k ho hgo => ?_)
  obtain ⟨k', hgo', hw', hc', ha⟩ := lbKill_go_acc ns h.1 h.2.1
  rw [hgo] at hgo'; cases hgo'
  refine ⟨hw', by have := h.2.1; omega, ?_⟩
  have := kill_notifs_flag S U m s.line l r ns ho (s.ring.killing, KillRing.accOf s.ring) h.2.2
  rw [← ha] at this; exact this

theorem wp_cmdStep_ready (c : Cmd) (hc : c.killOrInert = true) (s : Ed) (h : RingReady s) :
    wp (cmdStep S U cfg c) (fun _ s' => RingReady s') (fun _ s' => RingReady s') s := by
  have hreset : RingReady { s with ring := s.ring.reset } := ⟨KillRing.wf_reset h.1, h.2.1, h.2.2⟩
  rcases Cmd.killOrInert_cases hc with hi | ⟨m, rfl⟩
  · have key : ∀ s' : Ed, SameStore s.ring s'.ring → RingReady s' := by
      intro s' hs
      rcases hs with e | e
      · exact ⟨e ▸ h.1, e ▸ h.2.1, e ▸ h.2.2⟩
      · exact ⟨e ▸ hreset.1, e ▸ hreset.2.1, e ▸ hreset.2.2⟩
    exact wp_mono (wp_cmdStep_inert S U cfg c hi s h.2.2) (fun _ s' hs => key s' hs) (fun _ s' hs => key s' hs)
  · refine wp_cmdStep S U cfg _ s _ _ (wp_execute_kill_ready S U cfg m _ ?_)
    split
    · exact hreset
    · exact h

theorem wp_cmdSteps_ready (cs : List Cmd) (s : Ed) (hall : ∀ c ∈ cs, c.killOrInert = true) (h : RingReady s) :
    wp (cmdSteps S U cfg cs) (fun _ s' => RingReady s') (fun _ s' => RingReady s') s :=
  wp_cmdSteps_inv S U cfg cs (fun c hc => wp_cmdStep_ready S U cfg c (hall c hc)) s h

end
end Rl
