/-
  C17: `KillReports` — for every movement other than the two character movements, a `LineBuffer::kill`
  that answers `true` has notified, between `start_killing` and `stop_killing`, a deletion the kill ring
  takes up (forward, backward, or around the cursor with some text).  A small calculus over `LM`
  (`KSil`: notifies nothing; `KHd`: notifies such a deletion and no `stop_killing`; `KRep`: does so whenever
  it answers `true`; `KRepAt`: the same from one given state; `KRepW`: from every well-formed line; `T r` is `r = true`), one lemma per helper of `kill`, then the arms:
  each is `wrapK` of a helper or of an `arm…` that restates the arm without the inlined continuation.
-/
import Rl.Lemmas.EditorPopLocal
namespace Rl
open LM

/-- notifies nothing -/
def KSil {α : Type} (m : LM α) : Prop := ∀ lb a lb' ns, m lb = .ok (a, lb', ns) → ns = []

/-- notifies a deletion the ring takes up, and no `stop_killing` -/
def KHd {α : Type} (m : LM α) : Prop :=
  ∀ lb a lb' ns, m lb = .ok (a, lb', ns) → (∀ n ∈ ns, n ≠ .stopKill) ∧ ∃ n ∈ ns, HardDel n

/-- notifies no `stop_killing`, and a deletion the ring takes up whenever the answer satisfies `P` -/
def KRep {α : Type} (P : α → Prop) (m : LM α) : Prop :=
  ∀ lb a lb' ns, m lb = .ok (a, lb', ns) → (∀ n ∈ ns, n ≠ .stopKill) ∧ (P a → ∃ n ∈ ns, HardDel n)

namespace KSil
variable {α β : Type}
theorem get : KSil LM.get := by intro lb a lb' ns h; cases h; rfl
theorem pure (a : α) : KSil (Pure.pure a : LM α) := by intro lb r lb' ns h; cases h; rfl
theorem panic : KSil (LM.panic : LM α) := by intro lb r lb' ns h; cases h
theorem setPos (p : Nat) : KSil (LM.setPos p) := by intro lb r lb' ns h; cases h; rfl
theorem ro (f : LB → Except Panic α) : KSil (LM.ro f) := by
  intro lb r lb' ns h; unfold LM.ro at h; split at h <;> cases h; rfl
theorem lift (e : Except Panic α) : KSil (LM.lift e) := by
  intro lb r lb' ns h; unfold LM.lift at h; split at h <;> cases h; rfl
theorem setPosChecked (S : Segmenter) (U : UData) (p : Nat) : KSil (LB.setPosChecked S U p) := by
  intro lb r lb' ns h; unfold LB.setPosChecked at h; split at h <;> cases h; rfl

theorem bind_ok {m : LM α} {k : α → LM β} (hm : KSil m) {lb lb' : LB} {r : β} {ns : List Notif}
    (h : (m >>= k) lb = .ok (r, lb', ns)) : ∃ a lb1, m lb = .ok (a, lb1, []) ∧ k a lb1 = .ok (r, lb', ns) := by
  obtain ⟨a, lb1, n1, n2, h1, h2, rfl⟩ := LM.bind_ok h
  cases hm _ _ _ _ h1
  exact ⟨a, lb1, h1, h2⟩

theorem bind {m : LM α} {k : α → LM β} (hm : KSil m) (hk : ∀ a, KSil (k a)) : KSil (m >>= k) := by
  intro lb r lb' ns h
  obtain ⟨a, lb1, _, h2⟩ := hm.bind_ok h
  exact hk a _ _ _ _ h2
end KSil

theorem sil_moveHome (S : Segmenter) (U : UData) : KSil (LB.moveHome S U) := by
  unfold LB.moveHome
  refine KSil.bind (KSil.ro _) fun start => KSil.bind KSil.get fun lb => ?_
  split
  · exact KSil.bind (KSil.setPos _) fun _ => KSil.pure _
  · exact KSil.pure _

theorem sil_moveBufferStart (S : Segmenter) (U : UData) : KSil (LB.moveBufferStart S U) := by
  unfold LB.moveBufferStart
  refine KSil.bind KSil.get fun lb => ?_
  split
  · exact KSil.bind (KSil.setPos _) fun _ => KSil.pure _
  · exact KSil.pure _

theorem hardDel_single {a : Nat} {y : Text} {d : Direction} (h : HardDel (.del a y d)) :
    (∀ n ∈ [Notif.del a y d], n ≠ .stopKill) ∧ ∃ n ∈ [Notif.del a y d], HardDel n :=
  ⟨fun n hn hs => (by rw [List.mem_singleton.mp hn] at hs; cases hs), _, List.mem_singleton.mpr rfl, h⟩

namespace KHd
variable {α β : Type}
theorem drain (a b : Nat) (d : Direction)
    (hd : ∀ (lb : LB) x y z, split3 lb.buf a b = .ok (x, y, z) → HardDel (.del a y d)) : KHd (LB.drain a b d) := by
  intro lb r lb' ns h
  unfold LB.drain at h
  split at h
  · rename_i x y z hs
    cases h
    exact hardDel_single (hd lb _ _ _ hs)
  · cases h
theorem drain_fwd (a b : Nat) : KHd (LB.drain a b .forward) := drain a b _ fun _ _ _ _ _ => trivial
theorem drain_bwd (a b : Nat) : KHd (LB.drain a b .backward) := drain a b _ fun _ _ _ _ _ => trivial
theorem bind_left {m : LM α} {k : α → LM β} (hm : KSil m) (hk : ∀ a, KHd (k a)) : KHd (m >>= k) := by
  intro lb r lb' ns h
  obtain ⟨a, lb1, _, h2⟩ := hm.bind_ok h
  exact hk a _ _ _ _ h2
theorem bind_right {m : LM α} {k : α → LM β} (hm : KHd m) (hk : ∀ a, KSil (k a)) : KHd (m >>= k) := by
  intro lb r lb' ns h
  obtain ⟨a, lb1, n1, n2, h1, h2, rfl⟩ := LM.bind_ok h
  rw [hk a _ _ _ _ h2, List.append_nil]; exact hm _ _ _ _ h1
end KHd

namespace KRep
variable {α β : Type}
theorem pure {P : α → Prop} {a : α} (h : ¬ P a) : KRep P (Pure.pure a : LM α) := by
  intro lb r lb' ns hr; cases hr
  exact ⟨fun n hn => (nomatch hn), fun hp => absurd hp h⟩
theorem panic {P : α → Prop} : KRep P (LM.panic : LM α) := by intro lb r lb' ns hr; cases hr
theorem of_hd {P : α → Prop} {m : LM α} (h : KHd m) : KRep P m :=
  fun lb a lb' ns hr => ⟨(h lb a lb' ns hr).1, fun _ => (h lb a lb' ns hr).2⟩
theorem bind_sil {P : β → Prop} {m : LM α} {k : α → LM β} (hm : KSil m) (hk : ∀ a, KRep P (k a)) : KRep P (m >>= k) := by
  intro lb r lb' ns h
  obtain ⟨a, lb1, _, h2⟩ := hm.bind_ok h
  exact hk a _ _ _ _ h2
theorem hd_bind {P : β → Prop} {m : LM α} {k : α → LM β} (hm : KHd m) (hk : ∀ a, KSil (k a)) : KRep P (m >>= k) :=
  of_hd (KHd.bind_right hm hk)
end KRep

abbrev T (r : Bool) : Prop := r = true

theorem rep_false : KRep T (pure false : LM Bool) := KRep.pure Bool.false_ne_true

/-- the two ways the helpers delete: backward, after which the cursor goes to the start of the gap, and forward -/
theorem rep_drainBwd (a b p : Nat) : KRep T (do let _ ← LB.drain a b .backward; setPos p; pure true) :=
  KRep.hd_bind (KHd.drain_bwd a b) fun _ => KSil.bind (KSil.setPos p) fun _ => KSil.pure true
theorem rep_drainFwd (a b : Nat) : KRep T (do let _ ← LB.drain a b .forward; pure true) :=
  KRep.hd_bind (KHd.drain_fwd a b) fun _ => KSil.pure true

theorem rep_backspace (S : Segmenter) (U : UData) (n : Nat) : KRep T (LB.backspace S U n) := by
  unfold LB.backspace
  refine KRep.bind_sil (KSil.ro _) fun r => ?_
  cases r with
  | none => exact rep_false
  | some p => exact KRep.bind_sil KSil.get fun lb => rep_drainBwd _ _ _
theorem rep_killBuffer (S : Segmenter) (U : UData) : KRep T (LB.killBuffer S U) := by
  unfold LB.killBuffer
  refine KRep.bind_sil KSil.get fun lb => ?_
  split
  · exact rep_drainFwd _ _
  · exact rep_false
theorem rep_discardBuffer (S : Segmenter) (U : UData) : KRep T (LB.discardBuffer S U) := by
  unfold LB.discardBuffer
  refine KRep.bind_sil KSil.get fun lb => ?_
  split
  · exact rep_drainBwd _ _ _
  · exact rep_false
theorem rep_deletePrevWord (S : Segmenter) (U : UData) (d : Word) (n : Nat) : KRep T (LB.deletePrevWord S U d n) := by
  unfold LB.deletePrevWord
  refine KRep.bind_sil (KSil.ro _) fun r => ?_
  cases r with
  | none => exact rep_false
  | some p => exact KRep.bind_sil KSil.get fun lb => rep_drainBwd _ _ _
theorem rep_deleteWord (S : Segmenter) (U : UData) (a : At) (d : Word) (n : Nat) : KRep T (LB.deleteWord S U a d n) := by
  unfold LB.deleteWord
  refine KRep.bind_sil (KSil.ro _) fun r => ?_
  cases r with
  | none => exact rep_false
  | some p => exact KRep.bind_sil KSil.get fun lb => rep_drainFwd _ _
theorem rep_deleteTo (S : Segmenter) (U : UData) (cs : CharSearch) (n : Nat) : KRep T (LB.deleteTo S U cs n) := by
  unfold LB.deleteTo
  cases cs
  case backward c | backwardAfter c =>
    refine KRep.bind_sil (KSil.ro _) fun r => ?_
    cases r with
    | none => exact rep_false
    | some p =>
      exact KRep.bind_sil KSil.get fun lb => KRep.bind_sil (KSil.setPos _) fun _ =>
        KRep.hd_bind (KHd.drain_bwd _ _) fun _ => KSil.pure _
  case forward c | forwardBefore c =>
    refine KRep.bind_sil (KSil.ro _) fun r => ?_
    cases r with
    | none => exact rep_false
    | some p => exact KRep.bind_sil KSil.get fun lb => rep_drainFwd _ _
theorem rep_discardLine (S : Segmenter) (U : UData) : KRep T (LB.discardLine S U) := by
  unfold LB.discardLine
  refine KRep.bind_sil KSil.get fun lb => ?_
  split
  · refine KRep.bind_sil (KSil.ro _) fun start => ?_
    dsimp only
    split
    · exact rep_backspace S U 1
    · exact rep_drainBwd _ _ _
  · exact rep_false

/-- `KRep T` from every well-formed line -/
def KRepW (m : LM Bool) : Prop :=
  ∀ lb r lb' ns, WF lb → m lb = .ok (r, lb', ns) →
    (∀ n ∈ ns, n ≠ .stopKill) ∧ (r = true → ∃ n ∈ ns, HardDel n)

/-- the same from one given state, for the arms that look at the line before they delete -/
def KRepAt (lb : LB) (m : LM Bool) : Prop :=
  ∀ r lb' ns, m lb = .ok (r, lb', ns) → (∀ n ∈ ns, n ≠ .stopKill) ∧ (r = true → ∃ n ∈ ns, HardDel n)

theorem KRep.at {m : LM Bool} (h : KRep T m) (lb : LB) : KRepAt lb m := fun r lb' ns hr => h lb r lb' ns hr
theorem KRepW.at {m : LM Bool} (h : KRepW m) {lb : LB} (hw : WF lb) : KRepAt lb m :=
  fun r lb' ns hr => h lb r lb' ns hw hr
theorem KRepW.of_at {m : LM Bool} (h : ∀ lb, WF lb → KRepAt lb m) : KRepW m :=
  fun lb r lb' ns hw hr => h lb hw r lb' ns hr
theorem KRep.w {m : LM Bool} (h : KRep T m) : KRepW m := KRepW.of_at fun lb _ => h.at lb

theorem KRepAt.bind_sil {α : Type} {lb : LB} {m : LM α} {k : α → LM Bool} (hm : KSil m)
    (hk : ∀ a lb1, m lb = .ok (a, lb1, []) → KRepAt lb1 (k a)) : KRepAt lb (m >>= k) := by
  intro r lb' ns h
  obtain ⟨a, lb1, h1, h2⟩ := hm.bind_ok h
  exact hk a lb1 h1 _ _ _ h2

theorem KRepAt.hd_then {α : Type} {lb : LB} {m : LM α} (hm : KHd m) (b : Bool) : KRepAt lb (m >>= fun _ => pure b) :=
  (KRep.hd_bind hm fun _ => KSil.pure b).at lb

theorem KRepAt.get {lb : LB} {k : LB → LM Bool} (hk : KRepAt lb (k lb)) : KRepAt lb (LM.get >>= k) :=
  KRepAt.bind_sil KSil.get fun a lb1 h => by cases h; exact hk

theorem KRepAt.ro {α : Type} {lb : LB} {f : LB → Except Panic α} {k : α → LM Bool}
    (hk : ∀ a, f lb = .ok a → KRepAt lb (k a)) : KRepAt lb (LM.ro f >>= k) :=
  KRepAt.bind_sil (KSil.ro f) fun a lb1 h => by
    unfold LM.ro at h
    split at h
    · rename_i a' hf; cases h; exact hk _ hf
    · cases h

/-- `kill_line` on a well-formed line: at the end of a line that is not the last, `delete(1)` removes the newline -/
theorem repW_killLine (S : Segmenter) (U : UData) : KRepW (LB.killLine S U) := by
  refine KRepW.of_at fun lb hw => ?_
  unfold LB.killLine
  refine KRepAt.get ?_
  split
  · rename_i hc
    refine KRepAt.ro fun e _ => ?_
    split
    · intro r lb' ns h
      obtain ⟨o, lb1, n1, n2, h1, h2, rfl⟩ := LM.bind_ok h
      cases h2
      rw [List.append_nil]
      rcases delete_spec S U _ _ 1 _ _ hw (by decide) h1 with ⟨he, _⟩ | ⟨t, x, y, z, _, _, _, _, _, _, rfl, _⟩
      · simp only [Bool.and_eq_true, decide_eq_true_eq] at hc
        omega
      · have hd := hardDel_single (a := lb.pos) (y := y) (d := .forward) trivial
        exact ⟨hd.1, fun _ => hd.2⟩
    · exact KRepAt.hd_then (KHd.drain_fwd _ _) true
  · exact rep_false.at _

theorem khd_drain_around (a b k : Nat) (hab : a < b) : KHd (LB.drain a b (.around k)) :=
  KHd.drain a b _ fun lb x y z hs => by
    obtain ⟨_, hx, hy⟩ := split3_ok hs
    show y ≠ []
    intro hy0; subst hy0
    have : blen ([] : Text) = 0 := rfl
    omega

/-- around the cursor the reported text is not empty when `a < b` -/
theorem khd_drainAround (a b cursor : Nat) (h : a < b ∨ cursor ≤ a) : KHd (LB.drainAround a b cursor) := by
  unfold LB.drainAround
  by_cases hc : cursor ≤ a
  · rw [if_pos hc]; exact KHd.drain_fwd a b
  · rw [if_neg hc]
    have hab : a < b := h.resolve_right hc
    exact KHd.bind_left KSil.get fun _ => KHd.bind_left (KSil.lift _) fun _ =>
      KHd.bind_left (KSil.lift _) fun _ => khd_drain_around a b _ hab

/-- `kill(WholeBuffer)` -/
def armWholeBuffer (S : Segmenter) (U : UData) : LM Bool := do
  let cursor := (← get).pos
  let _ ← LB.moveBufferStart S U
  let lb ← get
  if lb.buf.isEmpty then pure false
  else
    let _ ← LB.drainAround 0 lb.len cursor
    pure true

theorem rep_armWholeBuffer (S : Segmenter) (U : UData) (lb : LB) : KRepAt lb (armWholeBuffer S U) := by
  unfold armWholeBuffer
  refine KRepAt.get ?_
  refine KRepAt.bind_sil (sil_moveBufferStart S U) fun _ lb2 _ => ?_
  refine KRepAt.get ?_
  split
  · exact rep_false.at _
  · rename_i hne
    refine KRepAt.hd_then (khd_drainAround _ _ _ (Or.inl ?_)) true
    have : lb2.buf ≠ [] := by simpa using hne
    exact blen_pos_of_ne_nil this

/-- `kill(WholeLine)` -/
def armWholeLine (S : Segmenter) (U : UData) : LM Bool := do
  let cursor := (← get).pos
  let _ ← LB.moveHome S U
  let lb ← get
  let e ← ro LB.endOfLine
  if lb.pos < e then
    let _ ← LB.drainAround lb.pos e cursor
    pure true
  else LB.killLine S U

theorem rep_armWholeLine (S : Segmenter) (U : UData) (lb : LB) (hw : WF lb) : KRepAt lb (armWholeLine S U) := by
  unfold armWholeLine
  refine KRepAt.get ?_
  refine KRepAt.bind_sil (sil_moveHome S U) fun _ lb2 h2 => ?_
  have hw2 : WF lb2 := by
    obtain ⟨r, l, ns, ho, hwl⟩ := lmsafe_moveHome S U lb hw
    rw [ho] at h2; cases h2; exact hwl
  refine KRepAt.get ?_
  refine KRepAt.ro fun e _ => ?_
  split
  · rename_i hlt
    exact KRepAt.hd_then (khd_drainAround _ _ _ (Or.inl hlt)) true
  · exact (repW_killLine S U).at hw2

/-- `kill(LineUp(n))` and `kill(LineDown(n))`: `span` finds the lines to remove, `last` whether they are the last
    of the buffer (then the newline before them goes too) -/
def armLines (S : Segmenter) (U : UData) (span : LB → Except Panic (Option (Nat × Nat)))
    (last : LB → Nat → Nat → LM Bool) : LM Bool := do
  match ← ro span with
  | some (a, b) =>
    let lb ← get
    let last ← last lb a b
    let a := if last && a > 0 then a - 1 else a
    LB.setPosChecked S U a
    let _ ← LB.drainAround a b lb.pos
    pure true
  | none => pure false

theorem rep_armLines (S : Segmenter) (U : UData) {span : LB → Except Panic (Option (Nat × Nat))}
    {last : LB → Nat → Nat → LM Bool} (hl : ∀ lb a b, KSil (last lb a b)) (lb : LB)
    (hs : ∀ a b, span lb = .ok (some (a, b)) → a ≤ lb.pos ∧ lb.pos ≤ b) : KRepAt lb (armLines S U span last) := by
  unfold armLines
  refine KRepAt.ro fun r hr => ?_
  cases r with
  | none => exact rep_false.at _
  | some ab =>
    obtain ⟨a, b⟩ := ab
    obtain ⟨hle1, hle2⟩ := hs a b hr
    dsimp only
    refine KRepAt.get ?_
    refine KRepAt.bind_sil (hl _ _ _) fun lst lb4 _ => ?_
    refine KRepAt.bind_sil (KSil.setPosChecked S U _) fun _ lb5 _ => ?_
    refine KRepAt.hd_then (khd_drainAround _ _ _ ?_) true
    split <;> omega

/-- `kill(LineUp(n))` -/
def armLineUp (S : Segmenter) (U : UData) (n : Nat) : LM Bool :=
  armLines S U (LB.nLinesUp · n) fun lb _ _ => do
    let suf ← lift (sliceFrom lb.buf lb.pos)
    pure (findChar '\n' suf).isNone

/-- `kill(LineDown(n))` -/
def armLineDown (S : Segmenter) (U : UData) (n : Nat) : LM Bool :=
  armLines S U (LB.nLinesDown · n) fun lb a b => do
    let mid ← lift (slice lb.buf a b)
    pure (decide ((mid.filter (· == '\n')).length ≤ n))

theorem rep_armLineUp (S : Segmenter) (U : UData) (n : Nat) (lb : LB) (hw : WF lb) : KRepAt lb (armLineUp S U n) :=
  rep_armLines S U (fun _ _ _ => KSil.bind (KSil.lift _) fun _ => KSil.pure _) lb fun a b h => by
    obtain ⟨r, hr, hp⟩ := nLinesUp_ok lb n hw
    rw [h] at hr; cases hr
    exact (hp a b rfl).2.2

theorem rep_armLineDown (S : Segmenter) (U : UData) (n : Nat) (lb : LB) (hw : WF lb) : KRepAt lb (armLineDown S U n) :=
  rep_armLines S U (fun _ _ _ => KSil.bind (KSil.lift _) fun _ => KSil.pure _) lb fun a b h => by
    obtain ⟨r, hr, hp⟩ := nLinesDown_ok lb n hw
    rw [h] at hr; cases hr
    exact (hp a b rfl).2.2

/-- `kill(ViFirstPrint)` -/
def armViFirstPrint (S : Segmenter) (U : UData) : LM Bool := do
  let first ← ro (LB.firstPrint S U)
  let lb ← get
  if first < lb.pos then do
    let _ ← LB.drain first lb.pos .backward
    setPos first
  else if first > lb.pos then do
    let _ ← LB.drain lb.pos first .forward
    pure ()
  pure (first != lb.pos)

theorem rep_armViFirstPrint (S : Segmenter) (U : UData) (lb : LB) : KRepAt lb (armViFirstPrint S U) := by
  unfold armViFirstPrint
  refine KRepAt.ro fun first _ => ?_
  refine KRepAt.get ?_
  by_cases h1 : first < lb.pos
  · rw [if_pos h1]
    exact (KRep.hd_bind (KHd.drain_bwd _ _) fun _ => KSil.bind (KSil.setPos _) fun _ => KSil.pure _).at _
  · rw [if_neg h1]
    by_cases h2 : first > lb.pos
    · rw [if_pos h2]
      exact (KRep.hd_bind (KHd.drain_fwd _ _) fun _ => KSil.pure _).at _
    · rw [if_neg h2]
      have : first = lb.pos := by omega
      subst this
      exact (KRep.pure (P := T) (by rw [T, bne_self_eq_false]; exact Bool.false_ne_true)).at _

/-- the bracket `kill` puts around every movement but the two character movements -/
def wrapK (m : LM Bool) : LM Bool := do
  LM.notify .startKill
  let k ← m
  LM.notify .stopKill
  pure k

theorem wrapK_ok {m : LM Bool} {lb lb' : LB} {r : Bool} {ns : List Notif} (h : wrapK m lb = .ok (r, lb', ns)) :
    ∃ mid, m lb = .ok (r, lb', mid) ∧ ns = .startKill :: (mid ++ [.stopKill]) := by
  unfold wrapK at h
  obtain ⟨_, _, _, _, h1, h2, rfl⟩ := LM.bind_ok h
  cases h1
  obtain ⟨k, lb2, mid, _, hm, h3, rfl⟩ := LM.bind_ok h2
  obtain ⟨_, _, _, _, h4, h5, rfl⟩ := LM.bind_ok h3
  cases h4; cases h5
  exact ⟨mid, hm, rfl⟩

theorem wrapK_reports {m : LM Bool} (hm : KRepW m) {lb lb' : LB} {ns : List Notif} (hw : WF lb)
    (h : wrapK m lb = .ok (true, lb', ns)) :
    ∃ mid, ns = .startKill :: (mid ++ [.stopKill]) ∧ (∀ n ∈ mid, n ≠ .stopKill) ∧ ∃ n ∈ mid, HardDel n := by
  obtain ⟨mid, hm', rfl⟩ := wrapK_ok h
  obtain ⟨h1, h2⟩ := hm lb _ _ _ hw hm'
  exact ⟨mid, rfl, h1, h2 rfl⟩

/-! Monad laws of `LM`: in `LB.kill` the continuation `stop_killing; return killed` is inlined into the arms. -/

theorem LM.bind_assocK {α β γ : Type} (m : LM α) (f : α → LM β) (g : β → LM γ) :
    (m >>= f) >>= g = m >>= fun a => f a >>= g := by
  funext lb
  simp only [LM.bind_apply]
  rcases m lb with e | ⟨a, lb1, n1⟩
  · rfl
  dsimp only
  rcases f a lb1 with e | ⟨b, lb2, n2⟩
  · rfl
  dsimp only
  rcases g b lb2 with e | ⟨c, lb3, n3⟩
  · rfl
  · simp only [List.append_assoc]

theorem LM.pure_bindK {α β : Type} (a : α) (f : α → LM β) : (pure a : LM α) >>= f = f a := LM.pure_bind a f

theorem LM.ite_bindK {α β : Type} (c : Prop) [Decidable c] (a b : LM α) (f : α → LM β) :
    (if c then a else b) >>= f = if c then a >>= f else b >>= f := by split <;> rfl

theorem LM.pair_bindK {β γ : Type} (r : Option (Nat × Nat)) (a : Nat → Nat → LM β) (b : LM β) (f : β → LM γ) :
    (match r with | some (x, y) => a x y | none => b) >>= f =
      match r with | some (x, y) => a x y >>= f | none => b >>= f := by
  cases r with
  | none => rfl
  | some xy => rfl

theorem kill_wholeBuffer_eq (S : Segmenter) (U : UData) : LB.kill S U .wholeBuffer = wrapK (armWholeBuffer S U) := by
  unfold LB.kill wrapK armWholeBuffer
  simp only [LM.bind_assocK, LM.pure_bind, LM.ite_bindK, if_true]
theorem kill_wholeLine_eq (S : Segmenter) (U : UData) : LB.kill S U .wholeLine = wrapK (armWholeLine S U) := by
  unfold LB.kill wrapK armWholeLine
  simp only [LM.bind_assocK, LM.pure_bind, LM.ite_bindK, if_true]
theorem kill_lineUp_eq (S : Segmenter) (U : UData) (k : Nat) : LB.kill S U (.lineUp k) = wrapK (armLineUp S U k) := by
  unfold LB.kill wrapK armLineUp armLines
  simp only [LM.bind_assocK, LM.pure_bind, LM.pair_bindK, if_true]
  rfl  -- the two sides differ in the name of the compiled `match` only
theorem kill_lineDown_eq (S : Segmenter) (U : UData) (k : Nat) : LB.kill S U (.lineDown k) = wrapK (armLineDown S U k) := by
  unfold LB.kill wrapK armLineDown armLines
  simp only [LM.bind_assocK, LM.pure_bind, LM.pair_bindK, if_true]
  rfl  -- the two sides differ in the name of the compiled `match` only
theorem kill_viFirstPrint_eq (S : Segmenter) (U : UData) : LB.kill S U .viFirstPrint = wrapK (armViFirstPrint S U) := by
  unfold LB.kill wrapK armViFirstPrint
  simp only [LM.bind_assocK, LM.pure_bind, LM.ite_bindK, if_true]

theorem kill_eq_wrapK (S : Segmenter) (U : UData) (m : Movement) (hf : ∀ n, m ≠ .forwardChar n)
    (hb : ∀ n, m ≠ .backwardChar n) : ∃ X, LB.kill S U m = wrapK X ∧ KRepW X := by
  cases m with
  | forwardChar n => exact absurd rfl (hf n)
  | backwardChar n => exact absurd rfl (hb n)
  | endOfLine => exact ⟨LB.killLine S U, rfl, repW_killLine S U⟩
  | beginningOfLine => exact ⟨LB.discardLine S U, rfl, (rep_discardLine S U).w⟩
  | backwardWord n d => exact ⟨LB.deletePrevWord S U d n, rfl, (rep_deletePrevWord S U d n).w⟩
  | forwardWord n a d => exact ⟨LB.deleteWord S U a d n, rfl, (rep_deleteWord S U a d n).w⟩
  | viCharSearch n cs => exact ⟨LB.deleteTo S U cs n, rfl, (rep_deleteTo S U cs n).w⟩
  | endOfBuffer => exact ⟨LB.killBuffer S U, rfl, (rep_killBuffer S U).w⟩
  | beginningOfBuffer => exact ⟨LB.discardBuffer S U, rfl, (rep_discardBuffer S U).w⟩
  | wholeBuffer => exact ⟨_, kill_wholeBuffer_eq S U, KRepW.of_at fun lb _ => rep_armWholeBuffer S U lb⟩
  | wholeLine => exact ⟨_, kill_wholeLine_eq S U, KRepW.of_at (rep_armWholeLine S U)⟩
  | lineUp k => exact ⟨_, kill_lineUp_eq S U k, KRepW.of_at (rep_armLineUp S U k)⟩
  | lineDown k => exact ⟨_, kill_lineDown_eq S U k, KRepW.of_at (rep_armLineDown S U k)⟩
  | viFirstPrint => exact ⟨_, kill_viFirstPrint_eq S U, KRepW.of_at fun lb _ => rep_armViFirstPrint S U lb⟩

/-- **`KillReports`**: every arm of `kill` but the two character movements -/
theorem killReports (S : Segmenter) (U : UData) : KillReports S U := by
  intro m lb lb' ns hb hf hw hk
  obtain ⟨X, e, hX⟩ := kill_eq_wrapK S U m hf hb
  rw [e] at hk
  exact wrapK_reports hX hw hk

end Rl
