/-
  C17 / C05: the undo-log invariant `UndoLogInv` ("the undo stack, replayed oldest change first from
  some text, gives the text of the line") through the commands.  `LogK m`: from a state with the
  invariant, `m` returns in such a state.  The walk of Rl/Lemmas/ExecWalk.lean, over the `Replays`
  facts of Rl/Lemmas/LineBuffer.lean (every line-buffer method reports exactly what it did: the replay
  conjunct of C03), `C05_log_replay` (the listener logs what it is told, merges included) and
  `C05_log_markers` (group markers change nothing).
-/
import Rl.Lemmas.EditorUndoSafe
import Rl.Lemmas.LineBuffer
import Rl.Lemmas.ExecWalk
namespace Rl
open EM

/-- from a state with `UndoLogInv`, every normal return of `m` has it again (early exits unconstrained) -/
structure LogK {α : Type} (m : EM α) : Prop where
  h : ∀ s, UndoLogInv s → wp m (fun _ s' => UndoLogInv s') (fun _ _ => True) s

namespace LogK
variable {α β : Type}

theorem pure (a : α) : LogK (pure a : EM α) := ⟨fun _ h => h⟩
theorem bind {m : EM α} {f : α → EM β} (hm : LogK m) (hf : ∀ a, LogK (f a)) : LogK (m >>= f) :=
  ⟨fun s hs => by rw [wp_bind]; exact wp_mono (hm.h s hs) (fun a s1 h1 => (hf a).h s1 h1) (fun _ _ h => h)⟩
theorem bind' {m : Ed → Except (Outcome × Ed) (α × Ed)} {f : α → EM β} (hm : LogK (m : EM α))
    (hf : ∀ a, LogK (f a)) : LogK (@Bind.bind EM _ α β m f) := bind hm hf
theorem ite {c : Prop} [Decidable c] {a b : EM α} (ha : LogK a) (hb : LogK b) : LogK (if c then a else b) := by
  split <;> assumption
theorem exit (o : Outcome) : LogK (EM.exit o : EM α) := ⟨fun _ _ => trivial⟩
theorem read (g : Ed → α) : LogK (fun s => .ok (g s, s) : EM α) := ⟨fun _ h => h⟩
theorem get : LogK EM.get := read id
theorem liftP (e : Except Panic α) : LogK (EM.liftP e) := by
  constructor; intro s hs; unfold wp EM.liftP; cases e <;> simp only [] <;> first | exact hs | trivial
theorem modify {g : Ed → Ed} (hg : ∀ s, (g s).line = s.line ∧ (g s).changes = s.changes) : LogK (EM.modify g) :=
  ⟨fun s ⟨t0, h⟩ => ⟨t0, by show replayLog (g s).changes.undos.reverse t0 = some (g s).line.buf; rw [(hg s).1, (hg s).2]; exact h⟩⟩

theorem of_core {m : EM α} (hk : Keeps Ed.core m) : LogK m :=
  ⟨fun s ⟨t0, h⟩ => wp_mono (hk.wp s) (fun _ s' hc => ⟨t0, by
    rw [(Ed.core_eq hc).1, (Ed.core_eq hc).2.2.1]; exact h⟩) (fun _ _ _ => trivial)⟩

end LogK

section
variable (S : Segmenter) (U : UData) (cfg : EdCfg)

theorem logK_lb {α : Type} {op : LM α} (h : Replays op) : LogK (lb S U op) := by
  constructor
  intro s ⟨t0, hl⟩
  refine wp_lb_any S U (fun a l ns ho => ?_) trivial
  exact ⟨t0, C05_log_replay S U.alnum s.changes ns t0 s.line.buf l.buf hl
    (replayNotifs_of_replay ns (h.h _ _ _ _ ho))⟩

theorem logK_lbKill {α : Type} {op : LM α} (h : Replays op) : LogK (lbKill S U op) := by
  constructor
  intro s ⟨t0, hl⟩
  unfold wp lbKill
  cases ho : op s.line with
  | error e => trivial
  | ok r =>
    obtain ⟨a, l, ns⟩ := r
    simp only []
    cases lbKill.go ns s.ring with
    | error e => trivial
    | ok k =>
      exact ⟨t0, C05_log_replay S U.alnum s.changes ns t0 s.line.buf l.buf hl
        (replayNotifs_of_replay ns (h.h _ _ _ _ ho))⟩

theorem logK_lbQuiet {α : Type} {op : LM α} (h : PosOnly op) : LogK (lbQuiet op) := by
  constructor
  intro s ⟨t0, hl⟩
  unfold wp lbQuiet
  cases ho : op s.line with
  | error e => trivial
  | ok r =>
    obtain ⟨a, l, ns⟩ := r
    exact ⟨t0, by show replayLog s.changes.undos.reverse t0 = some l.buf; rw [(h.h _ _ _ _ ho).1]; exact hl⟩

theorem logK_changesBegin : LogK changesBegin :=
  ⟨fun s ⟨t0, hl⟩ => by rw [wp_changesBegin]; exact ⟨t0, (C05_log_markers s.changes t0 _ hl).1⟩⟩
theorem logK_changesEnd : LogK changesEnd :=
  ⟨fun s ⟨t0, hl⟩ => by rw [wp_changesEnd]; exact ⟨t0, (C05_log_markers s.changes t0 _ hl).2⟩⟩

theorem logK_backup : LogK (backup S U) := by
  constructor; intro s hs; unfold wp backup
  cases LB.update S U s.line.buf s.line.pos s.saved with
  | error e => trivial
  | ok r => obtain ⟨_, sv, _⟩ := r; exact hs
theorem logK_ringYank : LogK ringYank := by
  constructor; intro s hs; unfold wp ringYank
  cases s.ring.yank with
  | error e => trivial
  | ok r => exact hs
theorem logK_ringYankPop : LogK ringYankPop := by
  constructor; intro s hs; unfold wp ringYankPop
  cases s.ring.yankPop with
  | error e => trivial
  | ok r => exact hs
theorem logK_ringKill (t : Text) : LogK (ringKill t) := by
  constructor; intro s hs; unfold wp ringKill
  cases s.ring.kill t .append with
  | error e => trivial
  | ok r => exact hs
theorem logK_ringYankCount (n : Nat) : LogK (ringYankCount n) := ⟨fun _ hs => hs⟩
theorem logK_setHistIdx (i : Nat) : LogK (setHistIdx i) := ⟨fun _ hs => hs⟩

theorem GroupOp.replays {op : LM Bool} (h : GroupOp S U op) : Replays op := h.of_prims replays_prims

theorem EditOp.replays {α : Type} {op : LM α} (h : EditOp S U op) : Replays op := h.of_prims replays_prims

theorem MoveOp.posOnly {op : LM Bool} (h : MoveOp S U op) : PosOnly op := h.of_prims posOnly_prims

/-- every effect of the edit functions keeps the undo-log invariant: the listening line-buffer calls
    by their `Replays` fact, the quiet ones because they move the cursor only, the rest because it
    touches neither line nor log -/
theorem logK_execPrims : ExecPrims S U cfg (fun m => LogK m) where
  pure := LogK.pure
  bind := LogK.bind
  read := LogK.read
  exit := LogK.exit
  liftP := LogK.liftP
  backup := logK_backup S U
  setHistIdx := logK_setHistIdx
  changesBegin := logK_changesBegin
  changesEnd := logK_changesEnd
  logValidator := fun _ => LogK.modify fun _ => ⟨rfl, rfl⟩
  lb := fun h => logK_lb S U (h.replays S U)
  lbQuiet := fun h => logK_lbQuiet (h.posOnly S U)
  setPos := fun p => logK_lbQuiet (PosOnly.setPosChecked S U p)
  updateHint := LogK.of_core (keeps_updateHint cfg)
  highlightCharStep := LogK.of_core (keeps_highlightCharStep cfg)
  setRefreshLayout := fun _ _ => LogK.modify fun _ => ⟨rfl, rfl⟩
  logRender := fun _ => LogK.modify fun _ => ⟨rfl, rfl⟩
  clearHint := LogK.modify fun _ => ⟨rfl, rfl⟩
  setCursor := fun _ => LogK.modify fun _ => ⟨rfl, rfl⟩
  advanceCursor := fun _ => LogK.modify fun _ => ⟨rfl, rfl⟩
  resetCursor := LogK.modify fun _ => ⟨rfl, rfl⟩

theorem logK_ringUnits : RingUnits S U cfg (fun m => LogK m) where
  editKill := (logK_execPrims S U cfg).editKill fun m => logK_lbKill S U (Replays.kill S U m)
  ringYank := logK_ringYank
  ringYankCount := logK_ringYankCount
  ringYankPop := logK_ringYankPop
  ringKill := logK_ringKill

theorem logK_editInsert (c : Char) (n : Nat) : LogK (editInsert S U cfg c n) :=
  (logK_execPrims S U cfg).editInsert c n

theorem logK_editMove {op : LM Bool} (h : PosOnly op) : LogK (editMove S U cfg op) :=
  LogK.bind (logK_lbQuiet h) fun _ => pred_ite (fun _ => (logK_execPrims S U cfg).moveCursor) fun _ => LogK.pure _

/-- **every command but `Undo` keeps the undo-log invariant** -/
theorem logK_execute (cmd : Cmd) (hc : IsUndo cmd = false) : LogK (execute S U cfg cmd) :=
  (logK_execPrims S U cfg).toUnits.execute_of cmd (fun _ => logK_ringUnits S U cfg)
    fun n h => by rw [h] at hc; cases hc

theorem logK_bound {β : Type} (keys : List KeyEvent) (n : Nat) (p : Bool) {f : Option Cmd → EM β}
    (hf : ∀ r, InBinds cfg r → LogK (f r)) : LogK (customBinding cfg keys n p >>= f) :=
  ⟨fun s hs => wp_bind_fact (customBinding_inBinds cfg keys n p)
    (wp_mono ((LogK.of_core (keeps_customBinding cfg keys n p)).h s hs)
      (fun a s1 h1 hq => (hf a hq).h s1 h1) (fun _ _ h => h))⟩

theorem logK_viPrims : ViPrims S U cfg (fun m => LogK m) :=
  ViPrims.ofCore LogK.pure LogK.bind (logK_bound cfg) LogK.of_core logK_changesBegin logK_changesEnd

theorem logK_viCommand (fuel : Nat) (key : KeyEvent) : LogK (viCommand S U cfg fuel key) :=
  (logK_viPrims S U cfg).viCommand fuel key

theorem logK_viInsert (fuel : Nat) (key : KeyEvent) : LogK (viInsert S U cfg fuel key) :=
  (logK_viPrims S U cfg).viInsert fuel key

theorem logK_nextCmd (fuel : Nat) (sea iep : Bool) : LogK (nextCmd S U cfg fuel sea iep) :=
  nextCmd_of_prims (fun _ => EmacsPrims.ofCore LogK.pure LogK.bind (logK_bound cfg) LogK.of_core)
    (fun _ => logK_viPrims S U cfg) logK_changesBegin fuel sea iep

/-! ### replay does not look at what follows the text (what an abort in vi mode leaves: finding D49) -/

theorem applyFwd_suffix {c : Change} {t t' : Text} (w : Text) (h : applyFwd c t = some t') :
    applyFwd c (t ++ w) = some (t' ++ w) := by
  cases c with
  | begin => simp only [applyFwd] at h ⊢; cases h; rfl
  | end_ => simp only [applyFwd] at h ⊢; cases h; rfl
  | insert idx s =>
    obtain ⟨x, z, rfl, hi, rfl⟩ := applyFwd_insert.mp h
    exact applyFwd_insert.mpr ⟨x, z ++ w, by simp, hi, by simp⟩
  | delete idx s =>
    obtain ⟨x, z, rfl, hi, rfl⟩ := applyFwd_delete.mp h
    exact applyFwd_delete.mpr ⟨x, z ++ w, by simp, hi, by simp⟩
  | replace idx o n =>
    obtain ⟨x, z, rfl, hi, rfl⟩ := applyFwd_replace.mp h
    exact applyFwd_replace.mpr ⟨x, z ++ w, by simp, hi, by simp⟩

theorem replayLog_suffix : ∀ (l : List Change) {t t' : Text} (w : Text), replayLog l t = some t' →
    replayLog l (t ++ w) = some (t' ++ w) := by
  intro l
  induction l with
  | nil => intro t t' w h; simp only [replayLog] at h ⊢; cases h; rfl
  | cons c l ih =>
    intro t t' w h
    simp only [replayLog] at h ⊢
    split at h
    · rename_i t1 h1
      rw [applyFwd_suffix w h1]
      exact ih w h
    · cases h

/-- the undo-log invariant follows when the log replays to a PREFIX of the line (what is left after a
    vi-mode abort into whose lower entries the listener had merged: the replayed text may be shorter) -/
theorem undoLogInv_of_prefix {s : Ed} {t0 p w : Text} (h : replayLog s.changes.undos.reverse t0 = some p)
    (hl : s.line.buf = p ++ w) : UndoLogInv s :=
  ⟨t0 ++ w, by rw [hl]; exact replayLog_suffix _ w h⟩

/-- every older part of a replayable log is replayable (so cutting the log back to ANY height leaves a log
    that replays from the same start text — to the text the line had when the log had that height, unless
    the listener has since merged into its top entry) -/
theorem replayLog_older_part {a b : List Change} {t t' : Text} (h : replayLog (a ++ b) t = some t') :
    ∃ t1, replayLog a t = some t1 ∧ replayLog b t1 = some t' := by
  rw [replayLog_append] at h
  cases h1 : replayLog a t with
  | none => rw [h1] at h; cases h
  | some t1 => rw [h1] at h; exact ⟨t1, rfl, h⟩

/-- what an abort in vi mode establishes (D47, D47b, D48: the kept log replays "" to the line exactly; D49: to ""
    with the line "x"): the kept log replays some start text to a PREFIX of the restored line -/
theorem undoLogInv_after_cut {s : Ed} {kept : List Change} {t0 p w : Text}
    (hk : s.changes.undos = kept) (h : replayLog kept.reverse t0 = some p) (hl : s.line.buf = p ++ w) :
    UndoLogInv s := by
  subst hk; exact undoLogInv_of_prefix h hl

end
end Rl
