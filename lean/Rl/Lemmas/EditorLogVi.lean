/-
  The undo-log invariant through the sub-loops (completion, incremental search) in BOTH modes — in
  particular vi mode, where a key that leaves insert mode inside a sub-loop closes every undo group
  (`end()` pops the sub-loop's `Begin`), so that the listener may merge into the entry below the mark
  (finding D49).  Here: `next_cmd` changes the log by marker operations only (`MkK`).
-/
import Rl.Lemmas.EditorLog
namespace Rl
open EM

/-- `m` keeps every property `P` of the undo log that it is asked to keep (used with `P` closed under the
    group-marker operations); early exits unconstrained -/
structure MkK (P : Changeset → Prop) {α : Type} (m : EM α) : Prop where
  h : ∀ s, P s.changes → wp m (fun _ s' => P s'.changes) (fun _ _ => True) s

namespace MkK
variable {P : Changeset → Prop} {α β : Type}

theorem pure (a : α) : MkK P (pure a : EM α) := ⟨fun _ h => h⟩
theorem bind {m : EM α} {f : α → EM β} (hm : MkK P m) (hf : ∀ a, MkK P (f a)) : MkK P (m >>= f) :=
  ⟨fun s hs => by rw [wp_bind]; exact wp_mono (hm.h s hs) (fun a s1 h1 => (hf a).h s1 h1) (fun _ _ h => h)⟩
theorem exit (o : Outcome) : MkK P (EM.exit o : EM α) := ⟨fun _ _ => trivial⟩
theorem get : MkK P EM.get := ⟨fun _ h => h⟩
theorem liftP (e : Except Panic α) : MkK P (EM.liftP e) := by
  constructor; intro s hs; unfold wp EM.liftP; cases e <;> simp only [] <;> first | exact hs | trivial
theorem of_core {m : EM α} (hk : Keeps Ed.core m) : MkK P m :=
  ⟨fun s h => wp_mono (hk.wp s) (fun _ s' hc => by rw [(Ed.core_eq hc).2.2.1]; exact h) (fun _ _ _ => trivial)⟩

end MkK

structure MarkerClosed (P : Changeset → Prop) : Prop where
  begin : ∀ c, P c → P c.begin.1
  end_ : ∀ c, P c → P c.end_.1

theorem mkK_changesBegin {P : Changeset → Prop} (hP : MarkerClosed P) : MkK P changesBegin :=
  ⟨fun s h => by rw [wp_changesBegin]; exact hP.begin _ h⟩
theorem mkK_changesEnd {P : Changeset → Prop} (hP : MarkerClosed P) : MkK P changesEnd :=
  ⟨fun s h => by rw [wp_changesEnd]; exact hP.end_ _ h⟩

section
variable (S : Segmenter) (U : UData) (cfg : EdCfg) {P : Changeset → Prop} (hP : MarkerClosed P)
include hP

omit hP in
theorem MkK.bindFact {α β : Type} {m : EM α} {f : α → EM β} {Q : α → Prop} (hm : MkK P m)
    (hQ : ∀ s a s', m s = .ok (a, s') → Q a) (hf : ∀ a, Q a → MkK P (f a)) : MkK P (m >>= f) :=
  ⟨fun s hs => wp_bind_fact hQ
    (wp_mono (hm.h s hs) (fun a s1 h1 hq => (hf a hq).h s1 h1) (fun _ _ h => h))⟩

omit hP in
theorem mkK_bound {β : Type} (keys : List KeyEvent) (n : Nat) (p : Bool) {f : Option Cmd → EM β}
    (hf : ∀ r, InBinds cfg r → MkK P (f r)) : MkK P (customBinding cfg keys n p >>= f) :=
  MkK.bindFact (MkK.of_core (keeps_customBinding cfg keys n p)) (customBinding_inBinds cfg keys n p) hf

theorem mkK_viPrims : ViPrims S U cfg (fun m => MkK P m) :=
  ViPrims.ofCore MkK.pure MkK.bind (mkK_bound cfg) MkK.of_core (mkK_changesBegin hP) (mkK_changesEnd hP)

/-- **`next_cmd` changes the undo log by group-marker operations only** (both modes) -/
theorem mkK_nextCmd (fuel : Nat) (sea iep : Bool) : MkK P (nextCmd S U cfg fuel sea iep) :=
  nextCmd_of_prims (fun _ => EmacsPrims.ofCore MkK.pure MkK.bind (mkK_bound cfg) MkK.of_core)
    (fun _ => mkK_viPrims S U cfg hP) (mkK_changesBegin hP) fuel sea iep

end
end Rl
