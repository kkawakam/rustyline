/-
  The undo-log invariant through the sub-loops (completion, incremental search), mode-generic — so also
  in vi mode, where a key that leaves insert mode inside a sub-loop pops the sub-loop's `Begin`
  (finding D49).  The loop invariants:
    search:      the bottom `mark` entries replay some text to a PREFIX of the backed-up line (`BotGood`);
    completion:  above the sub-loop's `Begin` lies an entry that is not a `Begin` (`AboveNB`), so `end()`
                 never finds that `Begin` on top and nothing below it is ever touched.
  From `LoopI` on: the same for emacs mode alone with the simpler invariant `SubLog` (the sub-loop's `Begin`
  stays in place), subsumed by the `_both` lemmas.
-/
import Rl.Lemmas.EditorLogVi
import Rl.Lemmas.UndoBottom
import Rl.Lemmas.EditorLoops
namespace Rl
open EM

theorem markerClosed_botGood (bk : Text) (m : Nat) : MarkerClosed (fun c => BotGood bk m c.undos) where
  begin := fun c h => (botGood_marker (x := .begin) rfl c.undos).mpr h
  end_ := fun c h => botGood_endLoop c.level c.undos false h

/-- cutting back to the mark (as the abort paths do) leaves a log that replays like the bottom part -/
theorem truncateClosed_replay (c : Changeset) (m : Nat) (t0 t : Text)
    (h : replayLog (c.undos.drop (c.undos.length - m)).reverse t0 = some t) :
    replayLog (c.truncateClosed m).undos.reverse t0 = some t := by
  unfold Changeset.truncateClosed
  split
  · exact (C05_log_markers (c.truncate m) t0 t h).2
  · exact h

theorem markerClosed_aboveNB (base : List Change) : MarkerClosed (fun c => AboveNB base c.undos) where
  begin := fun c ⟨above, hu, x, hx, hne⟩ =>
    ⟨.begin :: above, by show Change.begin :: c.undos = _; rw [hu]; rfl, x, List.mem_cons_of_mem _ hx, hne⟩
  end_ := fun c ⟨above, hu, h⟩ => by
    show AboveNB base (Changeset.endLoop c.level c.undos false).1
    rw [hu]; exact aboveNB_endLoop _ _ _ h

section
variable (S : Segmenter) (U : UData) (cfg : EdCfg)

theorem wp_lb_update_top {b : Text} {p : Nat} {s : Ed} {Q : Unit → Ed → Prop}
    (hc : s.line.canGrow = true)
    (hq : Q () { s with line := s.line.updated b p,
                        changes := s.changes.onNotifs S U.alnum (updNotifs s.line.buf b) }) :
    wp (lb S U (LB.update S U b p)) Q (fun _ _ => True) s := by
  by_cases hp : p ≤ blen b
  · exact wp_lb_update S U hc hp hq
  · refine wp_lb_any S U (fun a l ns ho => ?_) trivial
    exfalso
    simp [LB.update, hp, LM.bind_apply, LM.panic] at ho

def SrchI (bk : Text) (m : Nat) (s : Ed) : Prop :=
  m ≤ s.changes.undos.length ∧ BotGood bk m s.changes.undos ∧ s.line.canGrow = true ∧ UndoLogInv s

theorem SrchI.of_core {bk : Text} {m : Nat} {s s' : Ed} (h : SrchI bk m s) (hc : s'.core = s.core) : SrchI bk m s' := by
  obtain ⟨l, _, c, _⟩ := Ed.core_eq hc
  obtain ⟨h1, h2, h3, t0, h4⟩ := h
  exact ⟨by rw [c]; exact h1, by rw [c]; exact h2, by rw [l]; exact h3, t0, by rw [c, l]; exact h4⟩

theorem srchI_nextCmd {bk : Text} {m : Nat} {fuel : Nat} {sea iep : Bool} {s : Ed}
    (h : SrchI bk m s) {Q : Cmd → Ed → Prop}
    (hq : ∀ c s', SrchI bk (min m s'.changes.undos.length) s' → s'.line = s.line → Q c s') :
    wp (nextCmd S U cfg fuel sea iep) Q (fun _ _ => True) s := by
  have w1 : wp (nextCmd S U cfg fuel sea iep) (fun _ s' => s'.coreNC = s.coreNC) (fun _ _ => True) s :=
    wp_nextCmd S U cfg (fun _ _ h => h) (fun _ _ _ => trivial)
  have w2 := (mkK_nextCmd S U cfg (markerClosed_botGood bk m) fuel sea iep).h s h.2.1
  have w3 := (logK_nextCmd S U cfg fuel sea iep).h s h.2.2.2
  refine wp_mono (wp_and_left w1 (wp_and_left w2 w3)) ?_ (fun _ _ h => h)
  intro c s' ⟨hnc, hb, hj⟩
  obtain ⟨l, _, _⟩ := Ed.coreNC_eq hnc
  exact hq c s' ⟨Nat.min_le_right _ _, botGood_min.mpr hb, by rw [l]; exact h.2.2.1, hj⟩ l

theorem srchI_lb_update {bk : Text} {m : Nat} (b : Text) (p : Nat) {s : Ed} (h : SrchI bk m s)
    {Q : Unit → Ed → Prop} (hq : ∀ s', SrchI bk m s' → s'.line.buf = b → Q () s') :
    wp (lb S U (LB.update S U b p)) Q (fun _ _ => True) s := by
  obtain ⟨h1, h2, h3, t0, h4⟩ := h
  refine wp_lb_update_top S U h3 (hq _ ?_ rfl)
  obtain ⟨g1, g2⟩ := botGood_update S U.alnum s.changes s.line.buf b t0 h4 h1 h2
  refine ⟨g1, g2, h3, t0, ?_⟩
  have hn : replayNotifs (updNotifs s.line.buf b) s.line.buf = some b := by
    have e1 : applyFwd (.delete 0 s.line.buf) s.line.buf = some [] :=
      applyFwd_delete.mpr ⟨[], [], by simp, rfl, rfl⟩
    have e2 : applyFwd (.insert 0 b) [] = some b :=
      applyFwd_insert.mpr ⟨[], [], rfl, rfl, by simp⟩
    simp only [updNotifs, replayNotifs, applyNotif, e1, e2]
  exact C05_log_replay S U.alnum s.changes _ t0 s.line.buf b h4 hn

/-- **the incremental search keeps the undo-log invariant, whatever is typed inside it** (both modes) -/
theorem logK_searchLoop (backup : Text) (backupPos : Nat) :
    ∀ (fuel : Nat) (m : Nat) (sb : Text) (hi : Nat) (d : Dir) (succ : Bool) (s : Ed), SrchI backup m s →
      wp (searchLoop S U cfg m backup backupPos fuel sb hi d succ)
        (fun _ s' => UndoLogInv s') (fun _ _ => True) s := by
  refine wp_searchLoop S U cfg (L := SrchI backup) backup backupPos (fun _ _ _ => trivial) ?_ ?_ ?_ ?_ ?_
  · intro m p s hs
    exact wp_refreshPromptAndLine S U cfg (fun s2 hc2 => hs.of_core hc2) (fun _ _ _ => trivial)
  · intro m fuel s hs
    exact srchI_nextCmd S U cfg hs (fun _ s3 hs3 _ => hs3)
  · intro m _ _ _ _ e p s _ hs
    exact srchI_lb_update S U e p hs (fun s4 hs4 _ => hs4)
  · intro m s hs
    simp only [wp_bind]
    refine srchI_lb_update S U backup backupPos hs (fun s4 hs4 hb4 => ?_)
    refine wp_refreshLine S U cfg (fun s5 hc5 => ?_) (fun _ _ _ => trivial)
    simp only [truncateChanges, wp_modify, wp_pure]
    obtain ⟨_, ⟨t0, p, w, hr, hbk⟩, _, _⟩ := hs4.of_core hc5
    obtain ⟨l5, _, c5, _⟩ := Ed.core_eq hc5
    exact undoLogInv_of_prefix (s := { s5 with changes := s5.changes.truncateClosed m }) (t0 := t0) (p := p) (w := w)
      (truncateClosed_replay s5.changes m t0 p hr)
      (by show s5.line.buf = p ++ w; rw [l5, hb4]; exact hbk)
  · intro m cmd s hs
    simp only [wp_bind]
    refine wp_refreshLine S U cfg (fun s4 hc4 => ?_) (fun _ _ _ => trivial)
    simp only [wp_changesEnd, wp_pure]
    obtain ⟨t0, h3⟩ := (hs.of_core hc4).2.2.2
    exact ⟨t0, (C05_log_markers s4.changes t0 _ h3).2⟩

theorem logJ_reverseIncrementalSearch_both (fuel : Nat) (s : Ed) (hg : s.line.canGrow = true) (hj : UndoLogInv s) :
    wp (reverseIncrementalSearch S U cfg fuel) (fun _ s' => UndoLogInv s') (fun _ _ => True) s := by
  unfold reverseIncrementalSearch
  split
  · rw [wp_pure]; exact hj
  · simp only [wp_bind, wp_changesBegin, wp_getLine]
    obtain ⟨t0, h0⟩ := hj
    refine logK_searchLoop S U cfg _ _ fuel _ _ _ _ _ _ ⟨?_, ?_, hg, t0, (C05_log_markers s.changes t0 _ h0).1⟩
    · show s.changes.undos.length ≤ (Change.begin :: s.changes.undos).length
      simp only [List.length_cons]; omega
    · refine (botGood_push (bk := s.line.buf) Change.begin (Nat.le_refl _)).mpr ⟨t0, s.line.buf, [], ?_, by simp⟩
      rw [Nat.sub_self, List.drop_zero]; exact h0


/-- the invariant of the completion loop once it has logged its first `replace` -/
def CompI (base : List Change) (s : Ed) : Prop :=
  AboveNB base s.changes.undos ∧ s.line.canGrow = true ∧ UndoLogInv s

theorem CompI.of_core {base : List Change} {s s' : Ed} (h : CompI base s) (hc : s'.core = s.core) : CompI base s' := by
  obtain ⟨l, _, c, _⟩ := Ed.core_eq hc
  obtain ⟨h1, h3, t0, h4⟩ := h
  exact ⟨by rw [c]; exact h1, by rw [l]; exact h3, t0, by rw [c, l]; exact h4⟩

theorem compI_nextCmd {base : List Change} {fuel : Nat} {sea iep : Bool} {s : Ed}
    (h : CompI base s) {Q : Cmd → Ed → Prop}
    (hq : ∀ c s', CompI base s' → s'.line = s.line → Q c s') :
    wp (nextCmd S U cfg fuel sea iep) Q (fun _ _ => True) s := by
  have w1 : wp (nextCmd S U cfg fuel sea iep) (fun _ s' => s'.coreNC = s.coreNC) (fun _ _ => True) s :=
    wp_nextCmd S U cfg (fun _ _ h => h) (fun _ _ _ => trivial)
  have w2 := (mkK_nextCmd S U cfg (markerClosed_aboveNB base) fuel sea iep).h s h.1
  have w3 := (logK_nextCmd S U cfg fuel sea iep).h s h.2.2
  refine wp_mono (wp_and_left w1 (wp_and_left w2 w3)) ?_ (fun _ _ h => h)
  intro c s' ⟨hnc, hb, hj⟩
  obtain ⟨l, _, _⟩ := Ed.coreNC_eq hnc
  exact hq c s' ⟨hb, by rw [l]; exact h.2.1, hj⟩ l

theorem compI_lb_update {base : List Change} (b : Text) (p : Nat) {s : Ed} (h : CompI base s)
    {Q : Unit → Ed → Prop} (hq : ∀ s', CompI base s' → (p ≤ blen b → s'.line.buf = b) → Q () s') :
    wp (lb S U (LB.update S U b p)) Q (fun _ _ => True) s := by
  obtain ⟨h1, h2, t0, h3⟩ := h
  refine wp_lb_any S U (fun a l ns ho => ?_) trivial
  refine hq _ ⟨aboveNB_onNotifs S U.alnum ns _ h1, LB.update_keeps_canGrow S U ho h2, t0, ?_⟩ ?_
  · exact C05_log_replay S U.alnum s.changes ns t0 s.line.buf l.buf h3
      (replayNotifs_of_replay ns ((Replays.update S U b p).h _ _ _ _ ho))
  · intro hp
    rw [LB.update_canGrow S U b p s.line h2 hp] at ho
    cases ho; rfl

/-- **the circular completion keeps the undo-log invariant, whatever is typed inside it** (both modes): the
    loop logs its first `replace` before it reads a key, so `end()` never finds the loop's `Begin` on top,
    the mark is never lowered and nothing below it is touched -/
theorem logK_completeCircular (base : List Change) (start : Nat) (cands : List Text)
    (backup : Text) (backupPos : Nat) (hbp : backupPos ≤ blen backup)
    (hent : ∃ t0, replayLog base.reverse t0 = some backup) :
    ∀ (fuel i : Nat) (s : Ed),
      (AboveNB base s.changes.undos ∨ (s.changes.undos = Change.begin :: base ∧ i < cands.length)) →
      s.line.canGrow = true → UndoLogInv s →
      wp (completeCircular S U cfg start cands base.length backup backupPos fuel i)
        (fun _ s' => UndoLogInv s') (fun _ _ => True) s := by
  intro fuel i s hsh hg hj
  have fin : ∀ s5 : Ed, CompI base s5 → s5.line.buf = backup →
      UndoLogInv ({ s5 with changes := s5.changes.truncateClosed base.length } : Ed) := by
    intro s5 hs5 hb5
    obtain ⟨t0, ht0⟩ := hent
    refine ⟨t0, ?_⟩
    show replayLog (s5.changes.truncateClosed base.length).undos.reverse t0 = some s5.line.buf
    rw [hb5]
    exact truncateClosed_replay _ _ _ _ (by rw [(aboveNB_facts hs5.1).2]; exact ht0)
  -- the mark never moves: it stays below the loop's own `Begin`
  refine wp_completeCircular S U cfg
    (P := fun m i s => m = base.length ∧
      (AboveNB base s.changes.undos ∨ (s.changes.undos = Change.begin :: base ∧ i < cands.length)) ∧
      s.line.canGrow = true ∧ UndoLogInv s)
    (L := fun m i s => m = base.length ∧ CompI base s ∧ (cands.length ≤ i → s.line.buf = backup))
    start cands backup backupPos (fun _ _ _ _ => trivial) ?_ ?_ ?_ ?_ ?_ ?_ ?_ fuel base.length i s ⟨rfl, hsh, hg, hj⟩
  · intro m i hi s ⟨hm, hsh, hg, t0, h3⟩
    refine wp_lb_any S U (fun a l ns ho => ⟨hm, ⟨?_, (LB.replace_canGrow S U ho).trans hg, t0,
      C05_log_replay S U.alnum s.changes ns t0 s.line.buf l.buf h3
        (replayNotifs_of_replay ns ((Replays.replace S U _ _ _).h _ _ _ _ ho))⟩, fun hge => by omega⟩) trivial
    rcases hsh with h | ⟨h, _⟩
    · exact aboveNB_onNotifs S U.alnum ns _ h
    · have hns : ∃ a y t, ns = [Notif.repl a y t] := by
        unfold LB.replace at ho
        split at ho
        · cases ho; exact ⟨_, _, _, rfl⟩
        · cases ho
      obtain ⟨a', y, t, rfl⟩ := hns
      show AboveNB base (s.changes.replace a' y t).undos
      rw [Changeset.replace_undos, h]
      exact ⟨[Change.replace a' y t], rfl, _, List.mem_cons_self, by intro hc; cases hc⟩
  · intro m i s hge ⟨hm, hsh, hg, hj⟩
    have hs0 : CompI base s := by
      rcases hsh with h | ⟨_, h⟩
      · exact ⟨h, hg, hj⟩
      · omega
    exact compI_lb_update S U backup backupPos hs0 (fun s1 hs1 hb1 => ⟨hm, hs1, fun _ => hb1 hbp⟩)
  · intro m i s ⟨hm, hs, hb⟩
    exact wp_refreshLine S U cfg (fun s2 hc2 => ⟨hm, hs.of_core hc2, by rw [(Ed.core_eq hc2).1]; exact hb⟩)
      (fun _ _ _ => trivial)
  · intro m i fuel s ⟨hm, hs, hb⟩
    refine compI_nextCmd S U cfg hs (fun cmd s3 hs3 hl3 => ⟨?_, hs3, by rw [hl3]; exact hb⟩)
    rw [hm, Nat.min_eq_left (Nat.le_of_lt (aboveNB_facts hs3.1).1)]
  · intro m i j s ⟨hm, hs, _⟩
    exact ⟨hm, .inl hs.1, hs.2.1, hs.2.2⟩
  · intro m i s ⟨hm, hs, hb⟩
    subst hm
    by_cases hlt : i < cands.length
    · rw [if_pos hlt]
      simp only [wp_bind]
      refine compI_lb_update S U backup backupPos hs (fun s4 hs4 hb4 => ?_)
      refine wp_refreshLine S U cfg (fun s5 hc5 => ?_) (fun _ _ _ => trivial)
      simp only [truncateChanges, wp_modify, wp_pure]
      exact fin s5 (hs4.of_core hc5) (by rw [(Ed.core_eq hc5).1]; exact hb4 hbp)
    · rw [if_neg hlt]
      simp only [wp_pure, wp_bind, truncateChanges, wp_modify]
      exact fin s hs (hb (by omega))
  · intro m i cmd s ⟨_, hs, _⟩
    simp only [wp_bind, wp_changesEnd, wp_pure]
    obtain ⟨t0, h3⟩ := hs.2.2
    exact ⟨t0, (C05_log_markers s.changes t0 _ h3).2⟩

theorem logJ_completeLine_both (fuel : Nat) (s : Ed) (hg : s.line.canGrow = true)
    (hp : s.line.pos ≤ blen s.line.buf) (hj : UndoLogInv s) :
    wp (completeLine S U cfg fuel) (fun _ s' => UndoLogInv s') (fun _ _ => True) s := by
  have hn := fun fuel sea iep => logK_nextCmd S U cfg fuel sea iep
  have P := logK_execPrims S U cfg
  unfold completeLine
  simp only [wp_bind, wp_getLine]
  refine wp_if (fun _ => hj) fun hne => wp_if (fun _ => ?_) fun _ => ?_
  · simp only [wp_bind, wp_changesBegin]
    obtain ⟨t0, h0⟩ := hj
    refine logK_completeCircular S U cfg s.changes.undos _ _ _ _ hp ⟨t0, h0⟩ fuel 0 _
      (.inr ⟨rfl, ?_⟩) hg ⟨t0, (C05_log_markers s.changes t0 _ h0).1⟩
    cases hc : (cfg.completer s.line.buf s.line.pos).2 with
    | nil => rw [hc] at hne; simp at hne
    | cons a as => simp
  · have hk : LogK (do
        match lcpChars (cfg.completer s.line.buf s.line.pos).2 with
        | some lcp => do
          if (cfg.completer s.line.buf s.line.pos).1 > s.line.pos then exit .panic
          if blen lcp > s.line.pos - (cfg.completer s.line.buf s.line.pos).1 ||
              (cfg.completer s.line.buf s.line.pos).2.length == 1 then do
            lb S U (LB.replace S U (cfg.completer s.line.buf s.line.pos).1 s.line.pos lcp)
            refreshLine S U cfg
        | none => pure ()
        if (cfg.completer s.line.buf s.line.pos).2.length ≤ 1 then pure none
        else do
          let cmd ← nextCmd S U cfg fuel true true
          if cmd != .complete then pure (some cmd)
          else do
            let savePos ← (fun s => .ok (s.line.pos, s) : EM Nat)
            editMove S U cfg (LB.moveEnd S U)
            lbQuiet (LB.setPosChecked S U savePos)
            refreshLine S U cfg
            pure none : EM (Option Cmd)) := by
      em_walk [LogK.pure, LogK.bind, LogK.bind', LogK.read, LogK.exit, hn, P.lb (.replace _ _ _), P.refreshLine,
        P.toUnits.editMove .moveEnd, P.setPos]
    have t := hk.h s hj
    exact t

/-- **the dispatch loop keeps the undo-log invariant** — both modes, from the read invariant -/
theorem logJ_preCmds_both (H : RdHyp S U cfg) : ∀ (fuel : Nat) (cmd : Cmd) (s : Ed),
    RdInv cfg s → UndoLogInv s →
    wp (preCmds S U cfg fuel cmd) (fun _ s' => UndoLogInv s') (fun _ _ => True) s := by
  intro fuel
  induction fuel with
  | zero => intro cmd s _ _; unfold preCmds; exact trivial
  | succ fuel ih =>
    intro cmd s h hj
    have hp : s.line.pos ≤ blen s.line.buf := (h.1.line : IsBoundary _ _).le_len
    unfold preCmds
    split
    · rw [wp_bind]
      refine wp_mono (wp_and_left (safe_completeLine S U cfg H fuel h)
        (logJ_completeLine_both S U cfg fuel s h.2.1 hp hj)) ?_ (fun _ _ _ => trivial)
      intro r s1 ⟨h1, hj1⟩
      cases r with
      | none => exact hj1
      | some next => exact ih next s1 h1 hj1
    · split
      · rw [wp_bind]
        refine wp_mono (wp_and_left (safe_reverseIncrementalSearch S U cfg H fuel h)
          (logJ_reverseIncrementalSearch_both S U cfg fuel s h.2.1 hj)) ?_ (fun _ _ _ => trivial)
        intro r s1 ⟨h1, hj1⟩
        cases r with
        | none => exact hj1
        | some next => exact ih next s1 h1 hj1
      · exact hj


def LoopI (c0 : Changeset) (s : Ed) : Prop :=
  SubLog S U c0 s.changes ∧ s.line.canGrow = true ∧ UndoLogInv s

theorem LoopI.of_core {c0 : Changeset} {s s' : Ed} (h : LoopI S U c0 s) (hc : s'.core = s.core) : LoopI S U c0 s' := by
  obtain ⟨l, _, c, _⟩ := Ed.core_eq hc
  obtain ⟨h1, h2, t0, h3⟩ := h
  exact ⟨by rw [c]; exact h1, by rw [l]; exact h2, t0, by rw [c, l]; exact h3⟩

theorem loopI_nextCmd (hvi : cfg.vi = false) {c0 : Changeset} {fuel : Nat} {sea iep : Bool} {s : Ed}
    (h : LoopI S U c0 s) {Q : Cmd → Ed → Prop} (hq : ∀ c s', LoopI S U c0 s' → s'.line = s.line → Q c s') :
    wp (nextCmd S U cfg fuel sea iep) Q (fun _ _ => True) s := by
  have w1 : wp (nextCmd S U cfg fuel sea iep) (fun _ s' => s'.coreNC = s.coreNC) (fun _ _ => True) s :=
    wp_nextCmd S U cfg (fun _ _ h => h) (fun _ _ _ => trivial)
  have w2 : wp (nextCmd S U cfg fuel sea iep)
      (fun _ s' => s'.changes = s.changes ∨ s'.changes = s.changes.begin.1) (fun _ _ => True) s :=
    wp_nextCmd_emacs_changes S U cfg hvi (fun _ _ h => h)
  refine wp_mono (wp_and_left w1 w2) ?_ (fun _ _ h => h)
  intro c s' ⟨hnc, hch⟩
  obtain ⟨l, _, _⟩ := Ed.coreNC_eq hnc
  obtain ⟨h1, h2, t0, h3⟩ := h
  refine hq c s' ?_ l
  rcases hch with e | e
  · exact ⟨by rw [e]; exact h1, by rw [l]; exact h2, t0, by rw [e, l]; exact h3⟩
  · exact ⟨by rw [e]; exact h1.begin, by rw [l]; exact h2, t0, by
      rw [e, l]; exact (C05_log_markers s.changes t0 _ h3).1⟩

theorem loopI_lb_update {c0 : Changeset} (b : Text) (p : Nat) {s : Ed} (h : LoopI S U c0 s)
    {Q : Unit → Ed → Prop} (hq : ∀ s', LoopI S U c0 s' → (p ≤ blen b → s'.line.buf = b) → Q () s') :
    wp (lb S U (LB.update S U b p)) Q (fun _ _ => True) s := by
  obtain ⟨h1, h2, t0, h3⟩ := h
  refine wp_lb_any S U (fun a l ns ho => ?_) trivial
  refine hq _ ⟨h1.notifs ns, LB.update_keeps_canGrow S U ho h2, t0, ?_⟩ ?_
  · exact C05_log_replay S U.alnum s.changes ns t0 s.line.buf l.buf h3
      (replayNotifs_of_replay ns ((Replays.update S U b p).h _ _ _ _ ho))
  · intro hp
    rw [LB.update_canGrow S U b p s.line h2 hp] at ho
    cases ho; rfl

theorem logK_searchLoop_emacs (hvi : cfg.vi = false) (c0 : Changeset) (backup : Text) (backupPos : Nat)
    (hbp : backupPos ≤ blen backup) (hent : ∃ t0, replayLog c0.undos.reverse t0 = some backup) :
    ∀ (fuel : Nat) (sb : Text) (hi : Nat) (d : Dir) (succ : Bool) (s : Ed), LoopI S U c0 s →
      wp (searchLoop S U cfg c0.undos.length backup backupPos fuel sb hi d succ)
        (fun _ s' => UndoLogInv s') (fun _ _ => True) s := by
  intro fuel sb hi d succ s ⟨hsub, hg, hj⟩
  obtain ⟨hlt, hlv, htr, _⟩ := hsub.facts
  obtain ⟨t0, ht0⟩ := hent
  refine logK_searchLoop S U cfg backup backupPos fuel _ sb hi d succ s
    ⟨Nat.le_of_lt hlt, ⟨t0, backup, [], ?_, by simp⟩, hg, hj⟩
  -- cutting an open log back to the mark keeps exactly its bottom `mark` entries
  have hlv' : (s.changes.level == 0) = false := by simpa using hlv
  unfold Changeset.truncateClosed at htr
  rw [hlv'] at htr
  have : s.changes.undos.drop (s.changes.undos.length - c0.undos.length) = c0.undos := htr
  rw [this]; exact ht0

theorem logK_completeCircular_emacs (hvi : cfg.vi = false) (c0 : Changeset) (start : Nat) (cands : List Text)
    (backup : Text) (backupPos : Nat) (hbp : backupPos ≤ blen backup)
    (hent : ∃ t0, replayLog c0.undos.reverse t0 = some backup) :
    ∀ (fuel i : Nat) (s : Ed), LoopI S U c0 s →
      wp (completeCircular S U cfg start cands c0.undos.length backup backupPos fuel i)
        (fun _ s' => UndoLogInv s') (fun _ _ => True) s := by
  intro fuel i s hs
  have fin : ∀ s5 : Ed, LoopI S U c0 s5 → s5.line.buf = backup →
      UndoLogInv ({ s5 with changes := s5.changes.truncateClosed c0.undos.length } : Ed) := by
    intro s5 hs5 hb5
    obtain ⟨t0, ht0⟩ := hent
    refine ⟨t0, ?_⟩
    show replayLog (s5.changes.truncateClosed c0.undos.length).undos.reverse t0 = some s5.line.buf
    rw [(hs5.1.facts).2.2.1, hb5]; exact ht0
  refine wp_completeCircular S U cfg
    (P := fun m _ s => m = c0.undos.length ∧ LoopI S U c0 s)
    (L := fun m i s => m = c0.undos.length ∧ LoopI S U c0 s ∧ (cands.length ≤ i → s.line.buf = backup))
    start cands backup backupPos (fun _ _ _ _ => trivial) ?_ ?_ ?_ ?_ (fun _ _ _ _ h => ⟨h.1, h.2.1⟩) ?_ ?_
    fuel c0.undos.length i s ⟨rfl, hs⟩
  · intro m i hi s ⟨hm, h1, h2, t0, h3⟩
    exact wp_lb_any S U (fun a l ns ho => ⟨hm, ⟨h1.notifs ns, (LB.replace_canGrow S U ho).trans h2, t0,
      C05_log_replay S U.alnum s.changes ns t0 s.line.buf l.buf h3
        (replayNotifs_of_replay ns ((Replays.replace S U _ _ _).h _ _ _ _ ho))⟩, fun hge => by omega⟩) trivial
  · intro m i s _ ⟨hm, hs⟩
    exact loopI_lb_update S U backup backupPos hs (fun s1 hs1 hb1 => ⟨hm, hs1, fun _ => hb1 hbp⟩)
  · intro m i s ⟨hm, hs, hb⟩
    exact wp_refreshLine S U cfg (fun s2 hc2 => ⟨hm, hs.of_core S U hc2, by rw [(Ed.core_eq hc2).1]; exact hb⟩)
      (fun _ _ _ => trivial)
  · intro m i fuel s ⟨hm, hs, hb⟩
    refine loopI_nextCmd S U cfg hvi hs (fun cmd s3 hs3 hl3 => ⟨?_, hs3, by rw [hl3]; exact hb⟩)
    rw [hm, Nat.min_eq_left (Nat.le_of_lt hs3.1.facts.1)]
  · intro m i s ⟨hm, hs, hb⟩
    subst hm
    by_cases hlt : i < cands.length
    · rw [if_pos hlt]
      simp only [wp_bind]
      refine loopI_lb_update S U backup backupPos hs (fun s4 hs4 hb4 => ?_)
      refine wp_refreshLine S U cfg (fun s5 hc5 => ?_) (fun _ _ _ => trivial)
      simp only [truncateChanges, wp_modify, wp_pure]
      exact fin s5 (hs4.of_core S U hc5) (by rw [(Ed.core_eq hc5).1]; exact hb4 hbp)
    · rw [if_neg hlt]
      simp only [wp_pure, wp_bind, truncateChanges, wp_modify]
      exact fin s hs (hb (by omega))
  · intro m i cmd s ⟨_, hs, _⟩
    simp only [wp_bind, wp_changesEnd, wp_pure]
    obtain ⟨t0, h3⟩ := hs.2.2
    exact ⟨t0, (C05_log_markers s.changes t0 _ h3).2⟩

theorem logJ_reverseIncrementalSearch (hvi : cfg.vi = false) (fuel : Nat) (s : Ed) (hg : s.line.canGrow = true)
    (hp : s.line.pos ≤ blen s.line.buf) (hj : UndoLogInv s) :
    wp (reverseIncrementalSearch S U cfg fuel) (fun _ s' => UndoLogInv s') (fun _ _ => True) s :=
  logJ_reverseIncrementalSearch_both S U cfg fuel s hg hj

theorem logJ_completeLine (hvi : cfg.vi = false) (fuel : Nat) (s : Ed) (hg : s.line.canGrow = true)
    (hp : s.line.pos ≤ blen s.line.buf) (hj : UndoLogInv s) :
    wp (completeLine S U cfg fuel) (fun _ s' => UndoLogInv s') (fun _ _ => True) s :=
  logJ_completeLine_both S U cfg fuel s hg hp hj

/-- **the dispatch loop keeps the undo-log invariant** (emacs mode, from the read invariant) -/
theorem logJ_preCmds (H : RdHyp S U cfg) (hvi : cfg.vi = false) : ∀ (fuel : Nat) (cmd : Cmd) (s : Ed),
    RdInv cfg s → UndoLogInv s →
    wp (preCmds S U cfg fuel cmd) (fun _ s' => UndoLogInv s') (fun _ _ => True) s :=
  logJ_preCmds_both S U cfg H

end
end Rl
