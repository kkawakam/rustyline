/-
  Loop invariants for the sub-loops of `src/lib.rs` in the editor model: circular completion
  (`completeCircular`) and incremental search (`searchLoop`).  All invariants take the undo-log mark of the loop
  as first argument (reading a key may lower it, `lowerMark`).  Completion: `wp_completeCircular_turns` when the
  invariant speaks about a whole turn (`circTurn`) and the command it decoded, `wp_completeCircular` (an instance)
  when it is carried step by step (`P` at the head of an iteration, `L` once the candidate is in the line).
  Search: `wp_searchLoop_prompt` with a second invariant `A` after the prompt repaint, `wp_searchLoop` with one.
-/
import Rl.Lemmas.EditorM
import Rl.Lemmas.EditorOps
import Rl.Lemmas.EditorFrame
import Rl.Lemmas.Keymap
namespace Rl
variable (S : Segmenter) (U : UData) (cfg : EdCfg)

theorem wp_lowerMark {mark : Nat} {Q : Nat → Ed → Prop} {E : Outcome → Ed → Prop} {s : Ed} :
    wp (lowerMark mark) Q E s = Q (min mark s.changes.undos.length) s := rfl

/-- not one of the three keys the circular loop handles itself -/
def Cmd.endsCompletion (cmd : Cmd) : Prop := cmd ≠ .complete ∧ cmd ≠ .completeBackward ∧ cmd ≠ .abort

/-- one turn of the circular loop up to the decoded command: show index `i`, repaint, read a command -/
def circTurn (start : Nat) (cands : List Text) (backup : Text) (backupPos : Nat) (fuel i : Nat) : EM Cmd := do
  if i < cands.length then
    match cands[i]? with
    | some c => do
      let l ← getLine
      lb S U (LB.replace S U start l.pos c)
    | none => pure ()
  else lb S U (LB.update S U backup backupPos)
  refreshLine S U cfg
  nextCmd S U cfg fuel true true

/-- the `Abort` arm of the loop: put the original text back if a candidate is shown, cut the undo log -/
def circAbort (cands : List Text) (mark : Nat) (backup : Text) (backupPos : Nat) (i : Nat) : EM (Option Cmd) := do
  if i < cands.length then do
    lb S U (LB.update S U backup backupPos)
    refreshLine S U cfg
  truncateChanges mark
  pure none

theorem completeCircular_succ (start : Nat) (cands : List Text) (mark : Nat) (backup : Text) (backupPos : Nat)
    (fuel i : Nat) :
    completeCircular S U cfg start cands mark backup backupPos (fuel + 1) i = (do
      let cmd ← circTurn S U cfg start cands backup backupPos fuel i
      let mark ← lowerMark mark
      match cmd with
      | .complete => completeCircular S U cfg start cands mark backup backupPos fuel (compNext cands.length i)
      | .completeBackward => completeCircular S U cfg start cands mark backup backupPos fuel (compPrev cands.length i)
      | .abort => circAbort S U cfg cands mark backup backupPos i
      | _ => do
        let _ ← changesEnd
        pure (some cmd)) := by
  conv => lhs; unfold completeCircular
  unfold circTurn circAbort
  by_cases hlt : i < cands.length
  · simp only [if_pos hlt]
    cases cands[i]? with
    | none => simp only [EM.bind_assoc']; rfl
    | some c => simp only [EM.bind_assoc']; rfl
  · simp only [if_neg hlt]
    simp only [EM.bind_assoc']; rfl

/-- The circular completion turn by turn: `I mark i s` at the head of an iteration, `T mark i cmd s` when the
    turn for index `i` has decoded `cmd` and the mark has been lowered. -/
theorem wp_completeCircular_turns {start : Nat} {cands : List Text} {backup : Text} {backupPos : Nat}
    {I : Nat → Nat → Ed → Prop} {T : Nat → Nat → Cmd → Ed → Prop} {Q : Option Cmd → Ed → Prop}
    {E : Outcome → Ed → Prop}
    (hfuel : ∀ m i s, I m i s → E .fuel s)
    (hturn : ∀ fuel m i s, I m i s → wp (circTurn S U cfg start cands backup backupPos fuel i)
      (fun cmd s' => T (min m s'.changes.undos.length) i cmd s') E s)
    (hnext : ∀ m i s, T m i .complete s → I m (compNext cands.length i) s)
    (hprev : ∀ m i s, T m i .completeBackward s → I m (compPrev cands.length i) s)
    (habort : ∀ m i s, T m i .abort s → wp (circAbort S U cfg cands m backup backupPos i) Q E s)
    (hother : ∀ m i s cmd, Cmd.endsCompletion cmd → T m i cmd s → Q (some cmd) { s with changes := s.changes.end_.1 }) :
    ∀ fuel m i s, I m i s → wp (completeCircular S U cfg start cands m backup backupPos fuel i) Q E s := by
  intro fuel
  induction fuel with
  | zero => intro m i s h; unfold completeCircular; exact hfuel m i s h
  | succ fuel ih =>
    intro m i s hI
    rw [completeCircular_succ, wp_bind]
    refine wp_mono (hturn fuel m i s hI) (fun cmd s1 hT => ?_) (fun _ _ he => he)
    rw [wp_bind, wp_lowerMark]
    split
    · exact ih _ _ _ (hnext _ i s1 hT)
    · exact ih _ _ _ (hprev _ i s1 hT)
    · exact habort _ i s1 hT
    · rename_i h1 h2 h3
      simp only [wp_bind, wp_changesEnd, wp_pure]
      exact hother _ i s1 _ ⟨h1, h2, h3⟩ hT

/-- The same with the turn spelled out in its steps: `P mark i s` at the head of an iteration, `L mark i s`
    once candidate `i` (or the backed-up text, for `i` past the candidates) has been put into the line. -/
theorem wp_completeCircular {P L : Nat → Nat → Ed → Prop} {Q : Option Cmd → Ed → Prop} {E : Outcome → Ed → Prop}
    (start : Nat) (cands : List Text) (backup : Text) (backupPos : Nat)
    (hfuel : ∀ m i s, P m i s → E .fuel s)
    (hcand : ∀ m i (hi : i < cands.length) s, P m i s →
      wp (lb S U (LB.replace S U start s.line.pos cands[i])) (fun _ s' => L m i s') E s)
    (hback : ∀ m i s, cands.length ≤ i → P m i s →
      wp (lb S U (LB.update S U backup backupPos)) (fun _ s' => L m i s') E s)
    (hrefresh : ∀ m i s, L m i s → wp (refreshLine S U cfg) (fun _ s' => L m i s') E s)
    (hnext : ∀ m i fuel s, L m i s →
      wp (nextCmd S U cfg fuel true true) (fun _ s' => L (min m s'.changes.undos.length) i s') E s)
    (hagain : ∀ m i j s, L m i s → P m j s)
    (habort : ∀ m i s, L m i s →
      wp (do
        if i < cands.length then do
          lb S U (LB.update S U backup backupPos)
          refreshLine S U cfg
        truncateChanges m
        pure none) Q E s)
    (hdone : ∀ m i cmd s, L m i s → wp (do let _ ← changesEnd; pure (some cmd)) Q E s) :
    ∀ (fuel m i : Nat) (s : Ed), P m i s →
      wp (completeCircular S U cfg start cands m backup backupPos fuel i) Q E s := by
  refine wp_completeCircular_turns S U cfg (T := fun m i _ s => L m i s) hfuel ?_ (fun m i s h => hagain m i _ s h)
    (fun m i s h => hagain m i _ s h) habort fun m i s cmd _ h => ?_
  · intro fuel m i s h
    have rest : ∀ s1, L m i s1 → wp (refreshLine S U cfg) (fun _ s2 => wp (nextCmd S U cfg fuel true true)
        (fun _ s' => L (min m s'.changes.undos.length) i s') E s2) E s1 := fun s1 h1 =>
      wp_mono (hrefresh m i s1 h1) (fun _ s2 h2 => hnext m i fuel s2 h2) (fun _ _ he => he)
    unfold circTurn
    by_cases hlt : i < cands.length
    · rw [if_pos hlt, show cands[i]? = some cands[i] by simp [hlt]]
      simp only [wp_bind, wp_getLine]
      exact wp_mono (hcand m i hlt s h) (fun _ s1 h1 => rest s1 h1) (fun _ _ he => he)
    · rw [if_neg hlt]
      simp only [wp_bind]
      exact wp_mono (hback m i s (Nat.le_of_not_lt hlt) h) (fun _ s1 h1 => rest s1 h1) (fun _ _ he => he)
  · have := hdone m i cmd s h
    simp only [wp_bind, wp_changesEnd, wp_pure] at this
    exact this

theorem wp_circAbort_any {cands : List Text} {mark : Nat} {backup : Text} {backupPos : Nat} {i : Nat} {s : Ed}
    {Q : Option Cmd → Ed → Prop} (hq : ∀ s', Q none s') :
    wp (circAbort S U cfg cands mark backup backupPos i) Q (fun _ _ => True) s := by
  unfold circAbort
  split
  · simp only [wp_bind]
    refine wp_lb_any S U (fun a l ns ho => ?_) trivial
    refine wp_refreshLine S U cfg (fun s5 _ => ?_) (fun _ _ _ => trivial)
    exact hq _
  · exact hq _

/-- the abort arm on a growable line leaves the backed-up text and cursor (they are already there when
    the original text is shown) -/
theorem wp_circAbort_restores {cands : List Text} {mark : Nat} {backup : Text} {backupPos : Nat} {i : Nat} {s : Ed}
    (hbp : backupPos ≤ blen backup) (hg : s.line.canGrow = true)
    (hi : cands.length ≤ i → s.line.buf = backup ∧ s.line.pos = backupPos) {Q : Option Cmd → Ed → Prop}
    (hq : ∀ s' : Ed, s'.line.buf = backup → s'.line.pos = backupPos → s'.line.canGrow = true → Q none s') :
    wp (circAbort S U cfg cands mark backup backupPos i) Q (fun _ _ => True) s := by
  unfold circAbort
  by_cases hlt : i < cands.length
  · rw [if_pos hlt]
    simp only [wp_bind]
    refine wp_lb_update S U hg hbp ?_
    refine wp_refreshLine S U cfg (fun s4 hc4 => ?_) (fun _ _ _ => trivial)
    obtain ⟨l4, _⟩ := Ed.core_eq hc4
    simp only [truncateChanges, wp_modify, wp_pure]
    exact hq _ (by rw [l4]; rfl) (by rw [l4]; rfl) (by rw [l4]; exact hg)
  · rw [if_neg hlt]
    obtain ⟨a, b⟩ := hi (Nat.le_of_not_lt hlt)
    exact hq _ a b hg

/-- circular completion: an aborted loop (result `none`) leaves exactly the backed-up text and cursor -/
theorem completeCircular_abort (start : Nat) (cands : List Text) (mark : Nat) (backup : Text) (backupPos : Nat)
    (hbp : backupPos ≤ blen backup) :
    ∀ (fuel i : Nat) (s : Ed), s.line.canGrow = true →
      wp (completeCircular S U cfg start cands mark backup backupPos fuel i)
        (fun r s' => r = none → s'.line.buf = backup ∧ s'.line.pos = backupPos ∧ s'.line.canGrow = true)
        (fun _ _ => True) s := by
  intro fuel i s hg
  refine wp_completeCircular S U cfg (P := fun _ _ s => s.line.canGrow = true)
    (L := fun _ i s => s.line.canGrow = true ∧ (cands.length ≤ i → s.line.buf = backup ∧ s.line.pos = backupPos))
    start cands backup backupPos (fun _ _ _ _ => trivial) ?_ ?_ ?_ ?_ (fun _ _ _ _ h => h.1) ?_ ?_ fuel mark i s hg
  · intro _ i hi s hg
    exact wp_lb_any S U (fun a l ns h => ⟨(LB.replace_canGrow S U h).trans hg, fun h => by omega⟩) trivial
  · intro _ i s _ hg
    exact wp_lb_update S U hg hbp ⟨hg, fun _ => ⟨rfl, rfl⟩⟩
  · intro _ i s h
    exact wp_refreshLine S U cfg (fun s2 hc2 => by rw [(Ed.core_eq hc2).1]; exact h) (fun _ _ _ => trivial)
  · intro _ i fuel s h
    exact wp_nextCmd S U cfg (fun _ s3 hc3 => by rw [(Ed.coreNC_eq hc3).1]; exact h) (fun _ _ _ => trivial)
  · intro m i s ⟨hg, hi⟩
    exact wp_circAbort_restores S U cfg hbp hg hi fun _ a b c _ => ⟨a, b, c⟩
  · intro m i cmd s _
    simp only [wp_bind, wp_changesEnd, wp_pure]
    intro h; cases h

/-- The incremental search under a loop invariant `L mark s` that `next_cmd` (which may lower the mark)
    restores and the display of a found entry keeps; the search prompt is painted from `L` and `next_cmd`
    runs under what the painting gives, `A`; `habort` and `hdone` are the two ways out. -/
theorem wp_searchLoop_prompt {L A : Nat → Ed → Prop} {Q : Option Cmd → Ed → Prop} {E : Outcome → Ed → Prop}
    (backup : Text) (backupPos : Nat)
    (hfuel : ∀ m s, L m s → E .fuel s)
    (hprompt : ∀ m sb (succ : Bool) s, L m s → wp (refreshPromptAndLine S U cfg
      ((if succ then "(reverse-i-search)`" else "(failed reverse-i-search)`").toList ++ sb ++ "': ".toList))
      (fun _ s' => A m s') E s)
    (hnext : ∀ m fuel s, A m s →
      wp (nextCmd S U cfg fuel true true) (fun _ s' => L (min m s'.changes.undos.length) s') E s)
    (hshow : ∀ m sb st d idx e p s, (memHist cfg).search sb st d = some (idx, e, p) → L m s →
      wp (lb S U (LB.update S U e p)) (fun _ s' => L m s') E s)
    (habort : ∀ m s, L m s →
      wp (do lb S U (LB.update S U backup backupPos); refreshLine S U cfg; truncateChanges m; pure none) Q E s)
    (hdone : ∀ m cmd s, L m s → wp (do refreshLine S U cfg; let _ ← changesEnd; pure (some cmd)) Q E s) :
    ∀ (fuel m : Nat) (sb : Text) (hi : Nat) (d : Dir) (succ : Bool) (s : Ed), L m s →
      wp (searchLoop S U cfg m backup backupPos fuel sb hi d succ) Q E s := by
  intro fuel
  induction fuel with
  | zero => intro m sb hi d succ s h; unfold searchLoop; exact hfuel m s h
  | succ fuel ih =>
    intro m sb hi d succ s h
    unfold searchLoop
    simp only [wp_bind]
    refine wp_mono (hprompt m sb succ s h) (fun _ s2 h2 => ?_) (fun _ _ he => he)
    refine wp_mono (hnext m fuel s2 h2) (fun cmd s3 h3 => ?_) (fun _ _ he => he)
    rw [wp_lowerMark]
    generalize min m s3.changes.undos.length = m' at h3 ⊢
    have hds : ∀ (sb : Text) (hi hi0 : Nat) (d : Dir),
        wp (match (memHist cfg).search sb hi d with
            | some (idx, entry, pos) => do
              lb S U (LB.update S U entry pos)
              searchLoop S U cfg m' backup backupPos fuel sb idx d true
            | none => searchLoop S U cfg m' backup backupPos fuel sb hi0 d false) Q E s3 := by
      intro sb hi hi0 d
      cases hs : (memHist cfg).search sb hi d with
      | none => exact ih _ _ _ _ _ s3 h3
      | some r =>
        obtain ⟨idx, entry, pos⟩ := r
        simp only [wp_bind]
        exact wp_mono (hshow m' sb hi d idx entry pos s3 hs h3) (fun _ s4 h4 => ih _ _ _ _ _ s4 h4) (fun _ _ he => he)
    split
    · exact hds _ _ _ _
    · exact ih _ _ _ _ _ s3 h3
    · exact wp_if (fun _ => hds _ _ _ _) fun _ => ih _ _ _ _ _ s3 h3
    · exact wp_if (fun _ => hds _ _ _ _) fun _ => ih _ _ _ _ _ s3 h3
    · exact habort m' s3 h3
    · exact hdone m' _ s3 h3

/-- the same with one invariant throughout -/
theorem wp_searchLoop {L : Nat → Ed → Prop} {Q : Option Cmd → Ed → Prop} {E : Outcome → Ed → Prop}
    (backup : Text) (backupPos : Nat)
    (hfuel : ∀ m s, L m s → E .fuel s)
    (hprompt : ∀ m p s, L m s → wp (refreshPromptAndLine S U cfg p) (fun _ s' => L m s') E s)
    (hnext : ∀ m fuel s, L m s →
      wp (nextCmd S U cfg fuel true true) (fun _ s' => L (min m s'.changes.undos.length) s') E s)
    (hshow : ∀ m sb st d idx e p s, (memHist cfg).search sb st d = some (idx, e, p) → L m s →
      wp (lb S U (LB.update S U e p)) (fun _ s' => L m s') E s)
    (habort : ∀ m s, L m s →
      wp (do lb S U (LB.update S U backup backupPos); refreshLine S U cfg; truncateChanges m; pure none) Q E s)
    (hdone : ∀ m cmd s, L m s → wp (do refreshLine S U cfg; let _ ← changesEnd; pure (some cmd)) Q E s) :
    ∀ (fuel m : Nat) (sb : Text) (hi : Nat) (d : Dir) (succ : Bool) (s : Ed), L m s →
      wp (searchLoop S U cfg m backup backupPos fuel sb hi d succ) Q E s :=
  wp_searchLoop_prompt S U cfg backup backupPos hfuel (fun m _ _ s => hprompt m _ s) hnext hshow habort hdone

/-- incremental search: an aborted loop (result `none`) leaves exactly the backed-up text and cursor -/
theorem searchLoop_abort (mark : Nat) (backup : Text) (backupPos : Nat) (hbp : backupPos ≤ blen backup) :
    ∀ (fuel : Nat) (sb : Text) (hi : Nat) (d : Dir) (succ : Bool) (s : Ed), s.line.canGrow = true →
      wp (searchLoop S U cfg mark backup backupPos fuel sb hi d succ)
        (fun r s' => r = none → s'.line.buf = backup ∧ s'.line.pos = backupPos ∧ s'.line.canGrow = true)
        (fun _ _ => True) s := by
  intro fuel sb hi d succ s hg
  refine wp_searchLoop S U cfg (L := fun _ s => s.line.canGrow = true) backup backupPos (fun _ _ _ => trivial)
    ?_ ?_ ?_ ?_ ?_ fuel mark sb hi d succ s hg
  · intro _ p s hg
    exact wp_refreshPromptAndLine S U cfg (fun s2 hc2 => by rw [(Ed.core_eq hc2).1]; exact hg) (fun _ _ _ => trivial)
  · intro _ fuel s hg
    exact wp_nextCmd S U cfg (fun _ s3 hc3 => by rw [(Ed.coreNC_eq hc3).1]; exact hg) (fun _ _ _ => trivial)
  · intro _ _ _ _ _ e p s _ hg
    exact wp_lb_any S U (fun a l ns h => LB.update_keeps_canGrow S U h hg) trivial
  · intro m s hg
    simp only [wp_bind]
    refine wp_lb_update S U hg hbp ?_
    refine wp_refreshLine S U cfg (fun s4 hc4 => ?_) (fun _ _ _ => trivial)
    simp only [truncateChanges, wp_modify, wp_pure]
    intro _; rw [(Ed.core_eq hc4).1]; exact ⟨rfl, rfl, hg⟩
  · intro m cmd s hg
    simp only [wp_bind]
    refine wp_refreshLine S U cfg (fun s4 hc4 => ?_) (fun _ _ _ => trivial)
    simp only [wp_changesEnd, wp_pure]
    intro h; cases h
end Rl
