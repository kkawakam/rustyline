/-
  A small Hoare-style library for the `EM` monad of Rl/Editor.lean
  (`EM α = Ed → Except (Outcome × Ed) (α × Ed)`). Needs only the `LM` library (Lemmas/LineBuffer, LineBufferSafe).

  * `wp m Q E s`: running `m` from `s` ends in `Q a s'` (normal return) or `E o s'` (early exit).
    `wp_bind`, `wp_pure`, … hold by `Iff.rfl`, so a goal about a `do` block is reduced by `simp only` with them.
    `Returns m s Q`: `m` returns normally from `s` with `Q` (= `wp` with exit clause `False`).
  * `Keeps f m`: every run of `m`, normal or early exit, leaves the projection `f` of the state unchanged;
    the footprints of the primitive effects for any `f` (`Keeps.lb_of`, …). `Core` / `Ed.core` is the projection
    "everything except key reading, input state and display", `CoreNC` / `Ed.coreNC` the same without the undo log.
  * `wp_lb`, `wp_lbQuiet`: the run of an `LM` operation lifted through `lb` (notifications go to the undo log) and
    `lbQuiet` (they are dropped).

  To prove "`C m` for every run of `next_cmd` / `execute`" for a predicate `C : EM α → Prop` closed under
  `pure` and `>>=`, do not unfold those functions: fill the record of leaf lemmas (`EmacsPrims` / `ViPrims` /
  `ArgPrims` of KeymapWalk.lean, `ExecPrims` / `ExecUnits` / `RingUnits` of ExecWalk.lean) and apply the walk
  (`nextCmd_of_prims`, `ExecUnits.execute_of`). The judgments that exist (`Keeps`, `NoPanic`, `NPI`, `RT`, `LogK`,
  `MkK`, `Pres`, `PresB`, `Safe` …), the file of each and which of them are instances of the walks are listed in
  DESIGN.md, section 0A, "How the lemma modules hang together".
-/
import Rl.Editor
import Rl.Lemmas.LineBuffer
import Rl.Lemmas.LineBufferSafe
namespace Rl
open EM

def wp {α : Type} (m : EM α) (Q : α → Ed → Prop) (E : Outcome → Ed → Prop) (s : Ed) : Prop :=
  match m s with
  | .ok (a, s') => Q a s'
  | .error (o, s') => E o s'

theorem EM.bind_apply {α β : Type} (m : EM α) (f : α → EM β) (s : Ed) :
    (m >>= f) s = match m s with | .error e => .error e | .ok (a, s') => f a s' := rfl

@[simp] theorem EM.pure_apply {α : Type} (a : α) (s : Ed) : (pure a : EM α) s = .ok (a, s) := rfl

theorem wp_bind {α β : Type} (m : EM α) (f : α → EM β) (Q : β → Ed → Prop) (E : Outcome → Ed → Prop) (s : Ed) :
    wp (m >>= f) Q E s ↔ wp m (fun a s' => wp (f a) Q E s') E s := by
  unfold wp; rw [EM.bind_apply]
  cases m s with
  | error e => rfl
  | ok r => rfl

/-- the same with the type of `m` unfolded (a state reader written as a lambda) -/
theorem wp_bind' {α β : Type} (m : Ed → Except (Outcome × Ed) (α × Ed)) (f : α → EM β)
    (Q : β → Ed → Prop) (E : Outcome → Ed → Prop) (s : Ed) :
    wp (@Bind.bind EM _ α β m f) Q E s ↔ wp (m : EM α) (fun a s' => wp (f a) Q E s') E s :=
  wp_bind m f Q E s

theorem wp_pure {α : Type} (a : α) (Q : α → Ed → Prop) (E : Outcome → Ed → Prop) (s : Ed) :
    wp (pure a : EM α) Q E s ↔ Q a s := Iff.rfl

theorem wp_get (Q : Ed → Ed → Prop) (E : Outcome → Ed → Prop) (s : Ed) : wp EM.get Q E s ↔ Q s s := Iff.rfl
theorem wp_set (t : Ed) (Q : Unit → Ed → Prop) (E : Outcome → Ed → Prop) (s : Ed) :
    wp (EM.set t) Q E s ↔ Q () t := Iff.rfl
theorem wp_modify (f : Ed → Ed) (Q : Unit → Ed → Prop) (E : Outcome → Ed → Prop) (s : Ed) :
    wp (EM.modify f) Q E s ↔ Q () (f s) := Iff.rfl
theorem wp_exit {α : Type} (o : Outcome) (Q : α → Ed → Prop) (E : Outcome → Ed → Prop) (s : Ed) :
    wp (EM.exit o : EM α) Q E s ↔ E o s := Iff.rfl

theorem wp_mono {α : Type} {m : EM α} {Q Q' : α → Ed → Prop} {E E' : Outcome → Ed → Prop} {s : Ed}
    (h : wp m Q E s) (hq : ∀ a s', Q a s' → Q' a s') (he : ∀ o s', E o s' → E' o s') : wp m Q' E' s := by
  unfold wp at *
  cases hm : m s with
  | error e => rw [hm] at h; exact he _ _ h
  | ok r => rw [hm] at h; exact hq _ _ h

theorem wp_and {α : Type} {m : EM α} {Q₁ Q₂ : α → Ed → Prop} {E₁ E₂ : Outcome → Ed → Prop} {s : Ed}
    (h₁ : wp m Q₁ E₁ s) (h₂ : wp m Q₂ E₂ s) :
    wp m (fun a s' => Q₁ a s' ∧ Q₂ a s') (fun o s' => E₁ o s' ∧ E₂ o s') s := by
  unfold wp at *
  cases hm : m s with
  | error e => rw [hm] at h₁ h₂; exact ⟨h₁, h₂⟩
  | ok r => rw [hm] at h₁ h₂; exact ⟨h₁, h₂⟩

theorem wp_and_left {α : Type} {m : EM α} {Q₁ Q₂ : α → Ed → Prop} {E : Outcome → Ed → Prop} {s : Ed}
    (h₁ : wp m Q₁ E s) (h₂ : wp m Q₂ (fun _ _ => True) s) : wp m (fun a s' => Q₁ a s' ∧ Q₂ a s') E s :=
  wp_mono (wp_and h₁ h₂) (fun _ _ h => h) (fun _ _ h => h.1)

theorem wp_bind_fact {α β : Type} {m : EM α} {f : α → EM β} {P : α → Prop} {Q : β → Ed → Prop}
    {E : Outcome → Ed → Prop} {s : Ed} (hP : ∀ s a s', m s = .ok (a, s') → P a)
    (h : wp m (fun a s' => P a → wp (f a) Q E s') E s) : wp (m >>= f) Q E s := by
  rw [wp_bind]
  unfold wp at h ⊢
  cases hm : m s with
  | error e => rw [hm] at h; exact h
  | ok r => rw [hm] at h; exact h (hP _ _ _ hm)

theorem wp_ok {α : Type} {m : EM α} {Q : α → Ed → Prop} {E : Outcome → Ed → Prop} {s s' : Ed} {a : α}
    (h : wp m Q E s) (hm : m s = .ok (a, s')) : Q a s' := by
  unfold wp at h; rw [hm] at h; exact h

theorem wp_error {α : Type} {m : EM α} {Q : α → Ed → Prop} {E : Outcome → Ed → Prop} {s s' : Ed} {o : Outcome}
    (h : wp m Q E s) (hm : m s = .error (o, s')) : E o s' := by
  unfold wp at h; rw [hm] at h; exact h

theorem wp_cases {α : Type} {m : EM α} {Q : α → Ed → Prop} {E : Outcome → Ed → Prop} {s : Ed} (h : wp m Q E s) :
    (∃ a s', m s = .ok (a, s') ∧ Q a s') ∨ (∃ o s', m s = .error (o, s') ∧ E o s') := by
  cases hm : m s with
  | ok p => exact .inl ⟨p.1, p.2, rfl, wp_ok h hm⟩
  | error p => exact .inr ⟨p.1, p.2, rfl, wp_error h hm⟩

theorem wp_of_eq_ok {α : Type} {m : EM α} {Q : α → Ed → Prop} {E : Outcome → Ed → Prop} {s s' : Ed} {a : α}
    (hm : m s = .ok (a, s')) (h : Q a s') : wp m Q E s := by
  unfold wp; rw [hm]; exact h

theorem wp_ite {α : Type} (c : Prop) [Decidable c] (a b : EM α) (Q : α → Ed → Prop) (E : Outcome → Ed → Prop) (s : Ed) :
    wp (if c then a else b) Q E s ↔ if c then wp a Q E s else wp b Q E s := by
  split <;> rfl

/-- `wp_ite` as an introduction rule: unlike `split` it does not search the two branches -/
theorem wp_if {α : Type} {c : Prop} [Decidable c] {a b : EM α} {Q : α → Ed → Prop} {E : Outcome → Ed → Prop} {s : Ed}
    (ha : c → wp a Q E s) (hb : ¬c → wp b Q E s) : wp (if c then a else b) Q E s := by
  rw [wp_ite]
  split
  · exact ha ‹_›
  · exact hb ‹_›

theorem wp_read {α : Type} (g : Ed → α) (Q : α → Ed → Prop) (E : Outcome → Ed → Prop) (s : Ed) :
    wp (fun s => .ok (g s, s) : EM α) Q E s ↔ Q (g s) s := Iff.rfl

def Returns {α : Type} (m : EM α) (s : Ed) (Q : α → Ed → Prop) : Prop := ∃ a s', m s = .ok (a, s') ∧ Q a s'

theorem Returns.wp {α : Type} {m : EM α} {s : Ed} {Q : α → Ed → Prop} {E : Outcome → Ed → Prop}
    (h : Returns m s Q) : Rl.wp m Q E s := by
  obtain ⟨a, s', hm, hq⟩ := h
  exact wp_of_eq_ok hm hq

theorem returns_iff_wp {α : Type} {m : EM α} {s : Ed} {Q : α → Ed → Prop} :
    Returns m s Q ↔ wp m Q (fun _ _ => False) s := by
  unfold Returns wp
  cases hm : m s with
  | error e => simp
  | ok r =>
    obtain ⟨a, s'⟩ := r
    constructor
    · rintro ⟨a1, s1, h, hq⟩
      cases h; exact hq
    · intro hq; exact ⟨a, s', rfl, hq⟩

structure Keeps {α β : Type} (f : Ed → β) (m : EM α) : Prop where
  h : ∀ s, match m s with
       | .ok (_, s') => f s' = f s
       | .error (_, s') => f s' = f s

namespace Keeps
variable {α β γ : Type} {f : Ed → γ}

theorem pure (a : α) : Keeps f (pure a : EM α) := ⟨fun _ => rfl⟩

theorem bindFact {m : EM α} {g : α → EM β} {P : α → Prop} (hm : Keeps f m)
    (hP : ∀ s a s', m s = .ok (a, s') → P a) (hg : ∀ a, P a → Keeps f (g a)) : Keeps f (m >>= g) := by
  constructor
  intro s
  have h1 := hm.h s
  rw [EM.bind_apply]
  cases hms : m s with
  | error e => rw [hms] at h1; exact h1
  | ok r =>
    obtain ⟨a, s1⟩ := r
    rw [hms] at h1
    have h2 := (hg a (hP _ _ _ hms)).h s1
    simp only [] at h1 ⊢
    cases hgs : g a s1 with
    | error e => rw [hgs] at h2; simp only [] at h2 ⊢; rw [h2, h1]
    | ok r2 => rw [hgs] at h2; simp only [] at h2 ⊢; rw [h2, h1]

theorem bind {m : EM α} {g : α → EM β} (hm : Keeps f m) (hg : ∀ a, Keeps f (g a)) : Keeps f (m >>= g) :=
  bindFact hm (P := fun _ => True) (fun _ _ _ _ => trivial) fun a _ => hg a

theorem bind' {m : Ed → Except (Outcome × Ed) (α × Ed)} {g : α → EM β}
    (hm : Keeps f (m : EM α)) (hg : ∀ a, Keeps f (g a)) : Keeps f (@Bind.bind EM _ α β m g) :=
  Keeps.bind hm hg

theorem ite {c : Prop} [Decidable c] {a b : EM α} (ha : Keeps f a) (hb : Keeps f b) :
    Keeps f (if c then a else b) := by
  split <;> assumption

theorem exit (o : Outcome) : Keeps f (EM.exit o : EM α) := ⟨fun _ => rfl⟩

theorem liftP (e : Except Panic α) : Keeps f (EM.liftP e) := by
  constructor; intro s; unfold EM.liftP; cases e <;> rfl

theorem get : Keeps f EM.get := ⟨fun _ => rfl⟩

theorem modify {g : Ed → Ed} (h : ∀ s, f (g s) = f s) : Keeps f (EM.modify g) := ⟨fun s => h s⟩

theorem read (g : Ed → α) : Keeps f (fun s => .ok (g s, s) : EM α) := ⟨fun _ => rfl⟩

theorem comp {δ : Type} (g : γ → δ) {m : EM α} (h : Keeps f m) : Keeps (fun s => g (f s)) m := by
  constructor
  intro s
  have := h.h s
  cases hm : m s with
  | error e => rw [hm] at this; simp only [] at this ⊢; rw [this]
  | ok r => rw [hm] at this; simp only [] at this ⊢; rw [this]

theorem ok {m : EM α} (h : Keeps f m) {s s' : Ed} {a : α} (hm : m s = .ok (a, s')) : f s' = f s := by
  have := h.h s; rw [hm] at this; exact this

theorem error {m : EM α} (h : Keeps f m) {s s' : Ed} {o : Outcome} (hm : m s = .error (o, s')) : f s' = f s := by
  have := h.h s; rw [hm] at this; exact this

theorem wp {m : EM α} (h : Keeps f m) (s : Ed) :
    Rl.wp m (fun _ s' => f s' = f s) (fun _ s' => f s' = f s) s := by
  have := h.h s
  unfold Rl.wp
  cases hm : m s with
  | error e => rw [hm] at this; exact this
  | ok r => rw [hm] at this; exact this

end Keeps

/-- everything except what key reading, the input state and the display touch -/
structure Core where
  line : LB
  saved : LB
  changes : Changeset
  ring : KillRing
  histIdx : Nat
  validatorCalls : List Text
  suspends : Nat

def Ed.core (s : Ed) : Core :=
  ⟨s.line, s.saved, s.changes, s.ring, s.histIdx, s.validatorCalls, s.suspends⟩

/-- the same without the undo log (`next_cmd` opens and closes undo groups) -/
structure CoreNC where
  line : LB
  saved : LB
  ring : KillRing
  histIdx : Nat
  validatorCalls : List Text
  suspends : Nat

def Core.nc (c : Core) : CoreNC := ⟨c.line, c.saved, c.ring, c.histIdx, c.validatorCalls, c.suspends⟩
def Ed.coreNC (s : Ed) : CoreNC := s.core.nc

theorem Ed.core_eq {s s' : Ed} (h : s'.core = s.core) :
    s'.line = s.line ∧ s'.saved = s.saved ∧ s'.changes = s.changes ∧ s'.ring = s.ring ∧
    s'.histIdx = s.histIdx ∧ s'.validatorCalls = s.validatorCalls ∧ s'.suspends = s.suspends := by
  unfold Ed.core at h
  injection h with h1 h2 h3 h4 h5 h6 h7
  exact ⟨h1, h2, h3, h4, h5, h6, h7⟩

theorem Ed.coreNC_eq {s s' : Ed} (h : s'.coreNC = s.coreNC) :
    s'.line = s.line ∧ s'.saved = s.saved ∧ s'.ring = s.ring ∧
    s'.histIdx = s.histIdx ∧ s'.validatorCalls = s.validatorCalls ∧ s'.suspends = s.suspends := by
  unfold Ed.coreNC Core.nc Ed.core at h
  injection h with h1 h2 h3 h4 h5 h6
  exact ⟨h1, h2, h3, h4, h5, h6⟩

theorem Keeps.nc {α : Type} {m : EM α} (h : Keeps Ed.core m) : Keeps Ed.coreNC m := Keeps.comp Core.nc h

section
variable (S : Segmenter) (U : UData) (cfg : EdCfg)

/-! ### footprints: what each primitive effect writes, as a frame fact for any projection that does
    not look there -/

section
variable {β : Type} {f : Ed → β}

theorem keeps_rdErr {α : Type} (e : RdErr) : Keeps f (rdErr e : EM α) := by
  constructor; intro s; cases e <;> rfl

section
variable (hf : ∀ (s : Ed) i, f { s with input := i } = f s)
include hf

theorem Keeps.nextKey_of (sea : Bool) : Keeps f (nextKey sea) := by
  constructor; intro s; unfold nextKey
  cases s.input.nextKey sea with
  | error e => exact (keeps_rdErr e).h s
  | ok r => exact hf s _

theorem Keeps.nextChar_of : Keeps f nextChar := by
  constructor; intro s; unfold nextChar
  cases s.input.nextChar with
  | error e => exact (keeps_rdErr e).h s
  | ok r => exact hf s _

theorem Keeps.readPasted_of : Keeps f readPasted := by
  constructor; intro s; unfold readPasted
  cases s.input.readPasted (s.input.size + 1) [] with
  | error e => exact (keeps_rdErr e).h s
  | ok r => exact hf s _

end

theorem Keeps.lb_of (hf : ∀ (s : Ed) l c, f { s with line := l, changes := c } = f s) {α : Type} (op : LM α) :
    Keeps f (lb S U op) := by
  constructor; intro s; unfold lb
  cases op s.line with
  | error e => rfl
  | ok r => exact hf s _ _

theorem Keeps.lbQuiet_of (hf : ∀ (s : Ed) l, f { s with line := l } = f s) {α : Type} (op : LM α) :
    Keeps f (lbQuiet op) := by
  constructor; intro s; unfold lbQuiet
  cases op s.line with
  | error e => rfl
  | ok r => exact hf s _

theorem Keeps.lbKill_of (hf : ∀ (s : Ed) l c k, f { s with line := l, changes := c, ring := k } = f s) {α : Type}
    (op : LM α) : Keeps f (lbKill S U op) := by
  constructor; intro s; unfold lbKill
  cases op s.line with
  | error e => rfl
  | ok r =>
    obtain ⟨a, l, ns⟩ := r
    simp only []
    cases lbKill.go ns s.ring with
    | error e => rfl
    | ok k => exact hf s _ _ _

theorem Keeps.backup_of (hf : ∀ (s : Ed) v, f { s with saved := v } = f s) : Keeps f (backup S U) := by
  constructor; intro s; unfold backup
  cases LB.update S U s.line.buf s.line.pos s.saved with
  | error e => rfl
  | ok r => exact hf s _

section
variable (hf : ∀ (s : Ed) k, f { s with ring := k } = f s)
include hf

theorem Keeps.ringYank_of : Keeps f ringYank := by
  constructor; intro s; unfold ringYank
  cases s.ring.yank with
  | error e => rfl
  | ok r => exact hf s _

theorem Keeps.ringYankPop_of : Keeps f ringYankPop := by
  constructor; intro s; unfold ringYankPop
  cases s.ring.yankPop with
  | error e => rfl
  | ok r => exact hf s _

theorem Keeps.ringKill_of (t : Text) : Keeps f (ringKill t) := by
  constructor; intro s; unfold ringKill
  cases s.ring.kill t .append with
  | error e => rfl
  | ok r => exact hf s _

end

theorem Keeps.highlightCharStep_of (hf : ∀ (s : Ed) b, f { s with highlightChar := b } = f s) :
    Keeps f (highlightCharStep cfg) := by
  constructor; intro s; unfold highlightCharStep
  by_cases h1 : cfg.hasHelper = true
  · by_cases h2 : cfg.highlightChar s.line.buf s.line.pos = true
    · simp only [h1, h2, if_true]; exact hf s _
    · by_cases h3 : s.highlightChar = true
      · simp only [h1, h2, h3, if_true, if_false, Bool.false_eq_true]; exact hf s _
      · simp only [h1, h2, h3, if_true, if_false, Bool.false_eq_true]
  · simp only [h1, if_false, Bool.false_eq_true]

/-- `State::hint()` (the scripted hinter may panic at its k-th call): the hint and the call counter only -/
theorem Keeps.updateHint_of (hf : ∀ (s : Ed) h n, f { s with hint := h, hintCalls := n } = f s) :
    Keeps f (updateHint cfg) := by
  constructor; intro s; unfold updateHint
  by_cases h1 : cfg.hasHelper = true
  · by_cases h2 : (cfg.hinterPanicAt == some (cfg.hintCallsBase + (s.hintCalls + 1))) = true
    · simp only [h1, h2, if_true]; exact hf s s.hint _
    · simp only [h1, h2, if_true, if_false, Bool.false_eq_true]; exact hf s _ _
  · simp only [h1, if_false, Bool.false_eq_true]; exact hf s none s.hintCalls

/-- an unbound key sequence is recorded for the test observer and the display log -/
theorem Keeps.customBinding_of (hf : ∀ (s : Ed) o r, f { s with obs := o, render := r } = f s)
    (keys : List KeyEvent) (n : Nat) (p : Bool) : Keeps f (customBinding cfg keys n p) := by
  constructor; intro s; unfold customBinding
  cases cfg.binds.find? (fun b => b.1 == keys) with
  | none => exact hf s _ _
  | some b => rfl

end

theorem keeps_nextKey (sea : Bool) : Keeps Ed.core (nextKey sea) := Keeps.nextKey_of (fun _ _ => rfl) sea
theorem keeps_nextChar : Keeps Ed.core nextChar := Keeps.nextChar_of fun _ _ => rfl
theorem keeps_readPasted : Keeps Ed.core readPasted := Keeps.readPasted_of fun _ _ => rfl

theorem keeps_highlightCharStep : Keeps Ed.core (highlightCharStep cfg) :=
  Keeps.highlightCharStep_of cfg fun _ _ => rfl

theorem keeps_logRender (g : Ed → RenderOp) : Keeps Ed.core (logRender g) := ⟨fun _ => rfl⟩

theorem keeps_updateHint : Keeps Ed.core (updateHint cfg) := Keeps.updateHint_of cfg fun _ _ _ => rfl

theorem updateHint_outcome (s : Ed) :
    (∃ s', updateHint cfg s = .ok ((), s') ∧ s'.core = s.core) ∨
    (∃ s', updateHint cfg s = .error (.panic, s') ∧ s'.core = s.core ∧ cfg.hinterPanicAt ≠ none) := by
  unfold updateHint
  by_cases h1 : cfg.hasHelper = true
  · by_cases h2 : (cfg.hinterPanicAt == some (cfg.hintCallsBase + (s.hintCalls + 1))) = true
    · right
      simp only [h1, h2, if_true]
      refine ⟨_, rfl, rfl, ?_⟩
      intro hn; rw [hn] at h2; simp at h2
    · left
      simp only [h1, h2, if_true, if_false, Bool.false_eq_true]
      exact ⟨_, rfl, rfl⟩
  · left
    simp only [h1, if_false, Bool.false_eq_true]
    exact ⟨_, rfl, rfl⟩

theorem keeps_refreshLine : Keeps Ed.core (refreshLine S U cfg) := by
  unfold refreshLine
  refine Keeps.bind (keeps_updateHint cfg) fun _ => ?_
  refine Keeps.bind (keeps_highlightCharStep cfg) fun _ => ?_
  exact Keeps.bind (Keeps.modify fun _ => rfl) fun _ => keeps_logRender _

theorem keeps_refreshLineWithMsg (msg : Option Text) : Keeps Ed.core (refreshLineWithMsg S U cfg msg) := by
  unfold refreshLineWithMsg
  refine Keeps.bind (Keeps.modify fun _ => rfl) fun _ => ?_
  refine Keeps.bind (keeps_highlightCharStep cfg) fun _ => ?_
  exact Keeps.bind (Keeps.modify fun _ => rfl) fun _ => keeps_logRender _

theorem keeps_refreshPromptAndLine (p : Text) : Keeps Ed.core (refreshPromptAndLine S U cfg p) := by
  unfold refreshPromptAndLine
  refine Keeps.bind (keeps_updateHint cfg) fun _ => ?_
  refine Keeps.bind (keeps_highlightCharStep cfg) fun _ => ?_
  exact Keeps.bind (Keeps.modify fun _ => rfl) fun _ => keeps_logRender _

theorem keeps_setRefreshLayout (p : Text) (d : Bool) : Keeps Ed.core (setRefreshLayout S U cfg p d) :=
  Keeps.modify fun _ => rfl

theorem keeps_moveCursor : Keeps Ed.core (moveCursor S U cfg) := by
  unfold moveCursor
  refine Keeps.bind Keeps.get fun s => ?_
  refine Keeps.ite (keeps_logRender _) ?_
  refine Keeps.bind (keeps_highlightCharStep cfg) fun hl => ?_
  dsimp only
  refine Keeps.ite ?_ ?_
  · exact Keeps.bind (keeps_setRefreshLayout S U cfg _ _) fun _ => keeps_logRender _
  · exact Keeps.bind (Keeps.modify fun _ => rfl) fun _ => keeps_logRender _

theorem highlightCharStep_returns (s : Ed) : ∃ b s', highlightCharStep cfg s = .ok (b, s') := by
  unfold highlightCharStep
  by_cases h1 : cfg.hasHelper = true
  · by_cases h2 : cfg.highlightChar s.line.buf s.line.pos = true
    · simp only [h1, h2, if_true]; exact ⟨_, _, rfl⟩
    · by_cases h3 : s.highlightChar = true
      · simp only [h1, h2, h3, if_true, if_false, Bool.false_eq_true]; exact ⟨_, _, rfl⟩
      · simp only [h1, h2, h3, if_true, if_false, Bool.false_eq_true]; exact ⟨_, _, rfl⟩
  · simp only [h1, if_false, Bool.false_eq_true]; exact ⟨_, _, rfl⟩

theorem refreshLineWithMsg_returns (msg : Option Text) (s : Ed) :
    ∃ s', refreshLineWithMsg S U cfg msg s = .ok ((), s') ∧ s'.core = s.core := by
  have hk := (keeps_refreshLineWithMsg S U cfg msg).h s
  unfold refreshLineWithMsg at hk ⊢
  simp only [EM.bind_apply, EM.modify, logRender] at hk ⊢
  obtain ⟨b, s1, h1⟩ := highlightCharStep_returns cfg { s with hint := none }
  rw [h1] at hk ⊢
  exact ⟨_, rfl, hk⟩

theorem moveCursor_returns (s : Ed) : ∃ s', moveCursor S U cfg s = .ok ((), s') ∧ s'.core = s.core := by
  have hk := (keeps_moveCursor S U cfg).h s
  suffices h : ∃ s', moveCursor S U cfg s = .ok ((), s') by
    obtain ⟨s', h⟩ := h
    rw [h] at hk
    exact ⟨s', h, hk⟩
  unfold moveCursor
  simp only [EM.bind_apply, EM.get]
  split
  · exact ⟨_, rfl⟩
  · obtain ⟨b, s1, h1⟩ := highlightCharStep_returns cfg s
    rw [EM.bind_apply, h1]
    cases b <;> exact ⟨_, rfl⟩

theorem keeps_changesBegin : Keeps Ed.coreNC changesBegin := ⟨fun _ => rfl⟩
theorem keeps_changesEnd : Keeps Ed.coreNC changesEnd := ⟨fun _ => rfl⟩

theorem changesBegin_apply (s : Ed) :
    changesBegin s = .ok (s.changes.undos.length, { s with changes := s.changes.begin.1 }) := rfl
theorem changesEnd_apply (s : Ed) :
    changesEnd s = .ok (s.changes.end_.2, { s with changes := s.changes.end_.1 }) := rfl

theorem wp_changesBegin (Q : Nat → Ed → Prop) (E : Outcome → Ed → Prop) (s : Ed) :
    wp changesBegin Q E s ↔ Q s.changes.undos.length { s with changes := s.changes.begin.1 } := Iff.rfl
theorem wp_changesEnd (Q : Bool → Ed → Prop) (E : Outcome → Ed → Prop) (s : Ed) :
    wp changesEnd Q E s ↔ Q s.changes.end_.2 { s with changes := s.changes.end_.1 } := Iff.rfl
theorem wp_getLine (Q : LB → Ed → Prop) (E : Outcome → Ed → Prop) (s : Ed) :
    wp getLine Q E s ↔ Q s.line s := Iff.rfl
theorem wp_hasHint (Q : Bool → Ed → Prop) (E : Outcome → Ed → Prop) (s : Ed) :
    wp hasHint Q E s ↔ Q s.hint.isSome s := Iff.rfl
theorem wp_lineEmpty (Q : Bool → Ed → Prop) (E : Outcome → Ed → Prop) (s : Ed) :
    wp lineEmpty Q E s ↔ Q s.line.buf.isEmpty s := Iff.rfl
theorem wp_getHistIdx (Q : Nat → Ed → Prop) (E : Outcome → Ed → Prop) (s : Ed) :
    wp getHistIdx Q E s ↔ Q s.histIdx s := Iff.rfl
theorem wp_setHistIdx (i : Nat) (Q : Unit → Ed → Prop) (E : Outcome → Ed → Prop) (s : Ed) :
    wp (setHistIdx i) Q E s ↔ Q () { s with histIdx := i } := Iff.rfl
theorem wp_getPromptCol (Q : Nat → Ed → Prop) (E : Outcome → Ed → Prop) (s : Ed) :
    wp getPromptCol Q E s ↔ Q s.layoutPromptCol s := Iff.rfl

theorem updateHint_nohelper (hh : cfg.hasHelper = false) (s : Ed) :
    updateHint cfg s = .ok ((), { s with hint := none }) := by
  simp [updateHint, hh]

theorem wp_updateHint' {Q : Unit → Ed → Prop} {E : Outcome → Ed → Prop} {s : Ed}
    (h : ∀ s', s'.core = s.core → Q () s')
    (he : ∀ s', s'.core = s.core → cfg.hasHelper = true → cfg.hinterPanicAt ≠ none → E .panic s') :
    wp (updateHint cfg) Q E s := by
  by_cases hh : cfg.hasHelper = true
  · rcases updateHint_outcome cfg s with ⟨s', h1, h2⟩ | ⟨s', h1, h2, h3⟩
    · exact wp_of_eq_ok h1 (h s' h2)
    · unfold wp; rw [h1]; exact he s' h2 hh h3
  · have hh' : cfg.hasHelper = false := by simpa using hh
    exact wp_of_eq_ok (updateHint_nohelper cfg hh' s) (h _ rfl)

theorem wp_highlightCharStep {Q : Bool → Ed → Prop} {E : Outcome → Ed → Prop} {s : Ed}
    (h : ∀ b s', s'.core = s.core → Q b s') : wp (highlightCharStep cfg) Q E s := by
  obtain ⟨b, s', h1⟩ := highlightCharStep_returns cfg s
  exact wp_of_eq_ok h1 (h b s' ((keeps_highlightCharStep cfg).ok h1))

theorem wp_setRefreshLayout (p : Text) (d : Bool) (Q : Unit → Ed → Prop) (E : Outcome → Ed → Prop) (s : Ed) :
    wp (setRefreshLayout S U cfg p d) Q E s ↔
      Q () { s with defaultPrompt := d, layoutPromptCol := promptColOf S U cfg p,
                    layoutCursor := cursorFor S U cfg (promptSizeOf S U cfg p) s } := Iff.rfl

theorem wp_logRender (f : Ed → RenderOp) (Q : Unit → Ed → Prop) (E : Outcome → Ed → Prop) (s : Ed) :
    wp (logRender f) Q E s ↔ Q () { s with render := f s :: s.render } := Iff.rfl

theorem wp_updateHint {Q : Unit → Ed → Prop} {E : Outcome → Ed → Prop} {s : Ed}
    (h : ∀ s', s'.core = s.core → Q () s')
    (he : ∀ s', s'.core = s.core → cfg.hinterPanicAt ≠ none → E .panic s') : wp (updateHint cfg) Q E s := by
  rcases updateHint_outcome cfg s with ⟨s', h1, h2⟩ | ⟨s', h1, h2, h3⟩
  · exact wp_of_eq_ok h1 (h s' h2)
  · unfold wp; rw [h1]; exact he s' h2 h3

theorem wp_hintRefresh (p : Text) (d : Bool) (g : Ed → RenderOp) {Q : Unit → Ed → Prop} {E : Outcome → Ed → Prop}
    {s : Ed} (h : ∀ s', s'.core = s.core → Q () s')
    (he : ∀ s', s'.core = s.core → cfg.hinterPanicAt ≠ none → E .panic s') :
    wp (do updateHint cfg; let _ ← highlightCharStep cfg; setRefreshLayout S U cfg p d; logRender g) Q E s := by
  rw [wp_bind]
  refine wp_updateHint cfg (fun s1 hc1 => ?_) he
  simp only [wp_bind, wp_modify, logRender]
  obtain ⟨b, s2, h2⟩ := highlightCharStep_returns cfg s1
  refine wp_of_eq_ok h2 (h _ ?_)
  exact ((keeps_highlightCharStep cfg).ok h2).trans hc1

theorem wp_refreshLine {Q : Unit → Ed → Prop} {E : Outcome → Ed → Prop} {s : Ed}
    (h : ∀ s', s'.core = s.core → Q () s')
    (he : ∀ s', s'.core = s.core → cfg.hinterPanicAt ≠ none → E .panic s') : wp (refreshLine S U cfg) Q E s :=
  wp_hintRefresh S U cfg cfg.prompt true _ h he

theorem wp_refreshLine_np (hnp : cfg.hinterPanicAt = none) {Q : Unit → Ed → Prop} {E : Outcome → Ed → Prop} {s : Ed}
    (h : ∀ s', s'.core = s.core → Q () s') : wp (refreshLine S U cfg) Q E s :=
  wp_refreshLine S U cfg h fun _ _ hne => absurd hnp hne

theorem wp_refreshLineWithMsg {msg : Option Text} {Q : Unit → Ed → Prop} {E : Outcome → Ed → Prop} {s : Ed}
    (h : ∀ s', s'.core = s.core → Q () s') : wp (refreshLineWithMsg S U cfg msg) Q E s := by
  obtain ⟨s', h1, h2⟩ := refreshLineWithMsg_returns S U cfg msg s
  exact wp_of_eq_ok h1 (h s' h2)

theorem wp_refreshPromptAndLine {p : Text} {Q : Unit → Ed → Prop} {E : Outcome → Ed → Prop} {s : Ed}
    (h : ∀ s', s'.core = s.core → Q () s')
    (he : ∀ s', s'.core = s.core → cfg.hinterPanicAt ≠ none → E .panic s') :
    wp (refreshPromptAndLine S U cfg p) Q E s :=
  wp_hintRefresh S U cfg p false _ h he

theorem wp_moveCursor {Q : Unit → Ed → Prop} {E : Outcome → Ed → Prop} {s : Ed}
    (h : ∀ s', s'.core = s.core → Q () s') : wp (moveCursor S U cfg) Q E s := by
  obtain ⟨s', h1, h2⟩ := moveCursor_returns S U cfg s
  exact wp_of_eq_ok h1 (h s' h2)

theorem keeps_customBinding (keys : List KeyEvent) (n : Nat) (p : Bool) :
    Keeps Ed.core (customBinding cfg keys n p) :=
  Keeps.customBinding_of cfg (fun _ _ _ => rfl) keys n p

theorem termBinding_read (k : KeyEvent) : ∃ g : Ed → Option Cmd, termBinding k = fun s => .ok (g s, s) :=
  ⟨fun s =>
    let c : Option Cmd :=
      if k == ⟨.char 'D', 8⟩ then some .endOfFile
      else if k == ⟨.char 'C', 8⟩ then some .interrupt
      else if k == ⟨.char '\\', 8⟩ then some .interrupt
      else if k == ⟨.char 'Z', 8⟩ then some .suspend
      else none
    if c == some .endOfFile && !s.line.buf.isEmpty then none else c,
   funext fun s => (apply_ite (fun x : Option Cmd => (Except.ok (x, s) : Except (Outcome × Ed) (Option Cmd × Ed))) _ _ _).symm⟩

theorem keeps_termBinding {γ : Type} {f : Ed → γ} (k : KeyEvent) : Keeps f (termBinding k) := by
  obtain ⟨g, hg⟩ := termBinding_read k
  rw [hg]; exact Keeps.read g

theorem keeps_lastInsert : Keeps Ed.core lastInsert := ⟨fun _ => rfl⟩
theorem keeps_takeNumArgs : Keeps Ed.core takeNumArgs := ⟨fun _ => rfl⟩
theorem keeps_setInputMode (m : InputMode) : Keeps Ed.core (setInputMode m) := ⟨fun _ => rfl⟩
theorem keeps_setLastCmd (c : Cmd) : Keeps Ed.core (setLastCmd c) := ⟨fun _ => rfl⟩

theorem keeps_redoCmd (c : Cmd) (new : Option Nat) : Keeps Ed.core (redoCmd c new) :=
  Keeps.bind keeps_lastInsert fun _ => Keeps.liftP _

theorem lb_ok {α : Type} {op : LM α} {s : Ed} {a : α} {l : LB} {ns : List Notif}
    (h : op s.line = .ok (a, l, ns)) :
    lb S U op s = .ok (a, { s with line := l, changes := s.changes.onNotifs S U.alnum ns }) := by
  unfold lb; rw [h]

theorem lb_error {α : Type} {op : LM α} {s : Ed} {e : Panic} (h : op s.line = .error e) :
    lb S U op s = .error (.panic, s) := by
  unfold lb; rw [h]

theorem lbQuiet_ok {α : Type} {op : LM α} {s : Ed} {a : α} {l : LB} {ns : List Notif}
    (h : op s.line = .ok (a, l, ns)) : lbQuiet op s = .ok (a, { s with line := l }) := by
  unfold lbQuiet; rw [h]

theorem wp_lb {α : Type} {op : LM α} {s : Ed} {Q : α → Ed → Prop} {E : Outcome → Ed → Prop}
    {a : α} {l : LB} {ns : List Notif} (h : op s.line = .ok (a, l, ns))
    (hq : Q a { s with line := l, changes := s.changes.onNotifs S U.alnum ns }) : wp (lb S U op) Q E s :=
  wp_of_eq_ok (lb_ok S U h) hq

theorem wp_lbQuiet {α : Type} {op : LM α} {s : Ed} {Q : α → Ed → Prop} {E : Outcome → Ed → Prop}
    {a : α} {l : LB} {ns : List Notif} (h : op s.line = .ok (a, l, ns))
    (hq : Q a { s with line := l }) : wp (lbQuiet op) Q E s :=
  wp_of_eq_ok (lbQuiet_ok h) hq

end

end Rl
