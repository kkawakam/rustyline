/-
  C17: `next_cmd` never exits with the panic outcome — emacs mode.  `NoPanic m` is the structural
  predicate ("no run of `m` exits with `panic`"), closed under the `do` constructs; the one
  result-dependent step is the custom binding table (`BindOK`: a bound repeatable command can be
  re-done, which excludes only `Replace(ForwardChar 0, None)` — vi `R` — with an over-long last
  insertion).
-/
import Rl.Lemmas.EditorM
import Rl.Lemmas.EditorFrame
namespace Rl
open EM

/-- no run of `m` exits with the panic outcome -/
structure NoPanic {α : Type} (m : EM α) : Prop where
  h : ∀ s o s', m s = .error (o, s') → o ≠ .panic

namespace NoPanic
variable {α β : Type}

theorem pure (a : α) : NoPanic (pure a : EM α) := ⟨fun _ _ _ h => by cases h⟩

theorem bind {m : EM α} {f : α → EM β} (hm : NoPanic m) (hf : ∀ a, NoPanic (f a)) : NoPanic (m >>= f) := by
  constructor
  intro s o s' h
  rw [EM.bind_apply] at h
  cases hms : m s with
  | error e => rw [hms] at h; cases h; exact hm.h _ _ _ hms
  | ok r => obtain ⟨a, s1⟩ := r; rw [hms] at h; exact (hf a).h _ _ _ h

theorem bindR {m : EM α} {f : α → EM β} (P : α → Prop) (hm : NoPanic m)
    (hp : ∀ s a s', m s = .ok (a, s') → P a) (hf : ∀ a, P a → NoPanic (f a)) : NoPanic (m >>= f) := by
  constructor
  intro s o s' h
  rw [EM.bind_apply] at h
  cases hms : m s with
  | error e => rw [hms] at h; cases h; exact hm.h _ _ _ hms
  | ok r => obtain ⟨a, s1⟩ := r; rw [hms] at h; exact (hf a (hp _ _ _ hms)).h _ _ _ h

theorem exit {o : Outcome} (ho : o ≠ .panic) : NoPanic (EM.exit o : EM α) :=
  ⟨fun _ _ _ h => by cases h; exact ho⟩

theorem modify (g : Ed → Ed) : NoPanic (EM.modify g) := ⟨fun _ _ _ h => by cases h⟩
theorem read (g : Ed → α) : NoPanic (fun s => .ok (g s, s) : EM α) := ⟨fun _ _ _ h => by cases h⟩
theorem get : NoPanic EM.get := read id

theorem liftP_ok {e : Except Panic α} (he : ∃ a, e = .ok a) : NoPanic (EM.liftP e) := by
  obtain ⟨a, rfl⟩ := he
  exact ⟨fun _ _ _ h => by cases h⟩

end NoPanic

section
variable (S : Segmenter) (U : UData) (cfg : EdCfg)

theorem noPanic_rdErr {α : Type} (e : RdErr) : NoPanic (rdErr e : EM α) := by
  constructor; intro s o s' h
  cases e <;> (cases h; intro hh; cases hh)

theorem noPanic_nextKey (sea : Bool) : NoPanic (nextKey sea) := by
  constructor; intro s o s' h
  unfold nextKey at h
  cases hi : s.input.nextKey sea with
  | ok r => rw [hi] at h; cases h
  | error e => rw [hi] at h; exact (noPanic_rdErr e).h _ _ _ h

theorem noPanic_nextChar : NoPanic nextChar := by
  constructor; intro s o s' h
  unfold nextChar at h
  cases hi : s.input.nextChar with
  | ok r => rw [hi] at h; cases h
  | error e => rw [hi] at h; exact (noPanic_rdErr e).h _ _ _ h

theorem noPanic_readPasted : NoPanic readPasted := by
  constructor; intro s o s' h
  unfold readPasted at h
  cases hi : s.input.readPasted (s.input.size + 1) [] with
  | ok r => rw [hi] at h; cases h
  | error e => rw [hi] at h; exact (noPanic_rdErr e).h _ _ _ h

theorem noPanic_of_returns {α : Type} {m : EM α} (h : ∀ s, ∃ a s', m s = .ok (a, s')) : NoPanic m := by
  constructor; intro s o s' he
  obtain ⟨a, s1, h1⟩ := h s
  rw [h1] at he; cases he

theorem noPanic_refreshLine (hnp : cfg.hinterPanicAt = none) : NoPanic (refreshLine S U cfg) := by
  constructor; intro s o s' he
  have := wp_refreshLine_np S U cfg hnp (Q := fun _ _ => True) (E := fun _ _ => False) (s := s) (fun _ _ => trivial)
  exact (wp_error this he).elim

theorem noPanic_refreshPromptAndLine (hnp : cfg.hinterPanicAt = none) (p : Text) :
    NoPanic (refreshPromptAndLine S U cfg p) := by
  constructor; intro s o s' he
  have := wp_refreshPromptAndLine S U cfg (p := p) (Q := fun _ _ => True) (E := fun _ _ => False) (s := s)
    (fun _ _ => trivial) (fun _ _ hne => absurd hnp hne)
  exact (wp_error this he).elim

theorem noPanic_customBinding (keys : List KeyEvent) (n : Nat) (p : Bool) : NoPanic (customBinding cfg keys n p) := by
  constructor; intro s o s' h
  unfold customBinding at h
  cases hf : cfg.binds.find? (fun b => b.1 == keys) with
  | none => rw [hf] at h; cases h
  | some b => rw [hf] at h; cases h

theorem noPanic_changesBegin : NoPanic changesBegin := ⟨fun _ _ _ h => by cases h⟩
theorem noPanic_changesEnd : NoPanic changesEnd := ⟨fun _ _ _ h => by cases h⟩

/-- a bound command that is repeatable can be re-done with any count and any last insertion -/
def BindOK (c : Cmd) : Prop := ∀ new li, c.isRepeatable = true → ∃ c', c.redo new li = .ok c'

def BindsOK (cfg : EdCfg) : Prop := ∀ b ∈ cfg.binds, BindOK b.2

theorem noPanic_redoCmd {c : Cmd} (hc : BindOK c) (hr : c.isRepeatable = true) (new : Option Nat) :
    NoPanic (redoCmd c new) := by
  unfold redoCmd
  exact NoPanic.bind (NoPanic.read _) fun li => NoPanic.liftP_ok (hc new li hr)

end

section
variable (S : Segmenter) (U : UData) (cfg : EdCfg)

theorem noPanic_emacsPrims (hnp : cfg.hinterPanicAt = none) (hb : BindsOK cfg) :
    EmacsPrims S U cfg (fun m => NoPanic m) :=
  ArgPrims.toEmacsPrims
    { pure := NoPanic.pure
      bind := NoPanic.bind
      read := NoPanic.read
      nextKey := noPanic_nextKey
      readPasted := noPanic_readPasted
      bound := fun keys n p _ hf =>
        NoPanic.bindR (InBinds cfg) (noPanic_customBinding cfg keys n p) (customBinding_inBinds cfg keys n p) hf
      termBinding := fun k => by
        obtain ⟨g, hg⟩ := termBinding_read k
        rw [hg]; exact NoPanic.read g
      takeNumArgs := ⟨fun _ _ _ h => by cases h⟩
      redoBound := fun c new hin hr => by
        obtain ⟨b, hmem, rfl⟩ := hin.h c rfl
        exact noPanic_redoCmd (hb b hmem) hr new
      exitFuel := NoPanic.exit fun h => nomatch h
      refreshLine := noPanic_refreshLine S U cfg hnp
      refreshPromptAndLine := noPanic_refreshPromptAndLine S U cfg hnp
      viSetArg := fun _ => NoPanic.modify _
      viDigitStep := fun _ => NoPanic.modify _ }
    fun _ => NoPanic.modify _

/-- **`next_cmd` never panics in emacs mode** (helpers that do not panic; bound commands re-doable) -/
theorem nextSafe_emacs (hvi : cfg.vi = false) (hnp : cfg.hinterPanicAt = none) (hb : BindsOK cfg) :
    ∀ fuel sea iep s o s', nextCmd S U cfg fuel sea iep s = .error (o, s') → o ≠ .panic := fun fuel sea iep =>
  (nextCmd_of_prims (C := fun m => NoPanic m) (fun _ => noPanic_emacsPrims S U cfg hnp hb)
    (fun hv => absurd (hvi.symm.trans hv) Bool.false_ne_true) noPanic_changesBegin fuel sea iep).h

end
end Rl
