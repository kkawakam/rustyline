/-
  C17: `next_cmd` in BOTH modes.  `NPI cfg m`: from a state whose pending numeric argument is not
  negative in vi mode (`NumI`), `m` keeps that invariant on return, and if it exits with the panic
  outcome then the state has an over-long last insertion (`D43`: the only panic of `next_cmd` is
  `RepeatCount::try_from(last_insert.len()).unwrap()` in the re-do of a command — known finding D43).
  So the `unreachable!()` of `vi_num_args` is unreachable, as are those of `Cmd::redo`.
-/
import Rl.Lemmas.EditorNext
import Rl.Lemmas.EditorInp
namespace Rl
open EM

/-- vi: the pending numeric argument is never negative (`vi_arg_digit` only appends digits) -/
def NumI (cfg : EdCfg) (s : Ed) : Prop := cfg.vi = true → 0 ≤ s.inp.numArgs

/-- the state of known finding D43: the last insertion recorded in the undo log is longer than a
    `RepeatCount` (`u16`) can hold -/
def D43 (s : Ed) : Prop := ∃ t, s.changes.lastInsert = some t ∧ 65535 < blen t

/-- `m` keeps `NumI` on return, and a panic exit happens only in a `D43` state -/
structure NPI {α : Type} (cfg : EdCfg) (m : EM α) : Prop where
  h : ∀ s, NumI cfg s →
    match m s with
    | .ok (_, s') => NumI cfg s'
    | .error (o, s') => o = .panic → D43 s'

namespace NPI
variable {α β : Type} {cfg : EdCfg}

theorem pure (a : α) : NPI cfg (pure a : EM α) := ⟨fun _ h => h⟩

theorem bindFact {m : EM α} {f : α → EM β} {P : α → Prop} (hm : NPI cfg m)
    (hP : ∀ s a s', m s = .ok (a, s') → P a) (hf : ∀ a, P a → NPI cfg (f a)) : NPI cfg (m >>= f) := by
  constructor
  intro s hs
  have h1 := hm.h s hs
  rw [EM.bind_apply]
  cases hms : m s with
  | error e => rw [hms] at h1; exact h1
  | ok r => obtain ⟨a, s1⟩ := r; rw [hms] at h1; exact (hf a (hP _ _ _ hms)).h s1 h1

theorem bind {m : EM α} {f : α → EM β} (hm : NPI cfg m) (hf : ∀ a, NPI cfg (f a)) : NPI cfg (m >>= f) :=
  bindFact (P := fun _ => True) hm (fun _ _ _ _ => trivial) fun a _ => hf a

theorem exit {o : Outcome} (ho : o ≠ .panic) : NPI cfg (EM.exit o : EM α) :=
  ⟨fun _ _ hp => absurd hp ho⟩

theorem read (g : Ed → α) : NPI cfg (fun s => .ok (g s, s) : EM α) := ⟨fun _ h => h⟩
theorem get : NPI cfg EM.get := read id

theorem modify {g : Ed → Ed} (hg : ∀ s, NumI cfg s → NumI cfg (g s)) : NPI cfg (EM.modify g) :=
  ⟨fun s h => hg s h⟩

theorem of_leaf {m : EM α} (hn : NoPanic m) (hk : Keeps Ed.inpOf m) : NPI cfg m := by
  constructor
  intro s hs
  have h2 := hk.h s
  cases hms : m s with
  | error e =>
    obtain ⟨o, s'⟩ := e
    intro hp
    exact absurd hp (hn.h _ _ _ hms)
  | ok r =>
    obtain ⟨a, s'⟩ := r
    rw [hms] at h2
    intro hv
    have : s'.inp = s.inp := h2
    rw [this]; exact hs hv

end NPI

/-- `Cmd::redo` of a repeatable command fails only through the `RepeatCount` conversion of the
    last insertion's length -/
theorem Cmd.redo_error {c : Cmd} (hr : c.isRepeatable = true) {new : Option Nat} {li : Option Text} {e : Panic}
    (h : c.redo new li = .error e) : ∃ t, li = some t ∧ 65535 < blen t := by
  cases c <;> simp only [Cmd.isRepeatable, Cmd.isRepeatableChange, Bool.false_eq_true] at hr <;>
    (try (simp only [Cmd.redo] at h; done)) <;> (try cases h)
  case replace m t =>
    cases t with
    | some t => cases h
    | none =>
      unfold Cmd.redo at h
      simp only [] at h
      split at h
      · cases li with
        | none => simp at h
        | some t =>
          simp only [] at h
          split at h
          · rename_i hl; exact ⟨t, rfl, hl⟩
          · cases h
      · cases h
  case selfInsert n ch => cases li <;> cases h

section
variable (S : Segmenter) (U : UData) (cfg : EdCfg)

theorem npi_redoCmd {c : Cmd} (hr : c.isRepeatable = true) (new : Option Nat) : NPI cfg (redoCmd c new) := by
  constructor
  intro s hs
  unfold redoCmd
  simp only [EM.bind_apply, lastInsert, EM.liftP]
  cases hc : c.redo new s.changes.lastInsert with
  | ok c' => exact hs
  | error e =>
    intro _
    exact Cmd.redo_error hr hc

/-- `vi_num_args`: its `unreachable!()` is unreachable -/
theorem npi_viNumArgs (hvi : cfg.vi = true) : NPI cfg viNumArgs := by
  constructor
  intro s hs
  have h0 := hs hvi
  unfold viNumArgs
  simp only [EM.bind_apply, takeNumArgs]
  have : ¬ (if (s.inp.numArgs == 0) = true then (1 : Int) else s.inp.numArgs) < 0 := by
    split <;> omega
  rw [if_neg this]
  intro _; exact Int.le_refl 0

theorem digitVal_nonneg (c : Char) : 0 ≤ digitVal c := by unfold digitVal; exact Int.natCast_nonneg _

theorem satMulAdd_nonneg {a d : Int} (ha : 0 ≤ a) (hd : 0 ≤ d) : 0 ≤ satMulAdd a d := by
  unfold satMulAdd i16max
  simp only []
  split
  · omega
  · split
    · omega
    · split <;> omega


theorem npi_argPrims (hnp : cfg.hinterPanicAt = none) : ArgPrims S U cfg (fun m => NPI cfg m) where
  pure := NPI.pure
  bind := NPI.bind
  read := NPI.read
  nextKey := fun sea => NPI.of_leaf (noPanic_nextKey sea) (keeps_inp_nextKey sea)
  readPasted := NPI.of_leaf noPanic_readPasted keeps_inp_readPasted
  bound := fun keys n p _ hf =>
    NPI.bindFact (NPI.of_leaf (noPanic_customBinding cfg keys n p) (keeps_inp_customBinding cfg keys n p))
      (customBinding_inBinds cfg keys n p) hf
  termBinding := fun k => by
    obtain ⟨g, hg⟩ := termBinding_read k
    rw [hg]; exact NPI.read g
  takeNumArgs := ⟨fun _ _ _ => Int.le_refl 0⟩
  redoBound := fun _ new _ hr => npi_redoCmd cfg hr new
  exitFuel := NPI.exit fun h => nomatch h
  refreshLine := NPI.of_leaf (noPanic_refreshLine S U cfg hnp) (keeps_inp_refreshLine S U cfg)
  refreshPromptAndLine := fun p =>
    NPI.of_leaf (noPanic_refreshPromptAndLine S U cfg hnp p) (keeps_inp_refreshPromptAndLine S U cfg p)
  viSetArg := fun d => NPI.modify fun _ _ _ => digitVal_nonneg d
  -- the digit is appended with saturation: still not negative
  viDigitStep := fun d => NPI.modify fun s hs hv => by
    show 0 ≤ (if s.inp.numArgs.natAbs < 1000 then satMulAdd s.inp.numArgs (digitVal d) else s.inp.numArgs)
    split
    · exact satMulAdd_nonneg (hs hv) (digitVal_nonneg _)
    · exact hs hv

/-- emacs mode: `NumI` says nothing, so the argument may be set to a value of either sign -/
theorem npi_emacsPrims (hvi : cfg.vi = false) (hnp : cfg.hinterPanicAt = none) :
    EmacsPrims S U cfg (fun m => NPI cfg m) :=
  (npi_argPrims S U cfg hnp).toEmacsPrims fun _ => NPI.modify fun _ _ hv => by simp [hvi] at hv

theorem npi_viPrims (hvi : cfg.vi = true) (hnp : cfg.hinterPanicAt = none) :
    ViPrims S U cfg (fun m => NPI cfg m) where
  toKeyPrims := (npi_argPrims S U cfg hnp).toKeyPrims
  viNumArgs := npi_viNumArgs cfg hvi
  argDigit := (npi_argPrims S U cfg hnp).viArgDigit
  setInputMode := fun _ => ⟨fun _ h => h⟩
  setLastCmd := fun _ => ⟨fun _ h => h⟩
  setLastCharSearch := fun _ => NPI.modify fun _ h => h
  redoLast := fun _ new hr => npi_redoCmd cfg hr new
  changesBegin := NPI.of_leaf noPanic_changesBegin keeps_inp_changesBegin
  changesEnd := NPI.of_leaf noPanic_changesEnd keeps_inp_changesEnd

/-- **`next_cmd`, both modes** (helpers that do not panic): it keeps `NumI`, and its only panic is D43 -/
theorem npi_nextCmd (hnp : cfg.hinterPanicAt = none) (fuel : Nat) (sea iep : Bool) :
    NPI cfg (nextCmd S U cfg fuel sea iep) :=
  nextCmd_of_prims (fun hvi => npi_emacsPrims S U cfg hvi hnp) (fun hvi => npi_viPrims S U cfg hvi hnp)
    (NPI.of_leaf noPanic_changesBegin keeps_inp_changesBegin) fuel sea iep

end
end Rl
