/-
  C17: what `next_cmd` RETURNS.  `RT cfg P m`: from a state whose pending numeric argument fits an
  `i16` and whose remembered command (`last_cmd`, for vi `.`) is acceptable (`RI`), every normal
  return of `m` is again in such a state and its result satisfies `P`.  With `P := CmdI cfg`:
    * every `ReplaceChar(n, _)` that `next_cmd` returns has `n ≤ 65535` (the numeric argument is an
      `i16`; a repeat count given to `Cmd::redo` comes from it), so the `u16` conversion of
      `edit_replace_char` never fails on a command that was read;
    * in vi mode `YankPop` is never returned (the default vi keymaps have no key for it).
  The only assumption is about the custom bindings (`BindsI`): a bound `ReplaceChar` carries a count
  that fits its type (`RepeatCount = u16`), and `YankPop` is not bound in vi mode.
-/
import Rl.Lemmas.EditorNextAll
namespace Rl
open EM

/-- acceptable commands: a `ReplaceChar` count fits a `u16`; no `YankPop` in vi mode; `Replace` and
    `ViYankTo` (vi's `c`/`s`/`R` and `y` commands) only in vi mode -/
def CmdI (cfg : EdCfg) : Cmd → Prop
  | .replaceChar k _ => k ≤ 65535
  | .yankPop => cfg.vi = false
  | .replace _ _ => cfg.vi = true
  | .viYankTo _ => cfg.vi = true
  | _ => True

def BindsI (cfg : EdCfg) : Prop := ∀ b ∈ cfg.binds, CmdI cfg b.2

/-- the pending numeric argument is an `i16`; the remembered command is acceptable -/
def RI (cfg : EdCfg) (s : Ed) : Prop :=
  -32768 ≤ s.inp.numArgs ∧ s.inp.numArgs ≤ 32767 ∧ CmdI cfg s.inp.lastCmd

/-- from an `RI` state every normal return of `m` is in an `RI` state and its RESULT satisfies `P` (early exits
    unconstrained) -/
structure RT {α : Type} (cfg : EdCfg) (P : α → Prop) (m : EM α) : Prop where
  h : ∀ s, RI cfg s → ∀ a s', m s = .ok (a, s') → RI cfg s' ∧ P a

namespace RT
variable {α β : Type} {cfg : EdCfg}

theorem pure {P : α → Prop} (a : α) (h : P a) : RT cfg P (pure a : EM α) := by
  constructor
  intro s hs a' s' he
  cases he
  exact ⟨hs, h⟩

theorem bindQ {Q : α → Prop} {P : β → Prop} {m : EM α} {f : α → EM β} (hm : RT cfg Q m)
    (hf : ∀ a, Q a → RT cfg P (f a)) : RT cfg P (m >>= f) := by
  constructor
  intro s hs b s' he
  rw [EM.bind_apply] at he
  cases hms : m s with
  | error e => rw [hms] at he; cases he
  | ok r =>
    obtain ⟨a, s1⟩ := r
    rw [hms] at he
    obtain ⟨h1, h2⟩ := hm.h s hs a s1 hms
    exact (hf a h2).h s1 h1 b s' he

theorem bindT {P : β → Prop} {m : EM α} {f : α → EM β} (hm : RT cfg (fun _ => True) m)
    (hf : ∀ a, RT cfg P (f a)) : RT cfg P (m >>= f) := bindQ hm fun a _ => hf a

theorem bindT' {P : β → Prop} {m : Ed → Except (Outcome × Ed) (α × Ed)} {f : α → EM β}
    (hm : RT cfg (fun _ => True) (m : EM α)) (hf : ∀ a, RT cfg P (f a)) :
    RT cfg P (@Bind.bind EM _ α β m f) := bindT hm hf

theorem mono {P Q : α → Prop} {m : EM α} (hm : RT cfg P m) (h : ∀ a, P a → Q a) : RT cfg Q m :=
  ⟨fun s hs a s' he => ⟨(hm.h s hs a s' he).1, h a (hm.h s hs a s' he).2⟩⟩

theorem triv {P : α → Prop} {m : EM α} (hm : RT cfg P m) : RT cfg (fun _ => True) m := hm.mono fun _ _ => trivial

theorem ite {P : α → Prop} {c : Prop} [Decidable c] {a b : EM α} (ha : RT cfg P a) (hb : RT cfg P b) :
    RT cfg P (if c then a else b) := by split <;> assumption

theorem exit {P : α → Prop} {o : Outcome} : RT cfg P (EM.exit o : EM α) :=
  ⟨fun _ _ _ _ he => by cases he⟩

theorem read (g : Ed → α) : RT cfg (fun _ => True) (fun s => .ok (g s, s) : EM α) :=
  ⟨fun _ hs _ _ he => by cases he; exact ⟨hs, trivial⟩⟩
theorem get : RT cfg (fun _ => True) EM.get := read id

theorem modify {g : Ed → Ed} (hg : ∀ s, RI cfg s → RI cfg (g s)) : RT cfg (fun _ => True) (EM.modify g) :=
  ⟨fun s hs _ _ he => by cases he; exact ⟨hg s hs, trivial⟩⟩

theorem of_keeps {m : EM α} (hk : Keeps Ed.inpOf m) : RT cfg (fun _ => True) m := by
  constructor
  intro s hs a s' he
  have h2 := hk.h s
  rw [he] at h2
  have : s'.inp = s.inp := h2
  refine ⟨?_, trivial⟩
  unfold RI
  rw [this]; exact hs

end RT

theorem CmdI.redo {cfg : EdCfg} {c c' : Cmd} (hc : CmdI cfg c) {new : Option Nat} {li : Option Text}
    (hn : ∀ k, new = some k → k ≤ 65535) (h : c.redo new li = .ok c') : CmdI cfg c' := by
  cases c <;> first | (cases h; trivial) | (cases h; done) | skip
  case replaceChar p ch =>
    cases h
    show Cmd.rc p new ≤ 65535
    cases new with
    | none => exact hc
    | some k => exact hn k rfl
  case replace m t =>
    cases t with
    | some t => cases h; trivial
    | none =>
      unfold Cmd.redo at h
      simp only [] at h
      split at h
      · cases li with
        | none => simp at h; cases h; trivial
        | some t =>
          simp only [] at h
          split at h
          · cases h
          · cases h; trivial
      · cases h; trivial
  case selfInsert n ch => cases li <;> (cases h; trivial)

section
variable (S : Segmenter) (U : UData) (cfg : EdCfg)

theorem rt_redoCmd {c : Cmd} (hc : CmdI cfg c) {new : Option Nat} (hn : ∀ k, new = some k → k ≤ 65535) :
    RT cfg (CmdI cfg) (redoCmd c new) := by
  constructor
  intro s hs c' s' he
  unfold redoCmd at he
  simp only [EM.bind_apply, lastInsert, EM.liftP] at he
  cases hr : c.redo new s.changes.lastInsert with
  | ok c1 =>
    rw [hr] at he
    cases he
    exact ⟨hs, hc.redo hn hr⟩
  | error e => rw [hr] at he; cases he

theorem newOK_some {n : Nat} (h : n ≤ 65535) : ∀ k, some n = some k → k ≤ 65535 := by
  intro k hk; cases hk; exact h
theorem newOK_none : ∀ k, (none : Option Nat) = some k → k ≤ 65535 := by intro k hk; cases hk
theorem newOK_ite {n : Nat} (b : Bool) (h : n ≤ 65535) :
    ∀ k, (if b = true then none else some n) = some k → k ≤ 65535 := by
  cases b
  · exact newOK_some h
  · exact newOK_none

theorem rt_bound {c : Cmd} (hc : CmdI cfg c) {new : Option Nat} (hn : ∀ k, new = some k → k ≤ 65535) :
    RT cfg (CmdI cfg) (if c.isRepeatable = true then redoCmd c new else (Pure.pure c : EM Cmd)) :=
  RT.ite (rt_redoCmd cfg hc hn) (RT.pure _ hc)

theorem rt_takeNumArgs : RT cfg (fun a => -32768 ≤ a ∧ a ≤ 32767) takeNumArgs := by
  constructor
  intro s hs a s' he
  cases he
  refine ⟨⟨by show (-32768 : Int) ≤ 0; omega, by show (0 : Int) ≤ 32767; omega, hs.2.2⟩, ?_⟩
  have h1 := hs.1
  have h2 := hs.2.1
  show -32768 ≤ (if (s.inp.numArgs == 0) = true then (1 : Int) else s.inp.numArgs) ∧
    (if (s.inp.numArgs == 0) = true then (1 : Int) else s.inp.numArgs) ≤ 32767
  split <;> omega

/-- emacs: a negative argument is returned as its absolute value, so `i16::MIN` gives 32768, one more than the
    32767 that vi (which rejects negative arguments) can return -/
theorem rt_emacsNumArgs : RT cfg (fun p => p.1 ≤ 32768) emacsNumArgs := by
  unfold emacsNumArgs
  refine RT.bindQ (rt_takeNumArgs cfg) ?_
  intro a ha
  refine RT.ite (RT.pure _ ?_) (RT.pure _ ?_)
  · show a.natAbs ≤ 32768; omega
  · show a.toNat ≤ 32768; omega

theorem rt_viNumArgs : RT cfg (fun n => n ≤ 32767) viNumArgs := by
  unfold viNumArgs
  refine RT.bindQ (rt_takeNumArgs cfg) ?_
  intro a ha
  refine RT.ite RT.exit (RT.pure _ ?_)
  show a.toNat ≤ 32767; omega

theorem rt_customBinding (hb : BindsI cfg) (keys : List KeyEvent) (n : Nat) (p : Bool) :
    RT cfg (fun r => CmdI cfg (r.getD .unknown)) (customBinding cfg keys n p) := by
  constructor
  intro s hs r s' he
  unfold customBinding at he
  cases hf : cfg.binds.find? (fun b => b.1 == keys) with
  | none =>
    rw [hf] at he
    cases he
    exact ⟨hs, trivial⟩
  | some b =>
    obtain ⟨k, c⟩ := b
    rw [hf] at he
    cases he
    exact ⟨hs, hb _ (List.mem_of_find?_eq_some hf)⟩

theorem satMulAdd_bounds {a d : Int} (hd : 0 ≤ d) : -32768 ≤ satMulAdd a d ∧ satMulAdd a d ≤ 32767 := by
  unfold satMulAdd i16max
  simp only []
  split
  · split <;> omega
  · split
    · split <;> omega
    · split <;> omega

theorem digit_toNat_le {d : Char} (h : isDigit d = true) : d.toNat - '0'.toNat ≤ 9 := by
  unfold isDigit at h
  simp only [Bool.and_eq_true, decide_eq_true_eq] at h
  have h2 : d.val ≤ '9'.val := h.2
  have : d.toNat ≤ '9'.toNat := h2
  have h9 : '9'.toNat = 57 := rfl
  have h0 : '0'.toNat = 48 := rfl
  omega

theorem digitVal_le {d : Char} (h : d ≤ '9') : digitVal d ≤ 9 := by
  have h2 : d.val ≤ '9'.val := h
  have : d.toNat ≤ '9'.toNat := h2
  have h9 : '9'.toNat = 57 := rfl
  have h0 : '0'.toNat = 48 := rfl
  unfold digitVal
  omega


theorem rt_reader {α : Type} {m : EM α} (h : ∀ s, ∃ a, m s = .ok (a, s)) : RT cfg (fun _ => True) m := by
  constructor
  intro s hs a s' he
  obtain ⟨a0, ha⟩ := h s
  rw [ha] at he
  cases he
  exact ⟨hs, trivial⟩

theorem rt_termBinding (k : KeyEvent) : RT cfg (fun _ => True) (termBinding k) := by
  obtain ⟨g, hg⟩ := termBinding_read k
  rw [hg]; exact RT.read g

theorem rt_bindTerm {β : Type} {P : β → Prop} (k : KeyEvent) {f : Option Cmd → EM β}
    (h1 : ∀ cmd, CmdI cfg cmd → RT cfg P (f (some cmd))) (h2 : RT cfg P (f none)) :
    RT cfg P (termBinding k >>= f) := by
  have hq : RT cfg (fun r => CmdI cfg (r.getD .unknown)) (termBinding k) := by
    constructor
    intro s hs r s' he
    unfold termBinding at he
    simp only [] at he
    by_cases hc : ((if k == ⟨.char 'D', 8⟩ then some Cmd.endOfFile
      else if k == ⟨.char 'C', 8⟩ then some .interrupt
      else if k == ⟨.char '\\', 8⟩ then some .interrupt
      else if k == ⟨.char 'Z', 8⟩ then some .suspend
      else none) == some Cmd.endOfFile && !s.line.buf.isEmpty) = true
    · rw [if_pos hc] at he; cases he; exact ⟨hs, trivial⟩
    · rw [if_neg hc] at he
      cases he
      refine ⟨hs, ?_⟩
      repeat' split
      all_goals trivial
  refine RT.bindQ hq ?_
  intro r hr
  cases r with
  | some cmd => exact h1 cmd hr
  | none => exact h2

theorem rt_lineEmpty : RT cfg (fun _ => True) lineEmpty := rt_reader cfg fun _ => ⟨_, rfl⟩
theorem rt_hasHint : RT cfg (fun _ => True) hasHint := rt_reader cfg fun _ => ⟨_, rfl⟩
theorem rt_cursorAtEnd : RT cfg (fun _ => True) cursorAtEnd := rt_reader cfg fun _ => ⟨_, rfl⟩
theorem rt_lastCharSearch : RT cfg (fun _ => True) lastCharSearch := rt_reader cfg fun _ => ⟨_, rfl⟩
theorem rt_getLastCmd : RT cfg (CmdI cfg) getLastCmd :=
  ⟨fun s hs a s' he => by cases he; exact ⟨hs, hs.2.2⟩⟩
theorem rt_setInputMode (m : InputMode) : RT cfg (fun _ => True) (setInputMode m) :=
  RT.modify fun _ hs => hs
theorem rt_setLastCmd {c : Cmd} (hc : CmdI cfg c) : RT cfg (fun _ => True) (setLastCmd c) :=
  RT.modify fun _ hs => ⟨hs.1, hs.2.1, hc⟩
theorem rt_changesBegin : RT cfg (fun _ => True) changesBegin := RT.of_keeps keeps_inp_changesBegin
theorem rt_changesEnd : RT cfg (fun _ => True) changesEnd := RT.of_keeps keeps_inp_changesEnd
theorem rt_doingInsert : RT cfg (fun _ => True) doingInsert :=
  RT.bindT (rt_changesBegin cfg) fun _ => RT.pure _ trivial
theorem rt_doneInserting : RT cfg (fun _ => True) doneInserting :=
  RT.bindT (rt_changesEnd cfg) fun _ => RT.pure _ trivial
theorem rt_nextKey (sea : Bool) : RT cfg (fun _ => True) (nextKey sea) := RT.of_keeps (keeps_inp_nextKey sea)
theorem rt_readPasted : RT cfg (fun _ => True) readPasted := RT.of_keeps keeps_inp_readPasted
theorem rt_refreshLine : RT cfg (fun _ => True) (refreshLine S U cfg) :=
  RT.of_keeps (keeps_inp_refreshLine S U cfg)
theorem rt_refreshPromptAndLine (p : Text) : RT cfg (fun _ => True) (refreshPromptAndLine S U cfg p) :=
  RT.of_keeps (keeps_inp_refreshPromptAndLine S U cfg p)

end

/-- closes the side goal of a `pure` leaf -/
macro "rt_close" : tactic => `(tactic| first
  | trivial
  | assumption
  | (show _ ≤ 65535; omega)
  | (split <;> first | trivial | assumption)
  | (intro c hc; cases hc; first | done | assumption))

/-- closes the side goal of `rt_redoCmd` (the repeat count given to `Cmd::redo` fits `u16`) -/
macro "rt_new" : tactic => `(tactic| first
  | exact newOK_none
  | (apply newOK_ite; omega)
  | (apply newOK_some; omega))

/-- one step of the descent through a `do` block for `RT`.  `RT` cannot use `nextCmd_of_prims`: the predicate `P` on
    the result differs from step to step (`RT.bindT` leaves it as a metavariable that the leaf lemma fixes), so it
    is not one `C : EM α → Prop` closed under `>>=`. -/
macro "em_rt_step" : tactic => `(tactic| first
  | intro _
  | ((with_reducible apply RT.pure) <;> rt_close)
  | with_reducible (first
    | apply RT.bindT
    | apply RT.bindT'
    | assumption
    | exact RT.get
    | exact RT.read _
    | exact RT.exit
    | exact rt_nextKey _ _ | exact rt_readPasted _
    | exact rt_termBinding _ _ | exact rt_lineEmpty _ | exact rt_hasHint _ | exact rt_cursorAtEnd _
    | exact rt_lastCharSearch _ | exact rt_setInputMode _ _
    | exact rt_changesBegin _ | exact rt_changesEnd _
    | exact rt_doingInsert _ | exact rt_doneInserting _
    | exact rt_refreshLine _ _ _ | exact rt_refreshPromptAndLine _ _ _ _)
  | ((with_reducible refine rt_redoCmd _ ?_ ?_) <;> first | assumption | rt_new)
  | ((with_reducible apply RT.modify) <;> (intro s hs; exact hs))
  | (with_reducible apply RT.ite)
  | dsimp only
  | split)

/-- `em_rt [h₁, …]`: `em_rt_step` to the end, trying the given `RT` facts (induction hypotheses, sub-functions)
    first -/
syntax "em_rt" ("[" term,* "]")? : tactic
macro_rules
  | `(tactic| em_rt) => `(tactic| repeat' em_rt_step)
  | `(tactic| em_rt [$ts,*]) =>
    `(tactic| repeat' (first | (with_reducible first $[| apply $ts]*) | em_rt_step))

section
variable (S : Segmenter) (U : UData) (cfg : EdCfg)

theorem rt_customSeqBinding (hb : BindsI cfg) (fuel : Nat) (keys : List KeyEvent) (n : Nat) (p : Bool) :
    RT cfg (fun r => CmdI cfg (r.1.getD .unknown)) (customSeqBinding cfg fuel keys n p) := by
  induction fuel generalizing keys with
  | zero => unfold customSeqBinding; em_rt
  | succ k ih =>
    unfold customSeqBinding
    em_rt [ih]
    rename_i hf
    exact RT.pure _ (hb _ (List.mem_of_find?_eq_some hf))

theorem rt_bindSeq {β : Type} {P : β → Prop} (hb : BindsI cfg) (fuel : Nat) (keys : List KeyEvent) (n : Nat) (p : Bool)
    {f : Option Cmd × List KeyEvent → EM β}
    (h1 : ∀ cmd keys', CmdI cfg cmd → RT cfg P (f (some cmd, keys')))
    (h2 : ∀ keys', RT cfg P (f (none, keys'))) :
    RT cfg P (customSeqBinding cfg fuel keys n p >>= f) := by
  refine RT.bindQ (rt_customSeqBinding cfg hb fuel keys n p) ?_
  intro r hr
  obtain ⟨cb, keys'⟩ := r
  cases cb with
  | some cmd => exact h1 cmd keys' hr
  | none => exact h2 keys'

theorem rt_fallback (hb : BindsI cfg) (fuel : Nat) (keys : List KeyEvent) (n : Nat) (p : Bool) :
    RT cfg (CmdI cfg) (common.fallback cfg fuel keys n p) := by
  unfold common.fallback
  refine RT.bindQ (rt_customSeqBinding cfg hb fuel keys n p) ?_
  intro r hr
  exact RT.pure _ hr

theorem rt_common (hb : BindsI cfg) (fuel : Nat) (keys : List KeyEvent) (key : KeyEvent) (n : Nat) (p : Bool) :
    RT cfg (CmdI cfg) (common cfg fuel keys key n p) := by
  have h0 := rt_fallback cfg hb fuel keys n p
  unfold common
  em_rt


/-- `digit_argument` (keymap.rs) stops appending digits once the magnitude has four (`if cur < 1000`), so it stays
    `≤ 9999` and the argument fits an `i16` -/
theorem argOf_bounds (negative : Bool) {mag : Option Nat} (hm : ∀ m, mag = some m → m ≤ 9999) :
    -32768 ≤ argOf negative mag ∧ argOf negative mag ≤ 32767 := by
  unfold argOf
  cases mag with
  | none => simp only []; omega
  | some m =>
    have := hm m rfl
    simp only []
    split <;> omega

theorem digitAccum_le {mag : Option Nat} (hm : ∀ m, mag = some m → m ≤ 9999) {d : Nat} (hd : d ≤ 9) :
    ∀ m, digitAccum mag d = some m → m ≤ 9999 := by
  intro m h
  unfold digitAccum at h
  simp only [Option.some.injEq] at h
  have h0 : mag.getD 0 ≤ 9999 := by
    cases mag with
    | none => show 0 ≤ 9999; omega
    | some k => exact hm k rfl
  subst h
  split <;> omega

theorem rt_emacsDigitLoop (negative : Bool) (fuel : Nat) (mag : Option Nat)
    (hm : ∀ m, mag = some m → m ≤ 9999) :
    RT cfg (fun _ => True) (emacsDigitLoop S U cfg negative fuel mag) := by
  induction fuel generalizing mag with
  | zero => unfold emacsDigitLoop; em_rt
  | succ k ih =>
    unfold emacsDigitLoop
    refine RT.bindT (RT.modify fun s hs => ⟨(argOf_bounds negative hm).1, (argOf_bounds negative hm).2, hs.2.2⟩) ?_
    intro _
    refine RT.bindT (rt_refreshPromptAndLine S U cfg _) ?_
    intro _
    refine RT.bindT (rt_nextKey cfg _) ?_
    intro key
    split
    · split
      · rename_i hd
        simp only [Bool.and_eq_true] at hd
        exact ih _ (digitAccum_le hm (digit_toNat_le hd.1))
      · split
        · exact ih _ hm
        · em_rt
    · em_rt

theorem rt_charSearchCmd (n : Nat) (p a : Bool) : RT cfg (CmdI cfg) (emacs.charSearchCmd n p a) := by
  unfold emacs.charSearchCmd; em_rt


theorem rt_emacsDigitArgument (fuel : Nat) (d : Char) (hd : (d == '-' || isDigit d) = true) :
    RT cfg (fun _ => True) (emacsDigitArgument S U cfg fuel d) := by
  unfold emacsDigitArgument
  refine rt_emacsDigitLoop S U cfg _ fuel _ ?_
  intro m hm
  by_cases h : (d == '-') = true
  · rw [if_pos h] at hm; cases hm
  · rw [if_neg h] at hm
    cases hm
    have : isDigit d = true := by
      cases h1 : (d == '-') with
      | true => exact absurd h1 h
      | false => rw [h1] at hd; simpa using hd
    have := digit_toNat_le this
    omega

theorem rt_emacs (hvi : cfg.vi = false) (hb : BindsI cfg) (fuel : Nat) (key0 : KeyEvent) :
    RT cfg (CmdI cfg) (emacs S U cfg fuel key0) := by
  have h2 := fun keys key n p => rt_common cfg hb fuel keys key n p
  have h4 := fun n p a => rt_charSearchCmd cfg n p a
  unfold emacs
  -- the code after the digit argument is a join point of three branches: walk it once
  extract_lets rest
  have hrest : ∀ key, RT cfg (CmdI cfg) (rest key) := ?_
  · clear_value rest
    split
    · rename_i d _
      by_cases hc : (key0.mods == Mods.alt && (d == '-' || isDigit d)) = true
      · rw [if_pos hc]
        simp only [Bool.and_eq_true] at hc
        exact RT.bindT (rt_emacsDigitArgument S U cfg fuel d hc.2) hrest
      · rw [if_neg hc]; exact hrest _
    · exact hrest _
  intro key
  refine RT.bindQ (rt_emacsNumArgs cfg) ?_
  intro ⟨n, positive⟩ hn
  have hn' : n ≤ 32768 := hn
  dsimp only
  refine RT.bindQ (rt_customBinding cfg hb _ _ _) ?_
  intro r hr
  cases r with
  | some cmd =>
    dsimp only
    exact rt_bound cfg hr (newOK_some (by omega))
  | none =>
    dsimp only
    em_rt [h2, h4, rt_bindSeq cfg hb, rt_bindTerm cfg]


theorem rt_viDigitLoop (fuel : Nat) : RT cfg (fun _ => True) (viDigitLoop S U cfg fuel) := by
  induction fuel with
  | zero => unfold viDigitLoop; em_rt
  | succ k ih =>
    unfold viDigitLoop
    refine RT.bindT (RT.read _) ?_
    intro a
    refine RT.bindT (rt_refreshPromptAndLine S U cfg _) ?_
    intro _
    refine RT.bindT (rt_nextKey cfg _) ?_
    intro key
    split
    · split
      · refine RT.bindT (RT.modify fun s hs => ?_) fun _ => ih
        refine ⟨?_, ?_, hs.2.2⟩
        · show -32768 ≤ (if s.inp.numArgs.natAbs < 1000 then satMulAdd s.inp.numArgs (digitVal _) else s.inp.numArgs)
          split
          · exact (satMulAdd_bounds (digitVal_nonneg _)).1
          · exact hs.1
        · show (if s.inp.numArgs.natAbs < 1000 then satMulAdd s.inp.numArgs (digitVal _) else s.inp.numArgs) ≤ 32767
          split
          · exact (satMulAdd_bounds (digitVal_nonneg _)).2
          · exact hs.2.1
      · em_rt
    · em_rt

theorem rt_viArgDigit (fuel : Nat) (d : Char) (hd : d ≤ '9') : RT cfg (fun _ => True) (viArgDigit S U cfg fuel d) := by
  unfold viArgDigit
  refine RT.bindT (RT.modify fun s hs => ?_) fun _ => rt_viDigitLoop S U cfg fuel
  have h1 := digitVal_le hd
  have h2 := digitVal_nonneg d
  exact ⟨by show -32768 ≤ digitVal d; omega, by show digitVal d ≤ 32767; omega, hs.2.2⟩

theorem rt_viCharSearch (c : Char) : RT cfg (fun _ => True) (viCharSearch c) := by
  unfold viCharSearch; em_rt

/-- `'1' ≤ d ∧ d ≤ '9'` as the keymaps test it -/
theorem digit_cond {m : Nat} {d : Char} (h : (m == 0 && decide ('1' ≤ d) && decide (d ≤ '9')) = true) : d ≤ '9' := by
  simp only [Bool.and_eq_true, decide_eq_true_eq] at h
  exact h.2


theorem rt_viCmdMotion (fuel : Nat) (key : KeyEvent) (n : Nat) :
    RT cfg (fun _ => True) (viCmdMotion S U cfg fuel key n) := by
  have h2 := (rt_viNumArgs cfg).triv
  have h3 := fun c => rt_viCharSearch cfg c
  unfold viCmdMotion
  refine RT.bindT (rt_nextKey cfg _) ?_
  intro mvt0
  refine RT.ite (RT.pure _ trivial) ?_
  refine RT.bindT ?_ ?_
  · split
    · rename_i d _
      by_cases hc : (mvt0.mods == 0 && decide ('1' ≤ d) && decide (d ≤ '9')) = true
      · rw [if_pos hc]
        have h1 := rt_viArgDigit S U cfg fuel d (digit_cond hc)
        em_rt
      · rw [if_neg hc]; em_rt
    · em_rt
  · em_rt [h3]


theorem rt_viCommand (hvi : cfg.vi = true) (hb : BindsI cfg) (fuel : Nat) (key0 : KeyEvent) :
    RT cfg (CmdI cfg) (viCommand S U cfg fuel key0) := by
  have h3 := fun c => rt_viCharSearch cfg c
  have h4 := fun key n => rt_viCmdMotion S U cfg fuel key n
  have h5 := fun keys key n p => rt_common cfg hb fuel keys key n p
  unfold viCommand
  -- the code after the digit argument is a join point of three branches: walk it once
  extract_lets rest
  have hrest : ∀ key, RT cfg (CmdI cfg) (rest key) := ?_
  · clear_value rest
    split
    · rename_i d _
      by_cases hc : (key0.mods == 0 && decide ('1' ≤ d) && decide (d ≤ '9')) = true
      · rw [if_pos hc]; exact RT.bindT (rt_viArgDigit S U cfg fuel d (digit_cond hc)) hrest
      · rw [if_neg hc]; exact hrest _
    · exact hrest _
  intro key
  refine RT.bindT (RT.read _) ?_
  intro noNumArgs
  refine RT.bindQ (rt_viNumArgs cfg) ?_
  intro n hn
  have hn' : n ≤ 32767 := hn
  refine RT.bindQ (rt_customBinding cfg hb _ _ _) ?_
  intro r hr
  cases r with
  | some cmd =>
    dsimp only
    exact rt_bound cfg hr (newOK_ite _ (by omega))
  | none =>
    dsimp only
    refine rt_bindTerm cfg _ (fun cmd hc => RT.pure _ hc) ?_
    dsimp only
    refine RT.bindQ (Q := CmdI cfg) ?_ ?_
    · em_rt [h3, h4, h5, RT.bindQ (rt_getLastCmd cfg)]
    · intro cmd hcmd
      exact RT.ite (RT.bindT (rt_setLastCmd cfg hcmd) fun _ => RT.pure _ hcmd) (RT.pure _ hcmd)


theorem rt_viInsert (hvi : cfg.vi = true) (hb : BindsI cfg) (fuel : Nat) (key : KeyEvent) :
    RT cfg (CmdI cfg) (viInsert S U cfg fuel key) := by
  have h4 := fun key => rt_viCommand S U cfg hvi hb fuel key
  have h5 := fun keys key n p => rt_common cfg hb fuel keys key n p
  unfold viInsert
  simp only []
  refine RT.bindQ (rt_customBinding cfg hb _ _ _) ?_
  intro r hr
  cases r with
  | some cmd =>
    dsimp only
    exact rt_bound cfg hr newOK_none
  | none =>
    dsimp only
    refine rt_bindTerm cfg _ (fun cmd hc => RT.pure _ hc) ?_
    refine RT.bindT (RT.read _) ?_
    intro replaceMode
    refine RT.bindQ (Q := CmdI cfg) ?_ ?_
    · em_rt [h4, h5]
    · intro cmd hcmd
      have h6 := rt_setLastCmd cfg hcmd
      have h7 := (rt_getLastCmd cfg).triv
      em_rt

/-- **what `next_cmd` returns, both modes**: an acceptable command, in an acceptable input state -/
theorem rt_nextCmd (hb : BindsI cfg) (fuel : Nat) (sea iep : Bool) :
    RT cfg (CmdI cfg) (nextCmd S U cfg fuel sea iep) := by
  have hfin : ∀ cmd : Cmd, CmdI cfg cmd → RT cfg (CmdI cfg)
      (match cmd with
       | .replace _ _ => do let _ ← changesBegin; pure cmd
       | _ => (pure cmd : EM Cmd)) := by
    intro cmd hcmd
    have h1 := rt_changesBegin cfg
    em_rt
  unfold nextCmd waitForInput
  simp only []
  by_cases hvi : cfg.vi = true
  · simp only [hvi, Bool.not_true, Bool.false_eq_true, if_false, if_true]
    split <;>
    · refine RT.bindT (rt_nextKey cfg _) ?_
      intro key
      refine RT.bindT (RT.read _) ?_
      intro inCommand
      exact RT.ite (RT.bindQ (rt_viInsert S U cfg hvi hb fuel key) hfin) (RT.bindQ (rt_viCommand S U cfg hvi hb fuel key) hfin)
  · have hvf : cfg.vi = false := by simpa using hvi
    simp only [hvf, Bool.not_false, Bool.false_eq_true, if_false, if_true]
    split <;>
    · refine RT.bindT (rt_nextKey cfg _) ?_
      intro key
      refine RT.bindT (RT.read _) ?_
      intro inCommand
      exact RT.bindQ (rt_emacs S U cfg hvf hb fuel key) hfin

end
end Rl
