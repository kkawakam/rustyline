/-
  Specifications (in `wp` form, Rl/Lemmas/EditorM.lean) of the `src/edit.rs` / `src/command.rs`
  operations of the editor model: `validate`, `execAccept` (Enter), `editInsert`, `backup` / `restore` /
  `showEntry` (history recall), the `update` of the line; `withPreAccept` is what the accepting arms of `execute` do
  first (hint, prompt and highlight cleared from the display).  `wp_lb_any` / `wp_lb`: a postcondition for every outcome of the `LM`
  operation / for the run that is known.
-/
import Rl.Lemmas.EditorM
import Rl.Lemmas.LineBufferSafe
import Rl.Lemmas.LineBufferGrow
namespace Rl
open EM

/-- `validate` changes nothing but the display and the record of validator calls; it returns the validator's
    verdict (`valid` without a helper) and exits exactly when the verdict is `error` or `panic` -/
theorem validate_spec (S : Segmenter) (U : UData) (cfg : EdCfg) (s : Ed) :
    wp (validate S U cfg)
      (fun v s' => s'.line = s.line ∧ s'.saved = s.saved ∧ s'.ring = s.ring ∧ s'.histIdx = s.histIdx ∧
        (if cfg.hasHelper = true then v = cfg.validator s.line.buf ∧ s'.validatorCalls = s.line.buf :: s.validatorCalls
         else v = .valid false ∧ s' = s) ∧ v ≠ .error ∧ v ≠ .panic)
      (fun o s' => cfg.hasHelper = true ∧ s'.line = s.line ∧
        ((o = .helperError ∧ cfg.validator s.line.buf = .error) ∨ (o = .panic ∧ cfg.validator s.line.buf = .panic)))
      s := by
  unfold validate
  by_cases hh : cfg.hasHelper = true
  · simp only [hh, if_true, wp_bind, wp_changesBegin, wp_getLine, wp_modify, wp_ite, wp_exit, wp_changesEnd, wp_hasHint]
    generalize cfg.validator s.line.buf = v
    cases v with
    | error => simp
    | panic => simp
    | incomplete => simp [wp_pure]
    | valid m =>
      simp only [beq_iff_eq, reduceCtorEq, if_false]
      split
      · simp only [wp_bind]
        refine wp_refreshLineWithMsg S U cfg fun s' hc => ?_
        obtain ⟨h1, h2, _, h4, h5, h6, _⟩ := Ed.core_eq hc
        simp [wp_pure, h1, h2, h4, h5, h6]
      · simp [wp_pure]
    | invalid m =>
      simp only [beq_iff_eq, reduceCtorEq, if_false]
      split
      · simp only [wp_bind]
        refine wp_refreshLineWithMsg S U cfg fun s' hc => ?_
        obtain ⟨h1, h2, _, h4, h5, h6, _⟩ := Ed.core_eq hc
        simp [wp_pure, h1, h2, h4, h5, h6]
      · simp [wp_pure]
  · simp only [hh, if_false, wp_pure, Bool.false_eq_true]
    simp

/-- `edit_insert`: the line-buffer insertion, then display work only; besides a failing insertion
    its only early exit is the panic of a hinter scripted to panic -/
theorem editInsert_spec (S : Segmenter) (U : UData) (cfg : EdCfg) (ch : Char) (n : Nat) (s : Ed) :
    wp (editInsert S U cfg ch n)
      (fun _ s' => ∃ r l ns, LB.insert S U ch n s.line = .ok (r, l, ns) ∧
        s'.core = ({ s with line := l, changes := s.changes.onNotifs S U.alnum ns } : Ed).core)
      (fun o s' => o = .panic ∧
        ((s' = s ∧ ∃ e, LB.insert S U ch n s.line = .error e) ∨
         (cfg.hasHelper = true ∧ cfg.hinterPanicAt ≠ none))) s := by
  unfold editInsert
  rw [wp_bind]
  cases h : LB.insert S U ch n s.line with
  | error e => rw [wp, lb_error S U h]; exact ⟨rfl, .inl ⟨rfl, e, rfl⟩⟩
  | ok r =>
    obtain ⟨a, l, ns⟩ := r
    refine wp_lb S U h ?_
    cases a with
    | none => exact ⟨_, _, _, rfl, rfl⟩
    | some push =>
      simp only [wp_bind, wp_get]
      refine wp_updateHint' cfg (fun s1 hc1 => ?_) (fun _ _ hh hne => ⟨rfl, .inr ⟨hh, hne⟩⟩)
      cases push with
      | false =>
        simp only [Bool.false_eq_true, if_false, wp_bind]
        refine wp_highlightCharStep cfg fun b s2 hc2 => ?_
        simp only [wp_setRefreshLayout, wp_logRender]
        exact ⟨_, _, _, rfl, hc2.trans hc1⟩
      | true =>
        simp only [if_true, wp_bind, wp_get, wp_ite]
        split
        · refine wp_highlightCharStep cfg fun b s2 hc2 => ?_
          cases b with
          | true =>
            simp only [if_true, wp_setRefreshLayout, wp_logRender]
            exact ⟨_, _, _, rfl, hc2.trans hc1⟩
          | false =>
            simp only [Bool.false_eq_true, if_false, wp_modify, wp_logRender]
            exact ⟨_, _, _, rfl, hc2.trans hc1⟩
        · simp only [wp_setRefreshLayout, wp_logRender]
          exact ⟨_, _, _, rfl, hc1⟩

theorem editInsert_spec_np (S : Segmenter) (U : UData) (cfg : EdCfg) (hnp : cfg.hinterPanicAt = none)
    (ch : Char) (n : Nat) (s : Ed) :
    wp (editInsert S U cfg ch n)
      (fun _ s' => ∃ r l ns, LB.insert S U ch n s.line = .ok (r, l, ns) ∧
        s'.core = ({ s with line := l, changes := s.changes.onNotifs S U.alnum ns } : Ed).core)
      (fun o s' => o = .panic ∧ s' = s ∧ ∃ e, LB.insert S U ch n s.line = .error e) s :=
  wp_mono (editInsert_spec S U cfg ch n s) (fun _ _ h => h) fun o s' ⟨ho, hd⟩ => by
    rcases hd with h | hne
    · exact ⟨ho, h⟩
    · exact absurd hnp hne.2

/-- the verdict `validate` works with: the validator's, or Valid when no helper is installed -/
def verdictOf (cfg : EdCfg) (t : Text) : Verdict := if cfg.hasHelper = true then cfg.validator t else .valid false
def Verdict.isValid : Verdict → Bool | .valid _ => true | _ => false
def Verdict.hasMsg : Verdict → Bool | .valid m => m | .invalid m => m | _ => false

/-- the action Enter takes in state `s` -/
def acceptActOf (U : UData) (cfg : EdCfg) (aim : Bool) (s : Ed) : AcceptAct :=
  acceptDecision aim (verdictOf cfg s.line.buf).isValid (verdictOf cfg s.line.buf).hasMsg (LB.isEndOfInput U s.line)

/-- Enter: the answer follows `acceptDecision` on the verdict.  The exits: the validator's `error` / `panic`; a
    panic of the inserted newline (`LB.insert` fails); or, last disjunct, of the hinter when the newline is
    repainted (`hinterPanicAt ≠ none`) — the only one where the line is no longer that of `s`. -/
theorem execAccept_spec (S : Segmenter) (U : UData) (cfg : EdCfg) (aim : Bool) (s : Ed) :
    wp (execAccept S U cfg aim)
      (fun st s' =>
        verdictOf cfg s.line.buf ≠ .error ∧ verdictOf cfg s.line.buf ≠ .panic ∧
        s'.saved = s.saved ∧ s'.ring = s.ring ∧ s'.histIdx = s.histIdx ∧
        match acceptActOf U cfg aim s with
        | .submit => st = .submit ∧ s'.line = s.line
        | .insertNewline => st = .proceed ∧ ∃ r ns, LB.insert S U '\n' 1 s.line = .ok (r, s'.line, ns)
        | .stay => st = .proceed ∧ s'.line = s.line)
      (fun o s' => (s'.line = s.line ∧
        ((o = .helperError ∧ cfg.hasHelper = true ∧ cfg.validator s.line.buf = .error) ∨
         (o = .panic ∧ cfg.hasHelper = true ∧ cfg.validator s.line.buf = .panic) ∨
         (o = .panic ∧ verdictOf cfg s.line.buf ≠ .error ∧ acceptActOf U cfg aim s = .insertNewline ∧
           ∃ e, LB.insert S U '\n' 1 s.line = .error e))) ∨
        (o = .panic ∧ cfg.hinterPanicAt ≠ none ∧ verdictOf cfg s.line.buf ≠ .error ∧
          acceptActOf U cfg aim s = .insertNewline))
      s := by
  unfold execAccept
  rw [wp_bind]
  refine wp_mono (validate_spec S U cfg s) ?_ ?_
  · intro v s1 ⟨h1, h2, h3, h4, h5, h6, h7⟩
    have hv : v = verdictOf cfg s.line.buf := by
      unfold verdictOf
      split at h5
      · rename_i hh; rw [if_pos hh]; exact h5.1
      · rename_i hh; rw [if_neg hh]; exact h5.1
    simp only [wp_bind, wp_getLine]
    generalize hA : acceptDecision aim _ _ (LB.isEndOfInput U s1.line) = A
    have hact : A = acceptActOf U cfg aim s := by
      rw [← hA]; unfold acceptActOf; rw [← hv, h1]
      cases v <;> rfl
    rw [hact]
    cases hact2 : acceptActOf U cfg aim s with
    | submit => simp only [wp_pure]; exact ⟨hv ▸ h6, hv ▸ h7, h2, h3, h4, trivial, h1⟩
    | stay => simp only [wp_pure]; exact ⟨hv ▸ h6, hv ▸ h7, h2, h3, h4, trivial, h1⟩
    | insertNewline =>
      simp only [wp_bind]
      refine wp_mono (editInsert_spec S U cfg '\n' 1 s1) ?_ ?_
      · intro _ s2 ⟨r, l, ns, hi, hc⟩
        obtain ⟨c1, c2, _, c4, c5, _, _⟩ := Ed.core_eq hc
        simp only [wp_pure]
        refine ⟨hv ▸ h6, hv ▸ h7, c2.trans h2, c4.trans h3, c5.trans h4, trivial, r, ns, ?_⟩
        rw [← h1, hi]; simp only [] at c1; rw [c1]
      · intro o s2 ⟨ho, hd⟩
        rcases hd with ⟨hs, e, he⟩ | hne
        · subst hs
          exact .inl ⟨h1, .inr (.inr ⟨ho, hv ▸ h6, trivial, e, h1 ▸ he⟩)⟩
        · exact .inr ⟨ho, hne.2, hv ▸ h6, trivial⟩
  · intro o s1 ⟨hh, h1, h2⟩
    refine .inl ⟨h1, ?_⟩
    rcases h2 with ⟨ho, hv⟩ | ⟨ho, hv⟩
    · exact .inl ⟨ho, hh, hv⟩
    · exact .inr (.inl ⟨ho, hh, hv⟩)

/-- what `execute` does before dispatching an accepting command (`EndOfFile`, `AcceptLine`,
    `AcceptOrInsertLine`, `Newline`): the hint / prompt / highlight are cleared from the display -/
def withPreAccept {α : Type} (S : Segmenter) (U : UData) (cfg : EdCfg) (k : EM α) : EM α := do
  let s ← EM.get
  if s.hint.isSome || !s.defaultPrompt || s.highlightChar then do refreshLineWithMsg S U cfg; k
  else k

theorem wp_withPreAccept {α : Type} (S : Segmenter) (U : UData) (cfg : EdCfg) {k : EM α}
    {Q : α → Ed → Prop} {E : Outcome → Ed → Prop} {s : Ed}
    (h : ∀ s1, s1.core = s.core → wp k Q E s1) : wp (withPreAccept S U cfg k) Q E s := by
  unfold withPreAccept
  simp only [wp_bind, wp_get, wp_ite]
  split
  · exact wp_refreshLineWithMsg S U cfg fun s1 hc => h s1 hc
  · exact h s rfl

theorem execute_acceptOrInsertLine (S : Segmenter) (U : UData) (cfg : EdCfg) (aim : Bool) :
    execute S U cfg (.acceptOrInsertLine aim) = withPreAccept S U cfg (execAccept S U cfg aim) := by
  unfold execute withPreAccept
  simp only []

theorem LB.update_canGrow (S : Segmenter) (U : UData) (b : Text) (p : Nat) (lb : LB)
    (hc : lb.canGrow = true) (hp : p ≤ blen b) :
    LB.update S U b p lb = .ok ((), { lb with buf := b, pos := p, cap := growCap lb.cap (blen b) },
      [.del 0 lb.buf .forward, .insStr 0 b]) := by
  unfold LB.update
  have ht : ({ lb with buf := [] } : LB).mustTruncate (blen b) = false := by
    simp [LB.mustTruncate, hc]
  simp [LM.bind_apply, LM.get, hp, drain_all, ht, insertStr_empty, LM.setPos]

def LB.updated (lb : LB) (b : Text) (p : Nat) : LB :=
  { lb with buf := b, pos := p, cap := growCap lb.cap (blen b) }

/-- the undo-log entries `update` produces -/
def updNotifs (old new : Text) : List Notif := [.del 0 old .forward, .insStr 0 new]

theorem wp_lb_update (S : Segmenter) (U : UData) {b : Text} {p : Nat} {s : Ed}
    {Q : Unit → Ed → Prop} {E : Outcome → Ed → Prop}
    (hc : s.line.canGrow = true) (hp : p ≤ blen b)
    (hq : Q () { s with line := s.line.updated b p,
                        changes := s.changes.onNotifs S U.alnum (updNotifs s.line.buf b) }) :
    wp (lb S U (LB.update S U b p)) Q E s :=
  wp_lb S U (LB.update_canGrow S U b p s.line hc hp) hq

theorem wp_backup (S : Segmenter) (U : UData) {s : Ed} {Q : Unit → Ed → Prop} {E : Outcome → Ed → Prop}
    (hc : s.saved.canGrow = true) (hp : s.line.pos ≤ blen s.line.buf)
    (hq : Q () { s with saved := s.saved.updated s.line.buf s.line.pos }) : wp (backup S U) Q E s := by
  unfold wp backup
  rw [LB.update_canGrow S U _ _ s.saved hc hp]
  exact hq

theorem wp_restore (S : Segmenter) (U : UData) {s : Ed} {Q : Unit → Ed → Prop} {E : Outcome → Ed → Prop}
    (hc : s.line.canGrow = true) (hp : s.saved.pos ≤ blen s.saved.buf)
    (hq : Q () { s with line := s.line.updated s.saved.buf s.saved.pos,
                        changes := s.changes.onNotifs S U.alnum (updNotifs s.line.buf s.saved.buf) }) :
    wp (restore S U) Q E s := by
  unfold restore
  rw [wp_bind', wp_read]
  exact wp_lb_update S U hc hp hq

/-- the undo log after showing a history entry: one closed group around the replacement -/
def showEntryChanges (S : Segmenter) (U : UData) (c : Changeset) (old new : Text) : Changeset :=
  ((c.begin.1).onNotifs S U.alnum (updNotifs old new)).end_.1

theorem wp_showEntry (S : Segmenter) (U : UData) {b : Text} {p : Nat} {s : Ed}
    {Q : Unit → Ed → Prop} {E : Outcome → Ed → Prop}
    (hc : s.line.canGrow = true) (hp : p ≤ blen b)
    (hq : Q () { s with line := s.line.updated b p,
                        changes := showEntryChanges S U s.changes s.line.buf b }) :
    wp (showEntry S U b p) Q E s := by
  unfold showEntry
  simp only [wp_bind, wp_changesBegin]
  refine wp_lb_update S U hc hp ?_
  simp only [wp_changesEnd, wp_pure]
  exact hq

section
variable (S : Segmenter) (U : UData) (cfg : EdCfg)

theorem wp_lb_any {α : Type} {op : LM α} {s : Ed} {Q : α → Ed → Prop} {E : Outcome → Ed → Prop}
    (hq : ∀ a l ns, op s.line = .ok (a, l, ns) →
      Q a { s with line := l, changes := s.changes.onNotifs S U.alnum ns })
    (he : E .panic s) : wp (lb S U op) Q E s := by
  unfold wp lb
  cases h : op s.line with
  | error e => exact he
  | ok r => obtain ⟨a, l, ns⟩ := r; exact hq a l ns h

theorem LB.replace_canGrow {a b : Nat} {t : Text} {lb lb' : LB} {r : Unit} {ns : List Notif}
    (h : LB.replace S U a b t lb = .ok (r, lb', ns)) : lb'.canGrow = lb.canGrow :=
  (Grow.replace S U a b t).h _ _ _ _ h

theorem LB.update_keeps_canGrow {b : Text} {p : Nat} {lb lb' : LB} {r : Unit} {ns : List Notif}
    (h : LB.update S U b p lb = .ok (r, lb', ns)) (hg : lb.canGrow = true) : lb'.canGrow = true :=
  ((Grow.update S U b p).h _ _ _ _ h).trans hg

/-- on a growable buffer an `update` that answers has stored exactly the text and the cursor it was given -/
theorem LB.update_ok_line {b : Text} {p : Nat} {lb lb' : LB} {r : Unit} {ns : List Notif}
    (h : LB.update S U b p lb = .ok (r, lb', ns)) (hg : lb.canGrow = true) :
    lb'.buf = b ∧ lb'.pos = p ∧ lb'.canGrow = true := by
  by_cases hp : p ≤ blen b
  · rw [LB.update_canGrow S U b p lb hg hp] at h
    cases h; exact ⟨rfl, rfl, hg⟩
  · exfalso
    unfold LB.update at h
    simp [hp, LM.bind_apply, LM.panic] at h

end

end Rl
