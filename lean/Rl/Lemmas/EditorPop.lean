/-
  C17: `PopOK` ("the text of the last yank stands right before the cursor": what `YankPop` needs)
  through the commands of an emacs-mode read.  `popI_execute`: from `PopPre` (what the main loop
  guarantees when a command is about to run: `PopOK`, and the last action reset unless the command is
  one the loop does not reset for) every acceptable command re-establishes `PopOK` — by the kill-ring
  frame for the commands that do not use the ring, by the frame of line and ring for `ClearScreen` /
  `Noop` / `Suspend`, and GIVEN three facts about one command each (`PopLocal`: `Kill`, `Yank`,
  `YankPop`).
-/
import Rl.Lemmas.EditorRead
namespace Rl
open EM

section
variable (S : Segmenter) (U : UData) (cfg : EdCfg)

/-- the three per-command facts that carrying `PopOK` rests on -/
structure PopLocal : Prop where
  /-- a `Kill` leaves `PopOK`: it sets the last action to Kill, or (nothing killed) leaves line, cursor
      and ring alone; the two character kills run after a reset -/
  kill : ∀ m s, RdInv cfg s → PopPre cfg (.kill m) s →
    wp (execute S U cfg (.kill m)) (fun _ s' => PopOK s') (fun _ _ => True) s
  /-- after a `Yank` the pasted text (as many bytes as the ring recorded) stands before the cursor (an
      empty ring pastes nothing and changes nothing: `PopOK` from before) -/
  yank : ∀ n a s, RdInv cfg s → PopOK s →
    wp (execute S U cfg (.yank n a)) (fun _ s' => PopOK s') (fun _ _ => True) s
  /-- after a `YankPop` the replacement stands before the cursor -/
  pop : ∀ s, RdInv cfg s → PopOK s →
    wp (execute S U cfg .yankPop) (fun _ s' => PopOK s') (fun _ _ => True) s

theorem wp_top {α : Type} (m : EM α) (s : Ed) : wp m (fun _ _ => True) (fun _ _ => True) s := by
  unfold wp; cases m s <;> trivial

theorem keeps_core_execute_clearScreen : Keeps Ed.core (execute S U cfg .clearScreen) := by
  unfold execute
  exact Keeps.bind (keeps_logRender _) fun _ => Keeps.bind (Keeps.modify fun _ => rfl) fun _ =>
    Keeps.bind (keeps_refreshLine S U cfg) fun _ => Keeps.pure _

/-- **every acceptable command re-establishes `PopOK`** (emacs mode; in vi mode there is nothing to show) -/
theorem popI_execute (L : cfg.vi = false → PopLocal S U cfg) (cmd : Cmd) (s : Ed) (hci : CmdI cfg cmd)
    (h : RdInv cfg s) (hp : PopPre cfg cmd s) :
    wp (execute S U cfg cmd) (fun _ s' => PopI cfg s') (fun _ _ => True) s := by
  by_cases hvi : cfg.vi = false
  case neg => exact wp_mono (wp_top _ s) (fun _ _ _ hv => absurd hv hvi) (fun _ _ h => h)
  have neutral : cmd.usesRing = false → cmd.shouldResetKillRing = true →
      wp (execute S U cfg cmd) (fun _ s' => PopI cfg s') (fun _ _ => True) s := fun hu hr =>
    wp_mono (wp_noYank (keeps_ring_execute S U cfg cmd hu) ((hp hvi).2 hr)) (fun _ _ hn _ => hn.popOK) (fun _ _ h => h)
  have still : Keeps Ed.core (execute S U cfg cmd) →
      wp (execute S U cfg cmd) (fun _ s' => PopI cfg s') (fun _ _ => True) s := fun hk =>
    wp_mono (hk.wp s) (fun _ _ hc _ => (hp hvi).1.of_eq (Ed.core_eq hc).1 (Ed.core_eq hc).2.2.2.1) (fun _ _ _ => trivial)
  cases cmd
  case kill m => exact wp_mono ((L hvi).kill m s h hp) (fun _ _ hq _ => hq) (fun _ _ h => h)
  case yank n a => exact wp_mono ((L hvi).yank n a s h (hp hvi).1) (fun _ _ hq _ => hq) (fun _ _ h => h)
  case yankPop => exact wp_mono ((L hvi).pop s h (hp hvi).1) (fun _ _ hq _ => hq) (fun _ _ h => h)
  case replace m t => have : cfg.vi = true := hci; rw [hvi] at this; cases this
  case viYankTo m => have : cfg.vi = true := hci; rw [hvi] at this; cases this
  case clearScreen => exact still (keeps_core_execute_clearScreen S U cfg)
  case noop => exact still (Keeps.pure (α := Status) _)
  case suspend => exact still (Keeps.pure (α := Status) _)
  all_goals exact neutral rfl rfl

end
end Rl
