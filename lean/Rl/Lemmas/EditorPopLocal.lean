/-
  C17: the three one-command facts `PopLocal` that carrying `PopOK` through an emacs-mode read rests
  on: after `Yank` and after `YankPop` the pasted text — exactly as many bytes as the kill ring
  recorded — stands right before the cursor; a `Kill` sets the ring's last action to Kill or, when
  nothing was killed, leaves line, cursor and ring alone.
-/
import Rl.Lemmas.EditorPop
import Rl.Lemmas.LineBufferGrow
import Rl.Props.C03
import Rl.Lemmas.LBFaithful
namespace Rl
open EM

section
variable (S : Segmenter) (U : UData) (cfg : EdCfg)

theorem mustTruncate_of_canGrow {lb : LB} (hg : lb.canGrow = true) (n : Nat) : lb.mustTruncate n = false := by
  unfold LB.mustTruncate; rw [hg]; rfl

/-- `edit_yank` in emacs mode, the ring having recorded `blen t * n` bytes: these bytes stand right
    before the cursor afterwards (nothing pasted: `t` is empty, the cursor is back where it was) -/
theorem pop_editYank (hvi : cfg.vi = false) (t : Text) (a : Anchor) (n : Nat) {s : Ed}
    (hw : WF s.line) (hg : s.line.canGrow = true) (hla : s.ring.lastAction = .yank (blen t * n)) :
    wp (editYank S U cfg t a n) (fun _ s' => PopOK s') (fun _ _ => True) s := by
  -- after the optional step forward
  have rest : ∀ s1 : Ed, WF s1.line → s1.line.canGrow = true → s1.ring.lastAction = .yank (blen t * n) →
      s1.line.buf = s.line.buf →
      wp (do
        match ← lb S U (LB.yank S U t n) with
        | some _ => do
          if cfg.vi then do let _ ← lbQuiet (LB.moveBackward S U 1); pure ()
          refreshLine S U cfg
        | none => lbQuiet (LB.setPosChecked S U s.line.pos)) (fun _ s' => PopOK s') (fun _ _ => True) s1 := by
    intro s1 hw1 hg1 hla1 hb1
    rw [wp_bind]
    have hy := yank_eval S U t n s1.line
    rw [mustTruncate_of_canGrow hg1, Bool.or_false] at hy
    by_cases ht : t.isEmpty = true
    · rw [if_pos ht] at hy
      refine wp_lb S U hy ?_
      simp only []
      have hp : s.line.pos ≤ s1.line.len := by
        obtain ⟨x, z, e1, e2⟩ := hw
        show s.line.pos ≤ blen s1.line.buf
        rw [hb1, e1, e2]; simp
      have hs : LB.setPosChecked S U s.line.pos s1.line = .ok ((), { s1.line with pos := s.line.pos }, []) := by
        unfold LB.setPosChecked; rw [if_pos hp]
      refine wp_lbQuiet hs ?_
      intro size hsz
      have hsz' : Rl.KAction.yank (blen t * n) = .yank size := by rw [← hla1]; exact hsz
      have ht0 : t = [] := by simpa using ht
      have : size = 0 := by cases hsz'; rw [ht0]; simp
      subst this
      refine ⟨Nat.zero_le _, ?_⟩
      show IsBoundary s1.line.buf (s.line.pos - 0)
      rw [hb1]; exact hw
    · rw [if_neg ht] at hy
      obtain ⟨x, z, e1, e2⟩ := hw1
      have hsp : splitAtByte s1.line.buf s1.line.pos = some (x, z) := by rw [e1, e2]; exact splitAtByte_append x z
      rw [hsp] at hy
      refine wp_lb S U hy ?_
      simp only [hvi, Bool.false_eq_true, if_false]
      refine wp_refreshLine S U cfg (fun s3 hc3 => ?_) (fun _ _ _ => trivial)
      obtain ⟨l3, _, _, r3, _⟩ := Ed.core_eq hc3
      intro size hsz
      rw [r3] at hsz
      have hsz' : Rl.KAction.yank (blen t * n) = .yank size := by rw [← hla1]; exact hsz
      cases hsz'
      rw [l3]
      refine ⟨Nat.le_add_left _ _, ?_⟩
      show IsBoundary (x ++ yankText t n ++ z) (s1.line.pos + blen t * n - blen t * n)
      rw [Nat.add_sub_cancel]
      exact ⟨x, yankText t n ++ z, by simp, e2⟩
  unfold editYank
  rw [wp_bind, wp_get]
  simp only []
  by_cases ha : (a == Anchor.after) = true
  · rw [if_pos ha]
    obtain ⟨r, l1, hm, hw1, hb1⟩ := C03_moveForward_total_wf S U s.line 1 hw
    have hg1 : l1.canGrow = true := ((Grow.moveForward S U 1).h _ _ _ _ hm).trans hg
    simp only [wp_bind]
    refine wp_lbQuiet hm ?_
    have t1 := rest { s with line := l1 } hw1 hg1 hla hb1
    simp only [wp_bind] at t1 ⊢
    exact t1
  · rw [if_neg ha]
    have t1 := rest s hw hg hla rfl
    simp only [wp_bind] at t1 ⊢
    exact t1

theorem wp_ringYankCount (n : Nat) (Q : Unit → Ed → Prop) (E : Outcome → Ed → Prop) (s : Ed) :
    wp (ringYankCount n) Q E s ↔ Q () { s with ring := s.ring.yankCount n } := Iff.rfl

/-- **after `Yank`** (emacs mode) the text the ring recorded stands right before the cursor; an empty ring
    pastes nothing and changes nothing -/
theorem popLocal_yank (hvi : cfg.vi = false) (n : Nat) (a : Anchor) (s : Ed) (h : RdInv cfg s) (hp : PopOK s) :
    wp (execute S U cfg (.yank n a)) (fun _ s' => PopOK s') (fun _ _ => True) s := by
  unfold execute
  simp only [wp_bind]
  unfold wp ringYank
  cases hy : s.ring.yank with
  | error e => trivial
  | ok r =>
    obtain ⟨k, ot⟩ := r
    simp only []
    rcases KillRing.yank_cases hy with ⟨rfl, rfl⟩ | ⟨t, rfl, rfl⟩
    · show wp (pure Status.proceed) (fun _ s' => PopOK s') (fun _ _ => True) _
      rw [wp_pure]
      exact hp.of_eq rfl rfl
    · show wp (do ringYankCount n; editYank S U cfg t a n; pure Status.proceed) (fun _ s' => PopOK s')
        (fun _ _ => True) _
      rw [wp_bind, wp_ringYankCount, wp_bind]
      refine wp_mono (pop_editYank S U cfg hvi t a n (s := _) h.1.line h.2.1 rfl) ?_ (fun _ _ h => h)
      intro _ s' hq
      rw [wp_pure]; exact hq

/-- `yank_pop` inside its contract on a growable line: it answers `some _`, and `text` stands right
    before the cursor afterwards -/
theorem yankPop_shape (k : Nat) (t : Text) (lb : LB) (h : WF lb) (hg : lb.canGrow = true)
    (hk : k ≤ lb.pos) (hb : IsBoundary lb.buf (lb.pos - k)) :
    ∃ r lb' ns, LB.yankPop S U k t lb = .ok (some r, lb', ns) ∧
      blen t ≤ lb'.pos ∧ IsBoundary lb'.buf (lb'.pos - blen t) := by
  obtain ⟨x, y, z, hd, hbuf, hx, _⟩ := drain_ok .forward hb h (Nat.sub_le _ _)
  have hng : ¬ k > lb.pos := by omega
  have hng2 : ¬ k > lb.len := by have := h.le_len; have : lb.len = blen lb.buf := rfl; omega
  have hmt : lb.mustTruncate (lb.len - k + blen t) = false := mustTruncate_of_canGrow hg _
  -- `yank_pop` up to the final `yank`, whatever that answers
  have key : ∀ r lb2 ns2, LB.yank S U t 1 ({ lb with buf := x ++ z, pos := lb.pos - k } : LB) = .ok (r, lb2, ns2) →
      LB.yankPop S U k t lb = .ok (some (r.getD false), lb2, [.del (lb.pos - k) y .forward] ++ ns2) := by
    intro r lb2 ns2 hy
    unfold LB.yankPop
    simp [LM.bind_apply, LM.get, hng, hng2, hmt, hd, LM.setPos, hy]
  have hy := yank_eval S U t 1 ({ lb with buf := x ++ z, pos := lb.pos - k } : LB)
  rw [mustTruncate_of_canGrow (by exact hg), Bool.or_false] at hy
  by_cases ht : t.isEmpty = true
  · rw [if_pos ht] at hy
    have ht0 : t = [] := List.isEmpty_iff.mp ht
    refine ⟨_, _, _, key _ _ _ hy, ?_, ?_⟩
    · rw [ht0]; exact Nat.zero_le _
    · rw [ht0]
      show IsBoundary (x ++ z) (lb.pos - k - 0)
      rw [Nat.sub_zero, hx]; exact isBoundary_mid x z
  · rw [if_neg ht] at hy
    have hsp : splitAtByte (x ++ z) (lb.pos - k) = some (x, z) := by rw [hx]; exact splitAtByte_append x z
    simp only [hsp] at hy
    refine ⟨_, _, _, key _ _ _ hy, ?_, ?_⟩
    · show blen t ≤ lb.pos - k + blen t * 1
      omega
    · show IsBoundary (x ++ yankText t 1 ++ z) (lb.pos - k + blen t * 1 - blen t)
      have : lb.pos - k + blen t * 1 - blen t = blen x := by omega
      rw [this]
      exact ⟨x, yankText t 1 ++ z, by simp, rfl⟩

/-- `edit_yank_pop` when the ring has just recorded `blen t` bytes for `t` and the previous paste (`size`
    bytes) stands before the cursor: afterwards `t` does -/
theorem pop_editYankPop (size : Nat) (t : Text) {s : Ed} (hw : WF s.line) (hg : s.line.canGrow = true)
    (hla : s.ring.lastAction = .yank (blen t)) (hk : size ≤ s.line.pos)
    (hb : IsBoundary s.line.buf (s.line.pos - size)) :
    wp (editYankPop S U cfg size t) (fun _ s' => PopOK s') (fun _ _ => True) s := by
  obtain ⟨r, l, ns, hy, h1, h2⟩ := yankPop_shape S U size t s.line hw hg hk hb
  unfold editYankPop
  simp only [wp_bind, wp_changesBegin]
  refine wp_lb S U (s := { s with changes := s.changes.begin.1 }) hy ?_
  simp only [wp_bind]
  refine wp_refreshLine S U cfg (fun s3 hc3 => ?_) (fun _ _ _ => trivial)
  simp only [wp_changesEnd, wp_pure]
  obtain ⟨l3, _, _, r3, _⟩ := Ed.core_eq hc3
  intro sz hsz
  have hsz' : s3.ring.lastAction = .yank sz := hsz
  rw [r3] at hsz'
  have e : Rl.KAction.yank (blen t) = .yank sz := by rw [← hla]; exact hsz'
  cases e
  show blen t ≤ s3.line.pos ∧ IsBoundary s3.line.buf (s3.line.pos - blen t)
  rw [l3]
  exact ⟨h1, h2⟩

/-- **after `YankPop`** the replacement stands right before the cursor (when the last action is not a
    yank, or the ring is empty, nothing changes) -/
theorem popLocal_pop (s : Ed) (h : RdInv cfg s) (hp : PopOK s) :
    wp (execute S U cfg .yankPop) (fun _ s' => PopOK s') (fun _ _ => True) s := by
  have he : execute S U cfg .yankPop = (do
      pure ()
      match ← ringYankPop with
      | some (size, text) => editYankPop S U cfg size text
      | none => pure ()
      pure .proceed) := rfl
  rw [he]
  simp only [wp_bind]
  unfold wp ringYankPop
  cases hy : s.ring.yankPop with
  | error e => trivial
  | ok r =>
    obtain ⟨k, ot⟩ := r
    simp only []
    rcases KillRing.yankPop_cases hy with ⟨rfl, rfl⟩ | ⟨sz, t, hla, rfl, rfl⟩
    · simp only []
      exact hp.of_eq rfl rfl
    · obtain ⟨hle, hb⟩ := hp sz hla
      show wp (do editYankPop S U cfg sz t; pure Status.proceed) (fun _ s' => PopOK s') (fun _ _ => True)
        { s with ring := { s.ring with yankIndex := _, lastAction := .yank (blen t) } }
      rw [wp_bind]
      refine wp_mono (pop_editYankPop S U cfg sz t h.1.line h.2.1 rfl hle hb) ?_ (fun _ _ h => h)
      intro _ s' hq
      rw [wp_pure]; exact hq

theorem kill_lastAction {k k' : KillRing} {t : Text} {d : KMode} (h : k.kill t d = .ok k') :
    k'.lastAction = .kill :=
  (KillRing.kill_ok_fields h).1

theorem cutBytes_append (t : Text) (n : Nat) : (KillRing.cutBytes t n).1 ++ (KillRing.cutBytes t n).2 = t :=
  KillRing.cutBytes_parts t n

/-- a deletion the ring takes up while killing: forward, backward, or around the cursor with some text -/
def HardDel : Notif → Prop
  | .del _ t d => match d with | .around _ => t ≠ [] | _ => True
  | _ => False

theorem ringNotif_fields {k k' : KillRing} {n : Notif} (h : ringNotif k n = .ok k') :
    (k'.lastAction = k.lastAction ∨ k'.lastAction = .kill) ∧
    (k.killing = true → n ≠ .stopKill → k'.killing = true) ∧
    (k.killing = true → HardDel n → k'.lastAction = .kill) := by
  cases n with
  | del a t d =>
    obtain ⟨h1, h2, h3⟩ := KillRing.onDelete_fields (show k.onDelete t d = .ok k' from h)
    refine ⟨h2, fun hk _ => h1.trans hk, fun hk hn => h3 hk ?_⟩
    rintro m rfl; exact hn
  | startKill => cases h; exact ⟨Or.inl rfl, fun _ _ => rfl, fun _ hn => hn.elim⟩
  | stopKill => cases h; exact ⟨Or.inl rfl, fun _ hn => absurd rfl hn, fun _ hn => hn.elim⟩
  | insChar _ _ => cases h; exact ⟨Or.inl rfl, fun hk _ => hk, fun _ hn => hn.elim⟩
  | insStr _ _ => cases h; exact ⟨Or.inl rfl, fun hk _ => hk, fun _ hn => hn.elim⟩
  | repl _ _ _ => cases h; exact ⟨Or.inl rfl, fun hk _ => hk, fun _ hn => hn.elim⟩

theorem ringNotif_lastAction {k k' : KillRing} {n : Notif} (h : ringNotif k n = .ok k') :
    k'.lastAction = k.lastAction ∨ k'.lastAction = .kill :=
  (ringNotif_fields h).1

theorem ringNotif_hard {k k' : KillRing} {n : Notif} (hk : k.killing = true) (hn : HardDel n)
    (h : ringNotif k n = .ok k') : k'.lastAction = .kill :=
  (ringNotif_fields h).2.2 hk hn

theorem ringNotif_killing {k k' : KillRing} {n : Notif} (hk : k.killing = true) (hn : n ≠ .stopKill)
    (h : ringNotif k n = .ok k') : k'.killing = true :=
  (ringNotif_fields h).2.1 hk hn

/-- **no kill sets the last action to Yank**: the fan-out of a line-buffer operation's notifications
    to the ring leaves the last action alone or sets it to Kill -/
theorem lbKill_go_lastAction : ∀ (ns : List Notif) {k k' : KillRing}, lbKill.go ns k = .ok k' →
    k'.lastAction = k.lastAction ∨ k'.lastAction = .kill := by
  intro ns k k' h
  refine lbKill_go_ind (P := fun a => a.lastAction = k.lastAction ∨ a.lastAction = .kill) ?_ (Or.inl rfl) h
  intro n _ a a' ha h1
  exact (ringNotif_lastAction h1).elim (fun e => ha.imp e.trans e.trans) Or.inr

/-- the one fact about `LineBuffer::kill` and the ring that the lemmas below take as a hypothesis (it holds:
    `killTrueKills_of_reports (killReports S U)`, Lemmas/EditorKillReports.lean): a kill of a movement other
    than the two character movements (those are bracketed by `start_killing` / `stop_killing`) that
    answers `true` has reported a deletion to the ring while killing, so the last action is Kill -/
def KillTrueKills (S : Segmenter) (U : UData) : Prop :=
  ∀ (m : Movement) (lb lb' : LB) (ns : List Notif) (k k' : KillRing),
    (∀ n, m ≠ .backwardChar n) → (∀ n, m ≠ .forwardChar n) → WF lb →
    LB.kill S U m lb = .ok (true, lb', ns) → lbKill.go ns k = .ok k' → k'.lastAction = .kill

theorem execute_kill_eq (m : Movement) :
    execute S U cfg (.kill m) = (do editKill S U cfg m; pure .proceed) := by
  cases m <;> rfl

/-- what a `Kill` command does, for every state: it answers `proceed` with line and ring those of
    `LineBuffer::kill` + the fan-out; its only exits are panics (of the line buffer / the ring: state
    untouched; of the hinter during the refresh: line and ring already updated) -/
theorem wp_execute_kill' (m : Movement) (s : Ed) (Q : Status → Ed → Prop) (E : Outcome → Ed → Prop)
    (h0 : E .panic s)
    (h1 : ∀ r l ns k s', LB.kill S U m s.line = .ok (r, l, ns) → lbKill.go ns s.ring = .ok k →
      s'.line = l → s'.ring = k → Q .proceed s' ∧ E .panic s') :
    wp (execute S U cfg (.kill m)) Q E s := by
  rw [execute_kill_eq]
  unfold editKill
  simp only [wp_bind, wp_pure]
  unfold wp lbKill
  cases ho : LB.kill S U m s.line with
  | error e => exact h0
  | ok r3 =>
    obtain ⟨r, l, ns⟩ := r3
    simp only []
    cases hgo : lbKill.go ns s.ring with
    | error e => exact h0
    | ok k =>
      simp only []
      have hq := fun s' => h1 r l ns k s' ho hgo
      cases r with
      | false =>
        show wp (pure ()) (fun _ s' => Q .proceed s') E _
        rw [wp_pure]; exact (hq _ rfl rfl).1
      | true =>
        show wp (refreshLine S U cfg) (fun _ s' => Q .proceed s') E _
        refine wp_refreshLine S U cfg (fun s3 hc3 => ?_) (fun s3 hc3 _ => ?_)
        · exact (hq s3 (Ed.core_eq hc3).1 (Ed.core_eq hc3).2.2.2.1).1
        · exact (hq s3 (Ed.core_eq hc3).1 (Ed.core_eq hc3).2.2.2.1).2

theorem wp_execute_kill (m : Movement) (s : Ed) (Q : LB → KillRing → Prop)
    (h0 : Q s.line s.ring)
    (h1 : ∀ r l ns k, LB.kill S U m s.line = .ok (r, l, ns) → lbKill.go ns s.ring = .ok k → Q l k) :
    wp (execute S U cfg (.kill m)) (fun _ s' => Q s'.line s'.ring) (fun _ s' => Q s'.line s'.ring) s := by
  refine wp_execute_kill' S U cfg m s _ _ h0 (fun r l ns k s' ho hgo hl hr => ?_)
  rw [hl, hr]; exact ⟨h1 r l ns k ho hgo, h1 r l ns k ho hgo⟩

/-- **a `Kill` run from `PopPre` leaves `PopOK`** (emacs mode): the two character kills run after a reset
    and no kill sets the last action to Yank; any other kill that answers `false` leaves line and cursor
    alone (`faithful_kill`), and one that answers `true` sets the last action to Kill (`KillTrueKills`) -/
theorem popLocal_kill (hK : KillTrueKills S U) (hvi : cfg.vi = false) (m : Movement) (s : Ed) (h : RdInv cfg s)
    (hp : PopPre cfg (.kill m) s) :
    wp (execute S U cfg (.kill m)) (fun _ s' => PopOK s') (fun _ _ => True) s := by
  obtain ⟨hpo, hres⟩ := hp hvi
  refine wp_execute_kill' S U cfg m s _ _ trivial (fun r l ns k s' ho hgo hl hr => ⟨?_, trivial⟩)
  intro size hsz
  rw [hr] at hsz
  rw [hl]
  rcases lbKill_go_lastAction ns hgo with e | e
  · -- the last action was already that yank: not after a reset, so not a character kill
    have hy : s.ring.lastAction = .yank size := e.symm.trans hsz
    have hnb : ∀ n, m ≠ .backwardChar n := by
      intro n hm; subst hm; exact (hres rfl) size hy
    have hnf : ∀ n, m ≠ .forwardChar n := by
      intro n hm; subst hm; exact (hres rfl) size hy
    cases r with
    | true =>
      have := hK m s.line l ns s.ring k hnb hnf h.1.line ho hgo
      rw [this] at hsz; cases hsz
    | false =>
      obtain ⟨e1, e2⟩ := faithful_kill S U m s.line false l ns h.1.line ho rfl
      rw [e1, e2]; exact hpo size hy
  · rw [e] at hsz; cases hsz

theorem lbKill_go_mid : ∀ (mid : List Notif) {k k' : KillRing}, k.killing = true → (∀ n ∈ mid, n ≠ .stopKill) →
    lbKill.go mid k = .ok k' →
    k'.killing = true ∧ ((k.lastAction = .kill ∨ ∃ n ∈ mid, HardDel n) → k'.lastAction = .kill) := by
  intro mid
  induction mid with
  | nil =>
    intro k k' hk _ h
    rw [lbKill_go_nil] at h; cases h
    exact ⟨hk, fun hh => hh.elim id (fun ⟨n, hm, _⟩ => by cases hm)⟩
  | cons n rest ih =>
    intro k k' hk hns h
    rw [lbKill_go_cons] at h
    cases h1 : ringNotif k n with
    | error e => rw [h1] at h; cases h
    | ok k1 =>
      rw [h1] at h
      have hk1 := ringNotif_killing hk (hns n (List.mem_cons_self ..)) h1
      obtain ⟨r1, r2⟩ := ih hk1 (fun m hm => hns m (List.mem_cons_of_mem _ hm)) h
      refine ⟨r1, fun hh => r2 ?_⟩
      rcases hh with hh | ⟨m, hm, hd⟩
      · exact Or.inl ((ringNotif_lastAction h1).elim (·.trans hh) id)
      · rcases List.mem_cons.mp hm with rfl | hm'
        · exact Or.inl (ringNotif_hard hk hd h1)
        · exact Or.inr ⟨m, hm', hd⟩

theorem lbKill_go_append : ∀ (a b : List Notif) (k : KillRing),
    lbKill.go (a ++ b) k = (match lbKill.go a k with | .ok k1 => lbKill.go b k1 | .error e => .error e) := by
  intro a
  induction a with
  | nil => intro b k; rw [lbKill_go_nil]; rfl
  | cons n rest ih =>
    intro b k
    rw [List.cons_append, lbKill_go_cons, lbKill_go_cons]
    cases ringNotif k n with
    | error e => rfl
    | ok k1 => exact ih b k1

/-- a notification stream bracketed by `start_killing` / `stop_killing` that contains a deletion the ring takes
    up leaves the last action = Kill -/
theorem lbKill_go_bracket (mid : List Notif) {k k' : KillRing} (hns : ∀ n ∈ mid, n ≠ .stopKill)
    (hh : ∃ n ∈ mid, HardDel n) (h : lbKill.go (.startKill :: (mid ++ [.stopKill])) k = .ok k') :
    k'.lastAction = .kill := by
  rw [lbKill_go_cons] at h
  change lbKill.go (mid ++ [.stopKill]) k.startKilling = .ok k' at h
  rw [lbKill_go_append] at h
  cases h1 : lbKill.go mid k.startKilling with
  | error e => rw [h1] at h; cases h
  | ok k1 =>
    rw [h1] at h
    change lbKill.go [.stopKill] k1 = .ok k' at h
    rw [lbKill_go_cons] at h
    cases h
    exact (lbKill_go_mid mid (k := k.startKilling) rfl hns h1).2 (Or.inr hh)

/-- `KillTrueKills` without the ring, about `LineBuffer::kill` alone (proved as `killReports`,
    Lemmas/EditorKillReports.lean): for a movement other than the two character
    movements the answer `true` comes with notifications bracketed by `start_killing` / `stop_killing` among
    which there is a deletion the ring takes up -/
def KillReports (S : Segmenter) (U : UData) : Prop :=
  ∀ (m : Movement) (lb lb' : LB) (ns : List Notif),
    (∀ n, m ≠ .backwardChar n) → (∀ n, m ≠ .forwardChar n) → WF lb →
    LB.kill S U m lb = .ok (true, lb', ns) →
    ∃ mid, ns = .startKill :: (mid ++ [.stopKill]) ∧ (∀ n ∈ mid, n ≠ .stopKill) ∧ ∃ n ∈ mid, HardDel n

theorem killTrueKills_of_reports (h : KillReports S U) : KillTrueKills S U := by
  intro m lb lb' ns k k' h1 h2 hw hk hgo
  obtain ⟨mid, rfl, hns, hh⟩ := h m lb lb' ns h1 h2 hw hk
  exact lbKill_go_bracket mid hns hh hgo

end
end Rl
