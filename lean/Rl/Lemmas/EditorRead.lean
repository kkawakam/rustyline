/-
  C17: the sub-loops of `src/lib.rs` (circular and list completion, incremental search), the
  dispatch loop and the main loop of a read never end with the panic outcome and keep the read
  invariant `RdInv` (`EdWF` + growable line + `NumI`, the bound on vi's pending numeric argument), given that every
  `execute` step is safe (`ExecSafe`, proved as `C17_exec_safe` in Rl/Props/C17.lean).  `next_cmd` needs no
  hypothesis (`npi_nextCmd`, `rt_nextCmd`).  Judgments: `RSafe` (per state, `RdInv` kept, the only panic is D43),
  `KeepsJ J` (an arbitrary state predicate kept; exits unconstrained).  Lemma names: `safe_*` / `rsafe_*` conclude
  `RSafe`, `*_inv` are the same in continuation form (`wp m Q PE s` from `RdInv s' → Q a s'`).
-/
import Rl.Lemmas.EditorSafe2
import Rl.Lemmas.EditorGrow
import Rl.Lemmas.EditorLoops
import Rl.Lemmas.EditorNextAll
import Rl.Lemmas.EditorReadRet
import Rl.Lemmas.EditorRing
import Rl.Props.C09
namespace Rl
open EM

/-- the invariant of a read at every command boundary: `EdWF`, a growable line, and (vi) a pending
    numeric argument that is not negative -/
def RdInv (cfg : EdCfg) (s : Ed) : Prop := EdWF cfg s ∧ (s.line.canGrow = true ∧ NumI cfg s)

/-- exit condition: the only panic is known finding D43 (`RepeatCount::try_from(len).unwrap()` on
    the length of the last insertion), and the state it exits with shows it -/
def PE (o : Outcome) (s : Ed) : Prop := o = .panic → D43 s

abbrev RSafe {α : Type} (cfg : EdCfg) (m : EM α) (s : Ed) : Prop :=
  wp m (fun _ s' => RdInv cfg s') PE s

/-- every `execute` step on an acceptable command (`CmdI`: what `next_cmd` returns) is safe from
    the read invariant together with a cross-step invariant `J` (the facts about the undo log and
    the kill ring that `RdInv` does not hold), and re-establishes both -/
def ExecSafe (S : Segmenter) (U : UData) (cfg : EdCfg) (J : Ed → Prop) : Prop :=
  ∀ cmd s, CmdI cfg cmd → RdInv cfg s → J s → PopPre cfg cmd s →
    wp (execute S U cfg cmd) (fun _ s' => RdInv cfg s' ∧ J s' ∧ PopI cfg s') PE s

/-- every run of `m` from a `J` state that returns ends in a `J` state (nothing is said about early exits) -/
def KeepsJ {α : Type} (J : Ed → Prop) (m : EM α) : Prop :=
  ∀ s, J s → wp m (fun _ s' => J s') (fun _ _ => True) s

/-- what the main loop assumes of the cross-step invariant `J`: every `execute` step is safe from it
    and keeps it, and the other steps of a read keep it.  In `readline`: `init` the state from `initEd`, `initText`
    the `update` with the initial text, `refresh` the first repaint.  In `mainLoop`: `next` reading a command,
    `reset` the ring reset before a command that is not a kill, `pre` the dispatch loop (completion, search),
    `susp` counting a `Suspend`, `nextChar` + `insert` the quoted insert, `exec` everything else. -/
structure RdStep (S : Segmenter) (U : UData) (cfg : EdCfg) (J : Ed → Prop) : Prop where
  exec : ExecSafe S U cfg J
  init : ∀ ring input, J (initEd cfg ring input)
  initText : ∀ b p, KeepsJ J (lb S U (LB.update S U b p))
  refresh : KeepsJ J (refreshLine S U cfg)
  next : ∀ fuel, KeepsJ J (nextCmd S U cfg fuel false false)
  reset : ∀ s, J s → J { s with ring := s.ring.reset }
  pre : ∀ fuel cmd s, RdInv cfg s → J s → wp (preCmds S U cfg fuel cmd) (fun _ s' => J s') (fun _ _ => True) s
  susp : ∀ s, J s → J { s with suspends := s.suspends + 1 }
  nextChar : KeepsJ J nextChar
  insert : ∀ c, KeepsJ J (editInsert S U cfg c 1)

/-- what a whole read assumes of the configuration -/
structure RdHyp (S : Segmenter) (U : UData) (cfg : EdCfg) : Prop where
  hnp : cfg.hinterPanicAt = none
  /-- the custom bindings are acceptable commands (a bound `ReplaceChar` count fits its type `u16`;
      `YankPop` is not bound in vi mode) -/
  binds : BindsI cfg
  /-- the completer contract: the reported start is a character boundary of the line, not beyond
      the cursor -/
  comp : ∀ t p, IsBoundary t (cfg.completer t p).1 ∧ (cfg.completer t p).1 ≤ p

theorem PE.of_ne {o : Outcome} {s : Ed} (h : o ≠ .panic) : PE o s := fun hp => absurd hp h

section
variable (S : Segmenter) (U : UData) (cfg : EdCfg)

theorem RdInv.of_core {s s' : Ed} (h : RdInv cfg s) (hc : s'.core = s.core) (hi : s'.inp = s.inp) :
    RdInv cfg s' := by
  refine ⟨h.1.of_core hc, ?_, ?_⟩
  · rw [(Ed.core_eq hc).1]; exact h.2.1
  · intro hv; rw [hi]; exact h.2.2 hv

/-- a step that returns with the core as it was and does not touch the input state keeps the read
    invariant -/
theorem RdInv.wp_frame {α : Type} {m : EM α} {s : Ed} (h : RdInv cfg s)
    (hw : wp m (fun _ s' => s'.core = s.core) (fun _ _ => False) s) (hk : Keeps Ed.inpOf m)
    {Q : α → Ed → Prop} {E : Outcome → Ed → Prop} (hq : ∀ a s', RdInv cfg s' → s'.core = s.core → Q a s') :
    wp m Q E s :=
  wp_mono (wp_and hw (hk.wp s)) (fun a s' h' => hq a s' (h.of_core cfg h'.1 h'.2) h'.1) (fun _ _ h' => h'.1.elim)

theorem wp_refreshLine_inv (hnp : cfg.hinterPanicAt = none) {s : Ed} (h : RdInv cfg s)
    {Q : Unit → Ed → Prop} {E : Outcome → Ed → Prop} (hq : ∀ s', RdInv cfg s' → s'.core = s.core → Q () s') :
    wp (refreshLine S U cfg) Q E s :=
  h.wp_frame cfg (wp_refreshLine_np S U cfg hnp fun _ hc => hc) (keeps_inp_refreshLine S U cfg) fun _ => hq

theorem wp_refreshPromptAndLine_inv (hnp : cfg.hinterPanicAt = none) (p : Text) {s : Ed} (h : RdInv cfg s)
    {Q : Unit → Ed → Prop} {E : Outcome → Ed → Prop} (hq : ∀ s', RdInv cfg s' → s'.core = s.core → Q () s') :
    wp (refreshPromptAndLine S U cfg p) Q E s :=
  h.wp_frame cfg (wp_refreshPromptAndLine S U cfg (fun _ hc => hc) fun _ _ hne => absurd hnp hne)
    (keeps_inp_refreshPromptAndLine S U cfg p) fun _ => hq

theorem wp_moveCursor_inv {s : Ed} (h : RdInv cfg s)
    {Q : Unit → Ed → Prop} {E : Outcome → Ed → Prop} (hq : ∀ s', RdInv cfg s' → s'.core = s.core → Q () s') :
    wp (moveCursor S U cfg) Q E s :=
  h.wp_frame cfg (wp_moveCursor S U cfg fun _ hc => hc) (keeps_inp_moveCursor S U cfg) fun _ => hq

theorem wp_nextCmd_inv (hnp : cfg.hinterPanicAt = none) {fuel : Nat} {sea iep : Bool} {s : Ed} (h : RdInv cfg s)
    {Q : Cmd → Ed → Prop} (hq : ∀ c s', RdInv cfg s' → s'.coreNC = s.coreNC → Q c s') :
    wp (nextCmd S U cfg fuel sea iep) Q PE s := by
  have hn : wp (nextCmd S U cfg fuel sea iep) (fun _ s' => NumI cfg s') PE s :=
    (npi_nextCmd S U cfg hnp fuel sea iep).h s h.2.2
  refine wp_mono (wp_and ((keeps_nextCmd S U cfg fuel sea iep).wp s) hn) (fun c s' h' => ?_) (fun _ _ h' => h'.2)
  refine hq c s' ⟨h.1.of_coreNC h'.1, ?_, h'.2⟩ h'.1
  rw [(Ed.coreNC_eq h'.1).1]; exact h.2.1

theorem wp_lb_inv {α : Type} {op : LM α} (hop : LMSafe op) (hg : Grow op) {s : Ed} (h : RdInv cfg s)
    {Q : α → Ed → Prop} {E : Outcome → Ed → Prop} (hq : ∀ a s', RdInv cfg s' → Q a s') : wp (lb S U op) Q E s := by
  obtain ⟨r, l, ns, ho, hw⟩ := hop s.line h.1.line
  refine wp_lb S U ho (hq _ _ ⟨EdWF.mk' hw h.1.saved h.1.ring, ?_, ?_⟩)
  · exact (hg.h _ _ _ _ ho).trans h.2.1
  · exact h.2.2

theorem wp_lb_update_inv {b : Text} {p : Nat} (hb : IsBoundary b p) {s : Ed} (h : RdInv cfg s)
    {Q : Unit → Ed → Prop} {E : Outcome → Ed → Prop}
    (hq : ∀ s', RdInv cfg s' → s'.line.buf = b → s'.line.pos = p → Q () s') :
    wp (lb S U (LB.update S U b p)) Q E s := by
  refine wp_lb_update S U h.2.1 hb.le_len (hq _ ⟨EdWF.mk' ?_ h.1.saved h.1.ring, h.2⟩ rfl rfl)
  exact hb

/-- `line.replace(start..pos, text)` for a start on a boundary at or before the cursor: the start is
    still a boundary at or before the new cursor -/
theorem wp_lb_replace_inv {start : Nat} {t : Text} {s : Ed} (h : RdInv cfg s)
    (hb : IsBoundary s.line.buf start) (hle : start ≤ s.line.pos)
    {Q : Unit → Ed → Prop} {E : Outcome → Ed → Prop}
    (hq : ∀ s', RdInv cfg s' → IsBoundary s'.line.buf start → start ≤ s'.line.pos → Q () s') :
    wp (lb S U (LB.replace S U start s.line.pos t)) Q E s := by
  have hwl : IsBoundary s.line.buf s.line.pos := h.1.line
  obtain ⟨x, y, z, hs, hbuf, hx, _⟩ := split3_of_boundaries hb hwl hle
  have hr : LB.replace S U start s.line.pos t s.line = .ok ((),
      { s.line with buf := x ++ t ++ z, pos := start + blen t,
                    cap := growCap s.line.cap (blen x + blen z + blen t) }, [.repl start y t]) := by
    simp [LB.replace, hs]
  refine wp_lb S U hr (hq _ ⟨EdWF.mk' ?_ h.1.saved h.1.ring, h.2⟩ ?_ ?_)
  · exact ⟨x ++ t, z, rfl, by simp [hx]⟩
  · exact ⟨x, t ++ z, by simp, hx⟩
  · show start ≤ start + blen t; omega


theorem rdinv_changes {s : Ed} (h : RdInv cfg s) (c : Changeset) : RdInv cfg { s with changes := c } :=
  ⟨EdWF.mk' h.1.line h.1.saved h.1.ring, h.2⟩

theorem safe_completeCircular (H : RdHyp S U cfg) (start : Nat) (cands : List Text) (mark : Nat)
    (backup : Text) (backupPos : Nat)
    (hbp : IsBoundary backup backupPos) (hbs : IsBoundary backup start) (hsp : start ≤ backupPos) :
    ∀ (fuel i : Nat) (s : Ed), RdInv cfg s → IsBoundary s.line.buf start → start ≤ s.line.pos →
      RSafe cfg (completeCircular S U cfg start cands mark backup backupPos fuel i) s := by
  intro fuel i s h hb hle
  -- the start of the completed word stays a boundary at or before the cursor
  refine wp_completeCircular S U cfg
    (P := fun _ _ s => RdInv cfg s ∧ IsBoundary s.line.buf start ∧ start ≤ s.line.pos)
    (L := fun _ _ s => RdInv cfg s ∧ IsBoundary s.line.buf start ∧ start ≤ s.line.pos)
    start cands backup backupPos (fun _ _ _ _ => PE.of_ne nofun) ?_ ?_ ?_ ?_ (fun _ _ _ _ h => h) ?_ ?_
    fuel mark i s ⟨h, hb, hle⟩
  · intro _ i hi s ⟨h, hb, hle⟩
    exact wp_lb_replace_inv S U cfg h hb hle fun _ h1 hb1 hle1 => ⟨h1, hb1, hle1⟩
  · intro _ i s _ ⟨h, _, _⟩
    exact wp_lb_update_inv S U cfg hbp h fun s1 h1 e1 e2 => ⟨h1, by rw [e1]; exact hbs, by rw [e2]; exact hsp⟩
  · intro _ i s ⟨h, hb, hle⟩
    exact wp_refreshLine_inv S U cfg H.hnp h fun s2 h2 hc2 => by
      rw [(Ed.core_eq hc2).1]; exact ⟨h2, hb, hle⟩
  · intro _ i fuel s ⟨h, hb, hle⟩
    exact wp_nextCmd_inv S U cfg H.hnp h fun _ s3 h3 hc3 => by
      rw [(Ed.coreNC_eq hc3).1]; exact ⟨h3, hb, hle⟩
  · intro m i s ⟨h, _, _⟩
    by_cases hlt : i < cands.length
    · rw [if_pos hlt]
      simp only [wp_bind]
      refine wp_lb_update_inv S U cfg hbp h fun s4 h4 _ _ => ?_
      refine wp_refreshLine_inv S U cfg H.hnp h4 fun s5 h5 _ => ?_
      simp only [truncateChanges, wp_modify, wp_pure]
      exact rdinv_changes cfg h5 _
    · rw [if_neg hlt]
      simp only [wp_pure, wp_bind, truncateChanges, wp_modify]
      exact rdinv_changes cfg h _
  · intro m i cmd s ⟨h, _, _⟩
    simp only [wp_bind, wp_changesEnd, wp_pure]
    exact rdinv_changes cfg h _


theorem safe_completeLine (H : RdHyp S U cfg) (fuel : Nat) {s : Ed} (h : RdInv cfg s) :
    RSafe cfg (completeLine S U cfg fuel) s := by
  have hwl : IsBoundary s.line.buf s.line.pos := h.1.line
  obtain ⟨hcb, hcle⟩ := H.comp s.line.buf s.line.pos
  unfold RSafe completeLine
  simp only [wp_bind, wp_getLine]
  refine wp_if (fun _ => h) fun _ => wp_if (fun _ => ?_) fun _ => ?_
  · simp only [wp_bind, wp_changesBegin]
    exact safe_completeCircular S U cfg H _ _ _ _ _ hwl hcb hcle fuel 0 _
      (rdinv_changes cfg h _) hcb hcle
  · -- list mode; first the part after the common prefix has been inserted
    have tail : ∀ s1 : Ed, RdInv cfg s1 →
        wp (if (cfg.completer s.line.buf s.line.pos).2.length ≤ 1 then pure none
            else do
              let cmd ← nextCmd S U cfg fuel true true
              if (cmd != Cmd.complete) = true then pure (some cmd)
              else do
                let savePos ← (fun s => .ok (s.line.pos, s) : EM Nat)
                editMove S U cfg (LB.moveEnd S U)
                lbQuiet (LB.setPosChecked S U savePos)
                refreshLine S U cfg
                pure none)
          (fun _ s' => RdInv cfg s') PE s1 := by
      intro s1 h1
      split
      · exact h1
      · rw [wp_bind]
        refine wp_nextCmd_inv S U cfg H.hnp h1 fun cmd s2 h2 _ => ?_
        split
        · exact h2
        · rw [wp_bind', wp_read]
          unfold editMove
          simp only [wp_bind]
          obtain ⟨r, l, hm, hw, hbuf⟩ := C03_moveEnd_total_wf S U s2.line h2.1.line
          have hg : l.canGrow = true := ((Grow.moveEnd S U).h _ _ _ _ hm).trans h2.2.1
          refine wp_lbQuiet hm ?_
          have h3 : RdInv cfg ({ s2 with line := l } : Ed) := ⟨EdWF.mk' hw h2.1.saved h2.1.ring, hg, h2.2.2⟩
          have hsp : IsBoundary l.buf s2.line.pos := by rw [hbuf]; exact h2.1.line
          -- after the optional cursor move (display only) the line is still `l`
          have after : ∀ s4 : Ed, RdInv cfg s4 → s4.core = ({ s2 with line := l } : Ed).core →
              wp (do lbQuiet (LB.setPosChecked S U s2.line.pos); refreshLine S U cfg; pure (none : Option Cmd))
                (fun _ s' => RdInv cfg s') PE s4 := by
            intro s4 h4 hc4
            obtain ⟨l4, _⟩ := Ed.core_eq hc4
            simp only [wp_bind]
            have hsp4 : IsBoundary s4.line.buf s2.line.pos := by rw [l4]; exact hsp
            obtain ⟨l5, hs5, hw5, _⟩ := C03_setPos_total_wf S U s2.line.pos s4.line hsp4
            have hg5 : l5.canGrow = true := ((Grow.setPosChecked S U _).h _ _ _ _ hs5).trans h4.2.1
            refine wp_lbQuiet hs5 ?_
            have h5 : RdInv cfg ({ s4 with line := l5 } : Ed) := ⟨EdWF.mk' hw5 h4.1.saved h4.1.ring, hg5, h4.2.2⟩
            exact wp_refreshLine_inv S U cfg H.hnp h5 fun s6 h6 _ => h6
          cases r with
          | true =>
            simp only [if_true]
            refine wp_moveCursor_inv S U cfg h3 fun s4 h4 hc4 => ?_
            have t := after s4 h4 hc4
            simp only [wp_bind, wp_pure] at t ⊢
            exact t
          | false =>
            simp only [Bool.false_eq_true, if_false, wp_pure]
            have t := after _ h3 rfl
            simp only [wp_bind, wp_pure] at t ⊢
            exact t
    cases hl : lcpChars (cfg.completer s.line.buf s.line.pos).2 with
    | none =>
      have t := tail s h
      simp only [wp_ite, wp_bind, wp_pure] at t ⊢
      exact t
    | some lcp =>
      simp only [wp_bind, wp_ite, wp_exit, wp_pure]
      have hng : ¬ (cfg.completer s.line.buf s.line.pos).1 > s.line.pos := by omega
      rw [if_neg hng]
      split
      · refine wp_lb_replace_inv S U cfg h hcb hcle fun s1 h1 _ _ => ?_
        refine wp_refreshLine_inv S U cfg H.hnp h1 fun s2 h2 _ => ?_
        have t := tail s2 h2
        simp only [wp_ite, wp_bind, wp_pure] at t ⊢
        exact t
      · have t := tail s h
        simp only [wp_ite, wp_bind, wp_pure] at t ⊢
        exact t


theorem safe_searchLoop (H : RdHyp S U cfg) (mark : Nat) (backup : Text) (backupPos : Nat)
    (hbp : IsBoundary backup backupPos) :
    ∀ (fuel : Nat) (sb : Text) (hi : Nat) (d : Dir) (succ : Bool) (s : Ed), RdInv cfg s →
      RSafe cfg (searchLoop S U cfg mark backup backupPos fuel sb hi d succ) s := by
  intro fuel sb hi d succ
  refine wp_searchLoop S U cfg (L := fun _ s => RdInv cfg s) backup backupPos (fun _ _ _ => PE.of_ne nofun)
    ?_ ?_ ?_ ?_ ?_ fuel mark sb hi d succ
  · intro _ p s h
    exact wp_refreshPromptAndLine_inv S U cfg H.hnp p h fun _ h2 _ => h2
  · intro _ fuel s h
    exact wp_nextCmd_inv S U cfg H.hnp h fun _ _ h3 _ => h3
  · -- a found entry is shown with the cursor at the match: a character boundary (C09)
    intro _ sb st d idx e p s hs h
    obtain ⟨_, ⟨a, b, he, hoff⟩, _⟩ := C09_search_sound _ _ _ _ _ _ _ hs
    exact wp_lb_update_inv S U cfg ⟨a, sb ++ b, by rw [he]; simp, hoff⟩ h fun _ h4 _ _ => h4
  · intro m s h
    simp only [wp_bind]
    refine wp_lb_update_inv S U cfg hbp h fun s4 h4 _ _ => ?_
    refine wp_refreshLine_inv S U cfg H.hnp h4 fun s5 h5 _ => ?_
    simp only [truncateChanges, wp_modify, wp_pure]
    exact rdinv_changes cfg h5 _
  · intro m cmd s h
    simp only [wp_bind]
    refine wp_refreshLine_inv S U cfg H.hnp h fun s4 h4 _ => ?_
    simp only [wp_changesEnd, wp_pure]
    exact rdinv_changes cfg h4 _

theorem safe_reverseIncrementalSearch (H : RdHyp S U cfg) (fuel : Nat) {s : Ed} (h : RdInv cfg s) :
    RSafe cfg (reverseIncrementalSearch S U cfg fuel) s := by
  unfold RSafe reverseIncrementalSearch
  split
  · exact h
  · simp only [wp_bind, wp_changesBegin, wp_getLine]
    have hwl : IsBoundary s.line.buf s.line.pos := h.1.line
    exact safe_searchLoop S U cfg H _ _ _ hwl fuel _ _ _ _ _ (rdinv_changes cfg h _)

theorem safe_preCmds (H : RdHyp S U cfg) : ∀ (fuel : Nat) (cmd : Cmd) (s : Ed), RdInv cfg s →
    RSafe cfg (preCmds S U cfg fuel cmd) s := by
  intro fuel
  induction fuel with
  | zero =>
    intro cmd s _
    unfold RSafe preCmds
    simp only [wp_exit]
    intro hh; cases hh
  | succ fuel ih =>
    intro cmd s h
    unfold RSafe preCmds
    split
    · rw [wp_bind]
      refine wp_mono (safe_completeLine S U cfg H fuel h) ?_ (fun _ _ h => h)
      intro r s1 h1
      cases r with
      | none => exact h1
      | some next => exact ih next s1 h1
    · split
      · rw [wp_bind]
        refine wp_mono (safe_reverseIncrementalSearch S U cfg H fuel h) ?_ (fun _ _ h => h)
        intro r s1 h1
        cases r with
        | none => exact h1
        | some next => exact ih next s1 h1
      · exact h

/-- `EdWF` safety plus the `canGrow` and input-state frames give safety for the read invariant -/
theorem rsafe_of {α : Type} {m : EM α} {s : Ed} (h1 : Safe cfg m s) (hk : Keeps Ed.grow m)
    (hi : Keeps Ed.inpOf m) (h : RdInv cfg s) : RSafe cfg m s := by
  refine wp_mono (wp_and h1 (wp_and (hk.wp s) (hi.wp s))) (fun _ s' h' => ⟨h'.1, ?_, ?_⟩) (fun _ _ h' => PE.of_ne h'.1)
  · exact (h'.2.1 : s'.line.canGrow = s.line.canGrow).trans h.2.1
  · intro hv
    have hi' : s'.inp = s.inp := h'.2.2
    rw [hi']; exact h.2.2 hv

theorem safe_editInsert_inv (hnp : cfg.hinterPanicAt = none) (c : Char) (n : Nat) {s : Ed} (h : RdInv cfg s) :
    RSafe cfg (editInsert S U cfg c n) s :=
  rsafe_of cfg (safe_editInsert S U cfg hnp c n h.1) (keeps_grow_editInsert S U cfg c n)
    (keeps_inp_editInsert S U cfg c n) h

theorem wp_nextChar_inv {s : Ed} (h : RdInv cfg s) {Q : Char → Ed → Prop}
    (hq : ∀ c s', RdInv cfg s' → Q c s') : wp nextChar Q PE s := by
  unfold wp nextChar
  cases hi : s.input.nextChar with
  | ok r => exact hq _ _ ⟨EdWF.mk' h.1.line h.1.saved h.1.ring, h.2⟩
  | error e => cases e <;> (intro hh; cases hh)

/-- `rsafe_ri`, `rsafe_rij`, `rsafe_rijx`: one step `m` of a read, with what the continuation may assume
    afterwards: `RdInv` (from `RSafe`), `RI` and the fact `P` about the result (from `RT`); `_rij` adds the cross-step
    invariant `J`, `_rijx` a further postcondition `X` of this step -/
theorem rsafe_ri {α : Type} {P : α → Prop} {m : EM α} (hk : RT cfg P m) {s : Ed} (hi : RI cfg s)
    (hw : RSafe cfg m s) {Q : α → Ed → Prop} (hq : ∀ a s', RdInv cfg s' → RI cfg s' → P a → Q a s') :
    wp m Q PE s :=
  wp_mono (RT.wp_and cfg hk hi hw) (fun a s' h => hq a s' h.1 h.2.1 h.2.2) (fun _ _ h => h)

theorem rsafe_rij {α : Type} {J : Ed → Prop} {P : α → Prop} {m : EM α} (hk : RT cfg P m) {s : Ed} (hi : RI cfg s)
    (hw : RSafe cfg m s) (hj : wp m (fun _ s' => J s') (fun _ _ => True) s) {Q : α → Ed → Prop}
    (hq : ∀ a s', RdInv cfg s' → RI cfg s' → J s' → P a → Q a s') : wp m Q PE s :=
  wp_mono (wp_and (RT.wp_and cfg hk hi hw) hj) (fun a s' h => hq a s' h.1.1 h.1.2.1 h.2 h.1.2.2) (fun _ _ h => h.1)

theorem rsafe_rijx {α : Type} {J : Ed → Prop} {P : α → Prop} {X : α → Ed → Prop} {m : EM α} (hk : RT cfg P m) {s : Ed}
    (hi : RI cfg s) (hw : RSafe cfg m s) (hj : wp m (fun _ s' => J s') (fun _ _ => True) s)
    (hx : wp m X (fun _ _ => True) s) {Q : α → Ed → Prop}
    (hq : ∀ a s', RdInv cfg s' → RI cfg s' → J s' → P a → X a s' → Q a s') : wp m Q PE s :=
  wp_mono (wp_and (wp_and (RT.wp_and cfg hk hi hw) hj) hx)
    (fun a s' h => hq a s' h.1.1.1 h.1.1.2.1 h.1.2 h.1.1.2.2 h.2) (fun _ _ h => h.1.1)

theorem wp_noYank {α : Type} {m : EM α} (hk : Keeps Ed.ringOf m) {s : Ed} (h : NoYank s) :
    wp m (fun _ s' => NoYank s') (fun _ _ => True) s :=
  wp_mono (hk.wp s) (fun _ _ hr => h.of_ring hr) (fun _ _ _ => trivial)

/-- Induction on the fuel.  Five facts are threaded through every step of the body with `rsafe_rijx`: `RdInv`, `RI`
    (with `CmdI` of the command a step returns as its `P`), `J`, and as the extra `X` what `YankPop` needs (`PopI` after a
    command, `PopPre` before `execute`; `next_cmd` keeps it because it keeps `Ed.coreNC`, the ring reset because it
    happens only before a command that is not `YankPop`). -/
theorem safe_mainLoop {J : Ed → Prop} (H : RdHyp S U cfg) (K : RdStep S U cfg J) :
    ∀ (fuel : Nat) (s : Ed), RdInv cfg s → RI cfg s → J s → PopI cfg s →
    RSafe cfg (mainLoop S U cfg fuel) s := by
  intro fuel
  induction fuel with
  | zero =>
    intro s _ _ _ _
    unfold RSafe mainLoop
    simp only [wp_exit]
    intro hh; cases hh
  | succ fuel ih =>
    intro s h hi hj hp
    unfold RSafe mainLoop
    rw [wp_bind]
    refine rsafe_rijx cfg (rt_nextCmd S U cfg H.binds fuel false false) hi
      (wp_nextCmd_inv S U cfg H.hnp h fun _ _ h1 _ => h1) (K.next fuel s hj)
      (X := fun _ s' => s'.coreNC = s.coreNC)
      (wp_mono ((keeps_nextCmd S U cfg fuel false false).wp s) (fun _ _ h => h) (fun _ _ _ => trivial))
      fun cmd0 s1 h1 hi1 hj1 hc0 hnc => ?_
    have hp1 : PopI cfg s1 := fun hv =>
      (hp hv).of_eq (Ed.coreNC_eq hnc).1 (Ed.coreNC_eq hnc).2.2.1
    -- resetting the ring's last action keeps the invariant
    have hreset : ∀ s1 : Ed, RdInv cfg s1 → RdInv cfg { s1 with ring := s1.ring.reset } :=
      fun s1 h1 => ⟨EdWF.mk' h1.1.line h1.1.saved (RingOK.reset h1.1.ring), h1.2⟩
    have body : ∀ s2 : Ed, RdInv cfg s2 → RI cfg s2 → J s2 → PopPre cfg cmd0 s2 →
        wp (do
          match ← preCmds S U cfg fuel cmd0 with
          | none => mainLoop S U cfg fuel
          | some cmd =>
            if cmd == .suspend then do
              modify (fun s => { s with suspends := s.suspends + 1 })
              refreshLine S U cfg
              mainLoop S U cfg fuel
            else if cmd == .quotedInsert then do
              let c ← nextChar
              editInsert S U cfg c 1
              mainLoop S U cfg fuel
            else do
              match ← execute S U cfg cmd with
              | .proceed => mainLoop S U cfg fuel
              | .submit => pure ())
          (fun _ s' => RdInv cfg s') PE s2 := by
      intro s2 h2 hi2 hj2 hp2
      rw [wp_bind]
      refine rsafe_rijx cfg (rt_preCmds S U cfg H.binds fuel cmd0 hc0) hi2 (safe_preCmds S U cfg H fuel cmd0 s2 h2)
        (K.pre fuel cmd0 s2 h2 hj2) (pop_preCmds S U cfg fuel cmd0 hp2) ?_
      intro r s3 h3 hi3 hj3 hr hp3
      cases r with
      | none => exact ih s3 h3 hi3 hj3 hp3
      | some cmd =>
        have hcmd : CmdI cfg cmd := hr cmd rfl
        have hp3 : PopPre cfg cmd s3 := hp3
        simp only []
        split
        · simp only [wp_bind, wp_modify]
          have h3' : RdInv cfg { s3 with suspends := s3.suspends + 1 } :=
            ⟨EdWF.mk' h3.1.line h3.1.saved h3.1.ring, h3.2⟩
          have hi3' : RI cfg { s3 with suspends := s3.suspends + 1 } := hi3
          have hpo : PopI cfg { s3 with suspends := s3.suspends + 1 } := fun hv => ((hp3 hv).1 : PopOK s3)
          exact rsafe_rijx cfg (rt_refreshLine S U cfg) hi3'
            (wp_refreshLine_inv S U cfg H.hnp h3' fun _ h4 _ => h4) (K.refresh _ (K.susp s3 hj3))
            (X := fun _ s' => s'.core = ({ s3 with suspends := s3.suspends + 1 } : Ed).core)
            (wp_mono ((keeps_refreshLine S U cfg).wp _) (fun _ _ h => h) (fun _ _ _ => trivial))
            fun _ s4 h4 hi4 hj4 _ hc4 => ih s4 h4 hi4 hj4
              (fun hv => (hpo hv).of_eq (Ed.core_eq hc4).1 (Ed.core_eq hc4).2.2.2.1)
        · split
          · rename_i hq
            have hn3 : cfg.vi = false → NoYank s3 := fun hv => (hp3 hv).2 (by
              have : cmd = .quotedInsert := by simpa using hq
              subst this; rfl)
            rw [wp_bind]
            refine rsafe_rijx cfg (RT.of_keeps keeps_inp_nextChar) hi3
              (wp_nextChar_inv cfg h3 fun _ _ h4 => h4) (K.nextChar s3 hj3)
              (X := fun _ s' => s'.ring = s3.ring)
              (wp_mono (keeps_ring_nextChar.wp s3) (fun _ _ h => h) (fun _ _ _ => trivial))
              fun c s4 h4 hi4 hj4 _ hr4 => ?_
            rw [wp_bind]
            exact rsafe_rijx cfg (RT.of_keeps (keeps_inp_editInsert S U cfg c 1)) hi4
              (safe_editInsert_inv S U cfg H.hnp c 1 h4) (K.insert c s4 hj4)
              (X := fun _ s' => s'.ring = s4.ring)
              (wp_mono ((keeps_ring_editInsert S U cfg c 1).wp s4) (fun _ _ h => h) (fun _ _ _ => trivial))
              fun _ s5 h5 hi5 hj5 _ hr5 => ih s5 h5 hi5 hj5
                (fun hv => (((hn3 hv).of_ring hr4).of_ring hr5).popOK)
          · rw [wp_bind]
            refine wp_mono (RT.wp_and cfg (RT.of_keeps (keeps_inp_execute S U cfg cmd)) hi3 (K.exec cmd s3 hcmd h3 hj3 hp3))
              ?_ (fun _ _ h => h)
            intro st s4 h4
            obtain ⟨⟨h4, hj4, hp4⟩, hi4, _⟩ := h4
            cases st with
            | proceed => exact ih s4 h4 hi4 hj4 hp4
            | submit => exact h4
    split
    · simp only [wp_bind, wp_modify]
      have t := body _ (hreset s1 h1) hi1 (K.reset s1 hj1) (PopPre.of_noYank cfg (noYank_reset s1))
      simp only [wp_bind] at t
      exact t
    · simp only [wp_bind]
      rename_i hnr
      have t := body s1 h1 hi1 hj1 (fun hv => ⟨hp1 hv, fun hr => absurd hr hnr⟩)
      simp only [wp_bind] at t
      exact t


/-- **the only panic of a whole read is D43**, and the state the read ends with exhibits it.  The fuel
    `input.size + 2` is that of the model (`readline`); nothing here depends on it, running out is the outcome `fuel`.
    The initial state has `RI` because the pending argument is 0 (between `i16::MIN` and `i16::MAX`). -/
theorem readline_panic_only_D43 {J : Ed → Prop} (H : RdHyp S U cfg) (K : RdStep S U cfg J) (ring : KillRing) (hr : RingOK ring) (left right : Text)
    (input : Input) :
    (readline S U cfg ring left right input).1 = .panic → D43 (readline S U cfg ring left right input).2 := by
  have h0 : RdInv cfg (initEd cfg ring input) :=
    ⟨⟨isBoundary_zero _, isBoundary_zero _, hr.reset⟩, rfl, fun _ => Int.le_refl 0⟩
  have hw : wp (do
      if !(left.isEmpty && right.isEmpty) then
        lb S U (LB.update S U (left ++ right) (blen left))
      refreshLine S U cfg
      mainLoop S U cfg (input.size + 2)
      editMove S U cfg (LB.moveBufferEnd S U) : EM Unit)
      (fun _ _ => True) PE (initEd cfg ring input) := by
    have hi0 : RI cfg (initEd cfg ring input) := ⟨by show (-32768 : Int) ≤ 0; omega, by show (0 : Int) ≤ 32767; omega, trivial⟩
    have hj0 : J (initEd cfg ring input) := K.init ring input
    have hn0 : NoYank (initEd cfg ring input) := by intro size h; cases h
    have rest : ∀ s1 : Ed, RdInv cfg s1 → RI cfg s1 → J s1 → NoYank s1 →
        wp (do
          refreshLine S U cfg
          mainLoop S U cfg (input.size + 2)
          editMove S U cfg (LB.moveBufferEnd S U) : EM Unit)
        (fun _ _ => True) PE s1 := by
      intro s1 h1 hi1 hj1 hn1
      simp only [wp_bind]
      refine rsafe_rijx cfg (rt_refreshLine S U cfg) hi1
        (wp_refreshLine_inv S U cfg H.hnp h1 fun _ h2 _ => h2) (K.refresh s1 hj1)
        (wp_noYank (keeps_ring_refreshLine S U cfg) hn1) fun _ s2 h2 hi2 hj2 _ hn2 => ?_
      refine wp_mono (safe_mainLoop S U cfg H K _ s2 h2 hi2 hj2 (fun _ => hn2.popOK)) ?_ (fun _ _ h => h)
      intro _ s3 h3
      exact wp_mono (safe_editMove S U cfg (lmsafe_moveBufferEnd S U) h3.1) (fun _ _ _ => trivial) (fun _ _ h => PE.of_ne h)
    simp only []
    split
    · have hb : IsBoundary (left ++ right) (blen left) := isBoundary_mid left right
      rw [wp_bind]
      refine rsafe_rijx cfg (rt_lb S U cfg _) hi0
        (wp_lb_update_inv S U cfg hb h0 fun _ h1 _ _ => h1) (K.initText _ _ _ hj0)
        (wp_noYank (keeps_ring_lb S U _) hn0) fun _ s1 h1 hi1 hj1 _ hn1 => ?_
      have t := rest s1 h1 hi1 hj1 hn1
      simp only [wp_bind] at t ⊢
      exact t
    · have t := rest _ h0 hi0 hj0 hn0
      simp only [wp_bind] at t ⊢
      exact t
  unfold readline
  simp only []
  unfold wp at hw
  split
  · intro hh; cases hh
  · rename_i o s hp
    rw [hp] at hw
    intro ho
    exact hw ho

theorem readline_no_panic {J : Ed → Prop} (H : RdHyp S U cfg) (K : RdStep S U cfg J) (ring : KillRing) (hr : RingOK ring) (left right : Text)
    (input : Input) (hd : ¬ D43 (readline S U cfg ring left right input).2) :
    (readline S U cfg ring left right input).1 ≠ .panic :=
  fun hp => hd (readline_panic_only_D43 S U cfg H K ring hr left right input hp)

end
end Rl
