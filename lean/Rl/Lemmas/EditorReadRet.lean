/-
  C17: the commands that reach `execute`.  The sub-loops of a read (completion, incremental search,
  the dispatch loop) hand back either nothing or a command that `next_cmd` returned; so every
  command the main loop executes is acceptable (`CmdI`: a `ReplaceChar` count fits a `u16`, no
  `YankPop` in vi mode), and the input state stays acceptable (`RI`) all along.
-/
import Rl.Lemmas.EditorNextRet
namespace Rl
open EM

def OptI (cfg : EdCfg) (r : Option Cmd) : Prop := ∀ c, r = some c → CmdI cfg c

section
variable (S : Segmenter) (U : UData) (cfg : EdCfg)

theorem rt_lb {α : Type} (op : LM α) : RT cfg (fun _ => True) (lb S U op) := RT.of_keeps (keeps_inp_lb S U op)
theorem rt_lbQuiet {α : Type} (op : LM α) : RT cfg (fun _ => True) (lbQuiet op) := RT.of_keeps (keeps_inp_lbQuiet op)
theorem rt_getLine : RT cfg (fun _ => True) getLine := RT.of_keeps keeps_inp_getLine
theorem rt_truncateChanges (m : Nat) : RT cfg (fun _ => True) (truncateChanges m) :=
  RT.of_keeps (keeps_inp_truncateChanges m)
theorem rt_editMove (op : LM Bool) : RT cfg (fun _ => True) (editMove S U cfg op) :=
  RT.of_keeps (keeps_inp_editMove S U cfg op)

theorem rt_lowerMark (m : Nat) : RT cfg (fun _ => True) (lowerMark m) :=
  ⟨fun _ hs _ _ he => by cases he; exact ⟨hs, trivial⟩⟩

theorem rt_completeCircular (hb : BindsI cfg) (start : Nat) (cands : List Text) (mark : Nat) (backup : Text)
    (backupPos : Nat) : ∀ (fuel i : Nat),
    RT cfg (OptI cfg) (completeCircular S U cfg start cands mark backup backupPos fuel i) := by
  have h0 := fun m => rt_lowerMark cfg m
  have h1 := fun {α : Type} (op : LM α) => rt_lb S U cfg op
  have h2 := rt_getLine cfg
  have h3 := fun m => rt_truncateChanges cfg m
  intro fuel
  induction fuel generalizing mark with
  | zero => intro i; unfold completeCircular; em_rt
  | succ k ih =>
    intro i
    unfold completeCircular
    em_rt [ih, h0, h1, h3, RT.bindQ (rt_nextCmd S U cfg hb _ _ _)]

theorem rt_completeLine (hb : BindsI cfg) (fuel : Nat) : RT cfg (OptI cfg) (completeLine S U cfg fuel) := by
  have h1 := fun {α : Type} (op : LM α) => rt_lb S U cfg op
  have h2 := rt_getLine cfg
  have h4 := fun {α : Type} (op : LM α) => rt_lbQuiet cfg op
  have h5 := fun op => rt_editMove S U cfg op
  have h6 := fun start cands mark backup backupPos fuel i =>
    rt_completeCircular S U cfg hb start cands mark backup backupPos fuel i
  unfold completeLine
  em_rt [h6, h1, h4, h5, RT.bindQ (rt_nextCmd S U cfg hb _ _ _)]

theorem rt_searchLoop (hb : BindsI cfg) (mark : Nat) (backup : Text) (backupPos : Nat) :
    ∀ (fuel : Nat) (sb : Text) (hi : Nat) (d : Dir) (succ : Bool),
    RT cfg (OptI cfg) (searchLoop S U cfg mark backup backupPos fuel sb hi d succ) := by
  have h0 := fun m => rt_lowerMark cfg m
  have h1 := fun {α : Type} (op : LM α) => rt_lb S U cfg op
  have h3 := fun m => rt_truncateChanges cfg m
  intro fuel
  induction fuel generalizing mark with
  | zero => intro sb hi d succ; unfold searchLoop; em_rt
  | succ k ih =>
    intro sb hi d succ
    unfold searchLoop
    em_rt [ih, h0, h1, h3, RT.bindQ (rt_nextCmd S U cfg hb _ _ _)]

theorem rt_reverseIncrementalSearch (hb : BindsI cfg) (fuel : Nat) :
    RT cfg (OptI cfg) (reverseIncrementalSearch S U cfg fuel) := by
  have h2 := rt_getLine cfg
  have h6 := fun mark backup backupPos fuel sb hi d succ =>
    rt_searchLoop S U cfg hb mark backup backupPos fuel sb hi d succ
  unfold reverseIncrementalSearch
  em_rt [h6]

theorem rt_preCmds (hb : BindsI cfg) : ∀ (fuel : Nat) (cmd : Cmd), CmdI cfg cmd →
    RT cfg (OptI cfg) (preCmds S U cfg fuel cmd) := by
  intro fuel
  induction fuel with
  | zero => intro cmd _; unfold preCmds; em_rt
  | succ k ih =>
    intro cmd hc
    unfold preCmds
    refine RT.ite (RT.bindQ (rt_completeLine S U cfg hb k) ?_)
      (RT.ite (RT.bindQ (rt_reverseIncrementalSearch S U cfg hb k) ?_) (RT.pure _ ?_))
    · intro r hr
      cases r with
      | some next => exact ih next (hr next rfl)
      | none => exact RT.pure _ (fun c h => by cases h)
    · intro r hr
      cases r with
      | some next => exact ih next (hr next rfl)
      | none => exact RT.pure _ (fun c h => by cases h)
    · intro c h; cases h; exact hc

theorem RT.wp {α : Type} {P : α → Prop} {m : EM α} (hr : RT cfg P m) {s : Ed} (hs : RI cfg s) :
    Rl.wp m (fun a s' => RI cfg s' ∧ P a) (fun _ _ => True) s := by
  unfold Rl.wp
  cases hm : m s with
  | error e => trivial
  | ok r => exact hr.h s hs _ _ hm

theorem RT.wp_and {α : Type} {P : α → Prop} {m : EM α} (hr : RT cfg P m) {s : Ed} (hs : RI cfg s)
    {Q : α → Ed → Prop} {E : Outcome → Ed → Prop} (hw : Rl.wp m Q E s) :
    Rl.wp m (fun a s' => Q a s' ∧ RI cfg s' ∧ P a) E s :=
  wp_mono (Rl.wp_and hw (hr.wp cfg hs)) (fun _ _ h => h) (fun _ _ h => h.1)

end
end Rl
