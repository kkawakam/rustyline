/-
  C17: `ReplaceChar` (vi `r`).  `edit_replace_char` deletes `n` clusters and converts the number of
  clusters of the deleted text to a `RepeatCount` (`try_from(..).unwrap()`).  For a stable segmenter
  the deleted text has at most `n` clusters, so the conversion cannot fail when `n ≤ 65535` (counts are
  `u16` in the code).  Also `rsafe_yankPop`: `YankPop` is safe from the read invariant and `PopOK`.
-/
import Rl.Lemmas.EditorRead
import Rl.Lemmas.CharSearch
import Rl.Lemmas.Motion
import Rl.Lemmas.Undo
import Rl.Lemmas.KillSpan
namespace Rl
open EM Rl.Spec

section
variable (S : Segmenter) (U : UData) (cfg : EdCfg)

theorem delete_eval (lb : LB) (n : Nat) (hn : n ≠ 0) (pre suf : Text) (hb : lb.buf = pre ++ suf)
    (hp : lb.pos = blen pre) (hs : suf ≠ []) :
    LB.delete S U n lb = .ok (some ((S.seg suf).take n).flatten,
      { lb with buf := pre ++ ((S.seg suf).drop n).flatten }, [.del lb.pos ((S.seg suf).take n).flatten .forward]) := by
  have h : WF lb := ⟨pre, suf, hb, hp⟩
  have hsp : splitAtByte lb.buf lb.pos = some (pre, suf) := by rw [hb, hp]; exact splitAtByte_append pre suf
  have hct : charTargetFwd S lb.buf lb.pos n = some (lb.pos + blen ((S.seg suf).take n).flatten) := by
    simp only [charTargetFwd, splitAt?, hsp, Option.bind, bind, pure, offOf, ← List.take_eq_take_min]
  have hne : lb.pos ≠ lb.len := by
    have := blen_pos_of_ne_nil hs
    simp only [LB.len, hb, hp, blen_append]
    omega
  have hnp := nextPos_eq_target S lb n h hne hn
  rw [hct] at hnp
  have hbuf : lb.buf = pre ++ ((S.seg suf).take n).flatten ++ ((S.seg suf).drop n).flatten := by
    rw [hb, List.append_assoc, cs_take_drop_flatten, S.flatten_eq]
  have hdr := drain_at pre ((S.seg suf).take n).flatten ((S.seg suf).drop n).flatten .forward lb hbuf
  unfold LB.delete
  simp only [LM.bind_apply, LM.ro, hnp, LM.get, hp, hdr]
  rfl

theorem delete_count (hS : S.Stable) (lb : LB) (n : Nat) (h : WF lb) :
    ∃ r lb' ns, LB.delete S U n lb = .ok (r, lb', ns) ∧ WF lb' ∧
      ∀ chars, r = some chars → (S.seg chars).length ≤ n := by
  obtain ⟨pre, suf, hb, hp⟩ := h.split
  have none_of {hnp : LB.nextPos S lb n = .ok none} :
      ∃ r lb' ns, LB.delete S U n lb = .ok (r, lb', ns) ∧ WF lb' ∧
        ∀ chars, r = some chars → (S.seg chars).length ≤ n :=
    ⟨none, lb, [], by unfold LB.delete; simp only [LM.bind_apply, LM.ro, hnp]; rfl, h, fun _ hc => nomatch hc⟩
  by_cases hn : n = 0
  · subst hn; exact none_of (hnp := nextPos_zero S lb h)
  by_cases hs : suf = []
  · exact none_of (hnp := nextPos_at_end S lb n (by simp [LB.len, hb, hp, hs]))
  · refine ⟨_, _, _, delete_eval S U lb n hn pre suf hb hp hs, ⟨pre, _, rfl, hp⟩, fun chars hc => ?_⟩
    cases hc
    rw [(hS suf n).1, List.length_take]
    omega

theorem safe_editReplaceChar (hS : S.Stable) (hnp : cfg.hinterPanicAt = none) (c : Char) (n : Nat)
    (hn : n ≤ 65535) {s : Ed} (h : EdWF cfg s) : Safe cfg (editReplaceChar S U cfg c n) s := by
  unfold Safe editReplaceChar
  simp only [wp_bind, wp_changesBegin]
  obtain ⟨r, l, ns, hd, hw, hcnt⟩ := delete_count S U hS s.line n h.line
  refine wp_lb S U (s := { s with changes := s.changes.begin.1 }) hd ?_
  cases r with
  | none =>
    simp only [wp_pure, wp_changesEnd, Bool.false_eq_true, if_false]
    exact EdWF.mk' hw h.saved h.ring
  | some chars =>
    have hc := hcnt chars rfl
    have hle : ¬ graphemeCount S chars > 65535 := by unfold graphemeCount; omega
    simp only [wp_bind, wp_ite, hle, if_false, wp_pure]
    refine wp_lb_safe S U cfg (fun lb hw => C03_insert_total_wf S U c _ lb hw)
      (s := { s with line := l, changes := (s.changes.begin.1).onNotifs S U.alnum ns })
      (EdWF.mk' hw h.saved h.ring) fun _ s2 h2 _ _ _ => ?_
    refine wp_lbQuiet_safe cfg (lmsafe_moveBackward S U 1) h2 fun _ s3 h3 _ _ _ => ?_
    simp only [wp_changesEnd, if_true]
    exact safe_refreshLine S U cfg hnp (EdWF.mk' h3.line h3.saved h3.ring)

theorem rsafe_replaceChar (hS : S.Stable) (hnp : cfg.hinterPanicAt = none) (c : Char) (n : Nat)
    (hn : n ≤ 65535) {s : Ed} (h : RdInv cfg s) : RSafe cfg (execute S U cfg (.replaceChar n c)) s := by
  have he : execute S U cfg (.replaceChar n c) = (do pure (); editReplaceChar S U cfg c n; pure .proceed) := rfl
  have hs : Safe cfg (execute S U cfg (.replaceChar n c)) s := by
    rw [he]; unfold Safe; simp only [wp_bind, wp_pure]
    exact safe_editReplaceChar S U cfg hS hnp c n hn h.1
  exact rsafe_of cfg hs (keeps_grow_execute S U cfg _ rfl) (keeps_inp_execute S U cfg _) h


/-- `YankPop` from the read invariant, WHEN the last yank still stands before the cursor (true right
    after an emacs-mode yank or yank-pop; not after vi `p`/`P`, which move the cursor back) -/
theorem rsafe_yankPop (hnp : cfg.hinterPanicAt = none) {s : Ed} (h : RdInv cfg s) (hp : PopOK s) :
    RSafe cfg (execute S U cfg .yankPop) s := by
  have hs : Safe cfg (execute S U cfg .yankPop) s := by
    have he : execute S U cfg .yankPop = (do
        pure ()
        match ← ringYankPop with
        | some (size, text) => editYankPop S U cfg size text
        | none => pure ()
        pure .proceed) := rfl
    rw [he]; unfold Safe; simp only [wp_bind]
    -- what `yank_pop` of the ring answers
    have hr : RingOK s.ring := h.1.ring
    obtain ⟨k', r, hy, hk'⟩ := hr.yankPop_ok
    unfold wp ringYankPop
    rw [hy]
    simp only []
    have h1 : EdWF cfg ({ s with ring := k' } : Ed) := EdWF.mk' h.1.line h.1.saved hk'
    cases r with
    | none => exact h1
    | some p =>
      obtain ⟨size, text⟩ := p
      -- the size handed back is the recorded size of the last yank
      have hsz : s.ring.lastAction = .yank size := by
        unfold KillRing.yankPop at hy
        cases hla : s.ring.lastAction with
        | kill => rw [hla] at hy; cases hy
        | other => rw [hla] at hy; cases hy
        | yank sz =>
          rw [hla] at hy
          simp only [] at hy
          split at hy
          · cases hy
          · split at hy
            · cases hy
            · cases hy; rfl
      obtain ⟨hle, hb⟩ := hp size hsz
      have hfin := safe_editYankPop S U cfg hnp size text h1 hle hb
      change wp (do editYankPop S U cfg size text; pure Status.proceed) _ _ _
      simp only [wp_bind, wp_pure]
      exact hfin
  exact rsafe_of cfg hs (keeps_grow_execute S U cfg _ rfl) (keeps_inp_execute S U cfg _) h

end
end Rl
