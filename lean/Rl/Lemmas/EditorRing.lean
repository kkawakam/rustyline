/-
  C17 / C06: a frame fact for the kill ring.  Only `Kill`, `Replace`, `ViYankTo` (through `lbKill`),
  `Yank` and `YankPop` touch `ring`; every other command, and every non-command step of a read except
  the main loop's own reset, leaves it exactly as it was.  Then what the read carries for `YankPop`
  (`NoYank`, `PopOK`, `PopI`, `PopPre`) and that the dispatch loop keeps it (`pop_preCmds`).
-/
import Rl.Lemmas.EditorM
import Rl.Lemmas.EditorFrame
import Rl.Lemmas.EditorInp
namespace Rl
open EM

def Ed.ringOf (s : Ed) : KillRing := s.ring

section
variable (S : Segmenter) (U : UData) (cfg : EdCfg)

theorem keeps_ring_lb {α : Type} (op : LM α) : Keeps Ed.ringOf (lb S U op) := Keeps.lb_of S U (fun _ _ _ => rfl) op
theorem keeps_ring_lbQuiet {α : Type} (op : LM α) : Keeps Ed.ringOf (lbQuiet op) :=
  Keeps.lbQuiet_of (fun _ _ => rfl) op
theorem keeps_ring_nextChar : Keeps Ed.ringOf nextChar := Keeps.nextChar_of fun _ _ => rfl
theorem keeps_ring_nextKey (sea : Bool) : Keeps Ed.ringOf (nextKey sea) := Keeps.nextKey_of (fun _ _ => rfl) sea
theorem keeps_ring_readPasted : Keeps Ed.ringOf readPasted := Keeps.readPasted_of fun _ _ => rfl
theorem keeps_ring_customBinding (keys : List KeyEvent) (n : Nat) (p : Bool) :
    Keeps Ed.ringOf (customBinding cfg keys n p) := Keeps.customBinding_of cfg (fun _ _ _ => rfl) keys n p

theorem keeps_ring_execPrims : ExecPrims S U cfg (fun m => Keeps Ed.ringOf m) where
  pure := Keeps.pure
  bind := Keeps.bind
  read := Keeps.read
  exit := Keeps.exit
  liftP := Keeps.liftP
  backup := Keeps.backup_of S U fun _ _ => rfl
  setHistIdx := fun _ => ⟨fun _ => rfl⟩
  changesBegin := ⟨fun _ => rfl⟩
  changesEnd := ⟨fun _ => rfl⟩
  logValidator := fun _ => ⟨fun _ => rfl⟩
  lb := fun _ => keeps_ring_lb S U _
  lbQuiet := fun _ => keeps_ring_lbQuiet _
  setPos := fun _ => keeps_ring_lbQuiet _
  updateHint := Keeps.updateHint_of cfg fun _ _ _ => rfl
  highlightCharStep := Keeps.highlightCharStep_of cfg fun _ _ => rfl
  setRefreshLayout := fun _ _ => ⟨fun _ => rfl⟩
  logRender := fun _ => ⟨fun _ => rfl⟩
  clearHint := ⟨fun _ => rfl⟩
  setCursor := fun _ => ⟨fun _ => rfl⟩
  advanceCursor := fun _ => ⟨fun _ => rfl⟩
  resetCursor := ⟨fun _ => rfl⟩

theorem keeps_ring_refreshLine : Keeps Ed.ringOf (refreshLine S U cfg) := (keeps_ring_execPrims S U cfg).refreshLine

theorem keeps_ring_editInsert (c : Char) (n : Nat) : Keeps Ed.ringOf (editInsert S U cfg c n) :=
  (keeps_ring_execPrims S U cfg).editInsert c n

theorem keeps_ring_editYank (t : Text) (a : Anchor) (n : Nat) : Keeps Ed.ringOf (editYank S U cfg t a n) :=
  (keeps_ring_execPrims S U cfg).editYank t a n

theorem keeps_ring_editMove (op : LM Bool) : Keeps Ed.ringOf (editMove S U cfg op) :=
  Keeps.bind (keeps_ring_lbQuiet op) fun _ => Keeps.ite (keeps_ring_execPrims S U cfg).moveCursor (Keeps.pure _)

def Cmd.usesRing : Cmd → Bool
  | .kill _ | .replace _ _ | .viYankTo _ | .yank _ _ | .yankPop => true
  | _ => false

/-- **every command but `Kill`, `Replace`, `ViYankTo`, `Yank`, `YankPop` leaves the kill ring exactly as
    it was** (whether it returns or exits) -/
theorem keeps_ring_execute (cmd : Cmd) (hc : cmd.usesRing = false) : Keeps Ed.ringOf (execute S U cfg cmd) :=
  (keeps_ring_execPrims S U cfg).toUnits.execute_of cmd
    (fun hr => by cases hr <;> cases hc)
    fun n _ => Keeps.execute_undo S U cfg (fun _ _ _ => rfl) (keeps_ring_refreshLine S U cfg) n

theorem keeps_ring_nextCmd (fuel : Nat) (sea iep : Bool) : Keeps Ed.ringOf (nextCmd S U cfg fuel sea iep) :=
  Keeps.comp (fun c : CoreNC => c.ring) (keeps_nextCmd S U cfg fuel sea iep)

theorem keeps_ring_lowerMark (m : Nat) : Keeps Ed.ringOf (lowerMark m) := ⟨fun _ => rfl⟩

theorem keeps_ring_completeCircular (start : Nat) (cands : List Text) (mark : Nat) (backup : Text) (backupPos : Nat) :
    ∀ (fuel i : Nat), Keeps Ed.ringOf (completeCircular S U cfg start cands mark backup backupPos fuel i) := by
  have P := keeps_ring_execPrims S U cfg
  have h1 := fun fuel sea iep => keeps_ring_nextCmd S U cfg fuel sea iep
  have h2 := fun m => keeps_ring_lowerMark m
  have h3 : ∀ m, Keeps Ed.ringOf (truncateChanges m) := fun _ => ⟨fun _ => rfl⟩
  have r1 : Keeps Ed.ringOf getLine := Keeps.read _
  intro fuel
  induction fuel generalizing mark with
  | zero => intro i; unfold completeCircular; exact Keeps.exit _
  | succ k ih =>
    intro i
    unfold completeCircular
    em_walk [Keeps.pure, Keeps.bind, keeps_ring_lb S U, P.refreshLine, P.changesEnd, ih, h1, h2, h3, r1]

theorem keeps_ring_completeLine (fuel : Nat) : Keeps Ed.ringOf (completeLine S U cfg fuel) := by
  have P := keeps_ring_execPrims S U cfg
  have h1 := fun fuel sea iep => keeps_ring_nextCmd S U cfg fuel sea iep
  have h3 := fun start cands mark backup backupPos fuel i =>
    keeps_ring_completeCircular S U cfg start cands mark backup backupPos fuel i
  have m1 := fun op => keeps_ring_editMove S U cfg op
  have r1 : Keeps Ed.ringOf getLine := Keeps.read _
  unfold completeLine
  em_walk [Keeps.pure, Keeps.bind, Keeps.bind', Keeps.read, Keeps.exit, keeps_ring_lb S U, keeps_ring_lbQuiet,
    P.refreshLine, P.changesBegin, h1, h3, m1, r1]

theorem keeps_ring_searchLoop (mark : Nat) (backup : Text) (backupPos : Nat) :
    ∀ (fuel : Nat) (sb : Text) (hi : Nat) (d : Dir) (succ : Bool),
      Keeps Ed.ringOf (searchLoop S U cfg mark backup backupPos fuel sb hi d succ) := by
  have P := keeps_ring_execPrims S U cfg
  have h1 := fun fuel sea iep => keeps_ring_nextCmd S U cfg fuel sea iep
  have h2 := fun m => keeps_ring_lowerMark m
  have h3 : ∀ m, Keeps Ed.ringOf (truncateChanges m) := fun _ => ⟨fun _ => rfl⟩
  intro fuel
  induction fuel generalizing mark with
  | zero => intro sb hi d succ; unfold searchLoop; exact Keeps.exit _
  | succ k ih =>
    intro sb hi d succ
    unfold searchLoop
    em_walk [Keeps.pure, Keeps.bind, keeps_ring_lb S U, P.refreshLine, P.refreshPromptAndLine, P.changesEnd, ih, h1,
      h2, h3]

theorem keeps_ring_reverseIncrementalSearch (fuel : Nat) :
    Keeps Ed.ringOf (reverseIncrementalSearch S U cfg fuel) := by
  have P := keeps_ring_execPrims S U cfg
  have h3 := fun mark backup backupPos fuel sb hi d succ =>
    keeps_ring_searchLoop S U cfg mark backup backupPos fuel sb hi d succ
  have r1 : Keeps Ed.ringOf getLine := Keeps.read _
  unfold reverseIncrementalSearch
  em_walk [Keeps.pure, Keeps.bind, P.changesBegin, h3, r1]

/-- **the dispatch loop (completion, incremental search) leaves the kill ring exactly as it was** -/
theorem keeps_ring_preCmds : ∀ (fuel : Nat) (cmd : Cmd), Keeps Ed.ringOf (preCmds S U cfg fuel cmd) := by
  intro fuel
  induction fuel with
  | zero => intro cmd; unfold preCmds; exact Keeps.exit _
  | succ k ih =>
    intro cmd
    have h1 := keeps_ring_completeLine S U cfg k
    have h2 := keeps_ring_reverseIncrementalSearch S U cfg k
    unfold preCmds
    em_walk [Keeps.pure, Keeps.bind, ih, h1, h2]

def NoYank (s : Ed) : Prop := ∀ size, s.ring.lastAction ≠ .yank size

/-- the cross-step fact `YankPop` needs: the text of the last yank stands right before the cursor -/
def PopOK (s : Ed) : Prop :=
  ∀ size, s.ring.lastAction = .yank size → size ≤ s.line.pos ∧ IsBoundary s.line.buf (s.line.pos - size)

/-- emacs mode: `PopOK` (in vi mode `YankPop` is never executed) -/
def PopI (cfg : EdCfg) (s : Ed) : Prop := cfg.vi = false → PopOK s

/-- what holds when a command is about to be executed: `PopOK`, and the last action has been reset
    unless the command is one of those the main loop does not reset for -/
def PopPre (cfg : EdCfg) (cmd : Cmd) (s : Ed) : Prop :=
  cfg.vi = false → PopOK s ∧ (cmd.shouldResetKillRing = true → NoYank s)

theorem NoYank.popOK {s : Ed} (h : NoYank s) : PopOK s := fun size hs => absurd hs (h size)

theorem NoYank.of_ring {s s' : Ed} (h : NoYank s) (hr : s'.ring = s.ring) : NoYank s' := by
  intro size; rw [hr]; exact h size

theorem PopOK.of_eq {s s' : Ed} (h : PopOK s) (hl : s'.line = s.line) (hr : s'.ring = s.ring) : PopOK s' := by
  intro size hs; rw [hr] at hs; rw [hl]; exact h size hs

theorem noYank_reset (s : Ed) : NoYank { s with ring := s.ring.reset } := by
  intro size h; cases h

theorem PopPre.of_noYank {cmd : Cmd} {s : Ed} (h : NoYank s) : PopPre cfg cmd s := fun _ => ⟨h.popOK, fun _ => h⟩

/-- the dispatch loop: it hands back the command it was given in the state it was given, or it ran a
    completion / an incremental search — for which the last action had been reset, and it keeps the ring -/
theorem pop_preCmds (fuel : Nat) (cmd0 : Cmd) {s : Ed} (hp : PopPre cfg cmd0 s) :
    wp (preCmds S U cfg fuel cmd0)
      (fun r s' => match r with | some cmd => PopPre cfg cmd s' | none => PopI cfg s') (fun _ _ => True) s := by
  have key : cmd0.shouldResetKillRing = true →
      wp (preCmds S U cfg fuel cmd0)
        (fun r s' => match r with | some cmd => PopPre cfg cmd s' | none => PopI cfg s') (fun _ _ => True) s := by
    intro hreset
    refine wp_mono ((keeps_ring_preCmds S U cfg fuel cmd0).wp s) ?_ (fun _ _ _ => trivial)
    intro r s' hr
    by_cases hvi : cfg.vi = false
    · have hn : NoYank s' := ((hp hvi).2 hreset).of_ring hr
      cases r with
      | some cmd => exact PopPre.of_noYank cfg hn
      | none => exact fun _ => hn.popOK
    · cases r with
      | some cmd => exact fun h => absurd h hvi
      | none => exact fun h => absurd h hvi
  by_cases c1 : (cmd0 == .complete && cfg.hasHelper) = true
  · apply key
    have : cmd0 = .complete := by
      simp only [Bool.and_eq_true, beq_iff_eq] at c1; exact c1.1
    subst this; rfl
  · by_cases c2 : (cmd0 == .reverseSearchHistory) = true
    · apply key
      have : cmd0 = .reverseSearchHistory := by simpa using c2
      subst this; rfl
    · cases fuel with
      | zero => unfold preCmds; exact trivial
      | succ k =>
        unfold preCmds
        rw [if_neg c1, if_neg c2, wp_pure]
        exact hp

end
end Rl
