/-
  No-panic / invariant-preservation facts for `execute` (property C17): from a state satisfying
  `EdWF` (cursor of the line and of the saved line on a character boundary — `WF` of C03 —, kill ring
  coherent — `RingOK`) each covered command returns or exits without the `panic` outcome, and
  the state it leaves satisfies `EdWF` again.  Built from the `C03_*_total_wf` theorems.
-/
import Rl.Lemmas.EditorM
import Rl.Lemmas.EditorOps
import Rl.Props.C03
import Rl.Lemmas.KillRingSafe
namespace Rl
open EM

/-- the invariant on the part of the state `execute` can panic on -/
structure CoreWF (cfg : EdCfg) (c : CoreNC) : Prop where
  line : WF c.line
  saved : WF c.saved
  ring : RingOK c.ring

def EdWF (cfg : EdCfg) (s : Ed) : Prop := CoreWF cfg s.coreNC

theorem EdWF.of_core {cfg : EdCfg} {s s' : Ed} (h : EdWF cfg s) (hc : s'.core = s.core) : EdWF cfg s' := by
  unfold EdWF Ed.coreNC; rw [hc]; exact h

theorem EdWF.of_coreNC {cfg : EdCfg} {s s' : Ed} (h : EdWF cfg s) (hc : s'.coreNC = s.coreNC) : EdWF cfg s' := by
  unfold EdWF; rw [hc]; exact h

theorem EdWF.mk' {cfg : EdCfg} {s : Ed} (h1 : WF s.line) (h2 : WF s.saved)
    (h4 : RingOK s.ring) : EdWF cfg s := ⟨h1, h2, h4⟩

/-- the line-buffer operation `op` does not fail on a well-formed line and leaves it well-formed -/
def LMSafe {α : Type} (op : LM α) : Prop := ∀ lb, WF lb → ∃ r lb' ns, op lb = .ok (r, lb', ns) ∧ WF lb'

/-- the post- and exit-conditions of C17: the invariant again, and never the panic outcome -/
abbrev Safe {α : Type} (cfg : EdCfg) (m : EM α) (s : Ed) : Prop :=
  wp m (fun _ s' => EdWF cfg s') (fun o _ => o ≠ .panic) s

/-- a safe step followed by the answer `proceed` is safe: the shape of most arms of `execute` -/
theorem Safe.then_proceed {cfg : EdCfg} {m : EM Unit} {s : Ed} (hm : Safe cfg m s) :
    Safe cfg (do m; pure Status.proceed) s := by
  unfold Safe; rw [wp_bind]; exact hm

section
variable (S : Segmenter) (U : UData) (cfg : EdCfg)

theorem wp_lb_safe {α : Type} {op : LM α} (hop : LMSafe op) {s : Ed} (h : EdWF cfg s)
    {Q : α → Ed → Prop} {E : Outcome → Ed → Prop}
    (hq : ∀ a s', EdWF cfg s' → s'.saved = s.saved → s'.histIdx = s.histIdx → s'.ring = s.ring → Q a s') :
    wp (lb S U op) Q E s := by
  obtain ⟨r, l, ns, ho, hw⟩ := hop s.line h.line
  exact wp_lb S U ho (hq _ _ ⟨hw, h.saved, h.ring⟩ rfl rfl rfl)

theorem wp_lbQuiet_safe {α : Type} {op : LM α} (hop : LMSafe op) {s : Ed} (h : EdWF cfg s)
    {Q : α → Ed → Prop} {E : Outcome → Ed → Prop}
    (hq : ∀ a s', EdWF cfg s' → s'.saved = s.saved → s'.histIdx = s.histIdx → s'.ring = s.ring → Q a s') :
    wp (lbQuiet op) Q E s := by
  obtain ⟨r, l, ns, ho, hw⟩ := hop s.line h.line
  exact wp_lbQuiet ho (hq _ _ ⟨hw, h.saved, h.ring⟩ rfl rfl rfl)

theorem safe_refreshLine (hnp : cfg.hinterPanicAt = none) {s : Ed} (h : EdWF cfg s) :
    Safe cfg (refreshLine S U cfg) s :=
  wp_refreshLine_np S U cfg hnp fun _ hc => h.of_core hc

theorem safe_moveCursor {s : Ed} (h : EdWF cfg s) : Safe cfg (moveCursor S U cfg) s :=
  wp_moveCursor S U cfg fun _ hc => h.of_core hc

theorem safe_pure {α : Type} (a : α) {s : Ed} (h : EdWF cfg s) : Safe cfg (pure a : EM α) s := h

theorem Safe.bind {α β : Type} {m : EM α} {f : α → EM β} {s : Ed}
    (hm : Safe cfg m s) (hf : ∀ a s', EdWF cfg s' → Safe cfg (f a) s') : Safe cfg (m >>= f) s := by
  unfold Safe; rw [wp_bind]
  exact wp_mono hm (fun a s' h => hf a s' h) (fun _ _ h => h)

theorem safe_editMove {op : LM Bool} (hop : LMSafe op) {s : Ed} (h : EdWF cfg s) :
    Safe cfg (editMove S U cfg op) s := by
  unfold Safe editMove
  rw [wp_bind]
  refine wp_lbQuiet_safe cfg hop h fun b s' h' _ _ _ => ?_
  split
  · exact safe_moveCursor S U cfg h'
  · exact h'

theorem safe_grouped {op : LM Bool} (hop : LMSafe op) (hnp : cfg.hinterPanicAt = none) {s : Ed} (h : EdWF cfg s) :
    Safe cfg (grouped S U cfg op) s := by
  unfold Safe grouped
  simp only [wp_bind, wp_changesBegin]
  refine wp_lb_safe S U cfg hop (s := { s with changes := s.changes.begin.1 }) h fun b s' h' _ _ _ => ?_
  simp only [wp_changesEnd]
  split
  · exact safe_refreshLine S U cfg hnp h'
  · exact h'

theorem safe_editInsert (hnp : cfg.hinterPanicAt = none) (c : Char) (n : Nat) {s : Ed} (h : EdWF cfg s) : Safe cfg (editInsert S U cfg c n) s := by
  refine wp_mono (editInsert_spec_np S U cfg hnp c n s) ?_ ?_
  · intro _ s' ⟨r, l, ns, hi, hc⟩
    obtain ⟨r', l', ns', hi', hw⟩ := C03_insert_total_wf S U c n s.line h.line
    rw [hi] at hi'; cases hi'
    have : EdWF cfg ({ s with line := l, changes := s.changes.onNotifs S U.alnum ns } : Ed) := ⟨hw, h.saved, h.ring⟩
    exact this.of_core hc
  · intro o s' ⟨_, _, e, he⟩
    obtain ⟨r', l', ns', hi', _⟩ := C03_insert_total_wf S U c n s.line h.line
    rw [he] at hi'; cases hi'

theorem lmsafe_of3 {α : Type} {op : LM α}
    (h : ∀ lb, WF lb → ∃ r lb', op lb = .ok (r, lb', []) ∧ WF lb' ∧ lb'.buf = lb.buf) : LMSafe op :=
  fun lb hw => let ⟨r, lb', h1, h2, _⟩ := h lb hw; ⟨r, lb', [], h1, h2⟩

theorem lmsafe_moveHome : LMSafe (LB.moveHome S U) := lmsafe_of3 (C03_moveHome_total_wf S U)
theorem lmsafe_moveEnd : LMSafe (LB.moveEnd S U) := lmsafe_of3 (C03_moveEnd_total_wf S U)
theorem lmsafe_moveToFirstPrint : LMSafe (LB.moveToFirstPrint S U) :=
  lmsafe_of3 (C03_moveToFirstPrint_total_wf S U)
theorem lmsafe_moveBackward (n : Nat) : LMSafe (LB.moveBackward S U n) :=
  lmsafe_of3 fun lb h => C03_moveBackward_total_wf S U lb n h
theorem lmsafe_moveForward (n : Nat) : LMSafe (LB.moveForward S U n) :=
  lmsafe_of3 fun lb h => C03_moveForward_total_wf S U lb n h
theorem lmsafe_moveBufferStart : LMSafe (LB.moveBufferStart S U) :=
  lmsafe_of3 fun lb _ => C03_moveBufferStart_total_wf S U lb
theorem lmsafe_moveBufferEnd : LMSafe (LB.moveBufferEnd S U) := lmsafe_of3 (C03_moveBufferEnd_total_wf S U)

theorem lmsafe_moveToPrevWord (w : Word) (n : Nat) : LMSafe (LB.moveToPrevWord S U w n) :=
  lmsafe_of3 fun lb h => C03_moveToPrevWord_total_wf S U w n lb h
theorem lmsafe_moveToNextWord (a : At) (w : Word) (n : Nat) : LMSafe (LB.moveToNextWord S U a w n) :=
  lmsafe_of3 fun lb h => C03_moveToNextWord_total_wf S U a w n lb h
theorem lmsafe_moveTo (cs : CharSearch) (n : Nat) : LMSafe (LB.moveTo S U cs n) :=
  lmsafe_of3 fun lb h => C03_moveTo_total_wf S U cs n lb h
theorem lmsafe_moveToLineUp (n pc : Nat) : LMSafe (LB.moveToLineUp S U n pc) :=
  lmsafe_of3 fun lb h => C03_moveToLineUp_total_wf S U n pc lb h
theorem lmsafe_moveToLineDown (n pc : Nat) : LMSafe (LB.moveToLineDown S U n pc) :=
  lmsafe_of3 fun lb h => C03_moveToLineDown_total_wf S U n pc lb h

theorem lmsafe_transposeChars : LMSafe (LB.transposeChars S U) :=
  fun lb h => C03_transposeChars_total_wf S U lb h
theorem lmsafe_editWord (a : WordAction) : LMSafe (LB.editWord S U a) :=
  fun lb h => C03_editWord_total_wf S U a lb h
theorem lmsafe_transposeWords (n : Nat) : LMSafe (LB.transposeWords S U n) :=
  fun lb h => C03_transposeWords_total_wf S U n lb h
theorem lmsafe_yank (t : Text) (n : Nat) : LMSafe (LB.yank S U t n) :=
  fun lb h => C03_yank_total_wf S U t n lb h

theorem safe_editYank (t : Text) (a : Anchor) (n : Nat) (hnp : cfg.hinterPanicAt = none) {s : Ed} (h : EdWF cfg s) :
    Safe cfg (editYank S U cfg t a n) s := by
  -- the paste and, on refusal, `set_pos(pos)`: from a state whose line still holds the text of `s`
  have tail : ∀ (l1 : LB), WF l1 → l1.buf = s.line.buf →
      wp (do match ← lb S U (LB.yank S U t n) with
             | some _ => do
               if cfg.vi then do let _ ← lbQuiet (LB.moveBackward S U 1); Pure.pure ()
               refreshLine S U cfg
             | none => lbQuiet (LB.setPosChecked S U s.line.pos) : EM Unit)
        (fun _ s' => EdWF cfg s') (fun o _ => o ≠ .panic) ({ s with line := l1 } : Ed) := by
    intro l1 hw1 hb1
    have h1 : EdWF cfg ({ s with line := l1 } : Ed) := ⟨hw1, h.saved, h.ring⟩
    obtain ⟨r, l2, ns, hy, hw2⟩ := C03_yank_total_wf S U t n l1 hw1
    rw [wp_bind]
    refine wp_lb S U (s := { s with line := l1 }) hy ?_
    have h2 : EdWF cfg ({ s with line := l2, changes := s.changes.onNotifs S U.alnum ns } : Ed) :=
      ⟨hw2, h.saved, h.ring⟩
    cases r with
    | some b =>
      simp only []
      split
      · simp only [wp_bind]
        refine wp_lbQuiet_safe cfg (lmsafe_moveBackward S U 1) h2 fun _ s3 h3 _ _ _ => ?_
        exact safe_refreshLine S U cfg hnp h3
      · exact safe_refreshLine S U cfg hnp h2
    | none =>
      simp only []
      -- a refused paste left the line as it was
      have hl2 : l2 = l1 := by
        rw [yank_eval] at hy
        split at hy
        · cases hy; rfl
        · split at hy <;> cases hy
      subst hl2
      have hle : s.line.pos ≤ l2.len := by
        have := IsBoundary.le_len h.line
        show s.line.pos ≤ blen l2.buf
        rw [hb1]; exact this
      have hs3 : LB.setPosChecked S U s.line.pos l2 = .ok ((), { l2 with pos := s.line.pos }, []) := by
        simp [LB.setPosChecked, hle]
      refine wp_lbQuiet (s := { s with line := l2, changes := s.changes.onNotifs S U.alnum ns }) hs3 ?_
      refine ⟨?_, h.saved, h.ring⟩
      show IsBoundary l2.buf s.line.pos
      rw [hb1]; exact h.line
  unfold Safe editYank
  rw [wp_bind, wp_get]
  simp only []
  split
  · rw [wp_bind]
    obtain ⟨r1, l1, hmf, hw1, hb1⟩ := C03_moveForward_total_wf S U s.line 1 h.line
    refine wp_lbQuiet hmf ?_
    exact tail l1 hw1 hb1
  · exact tail s.line h.line rfl

theorem safe_completeHintLine (hnp : cfg.hinterPanicAt = none) {s : Ed} (h : EdWF cfg s) : Safe cfg (completeHintLine S U cfg) s := by
  unfold Safe completeHintLine
  rw [wp_bind', wp_read]
  cases hh : s.hint with
  | none => exact h
  | some t =>
    simp only [wp_bind]
    refine wp_lbQuiet_safe cfg (lmsafe_moveEnd S U) h fun _ s1 h1 _ _ _ => ?_
    refine wp_lb_safe S U cfg (lmsafe_yank S U t 1) h1 fun _ s2 h2 _ _ _ => ?_
    exact safe_refreshLine S U cfg hnp h2

theorem safe_validate (hv : ∀ t, cfg.validator t ≠ .panic) {s : Ed} (h : EdWF cfg s) :
    wp (validate S U cfg) (fun _ s' => EdWF cfg s') (fun o _ => o ≠ .panic) s := by
  refine wp_mono (validate_spec S U cfg s) ?_ ?_
  · intro v s' ⟨h1, h2, h3, h4, _⟩
    exact EdWF.mk' (by rw [h1]; exact h.line) (by rw [h2]; exact h.saved)
      (by rw [h3]; exact h.ring)
  · intro o s' ⟨_, _, h3⟩
    rcases h3 with ⟨rfl, _⟩ | ⟨_, hp⟩
    · intro hh; cases hh
    · exact absurd hp (hv _)

theorem safe_execAccept (hv : ∀ t, cfg.validator t ≠ .panic) (hnp : cfg.hinterPanicAt = none) (aim : Bool) {s : Ed} (h : EdWF cfg s) :
    Safe cfg (execAccept S U cfg aim) s := by
  refine wp_mono (execAccept_spec S U cfg aim s) ?_ ?_
  · intro st s' ⟨_, _, h2, h3, h4, hm⟩
    have hl : WF s'.line := by
      cases ha : acceptActOf U cfg aim s with
      | submit => rw [ha] at hm; rw [hm.2]; exact h.line
      | stay => rw [ha] at hm; rw [hm.2]; exact h.line
      | insertNewline =>
        rw [ha] at hm
        obtain ⟨_, r, ns, hi⟩ := hm
        obtain ⟨r', l', ns', hi', hw⟩ := C03_insert_total_wf S U '\n' 1 s.line h.line
        rw [hi] at hi'; cases hi'; exact hw
    exact EdWF.mk' hl (by rw [h2]; exact h.saved) (by rw [h3]; exact h.ring)
  · intro o s' hE
    rcases hE with ⟨_, h3⟩ | ⟨_, hne, _⟩
    · rcases h3 with ⟨rfl, _⟩ | ⟨_, _, hp⟩ | ⟨_, _, _, e, he⟩
      · intro hh; cases hh
      · exact absurd hp (hv _)
      · obtain ⟨r', l', ns', hi', _⟩ := C03_insert_total_wf S U '\n' 1 s.line h.line
        rw [he] at hi'; cases hi'
    · exact absurd hnp hne

theorem safe_withPreAccept {α : Type} {k : EM α} {s : Ed} (h : EdWF cfg s)
    (hk : ∀ s1, EdWF cfg s1 → Safe cfg k s1) : Safe cfg (withPreAccept S U cfg k) s :=
  wp_withPreAccept S U cfg fun s1 hc => hk s1 (h.of_core hc)


theorem ringNotif_ok {k : KillRing} (h : RingOK k) (n : Notif) : ∃ k', ringNotif k n = .ok k' ∧ RingOK k' := by
  cases n with
  | startKill => exact ⟨_, rfl, h.startKilling⟩
  | stopKill => exact ⟨_, rfl, h.stopKilling⟩
  | del i t d => exact h.onDelete_ok t d
  | insChar i c => exact ⟨k, rfl, h⟩
  | insStr i t => exact ⟨k, rfl, h⟩
  | repl i o n => exact ⟨k, rfl, h⟩

theorem lbKill_go_nil (k : KillRing) : lbKill.go [] k = .ok k := by unfold lbKill.go; rfl

theorem lbKill_go_cons (n : Notif) (rest : List Notif) (k : KillRing) :
    lbKill.go (n :: rest) k = (match ringNotif k n with | .ok k' => lbKill.go rest k' | .error e => .error e) := by
  conv => lhs; unfold lbKill.go
  rfl

theorem lbKill_go_ind {P : KillRing → Prop} {ns : List Notif}
    (hstep : ∀ n ∈ ns, ∀ a a', P a → ringNotif a n = .ok a' → P a') {k k' : KillRing}
    (h0 : P k) (h : lbKill.go ns k = .ok k') : P k' := by
  induction ns generalizing k with
  | nil => rw [lbKill_go_nil] at h; cases h; exact h0
  | cons n rest ih =>
    rw [lbKill_go_cons] at h
    cases h1 : ringNotif k n with
    | error e => rw [h1] at h; cases h
    | ok k1 =>
      rw [h1] at h
      exact ih (fun m hm => hstep m (List.mem_cons_of_mem _ hm)) (hstep n (List.mem_cons_self ..) k k1 h0 h1) h

theorem lbKill_go_total {β : Type} {R : KillRing → β → Prop} {f : β → Notif → β} {ns : List Notif}
    (hstep : ∀ n ∈ ns, ∀ a b, R a b → ∃ a', ringNotif a n = .ok a' ∧ R a' (f b n)) {k : KillRing} {b : β}
    (h0 : R k b) : ∃ k', lbKill.go ns k = .ok k' ∧ R k' (ns.foldl f b) := by
  induction ns generalizing k b with
  | nil => exact ⟨k, lbKill_go_nil k, h0⟩
  | cons n rest ih =>
    obtain ⟨k1, h1, r1⟩ := hstep n (List.mem_cons_self ..) k b h0
    obtain ⟨k', h2, r2⟩ := ih (fun m hm => hstep m (List.mem_cons_of_mem _ hm)) r1
    exact ⟨k', by rw [lbKill_go_cons, h1]; exact h2, r2⟩

theorem lbKill_go_ok (ns : List Notif) {k : KillRing} (h : RingOK k) :
    ∃ k', lbKill.go ns k = .ok k' ∧ RingOK k' :=
  lbKill_go_total (R := fun a _ => RingOK a) (f := fun _ _ => ()) (b := ()) (fun n _ _ _ ha => ringNotif_ok ha n) h

theorem wp_lbKill_safe {α : Type} {op : LM α} (hop : LMSafe op) {s : Ed} (h : EdWF cfg s)
    {Q : α → Ed → Prop} {E : Outcome → Ed → Prop}
    (hq : ∀ a s', EdWF cfg s' → Q a s') : wp (lbKill S U op) Q E s := by
  obtain ⟨r, l, ns, ho, hw⟩ := hop s.line h.line
  have hr : RingOK s.ring := h.ring
  obtain ⟨k', hg, hk'⟩ := lbKill_go_ok ns hr
  unfold wp lbKill
  rw [ho]
  simp only [hg]
  refine hq _ _ ?_
  exact EdWF.mk' hw h.saved hk'

theorem lmsafe_kill (mvt : Movement) : LMSafe (LB.kill S U mvt) :=
  fun lb h => C03_kill_total_wf S U mvt lb h

theorem safe_editKill (mvt : Movement) (hnp : cfg.hinterPanicAt = none) {s : Ed} (h : EdWF cfg s) :
    Safe cfg (editKill S U cfg mvt) s := by
  unfold Safe editKill
  rw [wp_bind]
  refine wp_lbKill_safe S U cfg (lmsafe_kill S U mvt) h fun b s' h' => ?_
  split
  · exact safe_refreshLine S U cfg hnp h'
  · exact h'

theorem safe_editInsertText (t : Text) (hnp : cfg.hinterPanicAt = none) {s : Ed} (h : EdWF cfg s) :
    Safe cfg (editInsertText S U cfg t) s := by
  unfold Safe editInsertText
  split
  · exact h
  · simp only [wp_bind, wp_getLine]
    obtain ⟨r, l, ns, hi, hw⟩ := C03_insertStr_total_wf S U s.line.pos t s.line h.line h.line (Nat.le_refl _)
    refine wp_lb S U hi ?_
    exact safe_refreshLine S U cfg hnp (EdWF.mk' hw h.saved h.ring)

theorem wp_ringYank_safe {s : Ed} (h : EdWF cfg s) {Q : Option Text → Ed → Prop} {E : Outcome → Ed → Prop}
    (hq : ∀ t s', EdWF cfg s' → Q t s') : wp ringYank Q E s := by
  have hr : RingOK s.ring := h.ring
  obtain ⟨k', t, hy, hk'⟩ := hr.yank_ok
  unfold wp ringYank
  rw [hy]
  refine hq _ _ ?_
  exact EdWF.mk' h.line h.saved hk'

theorem wp_ringYankPop_safe {s : Ed} (h : EdWF cfg s) {Q : Option (Nat × Text) → Ed → Prop}
    {E : Outcome → Ed → Prop} (hq : ∀ t s', EdWF cfg s' → Q t s') : wp ringYankPop Q E s := by
  have hr : RingOK s.ring := h.ring
  obtain ⟨k', t, hy, hk'⟩ := hr.yankPop_ok
  unfold wp ringYankPop
  rw [hy]
  refine hq _ _ ?_
  exact EdWF.mk' h.line h.saved hk'

theorem safe_ringKill (t : Text) {s : Ed} (h : EdWF cfg s) : Safe cfg (ringKill t) s := by
  have hr : RingOK s.ring := h.ring
  obtain ⟨k', hy, hk'⟩ := hr.kill_ok t .append
  unfold Safe wp ringKill
  rw [hy]
  exact EdWF.mk' h.line h.saved hk'.reset

end
end Rl
