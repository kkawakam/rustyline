/-
  C17: no-panic / `EdWF`-preservation for the `execute` branches overwrite, indent / dedent, history
  recall, anchored history search and `edit_yank_pop`.
-/
import Rl.Lemmas.EditorSafe
import Rl.Props.C09
import Rl.Lemmas.KeymapWalk
namespace Rl
open EM

theorem wp_liftP_ok {α : Type} {e : Except Panic α} {a : α} (he : e = .ok a)
    {Q : α → Ed → Prop} {E : Outcome → Ed → Prop} {s : Ed} (h : Q a s) : wp (EM.liftP e) Q E s := by
  subst he; exact h

section
variable (S : Segmenter) (U : UData) (cfg : EdCfg)

theorem wp_lb_update_safe {b : Text} {p : Nat} (hb : IsBoundary b p) {s : Ed} (h : EdWF cfg s)
    {Q : Unit → Ed → Prop} {E : Outcome → Ed → Prop} (hq : ∀ s', EdWF cfg s' → Q () s') :
    wp (lb S U (LB.update S U b p)) Q E s := by
  obtain ⟨l, ns, hu, hw, _⟩ := C03_update_total_wf_capacity S U b p s.line hb
  exact wp_lb S U hu (hq _ (EdWF.mk' hw h.saved h.ring))

theorem wp_backup_safe {s : Ed} (h : EdWF cfg s) {Q : Unit → Ed → Prop} {E : Outcome → Ed → Prop}
    (hq : ∀ s', EdWF cfg s' → Q () s') : wp (backup S U) Q E s := by
  have hl : IsBoundary s.line.buf s.line.pos := h.line
  obtain ⟨l, ns, hu, hw, _⟩ := C03_update_total_wf_capacity S U s.line.buf s.line.pos s.saved hl
  unfold wp backup
  rw [hu]
  exact hq _ (EdWF.mk' h.line hw h.ring)

theorem wp_restore_safe {s : Ed} (h : EdWF cfg s) {Q : Unit → Ed → Prop} {E : Outcome → Ed → Prop}
    (hq : ∀ s', EdWF cfg s' → Q () s') : wp (restore S U) Q E s := by
  unfold restore
  rw [wp_bind', wp_read]
  have hsv : IsBoundary s.saved.buf s.saved.pos := h.saved
  exact wp_lb_update_safe S U cfg hsv h hq

theorem wp_showEntry_safe {b : Text} {p : Nat} (hb : IsBoundary b p) {s : Ed} (h : EdWF cfg s)
    {Q : Unit → Ed → Prop} {E : Outcome → Ed → Prop} (hq : ∀ s', EdWF cfg s' → Q () s') :
    wp (showEntry S U b p) Q E s := by
  unfold showEntry
  simp only [wp_bind, wp_changesBegin]
  refine wp_lb_update_safe S U cfg hb (s := { s with changes := s.changes.begin.1 }) h fun s1 h1 => ?_
  simp only [wp_changesEnd, wp_pure]
  exact hq _ (EdWF.mk' h1.line h1.saved h1.ring)

theorem edwf_setHistIdx {s : Ed} (h : EdWF cfg s) (i : Nat) : EdWF cfg { s with histIdx := i } :=
  EdWF.mk' h.line h.saved h.ring

/-- `m` is safe from every well-formed state: the form of `Safe` that is closed under `pure` and `>>=`,
    for the steps that need nothing beyond `EdWF` -/
structure SafeK (cfg : EdCfg) {α : Type} (m : EM α) : Prop where
  h : ∀ s, EdWF cfg s → Safe cfg m s

theorem SafeK.pure {α : Type} (a : α) : SafeK cfg (Pure.pure a : EM α) := ⟨fun _ h => h⟩

theorem SafeK.bind {α β : Type} {m : EM α} {f : α → EM β} (hm : SafeK cfg m) (hf : ∀ a, SafeK cfg (f a)) :
    SafeK cfg (m >>= f) :=
  ⟨fun s h => Safe.bind cfg (hm.h s h) fun a s' h' => (hf a).h s' h'⟩

/-- what the two history-recall functions are made of: each step is safe from any well-formed state (an
    entry is shown with the cursor at its end, a boundary) -/
theorem safeK_historySteps (hnp : cfg.hinterPanicAt = none) :
    SafeK cfg (backup S U) ∧ (∀ j, SafeK cfg (setHistIdx j)) ∧ SafeK cfg getHistIdx ∧
    (∀ buf, SafeK cfg (showEntry S U buf (blen buf))) ∧ SafeK cfg (restore S U) ∧ SafeK cfg (refreshLine S U cfg) :=
  ⟨⟨fun _ h => wp_backup_safe S U cfg h fun _ h' => h'⟩, fun j => ⟨fun _ h => edwf_setHistIdx cfg h j⟩,
    ⟨fun _ h => h⟩, fun buf => ⟨fun _ h => wp_showEntry_safe S U cfg (isBoundary_len buf) h fun _ h' => h'⟩,
    ⟨fun _ h => wp_restore_safe S U cfg h fun _ h' => h'⟩, ⟨fun _ h => safe_refreshLine S U cfg hnp h⟩⟩

theorem safe_editHistoryNext (hnp : cfg.hinterPanicAt = none) (prev : Bool) {s : Ed} (h : EdWF cfg s) :
    Safe cfg (editHistoryNext S U cfg prev) s := by
  obtain ⟨b, i, r, sh, rs, rl⟩ := safeK_historySteps S U cfg hnp
  have key : SafeK cfg (editHistoryNext S U cfg prev) := by
    unfold editHistoryNext
    em_walk [SafeK.pure cfg, SafeK.bind cfg, b, i, r, sh, rs, rl]
  exact key.h s h

theorem safe_editHistory (hnp : cfg.hinterPanicAt = none) (first : Bool) {s : Ed} (h : EdWF cfg s) :
    Safe cfg (editHistory S U cfg first) s := by
  obtain ⟨b, i, r, sh, rs, rl⟩ := safeK_historySteps S U cfg hnp
  have key : SafeK cfg (editHistory S U cfg first) := by
    unfold editHistory
    em_walk [SafeK.pure cfg, SafeK.bind cfg, b, i, r, sh, rs, rl]
  exact key.h s h


theorem safe_editOverwriteChar (hnp : cfg.hinterPanicAt = none) (c : Char) {s : Ed} (h : EdWF cfg s) :
    Safe cfg (editOverwriteChar S U cfg c) s := by
  unfold Safe editOverwriteChar
  simp only [wp_bind, wp_getLine]
  obtain ⟨r, hr, hp⟩ := nextPos_ok S s.line 1 h.line
  refine wp_liftP_ok hr ?_
  cases r with
  | none => exact h
  | some e =>
    obtain ⟨hb, hlt⟩ := hp e rfl
    obtain ⟨l, ns, hrep, hw⟩ := C03_replace_total_wf S U s.line.pos e [c] s.line h.line hb (Nat.le_of_lt hlt)
    simp only [wp_bind]
    refine wp_lb S U hrep ?_
    exact safe_refreshLine S U cfg hnp (EdWF.mk' hw h.saved h.ring)

/-- `Indent` / `Dedent` (the amount is a `u8` in the code) -/
theorem safe_indent (hnp : cfg.hinterPanicAt = none) (hind : cfg.indentSize ≤ 255) (m : Movement) (d : Bool)
    {s : Ed} (h : EdWF cfg s) :
    wp (do if ← lb S U (LB.indent S U m cfg.indentSize d) then refreshLine S U cfg
           pure Status.proceed) (fun _ s' => EdWF cfg s') (fun o _ => o ≠ .panic) s := by
  simp only [wp_bind]
  have hop : LMSafe (LB.indent S U m cfg.indentSize d) := fun lb hw => C03_indent_total_wf S U m _ d lb hw hind
  refine wp_lb_safe S U cfg hop h fun b s1 h1 _ _ _ => ?_
  cases b with
  | true => simp only [if_true, wp_bind, wp_pure]; exact safe_refreshLine S U cfg hnp h1
  | false => exact h1

theorem safe_editHistorySearch (hnp : cfg.hinterPanicAt = none) (dir : Dir) {s : Ed} (h : EdWF cfg s) :
    Safe cfg (editHistorySearch S U cfg dir) s := by
  unfold Safe editHistorySearch
  simp only [wp_bind, wp_ite, wp_pure, wp_getHistIdx, wp_setHistIdx, wp_getLine]
  split
  · exact h
  · split
    · exact h
    · have hwl : WF s.line := h.line
      obtain ⟨x, z, hb, hp⟩ := WF.split hwl
      have hs : sliceTo s.line.buf s.line.pos = .ok x := by rw [hb, hp]; exact sliceTo_mid x z
      refine wp_liftP_ok hs ?_
      cases hst : (memHist cfg).startsWith x (if (dir == Dir.reverse) = true then s.histIdx - 1 else s.histIdx + 1) dir with
      | none => exact EdWF.mk' h.line h.saved h.ring
      | some r =>
        obtain ⟨idx, entry, pos⟩ := r
        obtain ⟨_, hpre, hoff, _⟩ := C09_starts_with_sound _ _ _ _ _ _ _ hst
        simp only [wp_bind, wp_setHistIdx]
        have hbd : IsBoundary entry pos := by
          obtain ⟨rest, hr⟩ := hpre
          exact ⟨x, rest, hr.symm, hoff⟩
        refine wp_showEntry_safe S U cfg hbd (edwf_setHistIdx cfg (edwf_setHistIdx cfg h _) idx) fun s2 h2 => ?_
        exact safe_refreshLine S U cfg hnp h2

/-- `edit_yank_pop`, when the recorded size of the last yank still fits before the cursor -/
theorem safe_editYankPop (hnp : cfg.hinterPanicAt = none) (size : Nat) (t : Text) {s : Ed} (h : EdWF cfg s)
    (hsz : size ≤ s.line.pos) (hb : IsBoundary s.line.buf (s.line.pos - size)) :
    Safe cfg (editYankPop S U cfg size t) s := by
  unfold Safe editYankPop
  simp only [wp_bind, wp_changesBegin]
  obtain ⟨r, l, ns, hy, hw⟩ := C03_yankPop_total_wf S U size t s.line h.line hsz hb
  refine wp_lb S U (s := { s with changes := s.changes.begin.1 }) hy ?_
  cases r with
  | none =>
    simp only [wp_bind, wp_pure, wp_changesEnd]
    exact EdWF.mk' hw h.saved h.ring
  | some b =>
    simp only [wp_bind]
    refine wp_mono (safe_refreshLine S U cfg hnp (EdWF.mk' hw h.saved h.ring)) ?_ (fun _ _ h => h)
    intro _ s2 h2
    simp only [wp_changesEnd, wp_pure]
    exact EdWF.mk' h2.line h2.saved h2.ring

end
end Rl
