/-
  C17: `Undo`.  `Changeset::undo` applies `Change::undo` to the line; each application either panics
  (a slice off the text) or leaves the cursor on a character boundary and the buffer growable.  Under
  the C05 log invariant (the stack replays to the text of the line) it does not panic
  (`C05_undo_past_text`), so `Undo` is safe from the read invariant when the log invariant holds.
-/
import Rl.Lemmas.EditorRead
import Rl.Props.C05
namespace Rl
open EM

section
variable (S : Segmenter) (U : UData) (cfg : EdCfg)

theorem undoOn_wf_grow {ch : Change} {lb lb' : LB} (h : ch.undoOn S U lb = .ok lb') :
    WF lb' ∧ lb'.canGrow = lb.canGrow := by
  cases ch with
  | begin => cases h
  | end_ => cases h
  | insert idx text =>
    simp only [Change.undoOn] at h
    cases hd : LB.deleteRange S U idx (idx + blen text) lb with
    | error e => rw [hd] at h; cases h
    | ok r =>
      obtain ⟨u, l, ns⟩ := r
      rw [hd] at h; cases h
      refine ⟨?_, (Grow.deleteRange S U _ _).h _ _ _ _ hd⟩
      -- `delete_range`: `set_pos(idx)` then the drain
      unfold LB.deleteRange at hd
      obtain ⟨a, lb1, n1, n2, h1, h2, _⟩ := LM.bind_ok hd
      unfold LB.setPosChecked at h1
      split at h1
      · cases h1
        obtain ⟨y, lb2, m1, m2, h3, h4, _⟩ := LM.bind_ok h2
        cases h4
        unfold LB.drain at h3
        cases hs : split3 lb.buf idx (idx + blen text) with
        | error e => simp [hs] at h3
        | ok t =>
          obtain ⟨x, y', z⟩ := t
          simp only [hs] at h3
          cases h3
          obtain ⟨hb, hx, _⟩ := split3_ok hs
          show IsBoundary (x ++ z) idx
          rw [hx]; exact isBoundary_mid x z
      · cases h1
  | delete idx text =>
    simp only [Change.undoOn] at h
    cases hi : LB.insertStr S U idx text lb with
    | error e => rw [hi] at h; cases h
    | ok r =>
      obtain ⟨u, l, ns⟩ := r
      rw [hi] at h
      simp only [] at h
      cases hp : LB.setPosChecked S U (idx + blen text) l with
      | error e => rw [hp] at h; cases h
      | ok r2 =>
        obtain ⟨u2, l2, ns2⟩ := r2
        rw [hp] at h; cases h
        refine ⟨?_, ((Grow.setPosChecked S U _).h _ _ _ _ hp).trans ((Grow.insertStr S U _ _).h _ _ _ _ hi)⟩
        unfold LB.insertStr at hi
        cases hs : splitAtByte lb.buf idx with
        | none => simp [hs] at hi
        | some xz =>
          obtain ⟨x, z⟩ := xz
          simp only [hs] at hi
          cases hi
          unfold LB.setPosChecked at hp
          split at hp
          · cases hp
            obtain ⟨_, hx⟩ := splitAtByte_some hs
            show IsBoundary (x ++ text ++ z) (idx + blen text)
            exact ⟨x ++ text, z, rfl, by simp [hx]⟩
          · cases hp
  | replace idx old new =>
    simp only [Change.undoOn] at h
    cases hr : LB.replace S U idx (idx + blen new) old lb with
    | error e => rw [hr] at h; cases h
    | ok r =>
      obtain ⟨u, l, ns⟩ := r
      rw [hr] at h; cases h
      refine ⟨?_, (Grow.replace S U _ _ _).h _ _ _ _ hr⟩
      unfold LB.replace at hr
      cases hs : split3 lb.buf idx (idx + blen new) with
      | error e => simp [hs] at hr
      | ok t =>
        obtain ⟨x, y, z⟩ := t
        simp only [hs] at hr
        cases hr
        obtain ⟨_, hx, _⟩ := split3_ok hs
        show IsBoundary (x ++ old ++ z) (idx + blen old)
        exact ⟨x ++ old, z, rfl, by simp [hx]⟩


theorem undoAll_wf_grow : ∀ (p : List Change) {lb lb' : LB},
    undoAll (fun ch lb => ch.undoOn S U lb) p lb = .ok lb' → (lb' = lb ∨ WF lb') ∧ lb'.canGrow = lb.canGrow := by
  intro p
  induction p with
  | nil => intro lb lb' h; cases h; exact ⟨.inl rfl, rfl⟩
  | cons ch rest ih =>
    intro lb lb' h
    by_cases hm : ch.isMarker = true
    · rw [undoAll_cons_marker _ hm] at h; exact ih h
    · rw [undoAll_cons_change _ (Bool.not_eq_true _ ▸ hm)] at h
      cases hs : ch.undoOn S U lb with
      | error e => rw [hs] at h; cases h
      | ok lb1 =>
        rw [hs] at h
        obtain ⟨hw, hg⟩ := undoOn_wf_grow S U hs
        obtain ⟨h1, h2⟩ := ih h
        exact ⟨h1.elim (fun e => .inr (e ▸ hw)) .inr, h2.trans hg⟩

/-- the loop has undone a prefix of the stack (`undoLoopG_prefix`) -/
theorem undoLoop_wf_grow (n : Nat) : ∀ (us redos : List Change) (lb : LB) (wfb : Int) (count : Nat)
    (undone : Bool) (level : Nat) (r : List Change × List Change × LB × Bool × Nat),
    Changeset.undoLoop S U n us redos lb wfb count undone level = .ok r →
    (r.2.2.1 = lb ∨ WF r.2.2.1) ∧ r.2.2.1.canGrow = lb.canGrow := by
  intro us redos lb wfb count undone level r h
  have hg := undoLoop_eq_G S U n us redos lb wfb count undone level
  rw [h] at hg
  obtain ⟨p, _, _, hp, _⟩ := undoLoopG_prefix _ n us redos lb wfb count undone r.1 r.2.1 r.2.2.1 r.2.2.2.1 hg.symm
  exact undoAll_wf_grow S U p hp

/-- the C05 log invariant: the undo stack, replayed oldest change first from some text, gives the
    text of the line -/
def UndoLogInv (s : Ed) : Prop := ∃ t0, replayLog s.changes.undos.reverse t0 = some s.line.buf

/-- `Undo` from the read invariant, WHEN the log invariant holds: it does not panic
    (`C05_undo_past_text`), the cursor is on a boundary again, the line is still growable, and the
    log invariant holds again -/
theorem rsafe_undo (hnp : cfg.hinterPanicAt = none) (n : Nat) {s : Ed} (h : RdInv cfg s) (hl : UndoLogInv s) :
    wp (execute S U cfg (.undo n)) (fun _ s' => RdInv cfg s' ∧ UndoLogInv s') PE s := by
  obtain ⟨t0, hlog⟩ := hl
  obtain ⟨c', l', undone, hu, hlog', _⟩ := C05_undo_past_text S U s.changes s.line n t0 hlog
  have hwg : (l' = s.line ∨ WF l') ∧ l'.canGrow = s.line.canGrow := by
    unfold Changeset.undo at hu
    cases hloop : Changeset.undoLoop S U n s.changes.undos s.changes.redos s.line 0 0 false s.changes.level with
    | error e => rw [hloop] at hu; cases hu
    | ok r =>
      obtain ⟨us, rs, lb2, ud, lv⟩ := r
      rw [hloop] at hu
      cases hu
      exact undoLoop_wf_grow S U n _ _ _ _ _ _ _ _ hloop
  have hw : WF l' := by
    rcases hwg.1 with he | hw
    · rw [he]; exact h.1.line
    · exact hw
  have he : execute S U cfg (.undo n) = (do
      pure ()
      let s ← EM.get
      match s.changes.undo S U s.line n with
      | .ok (c, l, undone) => do
        EM.set { s with changes := c, line := l }
        if undone then refreshLine S U cfg
        pure .proceed
      | .error _ => EM.exit .panic) := rfl
  rw [he]
  simp only [wp_bind, wp_get, hu, wp_set]
  have h1 : RdInv cfg ({ s with changes := c', line := l' } : Ed) :=
    ⟨EdWF.mk' hw h.1.saved h.1.ring, hwg.2.trans h.2.1, h.2.2⟩
  have hl1 : UndoLogInv ({ s with changes := c', line := l' } : Ed) := ⟨t0, hlog'⟩
  split
  · simp only [wp_bind, wp_pure]
    refine wp_refreshLine_inv S U cfg hnp h1 fun s2 h2 hc2 => ?_
    refine ⟨h2, ?_⟩
    obtain ⟨e1, _, e3, _⟩ := Ed.core_eq hc2
    obtain ⟨t, ht⟩ := hl1
    exact ⟨t, by rw [e1, e3]; exact ht⟩
  · simp only [wp_pure]
    exact ⟨h1, hl1⟩

end
end Rl
