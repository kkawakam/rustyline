/-
  C01_execute_refines: executing the `Cmd` a documented action denotes has the documented effect on
  text and cursor.  In order: the `EM`-level lemmas that reduce `execute c` to the one line-buffer
  operation it performs (display work does not touch the line); the `LM`-level lemmas that identify
  what that operation does with the declarative `Act.apply` of Rl/Spec/Doc.lean (motions from the
  C03 theorems, kills from `C03_kill_total_wf` and `C04_kill_is_span`); one theorem per family of
  commands at the level of `execute` (`execute_move_refines`, `execute_kill_refines`,
  `execute_change_refines`, `execute_yank_refines`, `execute_insert_refines`); and `execute_refines`, which collects them over the actions of `Covered`.
  Vi `r` is added in ExecRefines2, the case changes and C-t in ExecRefines3.
-/
import Rl.Editor
import Rl.Spec.Doc
import Rl.Lemmas.Keymap
import Rl.Lemmas.EditorM
import Rl.Lemmas.EditorOps
import Rl.Lemmas.EditorSafe
import Rl.Props.C03
import Rl.Props.C04
namespace Rl
open EM Rl.Spec Rl.Spec.Doc

/-- the judged components of a `Want` hold for the line `l` -/
def Spec.Doc.Want.holds (w : Want) (l : LB) : Prop :=
  (∀ t, w.text = some t → l.buf = t) ∧ (∀ p, w.pos = some p → l.pos = p)

/-- only the text component -/
def Spec.Doc.Want.holdsText (w : Want) (l : LB) : Prop := ∀ t, w.text = some t → l.buf = t


section
variable (S : Segmenter) (U : UData) (cfg : EdCfg)

/-- `editMove` (the common body of the `edit_move_*` functions): the motion, then cursor display only -/
theorem wp_editMove_line {op : LM Bool} {s : Ed} {r : Bool} {l : LB} {ns : List Notif}
    (h : op s.line = .ok (r, l, ns)) {Q : Unit → Ed → Prop} {E : Outcome → Ed → Prop}
    (hq : ∀ s', s'.line = l → Q () s') : wp (editMove S U cfg op) Q E s := by
  unfold editMove
  rw [wp_bind]
  refine wp_lbQuiet h ?_
  split
  · exact wp_moveCursor S U cfg fun s' hc => hq s' (Ed.core_eq hc).1
  · exact hq _ rfl

/-- `edit_kill`: the kill, then display only -/
theorem wp_editKill_line (mvt : Movement) (hnp : cfg.hinterPanicAt = none) {s : Ed} (hr : RingOK s.ring)
    {r : Bool} {l : LB} {ns : List Notif} (h : LB.kill S U mvt s.line = .ok (r, l, ns))
    {Q : Unit → Ed → Prop} {E : Outcome → Ed → Prop}
    (hq : ∀ s', s'.line = l → Q () s') : wp (editKill S U cfg mvt) Q E s := by
  obtain ⟨k', hg, _⟩ := lbKill_go_ok ns hr
  unfold editKill
  rw [wp_bind]
  have hk : lbKill S U (LB.kill S U mvt) s =
      .ok (r, { s with line := l, changes := s.changes.onNotifs S U.alnum ns, ring := k' }) := by
    unfold lbKill; rw [h]; simp only [hg]
  refine wp_of_eq_ok hk ?_
  split
  · exact wp_refreshLine_np S U cfg hnp fun s' hc => hq s' (Ed.core_eq hc).1
  · exact hq _ rfl

/-- `grouped` (transpose, case changes): the operation inside an undo group, then display only -/
theorem wp_grouped_line {op : LM Bool} (hnp : cfg.hinterPanicAt = none) {s : Ed}
    {r : Bool} {l : LB} {ns : List Notif} (h : op s.line = .ok (r, l, ns))
    {Q : Unit → Ed → Prop} {E : Outcome → Ed → Prop}
    (hq : ∀ s', s'.line = l → Q () s') : wp (grouped S U cfg op) Q E s := by
  unfold grouped
  simp only [wp_bind, wp_changesBegin]
  refine wp_lb S U (s := { s with changes := s.changes.begin.1 }) h ?_
  simp only [wp_changesEnd]
  split
  · exact wp_refreshLine_np S U cfg hnp fun s' hc => hq s' (Ed.core_eq hc).1
  · exact hq _ rfl

end
section
variable (S : Segmenter) (U : UData)

/-- the result of a motion: same line, cursor on `tgt` (or where it was when there is no target) -/
def MovedTo (lb l : LB) (tgt : Option Nat) : Prop := l = { lb with pos := tgt.getD lb.pos }

theorem optMove_run {f : LB → Except Panic (Option Nat)} {lb : LB} {r : Option Nat} (hf : f lb = .ok r) :
    (do match ← LM.ro f with
        | some p => LM.setPos p; return true
        | none => return false : LM Bool) lb = .ok (r.isSome, { lb with pos := r.getD lb.pos }, []) := by
  cases r with
  | none => simp [LM.bind_apply, LM.ro, hf]
  | some p => simp [LM.bind_apply, LM.ro, hf, LM.setPos]

theorem moveForward_refines (lb : LB) (n : Nat) (h : WF lb) (hn : n ≠ 0) :
    ∃ r l, LB.moveForward S U n lb = .ok (r, l, []) ∧ MovedTo lb l (charTargetFwd S lb.buf lb.pos n) := by
  by_cases he : lb.pos = lb.len
  · have hf := nextPos_at_end S lb n he
    refine ⟨_, _, optMove_run (f := fun lb => LB.nextPos S lb n) hf, ?_⟩
    rw [charTargetFwd_at_end S lb n h he]; rfl
  · have hf := nextPos_eq_target S lb n h he hn
    exact ⟨_, _, optMove_run (f := fun lb => LB.nextPos S lb n) hf, rfl⟩

theorem moveBackward_refines (lb : LB) (n : Nat) (h : WF lb) (hn : n ≠ 0) :
    ∃ r l, LB.moveBackward S U n lb = .ok (r, l, []) ∧ MovedTo lb l (charTargetBwd S lb.buf lb.pos n) := by
  by_cases he : lb.pos = 0
  · have hf := prevPos_at_start S lb n he
    refine ⟨_, _, optMove_run (f := fun lb => LB.prevPos S lb n) hf, ?_⟩
    rw [charTargetBwd_at_start S lb n he]; rfl
  · have hf := prevPos_eq_target S lb n h he hn
    exact ⟨_, _, optMove_run (f := fun lb => LB.prevPos S lb n) hf, rfl⟩

theorem moveToPrevWord_refines (lb : LB) (d : Word) (n : Nat) (h : WF lb) (hn : n ≠ 0) :
    ∃ r l, LB.moveToPrevWord S U d n lb = .ok (r, l, []) ∧ MovedTo lb l (wordTargetBwd S U lb.buf lb.pos d n) :=
  ⟨_, _, optMove_run (f := fun lb => LB.prevWordPos S U lb lb.pos d n) (prevWordPos_eq S U lb d n h hn), rfl⟩

theorem moveToNextWord_refines (lb : LB) (a : At) (d : Word) (n : Nat) (h : WF lb) (hn : n ≠ 0)
    (ha : a ≠ .beforeEnd) :
    ∃ r l, LB.moveToNextWord S U a d n lb = .ok (r, l, []) ∧
      MovedTo lb l (wordTargetFwd S U lb.buf lb.pos a d n true) := by
  have hf : LB.nextWordPos S U lb lb.pos a d n = .ok (wordTargetFwd S U lb.buf lb.pos a d n true) := by
    have := nextWordPosR_target S U lb a d n false h ha hn
    simpa [LB.nextWordPos] using this
  exact ⟨_, _, optMove_run (f := fun lb => LB.nextWordPos S U lb lb.pos a d n) hf, rfl⟩

theorem moveHome_refines (lb : LB) (h : WF lb) :
    ∃ r l, LB.moveHome S U lb = .ok (r, l, []) ∧ MovedTo lb l (some (lineStartOf lb.buf lb.pos)) :=
  ⟨_, _, moveHome_eval S U (startOfLine_eq lb h) (lineStartOf_spec lb h).2, rfl⟩

theorem moveEnd_refines (lb : LB) (h : WF lb) :
    ∃ r l, LB.moveEnd S U lb = .ok (r, l, []) ∧ MovedTo lb l (some (lineEndOf lb.buf lb.pos)) :=
  ⟨_, _, moveEnd_eval S U (endOfLine_eq lb h), rfl⟩

theorem moveBufferStart_refines (lb : LB) :
    ∃ r l, LB.moveBufferStart S U lb = .ok (r, l, []) ∧ MovedTo lb l (some 0) :=
  ⟨_, _, moveBufferStart_eval S U lb, rfl⟩

theorem moveBufferEnd_refines (lb : LB) :
    ∃ r l, LB.moveBufferEnd S U lb = .ok (r, l, []) ∧ MovedTo lb l (some (blen lb.buf)) :=
  ⟨_, _, moveBufferEnd_eval S U lb, rfl⟩

theorem searchCharPos_none_bwd (lb : LB) (cs : CharSearch) (c : Char) (n : Nat) (h : WF lb)
    (hcs : cs = .backward c ∨ cs = .backwardAfter c) (h1 : occBwd lb.buf lb.pos c 1 = none) :
    LB.searchCharPos S lb cs n = .ok none := by
  obtain ⟨x, s, hb, hp⟩ := h.split
  have hsp : splitAtByte lb.buf lb.pos = some (x, s) := by rw [hb, hp]; exact splitAtByte_append x s
  have hst : sliceTo lb.buf lb.pos = .ok x := by rw [hb, hp]; exact sliceTo_mid x s
  unfold occBwd splitAt? at h1
  simp only [hsp, bind, Option.bind] at h1
  have hocc : occ c x = [] := by
    cases ho : (occ c x).reverse with
    | nil => simpa using ho
    | cons a t => rw [ho] at h1; simp at h1
  rcases hcs with rfl | rfl <;>
    simp [LB.searchCharPos, hst, hocc, bind, Except.bind, pure, Except.pure]

theorem searchCharPos_none_fwd (lb : LB) (cs : CharSearch) (c : Char) (n : Nat) (h : WF lb)
    (hcs : cs = .forward c ∨ cs = .forwardBefore c) (h1 : occFwd S lb.buf lb.pos c 1 = none) :
    LB.searchCharPos S lb cs n = .ok none := by
  obtain ⟨x, s, hb, hp⟩ := h.split
  have hsp : splitAtByte lb.buf lb.pos = some (x, s) := by rw [hb, hp]; exact splitAtByte_append x s
  unfold occFwd splitAt? at h1
  simp only [hsp, bind, Option.bind] at h1
  by_cases hs : s = []
  · subst hs
    have he : (lb.pos == lb.len) = true := by simp [LB.len, hb, hp]
    rcases hcs with rfl | rfl <;>
      simp [LB.searchCharPos, LB.graphemeAtCursor, he, bind, Except.bind, pure, Except.pure]
  · obtain ⟨g, r, hg, hgr, hgne⟩ := seg_head S hs
    subst hgr
    have hsf : sliceFrom lb.buf lb.pos = .ok (g ++ r) := by rw [hb, hp]; exact sliceFrom_mid x (g ++ r)
    have hgp := blen_pos_of_ne_nil hgne
    have hsh : splitAtByte lb.buf (lb.pos + blen g) = some (x ++ g, r) := by
      rw [hb, hp]
      have := splitAtByte_append (x ++ g) r
      simpa using this
    simp only [hg, hsh] at h1
    have hocc : occ c r = [] := by
      cases ho : occ c r with
      | nil => rfl
      | cons a t => rw [ho] at h1; simp at h1
    have he : (lb.pos == lb.len) = false := by simp [LB.len, hb, hp]; omega
    by_cases hlt : lb.pos + blen g < lb.len
    · have hshf : sliceFrom lb.buf (lb.pos + blen g) = .ok r := by
        rw [hb, hp]
        have := sliceFrom_mid (x ++ g) r
        simpa using this
      rcases hcs with rfl | rfl <;>
        simp [LB.searchCharPos, LB.graphemeAtCursor, he, hsf, hg, hlt, hshf, hocc, bind, Except.bind, pure, Except.pure]
    · rcases hcs with rfl | rfl <;>
        simp [LB.searchCharPos, LB.graphemeAtCursor, he, hsf, hg, hlt, bind, Except.bind, pure, Except.pure]

/-- `Doc.moveTarget` on a character search with a count: judged when there is no occurrence at all in the
    direction of the search (the cursor stays) and when the declarative target exists -/
theorem moveTarget_viCharSearch {buf : Text} {pos n : Nat} {cs : CharSearch} {tg : Option Nat} (hn : n ≠ 0)
    (ht : moveTarget S U buf pos (.viCharSearch n cs) = some tg) :
    (tg = none ∧ match cs with
      | .forward c | .forwardBefore c => occFwd S buf pos c 1 = none
      | .backward c | .backwardAfter c => occBwd buf pos c 1 = none) ∨
    charSearchTarget S buf pos cs n = tg ∧ tg.isSome := by
  have hn' : (n == 0) = false := by simpa using hn
  simp only [moveTarget, hn', Bool.false_eq_true, if_false] at ht
  cases cs
  all_goals
    dsimp only at ht ⊢
    split at ht
    · rename_i h1
      cases ht
      exact Or.inl ⟨rfl, by simpa using h1⟩
    · split at ht
      · rename_i t htg
        cases ht
        exact Or.inr ⟨htg, rfl⟩
      · cases ht

theorem moveTo_refines (hS : S.Stable) (lb : LB) (cs : CharSearch) (n : Nat) (h : WF lb) (hn : n ≠ 0)
    (tg : Option Nat) (ht : moveTarget S U lb.buf lb.pos (.viCharSearch n cs) = some tg) :
    ∃ r l, LB.moveTo S U cs n lb = .ok (r, l, []) ∧ MovedTo lb l tg := by
  have key : LB.searchCharPos S lb cs n = .ok tg := by
    rcases moveTarget_viCharSearch S U hn ht with ⟨rfl, h1⟩ | ⟨htg, hs⟩
    · cases cs with
      | forward c => exact searchCharPos_none_fwd S lb _ c n h (.inl rfl) h1
      | forwardBefore c => exact searchCharPos_none_fwd S lb _ c n h (.inr rfl) h1
      | backward c => exact searchCharPos_none_bwd S lb _ c n h (.inl rfl) h1
      | backwardAfter c => exact searchCharPos_none_bwd S lb _ c n h (.inr rfl) h1
    · obtain ⟨t, rfl⟩ := Option.isSome_iff_exists.mp hs
      exact searchCharPos_eq_target S hS lb cs n t h hn htg
  exact ⟨_, _, optMove_run (f := fun lb => LB.searchCharPos S lb cs n) key, rfl⟩

theorem holds_move_of_movedTo {mode : Mode} {lb l : LB} {m : Movement} {tg : Option Nat}
    (ht : moveTarget S U lb.buf lb.pos m = some tg) (hl : MovedTo lb l tg) :
    ((Act.move m).apply S U mode lb.buf lb.pos).holds l := by
  unfold MovedTo at hl
  subst hl
  cases tg with
  | none => simp [Act.apply, ht, Want.holds]
  | some t => simp [Act.apply, ht, Want.holds]

theorem holds_move_of_text {mode : Mode} {lb l : LB} {m : Movement}
    (ht : moveTarget S U lb.buf lb.pos m = none) (hl : l.buf = lb.buf) :
    ((Act.move m).apply S U mode lb.buf lb.pos).holds l := by
  simp [Act.apply, ht, Want.holds, hl]

theorem holds_move_cases {mode : Mode} {lb l : LB} {m : Movement}
    (hl : l.buf = lb.buf) (hp : ∀ tg, moveTarget S U lb.buf lb.pos m = some tg → l.pos = tg.getD lb.pos) :
    ((Act.move m).apply S U mode lb.buf lb.pos).holds l := by
  cases ht : moveTarget S U lb.buf lb.pos m with
  | none => exact holds_move_of_text S U ht hl
  | some tg =>
    have := hp tg ht
    cases tg with
    | none => simp [Act.apply, ht, Want.holds, hl]; simpa using this
    | some t => simp [Act.apply, ht, Want.holds, hl]; simpa using this

/-- a line-buffer motion refines the documented one when it returns and keeps the text (C03) and,
    where the documentation has a target, puts the cursor there -/
theorem move_refines_of {mode : Mode} {op : LM Bool} {m : Movement} {lb : LB}
    (htot : ∃ r l, op lb = .ok (r, l, []) ∧ WF l ∧ l.buf = lb.buf)
    (htgt : ∀ tg, moveTarget S U lb.buf lb.pos m = some tg → ∃ r l, op lb = .ok (r, l, []) ∧ MovedTo lb l tg) :
    ∃ r l, op lb = .ok (r, l, []) ∧ ((Act.move m).apply S U mode lb.buf lb.pos).holds l := by
  cases ht : moveTarget S U lb.buf lb.pos m with
  | none => obtain ⟨r, l, h1, _, h3⟩ := htot; exact ⟨r, l, h1, holds_move_of_text S U ht h3⟩
  | some tg => obtain ⟨r, l, h1, h2⟩ := htgt tg ht; exact ⟨r, l, h1, holds_move_of_movedTo S U ht h2⟩

/-- what the C04 oracle verdict says about `Act.apply`: with a span, text and cursor are the
    documented ones; with nothing to kill the text is unchanged -/
theorem holds_kill_of_check {mode : Mode} {lb l : LB} {m : Movement} {ns : List Notif}
    (hc : checkKill S U lb m l.buf l.pos ns = none) :
    ((Act.kill m).apply S U mode lb.buf lb.pos).holdsText l ∧
    ((spanOf S U lb.buf lb.pos m false ≠ .nothing ∨ l.pos = lb.pos) →
      ((Act.kill m).apply S U mode lb.buf lb.pos).holds l) := by
  unfold checkKill at hc
  cases hsp : spanOf S U lb.buf lb.pos m false with
  | unjudged => simp [Act.apply, hsp, Want.holds, Want.holdsText]
  | nothing =>
    rw [hsp] at hc
    have hb : l.buf = lb.buf := by
      by_cases hne : l.buf = lb.buf
      · exact hne
      · simp [hne] at hc
    refine ⟨by simp [Act.apply, hsp, Want.holdsText, hb], fun hor => ?_⟩
    rcases hor with hne | hp
    · exact absurd rfl hne
    · simp [Act.apply, hsp, Want.holds, hb, hp]
  | span a b =>
    rw [hsp] at hc
    cases hrm : removeSpan lb.buf a b with
    | none => simp [Act.apply, hsp, hrm, Want.holds, Want.holdsText]
    | some bt =>
      obtain ⟨t, txt⟩ := bt
      simp only [hrm] at hc
      have hb : l.buf = t := by
        by_cases hne : l.buf = t
        · exact hne
        · simp [hne] at hc
      have hp : l.pos = a := by
        by_cases hne : l.pos = a
        · exact hne
        · simp [hb, hne] at hc
          split at hc <;> simp_all
      simp [Act.apply, hsp, hrm, Want.holds, Want.holdsText, hb, hp]

/-- two well-formed lines over the same empty text have the same cursor (0) -/
theorem kill_refines_empty {lb l : LB} (h : WF l) (hb : l.buf = lb.buf) (he : lb.buf = []) (hw : WF lb) :
    l.pos = lb.pos := by
  obtain ⟨x, z, h1, h2⟩ := h.split
  obtain ⟨x', z', h1', h2'⟩ := hw.split
  rw [hb, he] at h1
  rw [he] at h1'
  have hx : x = [] := (List.append_eq_nil_iff.mp h1.symm).1
  have hx' : x' = [] := (List.append_eq_nil_iff.mp h1'.symm).1
  rw [h2, h2', hx, hx']

/-- **a kill that leaves the text as it was leaves the cursor where it was**, for every movement -/
theorem kill_nothing_keeps_cursor (m : Movement) (lb l : LB) (r : Bool) (ns : List Notif)
    (h : WF lb) (hk : LB.kill S U m lb = .ok (r, l, ns)) (hb : l.buf = lb.buf) : l.pos = lb.pos :=
  (kill_eval S U m lb h).same_pos hk hb

/-- **Kills** (every movement): `LineBuffer::kill` returns; what is left is the text without the
    declarative span and the cursor is at the span start; with nothing to kill, text and cursor are
    unchanged. -/
theorem kill_refines (hS : S.Stable) (hnl : S.NlAlone) (mode : Mode) (lb : LB) (h : WF lb) (m : Movement) :
    ∃ r l ns, LB.kill S U m lb = .ok (r, l, ns) ∧ WF l ∧
      ((Act.kill m).apply S U mode lb.buf lb.pos).holds l := by
  obtain ⟨r, l, ns, hk, hw⟩ := C03_kill_total_wf S U m lb h
  have hc := C04_kill_is_span S U hS hnl lb l m r ns h hk
  obtain ⟨h1, h2⟩ := holds_kill_of_check S U (mode := mode) hc
  refine ⟨r, l, ns, hk, hw, ?_⟩
  by_cases hsp : spanOf S U lb.buf lb.pos m false = .nothing
  · have hb : l.buf = lb.buf := h1 lb.buf (by simp [Act.apply, hsp])
    exact h2 (.inr (kill_nothing_keeps_cursor S U m lb l r ns h hk hb))
  · exact h2 (.inl hsp)

/-- `change` differs from `kill` only in the input mode it asks for -/
theorem apply_change_eq (mode : Mode) (buf : Text) (pos : Nat) (m : Movement) :
    ((Act.change m).apply S U mode buf pos).text = ((Act.kill m).apply S U mode buf pos).text ∧
    ((Act.change m).apply S U mode buf pos).pos = ((Act.kill m).apply S U mode buf pos).pos := by
  simp only [Act.apply]
  cases spanOf S U buf pos m false with
  | unjudged => exact ⟨rfl, rfl⟩
  | nothing => exact ⟨rfl, rfl⟩
  | span a b =>
    simp only []
    cases hr : removeSpan buf a b with
    | none => exact ⟨rfl, rfl⟩
    | some bt => obtain ⟨t, x⟩ := bt; exact ⟨rfl, rfl⟩

theorem holds_change_iff (mode : Mode) (buf : Text) (pos : Nat) (m : Movement) (l : LB) :
    (((Act.change m).apply S U mode buf pos).holds l ↔ ((Act.kill m).apply S U mode buf pos).holds l) ∧
    (((Act.change m).apply S U mode buf pos).holdsText l ↔ ((Act.kill m).apply S U mode buf pos).holdsText l) := by
  obtain ⟨h1, h2⟩ := apply_change_eq S U mode buf pos m
  simp only [Want.holds, Want.holdsText, h1, h2, and_self]

section
variable (cfg : EdCfg)

/-- postcondition of a family theorem: the command proceeds and the line is the documented one -/
def Refined (a : Act) (mode : Mode) (s : Ed) : Status → Ed → Prop :=
  fun st s' => st = .proceed ∧ (a.apply S U mode s.line.buf s.line.pos).holds s'.line

theorem firstPrintOf_some {buf : Text} {pos t : Nat} (h : firstPrintOf S U buf pos = some t) :
    firstPrintTarget S U buf pos = some t := by
  unfold firstPrintOf at h
  unfold firstPrintTarget
  simp only at h ⊢
  cases hsp : splitAt? buf (lineStartOf buf pos) with
  | none => rw [hsp] at h; cases h
  | some xr =>
    obtain ⟨x, rest⟩ := xr
    rw [hsp] at h
    simp only at h ⊢
    split at h
    · cases h
    · exact h

/-- vi `^`: `move_to_first_print` refines the documented motion -/
theorem moveToFirstPrint_refines (mode : Mode) (lb : LB) (h : WF lb) :
    ∃ r l, LB.moveToFirstPrint S U lb = .ok (r, l, []) ∧
      ((Act.move .viFirstPrint).apply S U mode lb.buf lb.pos).holds l := by
  obtain ⟨r, l, h1, _, h3⟩ := C03_moveToFirstPrint_total_wf S U lb h
  refine ⟨r, l, h1, holds_move_cases S U h3 fun tg htg => ?_⟩
  obtain ⟨ht, _, _⟩ := moveToFirstPrint_target S U lb l r [] h h1
  simp only [moveTarget] at htg
  cases hfo : firstPrintOf S U lb.buf lb.pos with
  | none => rw [hfo] at htg; cases htg
  | some t =>
    rw [hfo] at htg
    cases htg
    have := firstPrintOf_some S U hfo
    rw [ht] at this
    cases this
    rfl

/-- **Motions** (every movement but the `e`/`E`-style `BeforeEnd` word targets): `execute (Move m)` returns,
    keeps the text, and puts the cursor on the documented target — or leaves it when the documentation
    has no target (`Doc.moveTarget`). -/
theorem execute_move_refines (hS : S.Stable) (mode : Mode) (m : Movement) (s : Ed) (hwf : WF s.line)
    (hbe : ∀ n w, m ≠ .forwardWord n .beforeEnd w) :
    wp (execute S U cfg (.move m)) (Refined S U (.move m) mode s) (fun _ _ => False) s := by
  have fin : ∀ {op : LM Bool} {m' : Movement},
      (∃ r l, op s.line = .ok (r, l, []) ∧ ((Act.move m').apply S U mode s.line.buf s.line.pos).holds l) →
      wp (do editMove S U cfg op; pure Status.proceed : EM Status) (Refined S U (.move m') mode s) (fun _ _ => False) s := by
    intro op m' ⟨r, l, ho, hh⟩
    simp only [wp_bind, wp_pure]
    exact wp_editMove_line S U cfg ho fun s' hl => ⟨rfl, hl ▸ hh⟩
  -- a counted motion has a target only for a count ≠ 0
  have cnt : ∀ {n : Nat} {x tg : Option Nat}, (if n == 0 then none else some x) = some tg → n ≠ 0 ∧ x = tg := by
    intro n x tg h
    by_cases hn : n = 0
    · rw [hn] at h; cases h
    · exact ⟨hn, by simpa [hn] using h⟩
  cases m
  case viFirstPrint => exact fin (moveToFirstPrint_refines S U mode s.line hwf)
  case wholeLine =>
    show wp (pure Status.proceed) _ _ s
    exact ⟨rfl, by simp [Act.apply, moveTarget, Want.holds]⟩
  case wholeBuffer =>
    show wp (pure Status.proceed) _ _ s
    exact ⟨rfl, by simp [Act.apply, moveTarget, Want.holds]⟩
  case beginningOfLine =>
    exact fin (move_refines_of S U (C03_moveHome_total_wf S U s.line hwf) fun tg ht => by
      cases ht; exact moveHome_refines S U s.line hwf)
  case endOfLine =>
    exact fin (move_refines_of S U (C03_moveEnd_total_wf S U s.line hwf) fun tg ht => by
      cases ht; exact moveEnd_refines S U s.line hwf)
  case beginningOfBuffer =>
    exact fin (move_refines_of S U (C03_moveBufferStart_total_wf S U s.line) fun tg ht => by
      cases ht; exact moveBufferStart_refines S U s.line)
  case endOfBuffer =>
    exact fin (move_refines_of S U (C03_moveBufferEnd_total_wf S U s.line hwf) fun tg ht => by
      cases ht; exact moveBufferEnd_refines S U s.line)
  case backwardChar n =>
    exact fin (move_refines_of S U (C03_moveBackward_total_wf S U s.line n hwf) fun tg ht => by
      obtain ⟨hn, rfl⟩ := cnt ht; exact moveBackward_refines S U s.line n hwf hn)
  case forwardChar n =>
    exact fin (move_refines_of S U (C03_moveForward_total_wf S U s.line n hwf) fun tg ht => by
      obtain ⟨hn, rfl⟩ := cnt ht; exact moveForward_refines S U s.line n hwf hn)
  case backwardWord n w =>
    exact fin (move_refines_of S U (C03_moveToPrevWord_total_wf S U w n s.line hwf) fun tg ht => by
      obtain ⟨hn, rfl⟩ := cnt ht; exact moveToPrevWord_refines S U s.line w n hwf hn)
  case forwardWord n a w =>
    have ha : a ≠ .beforeEnd := fun ha => hbe n w (by rw [ha])
    exact fin (move_refines_of S U (C03_moveToNextWord_total_wf S U a w n s.line hwf) fun tg ht => by
      have hab : (a == At.beforeEnd) = false := by cases a <;> first | rfl | exact absurd rfl ha
      simp only [moveTarget, hab, Bool.false_and, Bool.or_false] at ht
      obtain ⟨hn, rfl⟩ := cnt ht; exact moveToNextWord_refines S U s.line a w n hwf hn ha)
  case viCharSearch n cs =>
    exact fin (move_refines_of S U (C03_moveTo_total_wf S U cs n s.line hwf) fun tg ht =>
      moveTo_refines S U hS s.line cs n hwf (fun h0 => by simp [moveTarget, h0] at ht) tg ht)
  case lineUp n =>
    show wp (do let pc ← getPromptCol; editMove S U cfg (LB.moveToLineUp S U n pc); pure Status.proceed : EM Status) _ _ s
    rw [wp_bind, wp_getPromptCol]
    exact fin (move_refines_of S U (C03_moveToLineUp_total_wf S U n _ s.line hwf) fun tg ht => nomatch ht)
  case lineDown n =>
    show wp (do let pc ← getPromptCol; editMove S U cfg (LB.moveToLineDown S U n pc); pure Status.proceed : EM Status) _ _ s
    rw [wp_bind, wp_getPromptCol]
    exact fin (move_refines_of S U (C03_moveToLineDown_total_wf S U n _ s.line hwf) fun tg ht => nomatch ht)

theorem execute_kill_refines (hS : S.Stable) (hnl : S.NlAlone) (hnp : cfg.hinterPanicAt = none) (mode : Mode)
    (m : Movement) (s : Ed) (hwf : WF s.line) (hr : RingOK s.ring) :
    wp (execute S U cfg (.kill m)) (Refined S U (.kill m) mode s) (fun _ _ => False) s := by
  obtain ⟨r, l, ns, hk, _, h1⟩ := kill_refines S U hS hnl mode s.line hwf m
  show wp (do editKill S U cfg m; pure Status.proceed : EM Status) _ _ s
  simp only [wp_bind, wp_pure]
  exact wp_editKill_line S U cfg m hnp hr hk fun s' hl => ⟨rfl, hl ▸ h1⟩

/-- **Change** (`Replace(m, None)`: vi `c`+motion, `s`, `S`, `C`): the same removal as the kill -/
theorem execute_change_refines (hS : S.Stable) (hnl : S.NlAlone) (hnp : cfg.hinterPanicAt = none) (mode : Mode)
    (m : Movement) (s : Ed) (hwf : WF s.line) (hr : RingOK s.ring) :
    wp (execute S U cfg (.replace m none)) (Refined S U (.change m) mode s) (fun _ _ => False) s := by
  obtain ⟨r, l, ns, hk, _, h1⟩ := kill_refines S U hS hnl mode s.line hwf m
  obtain ⟨e1, _⟩ := holds_change_iff S U mode s.line.buf s.line.pos m l
  show wp (do
      editKill S U cfg m
      pure ()
      let inserting ← (fun s => .ok (cfg.vi && s.inp.inputMode != .command, s) : EM Bool)
      if !inserting then do let _ ← changesEnd; pure ()
      pure Status.proceed : EM Status) _ _ s
  rw [wp_bind]
  refine wp_editKill_line S U cfg m hnp hr hk fun s' hl => ?_
  have fin : Refined S U (.change m) mode s Status.proceed s' := ⟨rfl, hl ▸ e1.mpr h1⟩
  rw [wp_bind', wp_read]
  split
  · simp only [wp_bind, wp_changesEnd, wp_pure]
    exact fin
  · simp only [wp_pure]
    exact fin

/-- **Yank over a movement** (`ViYankTo`: vi `y`+motion): the line is not touched at all -/
theorem execute_yank_refines (mode : Mode) (m : Movement) (s : Ed) (hwf : WF s.line) (hr : RingOK s.ring) :
    wp (execute S U cfg (.viYankTo m))
      (fun st s' => st = .proceed ∧ s'.line = s.line ∧
        ((Act.yankOnly m).apply S U mode s.line.buf s.line.pos).holds s'.line) (fun _ _ => False) s := by
  obtain ⟨r, hc⟩ := C03_copy_total S U m s.line hwf
  have hh : ((Act.yankOnly m).apply S U mode s.line.buf s.line.pos).holds s.line := by
    simp [Act.apply, Want.holds]
  show wp (do
      let l ← getLine
      match ← EM.liftP (LB.copy S U l m) with
      | some text => ringKill text
      | none => pure ()
      pure Status.proceed : EM Status) _ _ s
  simp only [wp_bind, wp_getLine]
  have hl : EM.liftP (LB.copy S U s.line m) s = .ok (r, s) := by unfold EM.liftP; rw [hc]
  refine wp_of_eq_ok hl ?_
  cases r with
  | none => simp only [wp_pure]; exact ⟨trivial, trivial, hh⟩
  | some t =>
    obtain ⟨k', hk, _⟩ := hr.kill_ok t .append
    have hrk : ringKill t s = .ok ((), { s with ring := k'.reset }) := by unfold ringKill; rw [hk]
    simp only [wp_bind]
    refine wp_of_eq_ok hrk ?_
    simp only [wp_pure]
    exact ⟨trivial, trivial, hh⟩

/-- **Self-insert** (`SelfInsert n c`, growable buffer): `n` copies of `c` at the cursor, the cursor
    after them -/
theorem execute_insert_refines (hnp : cfg.hinterPanicAt = none) (mode : Mode) (n : Nat) (c : Char) (s : Ed)
    (hwf : WF s.line) (hg : s.line.canGrow = true) :
    wp (execute S U cfg (.selfInsert n c)) (Refined S U (.insert n c) mode s) (fun _ _ => False) s := by
  obtain ⟨x, z, hb, hp⟩ := hwf.split
  have hins := insert_eval S U c n s.line
  have hmt : s.line.mustTruncate (s.line.len + c.utf8Size * n) = false := by simp [LB.mustTruncate, hg]
  rw [hmt, hb, hp, splitAtByte_append] at hins
  simp only [Bool.false_eq_true, if_false] at hins
  show wp (do editInsert S U cfg c n; pure Status.proceed : EM Status) _ _ s
  simp only [wp_bind, wp_pure]
  refine wp_mono (editInsert_spec_np S U cfg hnp c n s) ?_ ?_
  · intro _ s' ⟨r, l, ns, hi, hc⟩
    rw [hins] at hi
    cases hi
    obtain ⟨hl, _⟩ := Ed.core_eq hc
    refine ⟨rfl, ?_⟩
    rw [hl, hb, hp]
    by_cases hn : n = 0
    · simp [Act.apply, hn, Want.holds]
    · have hia : insertAt (x ++ z) (blen x) (List.replicate n c) = some (x ++ List.replicate n c ++ z) :=
        insertAt_mid x z _
      simp [Act.apply, hn, replicateText, hia, Want.holds, Nat.mul_comm]
  · intro o s' ⟨_, _, e, he⟩
    rw [hins] at he; cases he

/-- the movements whose motion target is proved (all but the `BeforeEnd` word targets: the known finding
    F-C04-vi-e-count) -/
def MoveCovered (m : Movement) : Prop := ∀ n w, m ≠ .forwardWord n .beforeEnd w

/-- the resolved actions for which `execute` refines `Act.apply` in every well-formed state.
    Three coverage predicates, each containing the one before: `Covered` (this one, independent of
    the state), `CoveredAt` (ExecRefines2: adds vi `r` where `JudgedReplace` holds of text and
    cursor), `CoveredFull` (ExecRefines3: adds the case changes, and C-t where `JudgedTranspose`
    holds).  `CoveredFull` with `execute_refines_full` / `key_to_effect_full` is the one to use;
    the other two are the steps it is built from.  Outside all three: the finishing actions
    (C01_outcome_step) and `unjudged`. -/
def Covered : Act → Prop
  | .insert _ _ | .nothing | .toCommand | .toInsert none | .yankOnly _ => True
  | .move m | .toInsert (some m) => MoveCovered m
  | .kill _ | .change _ => True
  | _ => False

/-- postcondition of `C01_execute_refines`: the command proceeds and text and cursor are the
    documented ones (`Refined` itself, under the name the C01 statements use) -/
def RefinedAct (a : Act) (mode : Mode) (s : Ed) : Status → Ed → Prop := Refined S U a mode s

theorem holds_toInsert_iff (mode : Mode) (buf : Text) (pos : Nat) (m : Movement) (l : LB) :
    ((Act.toInsert (some m)).apply S U mode buf pos).holds l ↔ ((Act.move m).apply S U mode buf pos).holds l := by
  simp only [Act.apply]
  cases moveTarget S U buf pos m with
  | none => simp [Want.holds]
  | some tg => cases tg <;> simp [Want.holds]

theorem holds_toCommand_of_move (mode : Mode) (buf : Text) (pos : Nat) (l : LB)
    (h : ((Act.move (.backwardChar 1)).apply S U mode buf pos).holds l) :
    (Act.toCommand.apply S U mode buf pos).holds l := by
  revert h
  simp only [Act.apply, moveTarget]
  cases charTargetBwd S buf pos 1 <;> simp (config := { contextual := true }) [Want.holds]

/-- for every resolved action of `Covered`, executing the command it denotes
    from a well-formed state (growable line, kill ring within bounds, hinter that does not panic,
    segmenter stable with the line break a cluster of its own) returns — it never exits — with the
    status `proceed`, and the line is the one `Act.apply` documents. -/
theorem execute_refines (hS : S.Stable) (hnl : S.NlAlone) (hnp : cfg.hinterPanicAt = none) (mode : Mode)
    (a : Act) (c : Cmd) (hc : a.toCmd = some c) (hcov : Covered a) (s : Ed) (hwf : WF s.line)
    (hg : s.line.canGrow = true) (hr : RingOK s.ring) :
    wp (execute S U cfg c) (RefinedAct S U a mode s) (fun _ _ => False) s := by
  cases a with
  | insert n ch =>
    cases hc
    exact wp_mono (execute_insert_refines S U cfg hnp mode n ch s hwf hg) (fun _ _ h => h) (fun _ _ h => h)
  | move m =>
    cases hc
    exact wp_mono (execute_move_refines S U cfg hS mode m s hwf hcov) (fun _ _ h => h) (fun _ _ h => h)
  | kill m =>
    cases hc
    exact execute_kill_refines S U cfg hS hnl hnp mode m s hwf hr
  | change m =>
    cases hc
    exact execute_change_refines S U cfg hS hnl hnp mode m s hwf hr
  | yankOnly m =>
    cases hc
    refine wp_mono (execute_yank_refines S U cfg mode m s hwf hr) (fun _ s' h => ?_) (fun _ _ h => h)
    exact ⟨h.1, h.2.2⟩
  | toInsert pre =>
    cases pre with
    | none =>
      cases hc
      show wp (pure Status.proceed) _ _ s
      exact ⟨rfl, by simp [Act.apply, Want.holds]⟩
    | some m =>
      cases hc
      refine wp_mono (execute_move_refines S U cfg hS mode m s hwf hcov) (fun _ s' h => ?_) (fun _ _ h => h)
      have hh := (holds_toInsert_iff S U mode s.line.buf s.line.pos m s'.line).mpr h.2
      exact ⟨h.1, hh⟩
  | toCommand =>
    cases hc
    refine wp_mono (execute_move_refines S U cfg hS mode (.backwardChar 1) s hwf (by simp)) (fun _ s' h => ?_) (fun _ _ h => h)
    have hh := holds_toCommand_of_move S U mode s.line.buf s.line.pos s'.line h.2
    exact ⟨h.1, hh⟩
  | nothing =>
    cases hc
    show wp (pure Status.proceed) _ _ s
    exact ⟨rfl, by simp [Act.apply, Want.holds]⟩
  | editWord w => exact hcov.elim
  | transposeChars => exact hcov.elim
  | replaceChar n ch => exact hcov.elim
  | accept => exact hcov.elim
  | eof => exact hcov.elim
  | interrupt => exact hcov.elim
  | unjudged => exact hcov.elim

theorem refinedAct_congr (a : Act) (mode : Mode) {s1 s : Ed} (h : s1.line = s.line) :
    RefinedAct S U a mode s1 = RefinedAct S U a mode s := by
  unfold RefinedAct Refined; rw [h]

end

end

end Rl
