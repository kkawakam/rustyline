/-
  C01_execute_refines for vi `r` (`edit_replace_char`): `execute_replaceChar_refines`, then
  `execute_refines_all` / `key_to_effect_all` over `CoveredAt` = `Covered` plus vi `r`.
-/
import Rl.Lemmas.ExecRefines
import Rl.Lemmas.EditorReplaceChar
namespace Rl
open EM Rl.Spec Rl.Spec.Doc

section
variable (S : Segmenter) (U : UData)

theorem delete_clusters (hS : S.Stable) (lb : LB) (n : Nat) (hn : n ≠ 0) (pre suf : Text)
    (hb : lb.buf = pre ++ suf) (hp : lb.pos = blen pre) (hlen : n ≤ (S.seg suf).length) :
    ∃ y ns, LB.delete S U n lb = .ok (some y, { lb with buf := pre ++ ((S.seg suf).drop n).flatten }, ns) ∧
      (S.seg y).length = n := by
  have hs : suf ≠ [] := by
    rintro rfl
    rw [seg_nil] at hlen
    exact hn (Nat.le_zero.1 hlen)
  exact ⟨_, _, delete_eval S U lb n hn pre suf hb hp hs, by rw [(hS suf n).1, List.length_take]; omega⟩

/-- the situation in which `Act.apply` judges vi `r` with count `n`: `n ≥ 1` clusters are there to
    be replaced, the count fits a `RepeatCount` (`u16`, src/keymap.rs: `edit_replace_char` converts
    the number of deleted clusters with `RepeatCount::try_from(..).unwrap()`), and (`hlast`) going back one cluster from the end
    of the `n` inserted copies lands on the start of the last copy — the side condition under which
    the documented cursor `pos + (n-1)·|c|` is a cluster boundary reached by `move_backward(1)`
    (it fails e.g. when `c` is a combining mark that joins what precedes it). -/
structure JudgedReplace (buf : Text) (pos n : Nat) (c : Char) : Prop where
  n_ne : n ≠ 0
  n_le : n ≤ 65535
  split : ∃ pre suf, buf = pre ++ suf ∧ pos = blen pre ∧ n ≤ (S.seg suf).length ∧
    charTargetBwd S (pre ++ List.replicate n c ++ ((S.seg suf).drop n).flatten) (pos + c.utf8Size * n) 1 =
      some (pos + (n - 1) * c.utf8Size)

variable (cfg : EdCfg)

/-- **vi `r`** (`ReplaceChar n c`): the `n` clusters under and after the cursor are replaced by `n`
    copies of `c`; the cursor ends on the last copy. -/
theorem execute_replaceChar_refines (hS : S.Stable) (hnp : cfg.hinterPanicAt = none) (mode : Mode)
    (n : Nat) (c : Char) (s : Ed) (hg : s.line.canGrow = true)
    (hj : JudgedReplace S s.line.buf s.line.pos n c) :
    wp (execute S U cfg (.replaceChar n c)) (Refined S U (.replaceChar n c) mode s) (fun _ _ => False) s := by
  obtain ⟨hn0, hn, pre, suf, hb, hp, hlen, hlast⟩ := hj
  obtain ⟨y, ns, hd, hcnt⟩ := delete_clusters S U hS s.line n hn0 pre suf hb hp hlen
  have he : execute S U cfg (.replaceChar n c) = (do pure (); editReplaceChar S U cfg c n; pure .proceed) := rfl
  rw [he]
  simp only [wp_bind, wp_pure]
  unfold editReplaceChar
  simp only [wp_bind, wp_changesBegin]
  refine wp_lb S U (s := { s with changes := s.changes.begin.1 }) hd ?_
  have hle : ¬ graphemeCount S y > 65535 := by unfold graphemeCount; omega
  have hgc : graphemeCount S y = n := hcnt
  have hle' : ¬ n > 65535 := by omega
  simp only [wp_bind, wp_ite, hgc, hle', if_false, wp_pure]
  -- the insertion of `n` copies at the cursor
  generalize hz : ((S.seg suf).drop n).flatten = z at *
  have hins := insert_eval S U c n (⟨pre ++ z, s.line.pos, s.line.cap, s.line.canGrow⟩ : LB)
  have hmt : (⟨pre ++ z, s.line.pos, s.line.cap, s.line.canGrow⟩ : LB).mustTruncate
      ((⟨pre ++ z, s.line.pos, s.line.cap, s.line.canGrow⟩ : LB).len + c.utf8Size * n) = false := by simp [LB.mustTruncate, hg]
  rw [hmt] at hins
  have hsp2 : splitAtByte (pre ++ z) s.line.pos = some (pre, z) := by rw [hp]; exact splitAtByte_append pre z
  simp only [Bool.false_eq_true, if_false, hsp2] at hins
  refine wp_lb S U (s := { s with line := ⟨pre ++ z, s.line.pos, s.line.cap, s.line.canGrow⟩, changes := (s.changes.begin.1).onNotifs S U.alnum ns }) hins ?_
  -- one cluster back
  have hw2 : WF (⟨pre ++ List.replicate n c ++ z, s.line.pos + c.utf8Size * n,
                  growCap s.line.cap (blen (pre ++ z) + c.utf8Size * n), s.line.canGrow⟩ : LB) :=
    ⟨pre ++ List.replicate n c, z, rfl, by simp [blen_replicate, hp]⟩
  obtain ⟨r3, l3, hmb, hmv⟩ := moveBackward_refines S U _ 1 hw2 (by simp)
  refine wp_lbQuiet hmb ?_
  simp only [wp_changesEnd, if_true]
  refine wp_refreshLine_np S U cfg hnp fun s' hc => ?_
  obtain ⟨hl, _⟩ := Ed.core_eq hc
  refine ⟨rfl, ?_⟩
  rw [hl]
  unfold MovedTo at hmv
  simp only [hlast, Option.getD_some] at hmv
  rw [hmv]
  have hsp : splitAt? s.line.buf (blen pre) = some (pre, suf) := by
    unfold splitAt?; rw [hb]; exact splitAtByte_append pre suf
  have hnl : ¬ (S.seg suf).length < n := by omega
  have hn0' : (n == 0) = false := by simpa using hn0
  simp [Act.apply, hn0', hsp, hnl, Want.holds, replicateText, hz, hp]

/-- the actions of `Covered`, plus `replaceChar` in the situations `Act.apply` judges
    (`JudgedReplace` of the text and cursor given) -/
def CoveredAt (a : Act) (buf : Text) (pos : Nat) : Prop :=
  match a with
  | .replaceChar n c => JudgedReplace S buf pos n c
  | a => Covered a

theorem execute_refines_all (hS : S.Stable) (hnl : S.NlAlone) (hnp : cfg.hinterPanicAt = none) (mode : Mode)
    (a : Act) (c : Cmd) (hc : a.toCmd = some c) (s : Ed) (hcov : CoveredAt S a s.line.buf s.line.pos)
    (hwf : WF s.line) (hg : s.line.canGrow = true) (hr : RingOK s.ring) :
    wp (execute S U cfg c) (RefinedAct S U a mode s) (fun _ _ => False) s := by
  by_cases hrc : ∃ n ch, a = .replaceChar n ch
  · obtain ⟨n, ch, rfl⟩ := hrc
    cases hc
    exact execute_replaceChar_refines S U cfg hS hnp mode n ch s hg hcov
  · have hcov' : Covered a := by
      cases a <;> first | exact hcov | exact absurd ⟨_, _, rfl⟩ hrc
    exact execute_refines S U cfg hS hnl hnp mode a c hc hcov' s hwf hg hr

/-- a key map that answers `c` and keeps the line passes what `execute` does on `c` to the whole step -/
theorem key_to_effect_of {km : EM Cmd} {mode : Mode} {a : Act} {c : Cmd} {s s1 : Ed}
    (hkm : km s = .ok (c, s1)) (hl : s1.line = s.line)
    (h : wp (execute S U cfg c) (RefinedAct S U a mode s1) (fun _ _ => False) s1) :
    wp (do let cmd ← km; execute S U cfg cmd) (RefinedAct S U a mode s) (fun _ _ => False) s := by
  rw [wp_bind]
  refine wp_of_eq_ok hkm ?_
  rw [refinedAct_congr S U a mode hl] at h
  exact h

theorem key_to_effect_all {km : EM Cmd} (hS : S.Stable) (hnl : S.NlAlone) (hnp : cfg.hinterPanicAt = none) (mode : Mode)
    (a : Act) (c : Cmd) (hc : a.toCmd = some c) (s s1 : Ed) (hcov : CoveredAt S a s.line.buf s.line.pos)
    (hwf : WF s.line) (hg : s.line.canGrow = true) (hr : RingOK s.ring)
    (hkm : km s = .ok (c, s1)) (hl : s1.line = s.line) (hring : s1.ring = s.ring) :
    wp (do let cmd ← km; execute S U cfg cmd) (RefinedAct S U a mode s) (fun _ _ => False) s :=
  key_to_effect_of S U cfg hkm hl
    (execute_refines_all S U cfg hS hnl hnp mode a c hc s1 (hl ▸ hcov) (hl ▸ hwf) (hl ▸ hg) (hring ▸ hr))

/-- from the keymap's answer to the effect: if the keymap returns the command `a` denotes and keeps
    line and kill ring, running keymap + `execute` has the documented effect -/
theorem key_to_effect {km : EM Cmd} (hS : S.Stable) (hnl : S.NlAlone) (hnp : cfg.hinterPanicAt = none) (mode : Mode)
    (a : Act) (c : Cmd) (hc : a.toCmd = some c) (hcov : Covered a) (s s1 : Ed) (hwf : WF s.line)
    (hg : s.line.canGrow = true) (hr : RingOK s.ring)
    (hkm : km s = .ok (c, s1)) (hl : s1.line = s.line) (hring : s1.ring = s.ring) :
    wp (do let cmd ← km; execute S U cfg cmd) (RefinedAct S U a mode s) (fun _ _ => False) s :=
  key_to_effect_all S U cfg hS hnl hnp mode a c hc s s1 (by cases a <;> first | exact hcov | exact hcov.elim)
    hwf hg hr hkm hl hring

end
end Rl
