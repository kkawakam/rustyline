/-
  C01_execute_refines for the case changes M-u / M-l / M-c (`LineBuffer::edit_word` against
  `Doc.editWordWant`) and C-t (`transpose_chars` against `Doc.transposeWant`).
-/
import Rl.Lemmas.ExecRefines2
namespace Rl
open EM Rl.Spec Rl.Spec.Doc

section
variable (S : Segmenter) (U : UData)

/-- `grapheme_indices().find(p)`: the offset of the first cluster satisfying `P` -/
theorem gidxGo_find (P : Text → Bool) (o : Nat) (gs : List Text) :
    ((gidxGo o gs).find? (fun x => P x.2)).map (·.1) =
      if (gs.dropWhile (fun g => !P g)).isEmpty then none
      else some (o + offOf gs (gs.takeWhile (fun g => !P g)).length) := by
  induction gs generalizing o with
  | nil => simp [gidxGo]
  | cons g gs ih =>
    by_cases hp : P g = true
    · simp [gidxGo, hp, offOf]
    · have hp' : P g = false := by simpa using hp
      simp only [gidxGo, List.find?_cons, hp', List.dropWhile_cons, List.takeWhile_cons, Bool.not_false,
        if_true, List.length_cons]
      rw [ih]
      split
      · rfl
      · congr 1
        simp [offOf]; omega

theorem pairIdx_endOfWord_head (j0 : Nat) (w r : List Text) (hw : w ≠ []) (hall : ∀ g ∈ w, g.all U.alnum = true)
    (hr : ∀ g, r.head? = some g → g.all U.alnum = false) :
    (pairIdx (isEndOfWord U .emacs) j0 (w ++ r)).head? = if r.isEmpty then none else some (j0 + w.length) := by
  induction w generalizing j0 with
  | nil => exact absurd rfl hw
  | cons a w ih =>
    cases w with
    | nil =>
      cases r with
      | nil => simp [pairIdx]
      | cons b r =>
        have ha := hall a (by simp)
        have hb := hr b rfl
        simp [pairIdx, isEndOfWord, isWordChar, ha, hb]
    | cons b w =>
      have ha := hall a (by simp)
      have hb := hall b (by simp)
      have hstep : pairIdx (isEndOfWord U .emacs) j0 (a :: b :: w ++ r) =
          pairIdx (isEndOfWord U .emacs) (j0 + 1) (b :: w ++ r) := by
        simp [pairIdx, isEndOfWord, isWordChar, ha, hb]
      rw [hstep, ih (j0 + 1) (by simp) (fun g hg => hall g (by simp [hg]))]
      split
      · rfl
      · simp; omega

theorem dropWhile_head_false {α : Type} (p : α → Bool) (l : List α) :
    ∀ g, (l.dropWhile p).head? = some g → p g = false := by
  intro g hg
  induction l with
  | nil => simp at hg
  | cons a l ih =>
    by_cases ha : p a = true
    · simp [ha] at hg; exact ih hg
    · simp [ha] at hg; subst hg; simpa using ha

theorem drop_takeWhile_length {α : Type} (p : α → Bool) (l : List α) :
    l.drop (l.takeWhile p).length = l.dropWhile p := by
  induction l with
  | nil => rfl
  | cons a l ih => by_cases ha : p a = true <;> simp [ha, ih]

theorem take_takeWhile_length {α : Type} (p : α → Bool) (l : List α) :
    l.take (l.takeWhile p).length = l.takeWhile p := by
  induction l with
  | nil => rfl
  | cons a l ih => by_cases ha : p a = true <;> simp [ha, ih]

theorem offOf_takeWhile (p : Text → Bool) (gs : List Text) :
    offOf gs (gs.takeWhile p).length = blen (gs.takeWhile p).flatten := by
  unfold offOf
  rw [take_takeWhile_length]

theorem skipWhitespace_eq (lb : LB) (pre suf : Text) (hb : lb.buf = pre ++ suf) (hp : lb.pos = blen pre) :
    LB.skipWhitespace S U lb = .ok (
      if ((S.seg suf).dropWhile (fun g => !g.all U.alnum)).isEmpty then none
      else some (blen (pre ++ ((S.seg suf).takeWhile (fun g => !g.all U.alnum)).flatten))) := by
  unfold LB.skipWhitespace
  by_cases he : lb.pos = lb.len
  · have hs : suf = [] := by
      have : blen suf = 0 := by simp [LB.len, hb, hp] at he; omega
      exact blen_eq_zero.mp this
    subst hs
    simp [he, seg_nil]; rfl
  · have he' : (lb.pos == lb.len) = false := by simpa using he
    have hsf : sliceFrom lb.buf lb.pos = .ok suf := by rw [hb, hp]; exact sliceFrom_mid pre suf
    have hf := gidxGo_find (fun g => g.all U.alnum) 0 (S.seg suf)
    simp only [he', Bool.false_eq_true, if_false, hsf, bind, Except.bind, pure, Except.pure]
    congr 1
    have hm : ∀ o : Option (Nat × Text), o.map (fun x => match x with | (i, _) => i + lb.pos) =
        (o.map (·.1)).map (· + lb.pos) := by intro o; cases o <;> rfl
    have hfn : (fun (x : Nat × Text) => match x with | (_, g) => g.all U.alnum) = (fun x => x.2.all U.alnum) := by
      funext x; rfl
    rw [hm, hfn]
    unfold gidx
    rw [hf]
    split
    · rfl
    · simp [offOf_takeWhile, hp]; omega

theorem mem_takeWhile_p {α : Type} (p : α → Bool) (l : List α) : ∀ a ∈ l.takeWhile p, p a = true := by
  induction l with
  | nil => intro a ha; simp at ha
  | cons b l ih =>
    intro a ha
    by_cases hb : p b = true
    · simp [hb] at ha
      rcases ha with rfl | ha
      · exact hb
      · exact ih a ha
    · simp [hb] at ha

theorem nextWordPos_word (lb : LB) (x : Text) (dw : List Text) (hb : lb.buf = x ++ dw.flatten)
    (hseg : S.seg dw.flatten = dw) (g0 : Text) (tl : List Text) (hdw : dw = g0 :: tl)
    (hA : g0.all U.alnum = true) :
    LB.nextWordPos S U lb (blen x) .afterEnd .emacs 1 =
      .ok (some (blen x + blen (dw.takeWhile (fun g => g.all U.alnum)).flatten)) := by
  have hw1 : WF ({ lb with pos := blen x } : LB) := ⟨x, dw.flatten, hb, rfl⟩
  have h1 : LB.nextWordPos S U lb (blen x) .afterEnd .emacs 1 =
      LB.nextWordPosR S U ({ lb with pos := blen x } : LB) ({ lb with pos := blen x } : LB).pos .afterEnd .emacs 1 false := rfl
  rw [h1, nextWordPosR_afterEnd S U _ .emacs 1 false hw1 (by simp)]
  congr 1
  have hsp : splitAt? lb.buf (blen x) = some (x, dw.flatten) := by
    unfold splitAt?; rw [hb]; exact splitAtByte_append x _
  have hg0 : g0 ≠ [] := S.ne_nil dw.flatten g0 (by rw [hseg, hdw]; simp)
  have hne : dw.flatten.isEmpty = false := by
    rw [hdw]; cases g0 with
    | nil => exact absurd rfl hg0
    | cons c t => simp
  have hsplit := List.takeWhile_append_dropWhile (p := fun g : Text => g.all U.alnum) (l := dw)
  have hwne : dw.takeWhile (fun g => g.all U.alnum) ≠ [] := by
    rw [hdw]; simp [hA]
  have hhead := pairIdx_endOfWord_head U 0 (dw.takeWhile (fun g => g.all U.alnum))
    (dw.dropWhile (fun g => g.all U.alnum)) hwne
    (fun g hg => mem_takeWhile_p (fun g : Text => g.all U.alnum) dw g hg)
    (fun g hg => by
      have := dropWhile_head_false (fun g : Text => g.all U.alnum) dw g hg
      simpa using this)
  rw [hsplit] at hhead
  simp only [wordTargetFwd, hsp, hne, Bool.false_eq_true, if_false, hseg, Nat.sub_self]
  have h0 : ∀ l : List Nat, l[0]? = l.head? := by intro l; cases l <;> rfl
  rw [h0, List.head?_map, hhead]
  by_cases hr : (dw.dropWhile (fun g => g.all U.alnum)).isEmpty = true
  · have hrn : dw.dropWhile (fun g => g.all U.alnum) = [] := by simpa using hr
    have hall : dw.takeWhile (fun g => g.all U.alnum) = dw := by
      have := hsplit; rw [hrn] at this; simpa using this
    simp [hr, hall, hb]
  · simp [hr, Nat.zero_add, offOf_takeWhile]

/-- **M-u / M-l / M-c** at the level of the line buffer: `edit_word` returns, and text and cursor are
    those of `editWordWant` (stable segmenter; no further side condition: the cursor is set
    numerically to the end of the replacement) -/
theorem editWord_refines (hS : S.Stable) (mode : Mode) (a : WordAction) (lb : LB) (h : WF lb) :
    ∃ r l ns, LB.editWord S U a lb = .ok (r, l, ns) ∧
      ((Act.editWord a).apply S U mode lb.buf lb.pos).holds l := by
  -- the text is `pre ++ skip ++ w ++ rr` in clusters: cursor after `pre`, `skip` the non-word
  -- clusters after it (`takeWhile`), `w` the word clusters that follow, `rr` the rest; both sides
  -- replace `w` by its case-mapped form and put the cursor after it.
  obtain ⟨pre, suf, hb, hp⟩ := h.split
  have hsp : splitAt? lb.buf lb.pos = some (pre, suf) := by
    unfold splitAt?; rw [hb, hp]; exact splitAtByte_append pre suf
  have hskip := skipWhitespace_eq S U lb pre suf hb hp
  have hdt := drop_takeWhile_length (fun g : Text => !g.all U.alnum) (S.seg suf)
  by_cases hd : ((S.seg suf).dropWhile (fun g => !g.all U.alnum)).isEmpty = true
  · -- no word after the cursor: nothing happens
    rw [if_pos hd] at hskip
    have hdn : (S.seg suf).dropWhile (fun g => !g.all U.alnum) = [] := by simpa using hd
    refine ⟨false, lb, [], by simp [LB.editWord, LM.bind_apply, LM.ro, hskip], ?_⟩
    simp [Act.apply, editWordWant, hsp, hdt, hdn, seg_nil, Want.holds]
  · rw [if_neg hd] at hskip
    generalize hdw : (S.seg suf).dropWhile (fun g => !g.all U.alnum) = dw at *
    generalize hsk : (S.seg suf).takeWhile (fun g => !g.all U.alnum) = skip at *
    cases dw with
    | nil => simp at hd
    | cons g0 tl =>
      have hA : g0.all U.alnum = true := by
        have := dropWhile_head_false (fun g : Text => !g.all U.alnum) (S.seg suf) g0 (by rw [hdw]; rfl)
        simpa using this
      have hseg : S.seg (g0 :: tl).flatten = g0 :: tl := by
        have := (hS suf skip.length).2
        rw [hdt] at this
        exact this
      have hsuf : suf = skip.flatten ++ (g0 :: tl).flatten := by
        have := List.takeWhile_append_dropWhile (p := fun g : Text => !g.all U.alnum) (l := S.seg suf)
        rw [hsk, hdw] at this
        rw [← List.flatten_append, this, S.flatten_eq]
      have hbuf : lb.buf = (pre ++ skip.flatten) ++ (g0 :: tl).flatten := by rw [hb, hsuf]; simp
      have hnw := nextWordPos_word S U lb (pre ++ skip.flatten) (g0 :: tl) hbuf hseg g0 tl rfl hA
      generalize hwd : ((g0 :: tl).takeWhile (fun g => g.all U.alnum)) = w at *
      generalize hrd : ((g0 :: tl).dropWhile (fun g => g.all U.alnum)) = rr at *
      have hwr : (g0 :: tl).flatten = w.flatten ++ rr.flatten := by
        have := List.takeWhile_append_dropWhile (p := fun g : Text => g.all U.alnum) (l := g0 :: tl)
        rw [hwd, hrd] at this
        rw [← List.flatten_append, this]
      have hwne : w.flatten ≠ [] := by
        have hg0 : g0 ≠ [] := S.ne_nil _ g0 (by rw [hseg]; simp)
        have : w = g0 :: (tl.takeWhile (fun g => g.all U.alnum)) := by
          rw [← hwd]; simp [hA]
        rw [this]
        cases g0 with
        | nil => exact absurd rfl hg0
        | cons c t => simp
      have hwpos := blen_pos_of_ne_nil hwne
      have hbuf3 : lb.buf = (pre ++ skip.flatten) ++ w.flatten ++ rr.flatten := by rw [hbuf, hwr]; simp
      have hdr := drain_at (pre ++ skip.flatten) w.flatten rr.flatten .forward lb hbuf3
      have hins := insertStr_at S U (pre ++ skip.flatten) rr.flatten (mapWord S U a w.flatten)
        ({ lb with buf := (pre ++ skip.flatten) ++ rr.flatten } : LB) rfl
      have hne : (blen (pre ++ skip.flatten) == blen (pre ++ skip.flatten) + blen w.flatten) = false := by
        simp; omega
      have hk : ∃ l ns, LB.editWord S U a lb = .ok (true, l, ns) ∧
          l.buf = (pre ++ skip.flatten) ++ mapWord S U a w.flatten ++ rr.flatten ∧
          l.pos = blen (pre ++ skip.flatten) + blen (mapWord S U a w.flatten) := by
        unfold LB.editWord
        simp only [LM.bind_apply, LM.ro, hskip, hnw, hne, Bool.false_eq_true, if_false, hdr]
        cases a with
        | uppercase | lowercase =>
          simp only [mapWord] at hins ⊢
          simp only [LM.bind_apply, LM.pure_apply, hins, LM.setPos]
          exact ⟨_, _, rfl, rfl, rfl⟩
        | capitalize =>
          obtain ⟨g, r, hg, hgr, _⟩ := seg_head S hwne
          have hsl : sliceFrom w.flatten (blen g) = .ok r := by rw [hgr]; exact sliceFrom_mid g r
          have hdrop : w.flatten.drop g.length = r := by rw [hgr]; simp
          simp only [mapWord, hg, hdrop] at hins ⊢
          simp only [LM.bind_apply, LM.pure_apply, LM.lift, hsl, hins, LM.setPos]
          exact ⟨_, _, rfl, rfl, rfl⟩
      obtain ⟨l, ns, hk1, hk2, hk3⟩ := hk
      refine ⟨true, l, ns, hk1, ?_⟩
      have hword : ((S.seg (g0 :: tl).flatten).takeWhile (fun g => g.all U.alnum)).flatten = w.flatten := by
        rw [hseg, hwd]
      have hpost : (g0 :: tl).flatten.drop w.flatten.length = rr.flatten := by rw [hwr]; simp
      have hemp : w.flatten.isEmpty = false := by
        cases hq : w.flatten with
        | nil => exact absurd hq hwne
        | cons c t => rfl
      simp only [Act.apply, editWordWant, hsp, hsk, hdt, hword, hpost, hemp, Bool.false_eq_true, if_false, Want.holds]
      constructor
      · intro t ht
        cases ht
        rw [hk2]
      · intro q hq
        cases hq
        rw [hk3]; simp [Nat.add_assoc]

theorem seg_take_one {s g : Text} (h : (S.seg s).head? = some g) :
    ((S.seg s).take 1).flatten = g ∧ g ++ ((S.seg s).drop 1).flatten = s := by
  have hf := S.flatten_eq s
  cases hseg : S.seg s with
  | nil => rw [hseg] at h; cases h
  | cons a t =>
    rw [hseg] at h hf
    cases h
    exact ⟨by simp, by simpa using hf⟩

/-- the four steps of `transpose_chars` once the cursor stands between the clusters `g1` and `g2`:
    delete `g2`, step back over `g1`, re-insert `g2`, step forward over `g1`.  `hside`: `g1` is
    still a cluster when the text after `g2` follows it directly (the last step re-segments). -/
theorem transpose_core (lb : LB) (pre' g1 g2 rest : Text) (hb : lb.buf = pre' ++ g1 ++ g2 ++ rest)
    (hp : lb.pos = blen (pre' ++ g1)) (hg : lb.canGrow = true) (hg1 : g1 ≠ []) (hg2 : g2 ≠ [])
    (h1 : (S.seg (pre' ++ g1)).getLast? = some g1) (h2 : (S.seg (g2 ++ rest)).head? = some g2)
    (hside : (S.seg (g1 ++ rest)).head? = some g1)
    (htP : ¬ (lb.pos = 0 ∨ (S.seg lb.buf).length < 2)) (hne' : ¬ lb.pos = lb.len) :
    ∃ l ns, LB.transposeChars S U lb = .ok (true, l, ns) ∧
      l.buf = pre' ++ g2 ++ g1 ++ rest ∧ l.pos = blen (pre' ++ g2 ++ g1) := by
  have hwf : WF lb := ⟨pre' ++ g1, g2 ++ rest, by rw [hb]; simp, hp⟩
  have hp2 := blen_pos_of_ne_nil hg2
  have hp1 := blen_pos_of_ne_nil hg1
  -- delete(1): g2 goes
  obtain ⟨ht1, hd1⟩ := seg_take_one S h2
  have hdel := delete_eval S U lb 1 (by simp) (pre' ++ g1) (g2 ++ rest) (by rw [hb]; simp) hp (by simp [hg2])
  rw [ht1, List.append_cancel_left hd1] at hdel
  -- move_backward(1): over g1
  have hw1 : WF ({ lb with buf := pre' ++ g1 ++ rest } : LB) := ⟨pre' ++ g1, rest, rfl, hp⟩
  obtain ⟨r1, l1, hmb, hmv1⟩ := moveBackward_refines S U _ 1 hw1 (by simp)
  have hcb : charTargetBwd S (pre' ++ g1 ++ rest) lb.pos 1 = some (blen pre') := by
    have := charTargetBwd_one (s := rest) h1
    rw [hp]
    simpa using this
  unfold MovedTo at hmv1
  simp only [hcb, Option.getD_some] at hmv1
  subst hmv1
  -- yank(g2, 1)
  have hy := yank_eval S U g2 1 ({ lb with buf := pre' ++ g1 ++ rest, pos := blen pre' } : LB)
  have hcond : (g2.isEmpty || ({ lb with buf := pre' ++ g1 ++ rest, pos := blen pre' } : LB).mustTruncate
      (({ lb with buf := pre' ++ g1 ++ rest, pos := blen pre' } : LB).len + blen g2 * 1)) = false := by
    have : g2.isEmpty = false := by cases g2 with | nil => exact absurd rfl hg2 | cons c t => rfl
    simp [this, LB.mustTruncate, hg]
  have hsp3 : splitAtByte (pre' ++ g1 ++ rest) (blen pre') = some (pre', g1 ++ rest) := by
    have := splitAtByte_append pre' (g1 ++ rest); simpa using this
  rw [hcond] at hy
  simp only [Bool.false_eq_true, if_false, hsp3, yankText, if_true, Nat.mul_one] at hy
  -- move_forward(1): over g1 again
  have hw3 : WF (⟨pre' ++ g2 ++ (g1 ++ rest), blen pre' + blen g2, growCap lb.cap (blen (pre' ++ g1 ++ rest) + blen g2), lb.canGrow⟩ : LB) :=
    ⟨pre' ++ g2, g1 ++ rest, by simp, by simp⟩
  obtain ⟨r3, l3, hmf, hmv3⟩ := moveForward_refines S U _ 1 hw3 (by simp)
  have hcf : charTargetFwd S (pre' ++ g2 ++ (g1 ++ rest)) (blen pre' + blen g2) 1 = some (blen pre' + blen g2 + blen g1) := by
    have := charTargetFwd_one (x := pre' ++ g2) hside
    simpa using this
  unfold MovedTo at hmv3
  simp only [hcf, Option.getD_some] at hmv3
  subst hmv3
  unfold LB.transposeChars
  have htB : (lb.pos == 0 || decide ((S.seg lb.buf).length < 2)) = false := by simpa using htP
  have hendB : (lb.pos == lb.len) = false := by simpa using hne'
  simp only [LM.bind_apply, LM.get, LM.pure_apply, htB, hendB, Bool.false_eq_true, if_false, hdel, hmb, hy, hmf]
  exact ⟨_, _, rfl, by simp, by simp; omega⟩

/-- the situations in which `C01_execute_refines_transpose` speaks: nothing to transpose (cursor at 0
    or fewer than two clusters), or the cursor strictly inside the text between the clusters `g1` and
    `g2`, with the re-segmentation side condition: `g1` is still a cluster when the text after `g2`
    follows it directly.  (Cursor at the end of the text — the last two clusters — is not covered.) -/
def JudgedTranspose (buf : Text) (pos : Nat) : Prop :=
  (pos = 0 ∨ (S.seg buf).length < 2) ∨
  (pos ≠ blen buf ∧ ∃ pre' g1 g2 rest, buf = pre' ++ g1 ++ g2 ++ rest ∧ pos = blen (pre' ++ g1) ∧ g1 ≠ [] ∧ g2 ≠ [] ∧
    (S.seg (pre' ++ g1)).getLast? = some g1 ∧ (S.seg (g2 ++ rest)).head? = some g2 ∧
    (S.seg (g1 ++ rest)).head? = some g1)

theorem transposeChars_refines (mode : Mode) (lb : LB) (hg : lb.canGrow = true)
    (hj : JudgedTranspose S lb.buf lb.pos) :
    ∃ r l ns, LB.transposeChars S U lb = .ok (r, l, ns) ∧
      (Act.transposeChars.apply S U mode lb.buf lb.pos).holds l := by
  by_cases htriv : (lb.pos == 0 || decide ((S.seg lb.buf).length < 2)) = true
  · have htP : lb.pos = 0 ∨ (S.seg lb.buf).length < 2 := by simpa using htriv
    refine ⟨false, lb, [], by simp [LB.transposeChars, LM.bind_apply, LM.get, htP], ?_⟩
    simp [Act.apply, transposeWant, htriv, Want.holds]
  · rcases hj with ht | ⟨hne, pre', g1, g2, rest, hb, hp, hg1, hg2, h1, h2, hside⟩
    · exfalso; apply htriv
      rcases ht with h0 | h2' <;> simp [*]
    · have hend : (lb.pos == lb.len) = false := by simpa [LB.len] using hne
      obtain ⟨l, ns, hk, hbuf, hpos⟩ := transpose_core S U lb pre' g1 g2 rest hb hp hg hg1 hg2 h1 h2 hside
        (by simpa using htriv) (by simpa using hend)
      refine ⟨true, l, ns, ?_, ?_⟩
      · exact hk
      · have htriv' : (lb.pos == 0 || decide ((S.seg lb.buf).length < 2)) = false := by simpa using htriv
        have hend' : (lb.pos == blen lb.buf) = false := by simpa using hne
        have hsp : splitAt? lb.buf lb.pos = some (pre' ++ g1, g2 ++ rest) := by
          unfold splitAt?; rw [hb, hp]
          have := splitAtByte_append (pre' ++ g1) (g2 ++ rest); simpa using this
        have htake : (pre' ++ g1).take ((pre' ++ g1).length - g1.length) = pre' := by simp
        have hdrop : (g2 ++ rest).drop g2.length = rest := by simp
        simp only [Act.apply, transposeWant, htriv', hend', Bool.false_eq_true, if_false, hsp, h1, h2, htake, hdrop, Want.holds]
        exact ⟨fun t ht => by cases ht; exact hbuf, fun q hq => by cases hq; exact hpos⟩

variable (cfg : EdCfg)

def wordCmd : WordAction → Cmd
  | .uppercase => .upcaseWord | .lowercase => .downcaseWord | .capitalize => .capitalizeWord

/-- **M-u / M-l / M-c**: the next word is case-mapped as documented, the cursor ends after it; without
    a word nothing changes -/
theorem execute_case_refines (hS : S.Stable) (hnp : cfg.hinterPanicAt = none) (mode : Mode) (a : WordAction)
    (s : Ed) (hwf : WF s.line) :
    wp (execute S U cfg (wordCmd a)) (Refined S U (.editWord a) mode s) (fun _ _ => False) s := by
  obtain ⟨r, l, ns, hk, hh⟩ := editWord_refines S U hS mode a s.line hwf
  have fin : wp (do grouped S U cfg (LB.editWord S U a); pure Status.proceed : EM Status)
      (Refined S U (.editWord a) mode s) (fun _ _ => False) s := by
    simp only [wp_bind, wp_pure]
    exact wp_grouped_line S U cfg hnp hk fun s' hl => ⟨rfl, hl ▸ hh⟩
  cases a <;> exact fin

/-- **C-t**: in the situations of `JudgedTranspose` the two clusters around the cursor are exchanged
    and the cursor ends after the pair (or nothing happens when there is nothing to transpose) -/
theorem execute_transpose_refines (hnp : cfg.hinterPanicAt = none) (mode : Mode) (s : Ed)
    (hg : s.line.canGrow = true) (hj : JudgedTranspose S s.line.buf s.line.pos) :
    wp (execute S U cfg .transposeChars) (Refined S U .transposeChars mode s) (fun _ _ => False) s := by
  obtain ⟨r, l, ns, hk, hh⟩ := transposeChars_refines S U mode s.line hg hj
  show wp (do grouped S U cfg (LB.transposeChars S U); pure Status.proceed : EM Status) _ _ s
  simp only [wp_bind, wp_pure]
  exact wp_grouped_line S U cfg hnp hk fun s' hl => ⟨rfl, hl ▸ hh⟩

/-- the coverage `C01_execute_refines` is stated with: `CoveredAt` plus the case changes (always)
    and transpose-chars in the situations of `JudgedTranspose` -/
def CoveredFull (a : Act) (buf : Text) (pos : Nat) : Prop :=
  match a with
  | .editWord _ => True
  | .transposeChars => JudgedTranspose S buf pos
  | a => CoveredAt S a buf pos

theorem execute_refines_full (hS : S.Stable) (hnl : S.NlAlone) (hnp : cfg.hinterPanicAt = none) (mode : Mode)
    (a : Act) (c : Cmd) (hc : a.toCmd = some c) (s : Ed) (hcov : CoveredFull S a s.line.buf s.line.pos)
    (hwf : WF s.line) (hg : s.line.canGrow = true) (hr : RingOK s.ring) :
    wp (execute S U cfg c) (RefinedAct S U a mode s) (fun _ _ => False) s := by
  cases a with
  | editWord w =>
    have : c = wordCmd w := by cases w <;> (cases hc; rfl)
    subst this
    exact execute_case_refines S U cfg hS hnp mode w s hwf
  | transposeChars =>
    cases hc
    exact execute_transpose_refines S U cfg hnp mode s hg hcov
  | _ => exact execute_refines_all S U cfg hS hnl hnp mode _ c hc s hcov hwf hg hr

theorem key_to_effect_full {km : EM Cmd} (hS : S.Stable) (hnl : S.NlAlone) (hnp : cfg.hinterPanicAt = none) (mode : Mode)
    (a : Act) (c : Cmd) (hc : a.toCmd = some c) (s s1 : Ed) (hcov : CoveredFull S a s.line.buf s.line.pos)
    (hwf : WF s.line) (hg : s.line.canGrow = true) (hr : RingOK s.ring)
    (hkm : km s = .ok (c, s1)) (hl : s1.line = s.line) (hring : s1.ring = s.ring) :
    wp (do let cmd ← km; execute S U cfg cmd) (RefinedAct S U a mode s) (fun _ _ => False) s :=
  key_to_effect_of S U cfg hkm hl
    (execute_refines_full S U cfg hS hnl hnp mode a c hc s1 (hl ▸ hcov) (hl ▸ hwf) (hl ▸ hg) (hring ▸ hr))

end
end Rl
