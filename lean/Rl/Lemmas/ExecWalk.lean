/-
  One walk through `execute` and the edit functions below it (Rl/Editor.lean, `src/edit.rs` and
  `command::execute`), for every predicate `C : EM α → Prop` closed under `pure` and `>>=` at once, in
  the manner of Rl/Lemmas/KeymapWalk.lean.

  Two levels.  `ExecPrims C`: `C` holds of every single effect (the line-buffer calls, the undo-group
  markers, the pieces of a repaint); the frame facts are of this kind.  `ExecUnits C`: `C` holds of the
  coarser units after which the display is whole again (an edit together with its repaint, a motion
  with its cursor update); `lb op` alone breaks "the line is shown" until `refreshLine` restores it, and
  some units pick their operation from the state they run in, so that a fact about the cursor holds
  of the unit and not of the steps.  `ExecPrims.toUnits` derives the second level from the first;
  `ExecUnits.execute_of` is the walk.  The commands that write the kill ring, and `Undo` (which sets
  the state it has read and changed: not a composition of effects `C` could hold of one by one), are
  supplied per command, so that a family that excludes them need not speak of them.
-/
import Rl.Lemmas.KeymapWalk
import Rl.Lemmas.LineBuffer
namespace Rl
open EM

section
variable (S : Segmenter) (U : UData) (cfg : EdCfg)

/-- the motions `edit_move` is called with (and the two line motions that fall back to the history) -/
inductive MoveOp : LM Bool → Prop
  | moveHome : MoveOp (LB.moveHome S U)
  | moveToFirstPrint : MoveOp (LB.moveToFirstPrint S U)
  | moveEnd : MoveOp (LB.moveEnd S U)
  | moveBackward (n : Nat) : MoveOp (LB.moveBackward S U n)
  | moveForward (n : Nat) : MoveOp (LB.moveForward S U n)
  | moveToPrevWord (w : Word) (n : Nat) : MoveOp (LB.moveToPrevWord S U w n)
  | moveToNextWord (a : At) (w : Word) (n : Nat) : MoveOp (LB.moveToNextWord S U a w n)
  | moveToLineUp (n pc : Nat) : MoveOp (LB.moveToLineUp S U n pc)
  | moveToLineDown (n pc : Nat) : MoveOp (LB.moveToLineDown S U n pc)
  | moveBufferStart : MoveOp (LB.moveBufferStart S U)
  | moveBufferEnd : MoveOp (LB.moveBufferEnd S U)
  | moveTo (cs : CharSearch) (n : Nat) : MoveOp (LB.moveTo S U cs n)

/-- the edits that run inside an undo group of their own (`grouped`) -/
inductive GroupOp : LM Bool → Prop
  | transposeChars : GroupOp (LB.transposeChars S U)
  | editWord (a : WordAction) : GroupOp (LB.editWord S U a)
  | transposeWords (n : Nat) : GroupOp (LB.transposeWords S U n)

/-- the line-buffer methods that run with the undo log listening (`lb`) -/
inductive EditOp : {α : Type} → LM α → Prop
  | insert (ch : Char) (n : Nat) : EditOp (LB.insert S U ch n)
  | delete (n : Nat) : EditOp (LB.delete S U n)
  | replace (a b : Nat) (t : Text) : EditOp (LB.replace S U a b t)
  | yank (t : Text) (n : Nat) : EditOp (LB.yank S U t n)
  | yankPop (k : Nat) (t : Text) : EditOp (LB.yankPop S U k t)
  | insertStr (i : Nat) (t : Text) : EditOp (LB.insertStr S U i t)
  | update (b : Text) (p : Nat) : EditOp (LB.update S U b p)
  | indent (m : Movement) (k : Nat) (d : Bool) : EditOp (LB.indent S U m k d)
  | group {op : LM Bool} : GroupOp S U op → EditOp op

section
variable {S U} {C : ∀ {α : Type}, LM α → Prop}

/-- a line-buffer method the editor calls satisfies every `C` that holds of the primitive steps -/
theorem MoveOp.of_prims (h : PosPrims C) {op : LM Bool} (ho : MoveOp S U op) : C op := by
  cases ho with
  | moveHome => exact h.moveHome ..
  | moveToFirstPrint => exact h.moveToFirstPrint ..
  | moveEnd => exact h.moveEnd ..
  | moveBackward n => exact h.moveBackward ..
  | moveForward n => exact h.moveForward ..
  | moveToPrevWord w n => exact h.moveToPrevWord ..
  | moveToNextWord a w n => exact h.moveToNextWord ..
  | moveToLineUp n pc => exact h.moveToLineUp ..
  | moveToLineDown n pc => exact h.moveToLineDown ..
  | moveBufferStart => exact h.moveBufferStart ..
  | moveBufferEnd => exact h.moveBufferEnd ..
  | moveTo cs n => exact h.moveTo ..

theorem GroupOp.of_prims (h : EditPrims C) {op : LM Bool} (ho : GroupOp S U op) : C op := by
  cases ho with
  | transposeChars => exact h.transposeChars ..
  | editWord a => exact h.editWord ..
  | transposeWords n => exact h.transposeWords ..

theorem EditOp.of_prims (h : EditPrims C) {α : Type} {op : LM α} (ho : EditOp S U op) : C op := by
  cases ho with
  | insert ch n => exact h.insert ..
  | delete n => exact h.delete ..
  | replace a b t => exact h.replace ..
  | yank t n => exact h.yank ..
  | yankPop k t => exact h.yankPop ..
  | insertStr i t => exact h.insertStr ..
  | update b p => exact h.update ..
  | indent m k d => exact h.indent ..
  | group g => exact g.of_prims h

end

/-- the commands that write the kill ring -/
inductive RingCmd : Cmd → Prop
  | kill (m : Movement) : RingCmd (.kill m)
  | replace (m : Movement) (t : Option Text) : RingCmd (.replace m t)
  | viYankTo (m : Movement) : RingCmd (.viYankTo m)
  | yank (n : Nat) (a : Anchor) : RingCmd (.yank n a)
  | yankPop : RingCmd .yankPop

/-- what both levels share: the closure, and the effects that are units as they stand -/
structure ExecBase (C : ∀ {α : Type}, EM α → Prop) : Prop where
  pure : ∀ {α : Type} (a : α), C (Pure.pure a : EM α)
  bind : ∀ {α β : Type} {m : EM α} {f : α → EM β}, C m → (∀ a, C (f a)) → C (m >>= f)
  read : ∀ {α : Type} (g : Ed → α), C (fun s => .ok (g s, s) : EM α)
  exit : ∀ {α : Type} (o : Outcome), C (EM.exit o : EM α)
  liftP : ∀ {α : Type} (e : Except Panic α), C (EM.liftP e)
  backup : C (backup S U)
  setHistIdx : ∀ i, C (setHistIdx i)
  changesBegin : C changesBegin
  changesEnd : C changesEnd
  logValidator : ∀ l : LB, C (EM.modify fun s => { s with validatorCalls := l.buf :: s.validatorCalls })

structure ExecPrims (C : ∀ {α : Type}, EM α → Prop) : Prop extends ExecBase S U C where
  lb : ∀ {α : Type} {op : LM α}, EditOp S U op → C (lb S U op)
  lbQuiet : ∀ {op : LM Bool}, MoveOp S U op → C (lbQuiet op)
  setPos : ∀ p, C (Rl.lbQuiet (LB.setPosChecked S U p))
  updateHint : C (Rl.updateHint cfg)
  highlightCharStep : C (Rl.highlightCharStep cfg)
  setRefreshLayout : ∀ p d, C (Rl.setRefreshLayout S U cfg p d)
  logRender : ∀ g, C (Rl.logRender g)
  clearHint : C (EM.modify fun s => { s with hint := none })
  setCursor : ∀ cursor : Pos, C (EM.modify fun s =>
    { s with layoutPromptCol := promptColOf S U cfg cfg.prompt, layoutCursor := cursor })
  advanceCursor : ∀ w : Nat, C (EM.modify fun s =>
    { s with layoutCursor := { s.layoutCursor with col := s.layoutCursor.col + w } })
  resetCursor : C (EM.modify fun s => { s with layoutCursor := {} })

structure ExecUnits (C : ∀ {α : Type}, EM α → Prop) : Prop extends ExecBase S U C where
  refreshLine : C (refreshLine S U cfg)
  refreshLineWithMsg : C (refreshLineWithMsg S U cfg)
  editInsert : ∀ ch n, C (editInsert S U cfg ch n)
  editReplaceChar : ∀ ch n, C (editReplaceChar S U cfg ch n)
  editOverwriteChar : ∀ ch, C (editOverwriteChar S U cfg ch)
  editYank : ∀ t a n, C (editYank S U cfg t a n)
  editYankPop : ∀ k t, C (editYankPop S U cfg k t)
  editInsertText : ∀ t, C (editInsertText S U cfg t)
  completeHintLine : C (completeHintLine S U cfg)
  editHistorySearch : ∀ d, C (editHistorySearch S U cfg d)
  grouped : ∀ {op : LM Bool}, GroupOp S U op → C (grouped S U cfg op)
  editMove : ∀ {op : LM Bool}, MoveOp S U op → C (editMove S U cfg op)
  lineArm : ∀ {op : Nat → LM Bool} {alt : EM Unit}, (∀ pc, MoveOp S U (op pc)) → C alt → C (do
    let pc ← getPromptCol
    if ← lbQuiet (op pc) then moveCursor S U cfg else alt
    Pure.pure Status.proceed : EM Status)
  indent : ∀ m d, C (do
    if ← Rl.lb S U (LB.indent S U m cfg.indentSize d) then Rl.refreshLine S U cfg
    Pure.pure Status.proceed : EM Status)
  showEntryRefresh : ∀ buf, C (showEntry S U buf (blen buf) >>= fun _ => Rl.refreshLine S U cfg)
  restoreRefresh : C (restore S U >>= fun _ => Rl.refreshLine S U cfg)
  clearScreen : C (do
    logRender (fun _ => .clearScreen)
    modify (fun s => { s with layoutCursor := {} })
    Rl.refreshLine S U cfg
    Pure.pure Status.proceed : EM Status)
  interrupt : ∀ {α : Type}, C (do logRender (fun _ => .moveToEnd); EM.exit .interrupted : EM α)

structure RingUnits (C : ∀ {α : Type}, EM α → Prop) : Prop where
  editKill : ∀ m, C (editKill S U cfg m)
  ringYank : C ringYank
  ringYankCount : ∀ n, C (ringYankCount n)
  ringYankPop : C ringYankPop
  ringKill : ∀ t, C (ringKill t)

end

variable {S : Segmenter} {U : UData} {cfg : EdCfg} {C : ∀ {α : Type}, EM α → Prop}

namespace ExecBase
variable (h : ExecBase S U C)
include h

theorem bind' {α β : Type} {m : Ed → Except (Outcome × Ed) (α × Ed)} {f : α → EM β}
    (hm : C (m : EM α)) (hf : ∀ a, C (f a)) : C (@Bind.bind EM _ α β m f) := h.bind hm hf

theorem get : C EM.get := h.read id

end ExecBase

namespace ExecUnits
variable (h : ExecUnits S U cfg C)
include h

theorem validate : C (validate S U cfg) := by
  have r1 : C getLine := h.read _
  have r2 : C hasHint := h.read _
  unfold Rl.validate
  em_walk [h.pure, h.bind, h.exit, h.changesBegin, h.changesEnd, h.logValidator, r1, r2, h.refreshLineWithMsg]

theorem execAccept (aim : Bool) : C (execAccept S U cfg aim) := by
  have r1 : C getLine := h.read _
  have key : ∀ d : AcceptAct, C (match d with
      | .submit => Pure.pure .submit
      | .insertNewline => do Rl.editInsert S U cfg '\n' 1; Pure.pure .proceed
      | .stay => Pure.pure .proceed : EM Status) := fun d => by
    cases d
    · exact h.pure _
    · exact h.bind (h.editInsert _ _) fun _ => h.pure _
    · exact h.pure _
  unfold Rl.execAccept
  exact h.bind h.validate fun v => h.bind r1 fun l => key _

theorem editHistoryNext (prev : Bool) : C (editHistoryNext S U cfg prev) := by
  have r1 : C getHistIdx := h.read _
  unfold Rl.editHistoryNext
  em_walk [h.showEntryRefresh, h.restoreRefresh, h.pure, h.bind, h.backup, h.setHistIdx, r1, h.refreshLine]

theorem editHistory (first : Bool) : C (editHistory S U cfg first) := by
  have r1 : C getHistIdx := h.read _
  unfold Rl.editHistory
  em_walk [h.showEntryRefresh, h.restoreRefresh, h.pure, h.bind, h.backup, h.setHistIdx, r1, h.refreshLine]

/-- **`command::execute`**: the walk.  A ring command asks for the ring units, `Undo` for its arm. -/
theorem execute_of (cmd : Cmd) (hr : RingCmd cmd → RingUnits S U cfg C)
    (hu : ∀ n, cmd = .undo n → C (execute S U cfg (.undo n))) : C (execute S U cfg cmd) := by
  have r1 : C lineEmpty := h.read _
  have r2 : C getPromptCol := h.read _
  have r3 : C getLine := h.read _
  have m1 := fun n b => h.lineArm (op := fun pc => LB.moveToLineUp S U n pc) (fun pc => .moveToLineUp n pc)
    (h.editHistoryNext b)
  have m2 := fun n b => h.lineArm (op := fun pc => LB.moveToLineDown S U n pc) (fun pc => .moveToLineDown n pc)
    (h.editHistoryNext b)
  cases cmd with
  | undo n => exact hu n rfl
  | kill m =>
    have r := hr (.kill m)
    unfold Rl.execute
    em_walk [h.pure, h.bind, r.editKill]
  | replace m t =>
    have r := hr (.replace m t)
    unfold Rl.execute
    em_walk [h.pure, h.bind, h.toExecBase.bind', h.read, r.editKill, h.editInsertText, h.changesEnd]
  | viYankTo m =>
    have r := hr (.viYankTo m)
    unfold Rl.execute
    em_walk [h.pure, h.bind, h.liftP, r3, r.ringKill]
  | yank n a =>
    have r := hr (.yank n a)
    unfold Rl.execute
    em_walk [h.pure, h.bind, r.ringYank, r.ringYankCount, h.editYank]
  | yankPop =>
    have r := hr .yankPop
    unfold Rl.execute
    em_walk [h.pure, h.bind, r.ringYankPop, h.editYankPop]
  | move m =>
    cases m <;> unfold Rl.execute <;>
      em_walk [h.pure, h.bind, r2, h.editMove .moveHome, h.editMove .moveToFirstPrint, h.editMove .moveEnd,
        h.editMove (.moveBackward _), h.editMove (.moveForward _), h.editMove (.moveToPrevWord _ _),
        h.editMove (.moveToNextWord _ _ _), h.editMove (.moveToLineUp _ _), h.editMove (.moveToLineDown _ _),
        h.editMove .moveBufferStart, h.editMove .moveBufferEnd, h.editMove (.moveTo _ _)]
  | _ =>
    unfold Rl.execute
    em_walk [h.clearScreen, h.interrupt, h.indent, m1, m2, h.pure, h.bind, h.toExecBase.get, h.exit, r1, r2,
      h.refreshLine, h.refreshLineWithMsg, h.validate, h.execAccept, h.editInsert, h.editReplaceChar,
      h.editOverwriteChar, h.editYank, h.completeHintLine, h.editHistoryNext, h.editHistory, h.editHistorySearch,
      h.grouped .transposeChars, h.grouped (.editWord _), h.grouped (.transposeWords _)]

theorem execute (r : RingUnits S U cfg C) (hu : ∀ n, C (execute S U cfg (.undo n))) (cmd : Cmd) :
    C (execute S U cfg cmd) :=
  h.execute_of cmd (fun _ => r) fun n _ => hu n

end ExecUnits

namespace ExecPrims
variable (h : ExecPrims S U cfg C)
include h

theorem refreshLine : C (refreshLine S U cfg) := by
  unfold Rl.refreshLine
  em_walk [h.bind, h.updateHint, h.highlightCharStep, h.setRefreshLayout, h.logRender]

theorem refreshLineWithMsg (m : Option Text) : C (refreshLineWithMsg S U cfg m) := by
  unfold Rl.refreshLineWithMsg
  em_walk [h.bind, h.clearHint, h.highlightCharStep, h.setRefreshLayout, h.logRender]

theorem refreshPromptAndLine (p : Text) : C (refreshPromptAndLine S U cfg p) := by
  unfold Rl.refreshPromptAndLine
  em_walk [h.bind, h.updateHint, h.highlightCharStep, h.setRefreshLayout, h.logRender]

theorem moveCursor : C (moveCursor S U cfg) := by
  unfold Rl.moveCursor
  em_walk [h.bind, h.get, h.highlightCharStep, h.setRefreshLayout, h.setCursor, h.logRender]

theorem editInsert (ch : Char) (n : Nat) : C (editInsert S U cfg ch n) := by
  unfold Rl.editInsert
  em_walk [h.pure, h.bind, h.get, h.lb (.insert ch n), h.updateHint, h.highlightCharStep, h.setRefreshLayout,
    h.advanceCursor, h.logRender]

theorem editReplaceChar (ch : Char) (n : Nat) : C (editReplaceChar S U cfg ch n) := by
  have l1 := fun k => h.lb (.insert ch k)
  unfold Rl.editReplaceChar
  em_walk [h.pure, h.bind, h.exit, h.changesBegin, h.changesEnd, h.lb (.delete n), l1, h.lbQuiet (.moveBackward 1),
    h.refreshLine]

theorem editOverwriteChar (ch : Char) : C (editOverwriteChar S U cfg ch) := by
  have r1 : C getLine := h.read _
  have l1 := fun a b => h.lb (.replace a b [ch])
  unfold Rl.editOverwriteChar
  em_walk [h.pure, h.bind, h.liftP, r1, l1, h.refreshLine]

theorem editYank (t : Text) (a : Anchor) (n : Nat) : C (editYank S U cfg t a n) := by
  unfold Rl.editYank
  em_walk [h.pure, h.bind, h.get, h.lb (.yank t n), h.lbQuiet (.moveForward 1), h.lbQuiet (.moveBackward 1), h.setPos,
    h.refreshLine]

theorem editYankPop (k : Nat) (t : Text) : C (editYankPop S U cfg k t) := by
  unfold Rl.editYankPop
  em_walk [h.pure, h.bind, h.changesBegin, h.changesEnd, h.lb (.yankPop k t), h.refreshLine]

theorem editInsertText (t : Text) : C (editInsertText S U cfg t) := by
  have r1 : C getLine := h.read _
  have l1 := fun i => h.lb (.insertStr i t)
  unfold Rl.editInsertText
  em_walk [h.pure, h.bind, r1, l1, h.refreshLine]

theorem completeHintLine : C (completeHintLine S U cfg) := by
  have l1 := fun t => h.lb (.yank t 1)
  unfold Rl.completeHintLine
  em_walk [h.pure, h.bind, h.toExecBase.bind', h.read, h.lbQuiet .moveEnd, l1, h.refreshLine]

theorem grouped {op : LM Bool} (ho : GroupOp S U op) : C (grouped S U cfg op) := by
  unfold Rl.grouped
  em_walk [h.pure, h.bind, h.changesBegin, h.changesEnd, h.lb (.group ho), h.refreshLine]

theorem showEntry (buf : Text) (pos : Nat) : C (showEntry S U buf pos) := by
  unfold Rl.showEntry
  em_walk [h.pure, h.bind, h.changesBegin, h.changesEnd, h.lb (.update buf pos)]

theorem restore : C (restore S U) := by
  have l1 := fun b p => h.lb (.update b p)
  unfold Rl.restore
  em_walk [h.toExecBase.bind', h.read, l1]

theorem editHistorySearch (d : Dir) : C (editHistorySearch S U cfg d) := by
  have r1 : C getLine := h.read _
  have r2 : C getHistIdx := h.read _
  unfold Rl.editHistorySearch
  em_walk [h.pure, h.bind, h.liftP, h.setHistIdx, r1, r2, h.showEntry, h.refreshLine]

theorem toUnits : ExecUnits S U cfg C where
  toExecBase := h.toExecBase
  refreshLine := h.refreshLine
  refreshLineWithMsg := h.refreshLineWithMsg none
  editInsert := h.editInsert
  editReplaceChar := h.editReplaceChar
  editOverwriteChar := h.editOverwriteChar
  editYank := h.editYank
  editYankPop := h.editYankPop
  editInsertText := h.editInsertText
  completeHintLine := h.completeHintLine
  editHistorySearch := h.editHistorySearch
  grouped := h.grouped
  editMove := fun ho => h.bind (h.lbQuiet ho) fun _ => pred_ite (fun _ => h.moveCursor) fun _ => h.pure _
  lineArm := fun ho ha => by
    have r1 : C getPromptCol := h.read _
    em_walk [h.pure, h.bind, r1, h.lbQuiet (ho _), h.moveCursor, ha]
  indent := fun m d => by em_walk [h.pure, h.bind, h.lb (.indent m _ d), h.refreshLine]
  showEntryRefresh := fun buf => h.bind (h.showEntry buf _) fun _ => h.refreshLine
  restoreRefresh := h.bind h.restore fun _ => h.refreshLine
  clearScreen := h.bind (h.logRender _) fun _ => h.bind h.resetCursor fun _ => h.bind h.refreshLine fun _ => h.pure _
  interrupt := h.bind (h.logRender _) fun _ => h.exit _

theorem editKill (hk : ∀ m, C (lbKill S U (LB.kill S U m))) (m : Movement) : C (editKill S U cfg m) := by
  unfold Rl.editKill
  em_walk [h.pure, h.bind, hk, h.refreshLine]

end ExecPrims

end Rl
