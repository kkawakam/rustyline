/-
  Lemmas about `Sys` of Rl/FileSession.lean (sessions sharing one history file), for property C11:
  `save` / `append` / `load` as equations (`save_eq`, `append_eq` with `appendOut`, `load_eq`), what
  a step leaves alone (`step_cases`, `step_other`), and the invariants of `Sys.run`:
    `WellFormed`  the file is `fileOf es` for non-empty `es`; no store holds an empty line
    `SessOk`      per session: store within its limit, `new_entries ≤ len`
    `Good`        `WellFormed` and `SessOk` of every session
    `Accurate`    a remembered (mtime, size) that still matches the file has the right size —
                  needs distinguishable modification times (`Dist`, `DistRun`)
    `Bounded`     the file is the initial one or fits some session's limit.
  Needs Rl/Lemmas/HistFile.lean (`fileOf`, `Storable`, `loadFrom_fileOf_ok`) and the store lemmas of
  Rl/Lemmas/History.lean, Rl/Lemmas/HistoryLog.lean.
-/
import Rl.FileSession
import Rl.Spec.FileSession
import Rl.Lemmas.History
import Rl.Lemmas.HistoryLog
import Rl.Lemmas.HistFile
namespace Rl.FS
open Rl Rl.Spec

@[simp] theorem setSess_same (s : Sys) (i : Nat) (x : Sess) : (s.setSess i x).sess i = x := by
  simp [Sys.setSess]
theorem setSess_other (s : Sys) {i j : Nat} (x : Sess) (h : j ≠ i) : (s.setSess i x).sess j = s.sess j := by
  simp [Sys.setSess, h]
@[simp] theorem setSess_file (s : Sys) (i : Nat) (x : Sess) : (s.setSess i x).file = s.file := rfl
@[simp] theorem setSess_clock (s : Sys) (i : Nat) (x : Sess) : (s.setSess i x).clock = s.clock := rfl
@[simp] theorem write_file (s : Sys) (c : List Atom) (mt : Nat) :
    (s.write c mt).file = some { content := c, mtime := mt } := rfl
@[simp] theorem write_sess (s : Sys) (c : List Atom) (mt : Nat) : (s.write c mt).sess = s.sess := rfl
@[simp] theorem write_clock (s : Sys) (c : List Atom) (mt : Nat) : (s.write c mt).clock = max s.clock mt := rfl

theorem touch_sess (s : Sys) (mt : Nat) : (s.touch mt).sess = s.sess := by
  unfold Sys.touch; split <;> rfl

theorem touch_file (s : Sys) (mt : Nat) :
    (s.touch mt).file = s.file.map (fun f => { f with mtime := mt }) := by
  unfold Sys.touch; split <;> (rename_i h; rw [h]; rfl)

/-- "session `i` has nothing to write" — the early return of `save` and `append` -/
def nothingNew (s : Sys) (i : Nat) : Bool :=
  (s.sess i).fh.mem.entries.isEmpty || (s.sess i).fh.newEntries == 0

/-- for `simp only`: read the test of the early return, wherever a call unfolds to it, as `nothingNew` -/
theorem nothingNew_fold (s : Sys) (i : Nat) :
    ((s.sess i).fh.mem.entries.isEmpty || (s.sess i).fh.newEntries == 0) = nothingNew s i := rfl

theorem nothingNew_congr {s s' : Sys} {i : Nat} (h : s'.sess i = s.sess i) : nothingNew s' i = nothingNew s i := by
  unfold nothingNew; rw [h]

theorem nothingNew_iff (s : Sys) (i : Nat) (h : (s.sess i).fh.newEntries ≤ (s.sess i).fh.mem.entries.length) :
    nothingNew s i = true ↔ (s.sess i).fh.newEntries = 0 := by
  unfold nothingNew
  rw [Bool.or_eq_true, List.isEmpty_iff, beq_iff_eq]
  constructor
  · rintro (h1 | h1)
    · rw [h1] at h; exact Nat.le_zero.mp h
    · exact h1
  · exact Or.inr

theorem nothingNew_false (s : Sys) (i : Nat) (h : (s.sess i).fh.newEntries ≤ (s.sess i).fh.mem.entries.length)
    (hnew : (s.sess i).fh.newEntries ≠ 0) : nothingNew s i = false :=
  Bool.eq_false_iff.mpr (fun hn => hnew ((nothingNew_iff s i h).mp hn))

/-- no empty line (an empty line cannot be stored, and would not survive the file) -/
def NonEmpty (es : List Text) : Prop := ∀ e ∈ es, e ≠ []

theorem NonEmpty.append {a b : List Text} (ha : NonEmpty a) (hb : NonEmpty b) : NonEmpty (a ++ b) := by
  intro e he
  rcases List.mem_append.mp he with h | h
  · exact ha e h
  · exact hb e h

theorem NonEmpty.drop {a : List Text} (ha : NonEmpty a) (k : Nat) : NonEmpty (a.drop k) :=
  fun e he => ha e (List.mem_of_mem_drop he)

theorem mem_add_nonempty (ws : Char → Bool) (m : MemHist) (l : Text) (h : NonEmpty m.entries) :
    NonEmpty (m.add ws l).1.entries := by
  intro e he
  rcases mem_of_mem_add ws m l e he with he | ⟨rfl, hig⟩
  · exact h e he
  · obtain ⟨_, c, t, rfl, _⟩ := (ignore_eq_false_iff ws m e).mp hig
    exact List.cons_ne_nil c t

theorem add_nonempty (ws : Char → Bool) (f : FileHist) (l : Text) (h : NonEmpty f.mem.entries) :
    NonEmpty (f.add ws l).1.mem.entries := by
  rw [(FileHist.add_mem ws f l).1]; exact mem_add_nonempty ws f.mem l h

theorem addAll_nonempty (ws : Char → Bool) (ls : List Text) (f : FileHist) (h : NonEmpty f.mem.entries) :
    NonEmpty (addAll ws f ls).mem.entries := by
  induction ls generalizing f with
  | nil => exact h
  | cons l ls ih => exact ih _ (add_nonempty ws f l h)

theorem newOnes_nonempty (f : FileHist) (h : NonEmpty f.mem.entries) : NonEmpty (newOnes f) :=
  h.drop _

theorem addAll_mem_congr (ws : Char → Bool) (ls : List Text) (f g : FileHist) (h : f.mem = g.mem) :
    (addAll ws f ls).mem = (addAll ws g ls).mem := by
  induction ls generalizing f g with
  | nil => exact h
  | cons l ls ih =>
    apply ih
    rw [(FileHist.add_mem ws f l).1, (FileHist.add_mem ws g l).1, h]

theorem fileOf_append_lines (es news : List Text) :
    atomsOf (fileOf es) ++ atomsOf (linesOf news) = atomsOf (fileOf (es ++ news)) := by
  simp [fileOf, linesOf, atomsOf]

/-- the file exists and is what `save_to` writes for the entries `es` -/
def FileIs (s : Sys) (es : List Text) : Prop := ∃ m, s.file = some { content := atomsOf (fileOf es), mtime := m }

/-- the file, if any, was written by this library from non-empty entries, and no store holds an
    empty line -/
def WellFormed (s : Sys) : Prop :=
  (s.file = none ∨ ∃ es, FileIs s es ∧ NonEmpty es) ∧ ∀ i, NonEmpty (s.sess i).fh.mem.entries

/-- What `append` by session `x` makes of a file holding `es` with modification time `fm`:
    the entries of the new file and the size `update_path` records. -/
def appendOut (ws : Char → Bool) (x : Sess) (fm : Nat) (es : List Text) : List Text × Nat :=
  let h := x.fh
  if h.newEntries == h.mem.maxLen then (h.mem.entries, h.mem.entries.length)
  else if canJustAppend x { content := atomsOf (fileOf es), mtime := fm } then
    (es ++ newOnes h, (x.pathInfo.map (·.2)).getD 0 + h.newEntries)
  else
    let other := addAll ws { addAll ws (freshHist h) es with newEntries := 0 } (newOnes h)
    (other.mem.entries, other.mem.entries.length)

/-- the state after session `i` has written the file `fileOf es'` at time `mt` and recorded
    `size`: what the locked part of `save` and of `append` comes to -/
def Sys.wrote (s : Sys) (i : Nat) (es' : List Text) (mt size : Nat) : Sys :=
  (s.write (atomsOf (fileOf es')) mt).setSess i
    { fh := { (s.sess i).fh with newEntries := 0 }, pathInfo := some (mt, size) }

theorem wrote_sess_same (s : Sys) (i : Nat) (es' : List Text) (mt size : Nat) :
    (s.wrote i es' mt size).sess i
      = { fh := { (s.sess i).fh with newEntries := 0 }, pathInfo := some (mt, size) } :=
  setSess_same ..

theorem wrote_sess_other (s : Sys) {i j : Nat} (es' : List Text) (mt size : Nat) (h : j ≠ i) :
    (s.wrote i es' mt size).sess j = s.sess j :=
  setSess_other _ _ h

theorem wrote_mem (s : Sys) (i : Nat) (es' : List Text) (mt size j : Nat) :
    ((s.wrote i es' mt size).sess j).fh.mem = (s.sess j).fh.mem := by
  by_cases hj : j = i
  · subst hj; rw [wrote_sess_same]
  · rw [wrote_sess_other s es' mt size hj]

theorem wrote_fileIs (s : Sys) (i : Nat) (es' : List Text) (mt size : Nat) :
    FileIs (s.wrote i es' mt size) es' := ⟨mt, rfl⟩

theorem wrote_file_some (s : Sys) (i : Nat) (es' : List Text) (mt size : Nat) :
    (s.wrote i es' mt size).file.isSome = true := rfl

theorem touch_fileIs (s : Sys) (mt : Nat) {F : List Text} (h : FileIs s F) : FileIs (s.touch mt) F := by
  obtain ⟨m, hf⟩ := h
  exact ⟨mt, by rw [touch_file, hf]; rfl⟩

theorem save_eq (s : Sys) (i mt : Nat) (hnew : nothingNew s i = false) :
    s.save i mt = (s.wrote i (s.sess i).fh.mem.entries mt (s.sess i).fh.mem.entries.length, .ok) := by
  simp only [Sys.save, nothingNew_fold, hnew, Bool.false_eq_true, if_false, Sys.saveWrite, Sys.wrote]

theorem save_nothing (s : Sys) (i mt : Nat) (hnew : nothingNew s i = true) : s.save i mt = (s, .ok) := by
  simp only [Sys.save, nothingNew_fold, hnew, if_true]

theorem append_eq (ws : Char → Bool) (s : Sys) (i mt fm : Nat) (es : List Text)
    (hf : s.file = some { content := atomsOf (fileOf es), mtime := fm }) (hne : NonEmpty es)
    (hnew : nothingNew s i = false) :
    s.append ws i mt
      = (s.wrote i (appendOut ws (s.sess i) fm es).1 mt (appendOut ws (s.sess i) fm es).2, .ok) := by
  unfold Sys.append appendOut
  simp only [nothingNew_fold, hnew, Bool.false_eq_true, if_false, hf]
  by_cases hmax : ((s.sess i).fh.newEntries == (s.sess i).fh.mem.maxLen) = true
  · simp only [hmax, if_true]; exact save_eq s i mt hnew
  · simp only [hmax, Bool.false_eq_true, if_false]
    unfold Sys.appendLocked
    by_cases hc : canJustAppend (s.sess i) { content := atomsOf (fileOf es), mtime := fm } = true
    · simp only [hc, if_true, Sys.wrote, fileOf_append_lines]
    · simp only [hc, Bool.false_eq_true, if_false, loadFrom_fileOf_ok ws es hne, Sys.wrote]
      simp

theorem append_missing (ws : Char → Bool) (s : Sys) (i mt : Nat) (hf : s.file = none)
    (hnew : nothingNew s i = false) :
    s.append ws i mt = (s.wrote i (s.sess i).fh.mem.entries mt (s.sess i).fh.mem.entries.length, .ok) := by
  simp only [Sys.append, nothingNew_fold, hnew, Bool.false_eq_true, if_false, hf]
  exact save_eq s i mt hnew

theorem append_nothing (ws : Char → Bool) (s : Sys) (i mt : Nat) (hnew : nothingNew s i = true) :
    s.append ws i mt = (s, .ok) := by
  simp only [Sys.append, nothingNew_fold, hnew, if_true]

theorem load_missing (ws : Char → Bool) (s : Sys) (i : Nat) (hf : s.file = none) :
    s.load ws i = (s, .io) := by
  simp only [Sys.load, hf]

theorem load_file (ws : Char → Bool) (s : Sys) (i : Nat) : (s.load ws i).1.file = s.file := by
  unfold Sys.load
  split
  · rfl
  · simp only []
    split
    · split <;> rfl
    · rfl

theorem load_eq (ws : Char → Bool) (s : Sys) (i fm : Nat) (es : List Text)
    (hf : s.file = some { content := atomsOf (fileOf es), mtime := fm }) (hne : NonEmpty es) :
    s.load ws i = (s.setSess i
      { fh := { addAll ws (s.sess i).fh es with newEntries := 0 },
        pathInfo := if acceptAll ws (s.sess i).fh es then
            some (fm, (addAll ws (s.sess i).fh es).mem.entries.length - (s.sess i).fh.mem.entries.length)
          else none }, .ok) := by
  simp only [Sys.load, hf, loadFrom_fileOf_ok ws es hne, if_true]
  cases acceptAll ws (s.sess i).fh es <;> rfl

theorem slow_entries (ws : Char → Bool) (h : FileHist) (es news : List Text) :
    (addAll ws { addAll ws (freshHist h) es with newEntries := 0 } news).mem
      = (addAll ws (freshHist h) (es ++ news)).mem := by
  rw [addAll_append]
  exact addAll_mem_congr ws news _ _ rfl

/-- `appendOut` path by path: the `save` shortcut when everything in memory is new, the fast path
    when `can_just_append` holds, otherwise the file is rebuilt in a fresh history -/
theorem appendOut_eq (ws : Char → Bool) (x : Sess) (fm : Nat) (es : List Text) :
    (x.fh.newEntries = x.fh.mem.maxLen ∧
      appendOut ws x fm es = (x.fh.mem.entries, x.fh.mem.entries.length)) ∨
    (canJustAppend x { content := atomsOf (fileOf es), mtime := fm } = true ∧
      appendOut ws x fm es = (es ++ newOnes x.fh, (x.pathInfo.map (·.2)).getD 0 + x.fh.newEntries)) ∨
    appendOut ws x fm es = ((addAll ws (freshHist x.fh) (es ++ newOnes x.fh)).mem.entries,
      (addAll ws (freshHist x.fh) (es ++ newOnes x.fh)).mem.entries.length) := by
  unfold appendOut
  by_cases h1 : (x.fh.newEntries == x.fh.mem.maxLen) = true
  · exact Or.inl ⟨beq_iff_eq.mp h1, by simp only [h1, if_true]⟩
  · by_cases h2 : canJustAppend x { content := atomsOf (fileOf es), mtime := fm } = true
    · exact Or.inr (Or.inl ⟨h2, by simp only [h1, h2, if_true, Bool.false_eq_true, if_false]⟩)
    · refine Or.inr (Or.inr ?_)
      simp only [h1, h2, Bool.false_eq_true, if_false, slow_entries]

theorem freshHist_nonempty (h : FileHist) : NonEmpty (freshHist h).mem.entries :=
  fun _ he => nomatch he

theorem appendOut_nonempty (ws : Char → Bool) (x : Sess) (fm : Nat) (es : List Text)
    (hx : NonEmpty x.fh.mem.entries) (hes : NonEmpty es) : NonEmpty (appendOut ws x fm es).1 := by
  rcases appendOut_eq ws x fm es with ⟨_, e⟩ | ⟨_, e⟩ | e <;> rw [e]
  · exact hx
  · exact hes.append (newOnes_nonempty _ hx)
  · exact addAll_nonempty ws _ _ (freshHist_nonempty _)

theorem save_cases (s : Sys) (i mt : Nat) (hw : WellFormed s) :
    (nothingNew s i = true ∧ s.save i mt = (s, .ok)) ∨
    (nothingNew s i = false ∧ ∃ es' size, s.save i mt = (s.wrote i es' mt size, .ok) ∧ NonEmpty es') := by
  cases hnew : nothingNew s i
  · exact Or.inr ⟨rfl, _, _, save_eq s i mt hnew, hw.2 i⟩
  · exact Or.inl ⟨rfl, save_nothing s i mt hnew⟩

theorem append_cases (ws : Char → Bool) (s : Sys) (i mt : Nat) (hw : WellFormed s) :
    (nothingNew s i = true ∧ s.append ws i mt = (s, .ok)) ∨
    (nothingNew s i = false ∧
      ∃ es' size, s.append ws i mt = (s.wrote i es' mt size, .ok) ∧ NonEmpty es') := by
  cases hnew : nothingNew s i
  · refine Or.inr ⟨rfl, ?_⟩
    rcases hw.1 with hnone | ⟨es, ⟨fm, hf⟩, hne⟩
    · exact ⟨_, _, append_missing ws s i mt hnone hnew, hw.2 i⟩
    · exact ⟨_, _, append_eq ws s i mt fm es hf hne hnew, appendOut_nonempty ws _ fm es (hw.2 i) hne⟩
  · exact Or.inl ⟨rfl, append_nothing ws s i mt hnew⟩

/-- the operation is a call of session `i` -/
def opOf (i : Nat) : Op → Bool
  | .load j | .add j _ | .append j _ | .save j _ => j == i
  | .touch _ => false

theorem step_cases (ws : Char → Bool) (s : Sys) (op : Op) (hw : WellFormed s) :
    (s.step ws op).1 = s ∨
    (∃ i x ls, opOf i op = true ∧ (s.step ws op).1 = s.setSess i x ∧
      x.fh.mem = (addAll ws (s.sess i).fh ls).mem ∧
      x.fh.newEntries ≤ (addAll ws (s.sess i).fh ls).newEntries) ∨
    (∃ i es' mt size, opOf i op = true ∧ (s.step ws op).1 = s.wrote i es' mt size ∧ NonEmpty es') ∨
    (∃ mt, (s.step ws op).1 = s.touch mt) := by
  cases op with
  | load i =>
    rcases hw.1 with hnone | ⟨es, ⟨fm, hf⟩, hne⟩
    · exact Or.inl (congrArg Prod.fst (load_missing ws s i hnone))
    · exact Or.inr (Or.inl ⟨i, _, es, beq_self_eq_true i, congrArg Prod.fst (load_eq ws s i fm es hf hne), rfl,
        Nat.zero_le _⟩)
  | add i l => exact Or.inr (Or.inl ⟨i, _, [l], beq_self_eq_true i, rfl, rfl, Nat.le_refl _⟩)
  | append i mt =>
    rcases append_cases ws s i mt hw with ⟨_, h⟩ | ⟨_, es', size, h, hne⟩
    · exact Or.inl (congrArg Prod.fst h)
    · exact Or.inr (Or.inr (Or.inl ⟨i, es', mt, size, beq_self_eq_true i, congrArg Prod.fst h, hne⟩))
  | save i mt =>
    rcases save_cases s i mt hw with ⟨_, h⟩ | ⟨_, es', size, h, hne⟩
    · exact Or.inl (congrArg Prod.fst h)
    · exact Or.inr (Or.inr (Or.inl ⟨i, es', mt, size, beq_self_eq_true i, congrArg Prod.fst h, hne⟩))
  | touch mt => exact Or.inr (Or.inr (Or.inr ⟨mt, rfl⟩))

theorem step_other (ws : Char → Bool) (s : Sys) (i : Nat) (op : Op) (hw : WellFormed s)
    (h : opOf i op = false) : (s.step ws op).1.sess i = s.sess i := by
  have ne : ∀ k, opOf k op = true → i ≠ k := fun k hk e => by rw [e, hk] at h; cases h
  rcases step_cases ws s op hw with e | ⟨k, x, _, hk, e, _⟩ | ⟨k, es', mt, size, hk, e, _⟩ | ⟨mt, e⟩ <;> rw [e]
  · exact setSess_other _ _ (ne k hk)
  · exact wrote_sess_other s es' mt size (ne k hk)
  · rw [touch_sess]

theorem wrote_wellFormed (s : Sys) (i : Nat) (es' : List Text) (mt size : Nat)
    (hw : WellFormed s) (hes : NonEmpty es') : WellFormed (s.wrote i es' mt size) :=
  ⟨Or.inr ⟨es', wrote_fileIs .., hes⟩, fun j => by rw [wrote_mem]; exact hw.2 j⟩

theorem setSess_wellFormed (s : Sys) (i : Nat) (x : Sess) (hw : WellFormed s)
    (hx : NonEmpty x.fh.mem.entries) : WellFormed (s.setSess i x) := by
  refine ⟨hw.1, fun j => ?_⟩
  by_cases hj : j = i
  · subst hj; rw [setSess_same]; exact hx
  · rw [setSess_other _ _ hj]; exact hw.2 j

theorem touch_wellFormed (s : Sys) (mt : Nat) (hw : WellFormed s) : WellFormed (s.touch mt) := by
  refine ⟨hw.1.imp (fun h => by rw [touch_file, h]; rfl) (fun ⟨es, hf, hne⟩ => ⟨es, touch_fileIs s mt hf, hne⟩),
    fun i => by rw [touch_sess]; exact hw.2 i⟩

theorem step_wellFormed (ws : Char → Bool) (s : Sys) (op : Op) (hw : WellFormed s) :
    WellFormed (s.step ws op).1 := by
  rcases step_cases ws s op hw with h | ⟨i, x, ls, _, h, hm, _⟩ | ⟨i, es', mt, size, _, h, hne⟩ | ⟨mt, h⟩ <;> rw [h]
  · exact hw
  · exact setSess_wellFormed s i x hw (by rw [hm]; exact addAll_nonempty ws ls _ (hw.2 i))
  · exact wrote_wellFormed s i es' mt size hw hne
  · exact touch_wellFormed s mt hw

theorem run_wellFormed (ws : Char → Bool) (ops : List Op) (s : Sys) (hw : WellFormed s) :
    WellFormed (s.run ws ops) := by
  induction ops generalizing s with
  | nil => exact hw
  | cons op ops ih => exact ih _ (step_wellFormed ws s op hw)

/-- the settings of a store, as the spec's configuration -/
def cfgOf (m : MemHist) : Spec.FS.Cfg := { max := m.maxLen, isp := m.ignoreSpace, idp := m.ignoreDups }

theorem maxLen_of_cfgOf {a b : MemHist} (h : cfgOf a = cfgOf b) : a.maxLen = b.maxLen :=
  congrArg Spec.FS.Cfg.max h

theorem add_cfgOf (ws : Char → Bool) (f : FileHist) (l : Text) : cfgOf (f.add ws l).1.mem = cfgOf f.mem := by
  obtain ⟨h1, h2, h3⟩ := add_cfg ws f.mem l
  rw [(FileHist.add_mem ws f l).1]
  simp only [cfgOf, h1, h2, h3]

theorem addAll_cfgOf (ws : Char → Bool) (ls : List Text) (f : FileHist) :
    cfgOf (addAll ws f ls).mem = cfgOf f.mem := by
  induction ls generalizing f with
  | nil => rfl
  | cons l ls ih => exact (ih _).trans (add_cfgOf ws f l)

theorem mem_add_spec (ws : Char → Bool) (m : MemHist) (hi : m.entries.length ≤ m.maxLen) (l : Text) :
    (m.add ws l).1.entries = (Spec.FS.accept ws (cfgOf m) m.entries l).getD m.entries ∧
    (m.add ws l).2 = (Spec.FS.accept ws (cfgOf m) m.entries l).isSome := by
  unfold Spec.FS.accept cfgOf
  simp only [refused_eq_ignore ws m l]
  cases hg : m.ignore ws l
  · rw [add_of_not_ignore hg, insert_entries hi ((ignore_eq_false_iff ws m l).mp hg).1]
    exact ⟨rfl, rfl⟩
  · rw [add_of_ignore hg]; exact ⟨rfl, rfl⟩

theorem addAll_spec (ws : Char → Bool) (ls : List Text) (f : FileHist)
    (hi : f.mem.entries.length ≤ f.mem.maxLen) :
    (addAll ws f ls).mem.entries = Spec.FS.addsTo ws (cfgOf f.mem) f.mem.entries ls ∧
    (addAll ws f ls).mem.entries.length ≤ (addAll ws f ls).mem.maxLen := by
  induction ls generalizing f with
  | nil => exact ⟨rfl, hi⟩
  | cons l ls ih =>
    have hm := (FileHist.add_mem ws f l).1
    have := ih (f.add ws l).1 (by rw [hm]; exact add_inv ws hi l)
    refine ⟨?_, this.2⟩
    simp only [addAll]
    rw [this.1, add_cfgOf, hm, (mem_add_spec ws f.mem hi l).1]
    rfl

theorem addsTo_append (ws : Char → Bool) (c : Spec.FS.Cfg) (m a b : List Text) :
    Spec.FS.addsTo ws c m (a ++ b) = Spec.FS.addsTo ws c (Spec.FS.addsTo ws c m a) b := by
  simp [Spec.FS.addsTo, List.foldl_append]

theorem slow_spec (ws : Char → Bool) (h : FileHist) (ls : List Text) :
    (addAll ws (freshHist h) ls).mem.entries = Spec.FS.addsTo ws (cfgOf h.mem) [] ls ∧
    (addAll ws (freshHist h) ls).mem.entries.length ≤ h.mem.maxLen := by
  have hs := addAll_spec ws ls (freshHist h) (Nat.zero_le _)
  rw [maxLen_of_cfgOf (addAll_cfgOf ws ls (freshHist h))] at hs
  exact hs

/-- what the code maintains about one session: the size bound of the store and `new_entries <= len` -/
def SessOk (x : Sess) : Prop :=
  x.fh.mem.entries.length ≤ x.fh.mem.maxLen ∧ x.fh.newEntries ≤ x.fh.mem.entries.length

theorem newOnes_length (f : FileHist) (h : f.newEntries ≤ f.mem.entries.length) :
    (newOnes f).length = f.newEntries := by
  simp [newOnes]; omega

theorem newOnes_full {x : Sess} (hx : SessOk x) (h : x.fh.newEntries = x.fh.mem.maxLen) :
    newOnes x.fh = x.fh.mem.entries := by
  have hlen : x.fh.mem.entries.length - x.fh.newEntries = 0 := by have := hx.1; omega
  rw [newOnes, hlen]; rfl

theorem appendOut_cases (ws : Char → Bool) (x : Sess) (fm : Nat) (es : List Text) (hx : SessOk x) :
    (appendOut ws x fm es).1 = es ++ newOnes x.fh ∨
    (appendOut ws x fm es).1 = Spec.FS.addsTo ws (cfgOf x.fh.mem) [] (es ++ newOnes x.fh) ∨
    ((newOnes x.fh).length = x.fh.mem.maxLen ∧ (appendOut ws x fm es).1 = newOnes x.fh) := by
  rcases appendOut_eq ws x fm es with ⟨h1, e⟩ | ⟨_, e⟩ | e <;> rw [e]
  · exact Or.inr (Or.inr ⟨by rw [newOnes_length _ hx.2, h1], (newOnes_full hx h1).symm⟩)
  · exact Or.inl rfl
  · exact Or.inr (Or.inl (slow_spec ws x.fh _).1)

theorem appendOut_shapeOk (ws : Char → Bool) (x : Sess) (fm : Nat) (es : List Text) (hx : SessOk x) :
    Spec.FS.shapeOk ws (cfgOf x.fh.mem) es (newOnes x.fh) (appendOut ws x fm es).1 = true := by
  unfold Spec.FS.shapeOk
  rcases appendOut_cases ws x fm es hx with h | h | ⟨h1, h2⟩
  · simp [h]
  · simp [h]
  · simp [h1, h2, cfgOf]

theorem appendOut_fits (ws : Char → Bool) (x : Sess) (fm : Nat) (es : List Text) (hx : SessOk x)
    (hs : Storable ws x.fh.mem.maxLen x.fh.mem.ignoreSpace x.fh.mem.ignoreDups (es ++ newOnes x.fh)) :
    (appendOut ws x fm es).1 = es ++ newOnes x.fh := by
  rcases appendOut_eq ws x fm es with ⟨h1, e⟩ | ⟨_, e⟩ | e <;> rw [e]
  · -- the new lines alone fill the limit: the file was empty
    have hl := hs.1
    rw [List.length_append, newOnes_length _ hx.2] at hl
    have : es = [] := List.eq_nil_of_length_eq_zero (by omega)
    rw [this, newOnes_full hx h1]; rfl
  · exact (addAll_storable ws (es ++ newOnes x.fh) [] (freshHist x.fh) rfl hs).1

/-- the invariant of `Sys.run` that needs no hypothesis on the trace (`step_good`) -/
def Good (s : Sys) : Prop := WellFormed s ∧ ∀ i, SessOk (s.sess i)

theorem add_sessOk (ws : Char → Bool) (f : FileHist) (l : Text)
    (h : f.mem.entries.length ≤ f.mem.maxLen ∧ f.newEntries ≤ f.mem.entries.length) :
    (f.add ws l).1.mem.entries.length ≤ (f.add ws l).1.mem.maxLen ∧
    (f.add ws l).1.newEntries ≤ (f.add ws l).1.mem.entries.length := by
  refine ⟨by rw [(FileHist.add_mem ws f l).1]; exact add_inv ws h.1 l, ?_⟩
  unfold FileHist.add
  cases hadd : f.mem.add ws l with
  | mk m ok =>
    cases ok
    · exact h.2
    · exact Nat.min_le_right _ _

theorem addAll_sessOk (ws : Char → Bool) (ls : List Text) (f : FileHist)
    (h : f.mem.entries.length ≤ f.mem.maxLen ∧ f.newEntries ≤ f.mem.entries.length) :
    (addAll ws f ls).mem.entries.length ≤ (addAll ws f ls).mem.maxLen ∧
    (addAll ws f ls).newEntries ≤ (addAll ws f ls).mem.entries.length := by
  induction ls generalizing f with
  | nil => exact h
  | cons l ls ih => exact ih _ (add_sessOk ws f l h)

theorem setSess_good (s : Sys) (i : Nat) (x : Sess) (hg : Good s)
    (hx : NonEmpty x.fh.mem.entries) (hx' : SessOk x) : Good (s.setSess i x) := by
  refine ⟨setSess_wellFormed s i x hg.1 hx, fun j => ?_⟩
  by_cases hj : j = i
  · subst hj; rw [setSess_same]; exact hx'
  · rw [setSess_other _ _ hj]; exact hg.2 j

theorem wrote_good (s : Sys) (i : Nat) (es' : List Text) (mt size : Nat)
    (hg : Good s) (hes : NonEmpty es') : Good (s.wrote i es' mt size) := by
  refine ⟨wrote_wellFormed s i es' mt size hg.1 hes, fun j => ?_⟩
  by_cases hj : j = i
  · subst hj; rw [wrote_sess_same]; exact ⟨(hg.2 j).1, Nat.zero_le _⟩
  · rw [wrote_sess_other s es' mt size hj]; exact hg.2 j

theorem step_good (ws : Char → Bool) (s : Sys) (op : Op) (hg : Good s) : Good (s.step ws op).1 := by
  rcases step_cases ws s op hg.1 with h | ⟨i, x, ls, _, h, hm, hn⟩ | ⟨i, es', mt, size, _, h, hne⟩ | ⟨mt, h⟩ <;> rw [h]
  · exact hg
  · have hok := addAll_sessOk ws ls _ (hg.2 i)
    rw [← hm] at hok
    exact setSess_good s i x hg (by rw [hm]; exact addAll_nonempty ws ls _ (hg.1.2 i))
      ⟨hok.1, Nat.le_trans hn hok.2⟩
  · exact wrote_good s i es' mt size hg hne
  · exact ⟨touch_wellFormed s mt hg.1, fun j => by rw [touch_sess]; exact hg.2 j⟩

theorem run_good (ws : Char → Bool) (ops : List Op) (s : Sys) (hg : Good s) : Good (s.run ws ops) := by
  induction ops generalizing s with
  | nil => exact hg
  | cons op ops ih => exact ih _ (step_good ws s op hg)

theorem init_good (es : List Text) (m : Nat) (cfg : Nat → Nat × Bool × Bool) (hne : NonEmpty es) :
    Good (Sys.init (some { content := atomsOf (fileOf es), mtime := m }) cfg) := by
  refine ⟨⟨Or.inr ⟨es, ⟨m, rfl⟩, hne⟩, fun i => ?_⟩, fun i => ?_⟩
  · simp [Sys.init, FileHist.new, MemHist.new, NonEmpty]
  · simp [Sys.init, FileHist.new, MemHist.new, SessOk]

theorem init_good_missing (cfg : Nat → Nat × Bool × Bool) : Good (Sys.init none cfg) := by
  refine ⟨⟨Or.inl rfl, fun i => ?_⟩, fun i => ?_⟩
  · simp [Sys.init, FileHist.new, MemHist.new, NonEmpty]
  · simp [Sys.init, FileHist.new, MemHist.new, SessOk]

theorem step_file_some (ws : Char → Bool) (s : Sys) (op : Op) (hw : WellFormed s)
    (h : s.file.isSome = true) : (s.step ws op).1.file.isSome = true := by
  rcases step_cases ws s op hw with e | ⟨i, x, _, _, e, _⟩ | ⟨i, es', mt, size, _, e, _⟩ | ⟨mt, e⟩ <;> rw [e]
  · exact h
  · exact h
  · rfl
  · rw [touch_file, Option.isSome_map]; exact h

theorem run_file_some (ws : Char → Bool) (ops : List Op) (s : Sys) (hw : WellFormed s)
    (h : s.file.isSome = true) : (s.run ws ops).file.isSome = true := by
  induction ops generalizing s with
  | nil => exact h
  | cons op ops ih => exact ih _ (step_wellFormed ws s op hw) (step_file_some ws s op hw h)

theorem canJustAppend_iff (x : Sess) (f : FileVal) :
    canJustAppend x f = true ↔ ∃ pm size, x.pathInfo = some (pm, size) ∧ pm = f.mtime ∧
      size < x.fh.mem.maxLen ∧ size + x.fh.newEntries ≤ x.fh.mem.maxLen := by
  unfold canJustAppend
  cases hp : x.pathInfo with
  | none => simp
  | some p =>
    obtain ⟨pm, size⟩ := p
    simp only [Option.some.injEq, Prod.mk.injEq]
    constructor
    · intro h
      refine ⟨pm, size, ⟨rfl, rfl⟩, ?_⟩
      simp at h
      omega
    · rintro ⟨pm', size', ⟨rfl, rfl⟩, h1, h2, h3⟩
      simp; omega

theorem acceptAll_length (ws : Char → Bool) (es : List Text) (f : FileHist)
    (hi : f.mem.entries.length ≤ f.mem.maxLen) (ha : acceptAll ws f es = true) :
    (addAll ws f es).mem.entries.length = min (f.mem.entries.length + es.length) f.mem.maxLen := by
  induction es generalizing f with
  | nil => exact (Nat.min_eq_left hi).symm
  | cons e es ih =>
    simp only [acceptAll, Bool.and_eq_true] at ha
    have hm := FileHist.add_mem ws f e
    have hacc : (f.mem.add ws e).1.entries = Spec.takeLast f.mem.maxLen (f.mem.entries ++ [e]) := by
      cases hig : f.mem.ignore ws e
      · rw [add_of_not_ignore hig]; exact insert_entries hi ((ignore_eq_false_iff ws _ e).mp hig).1 e
      · rw [hm.2, add_of_ignore hig] at ha; exact absurd ha.1 Bool.false_ne_true
    have hmax : (f.add ws e).1.mem.maxLen = f.mem.maxLen := maxLen_of_cfgOf (add_cfgOf ws f e)
    have hlen : (f.add ws e).1.mem.entries.length = min (f.mem.entries.length + 1) f.mem.maxLen := by
      rw [hm.1, hacc, Spec.takeLast, List.length_drop, List.length_append, List.length_singleton]; omega
    have := ih (f.add ws e).1 (by rw [hm.1]; exact add_inv ws hi e) ha.2
    simp only [addAll, List.length_cons]
    rw [this, hlen, hmax]; omega

/-- every remembered (modification time, size) pair that still matches the file is right about
    the number of entries (or already says "full") -/
def Accurate (s : Sys) : Prop :=
  ∃ F fm, s.file = some { content := atomsOf (fileOf F), mtime := fm } ∧ NonEmpty F ∧ fm ≤ s.clock ∧
    ∀ j pm size, (s.sess j).pathInfo = some (pm, size) →
      pm ≤ s.clock ∧ (pm = fm → size = F.length ∨ (s.sess j).fh.mem.maxLen ≤ size)

/-- the step gets a modification time distinguishable from all earlier ones; loads happen at the
    start of a session; nobody touches the file from outside -/
def Dist (s : Sys) : Op → Prop
  | .append _ mt | .save _ mt => s.clock < mt
  | .touch _ => False
  | .load i => (s.sess i).fh.mem.entries = []
  | .add _ _ => True

def DistRun (ws : Char → Bool) : Sys → List Op → Prop
  | _, [] => True
  | s, op :: ops => Dist s op ∧ DistRun ws (s.step ws op).1 ops

theorem setSess_accurate (s : Sys) (i : Nat) (x : Sess) (F : List Text) (fm : Nat)
    (hf : s.file = some { content := atomsOf (fileOf F), mtime := fm }) (hne : NonEmpty F) (hfm : fm ≤ s.clock)
    (hall : ∀ j pm size, (s.sess j).pathInfo = some (pm, size) →
      pm ≤ s.clock ∧ (pm = fm → size = F.length ∨ (s.sess j).fh.mem.maxLen ≤ size))
    (hx : ∀ pm size, x.pathInfo = some (pm, size) →
      pm ≤ s.clock ∧ (pm = fm → size = F.length ∨ x.fh.mem.maxLen ≤ size)) :
    Accurate (s.setSess i x) := by
  refine ⟨F, fm, hf, hne, hfm, fun j pm size hp => ?_⟩
  by_cases hj : j = i
  · subst hj; rw [setSess_same] at hp ⊢; exact hx pm size hp
  · rw [setSess_other _ _ hj] at hp ⊢; exact hall j pm size hp

theorem wrote_accurate (s : Sys) (i : Nat) (es' : List Text) (mt size : Nat) (hacc : Accurate s)
    (hes : NonEmpty es') (hmt : s.clock < mt)
    (hsize : size = es'.length ∨ (s.sess i).fh.mem.maxLen ≤ size) : Accurate (s.wrote i es' mt size) := by
  obtain ⟨F, fm, hf, hne, hfm, hall⟩ := hacc
  have hc : (s.wrote i es' mt size).clock = max s.clock mt := rfl
  refine ⟨es', mt, rfl, hes, by omega, fun j pm sz hp => ?_⟩
  by_cases hj : j = i
  · subst hj
    rw [wrote_sess_same, Option.some.injEq, Prod.mk.injEq] at hp
    obtain ⟨rfl, rfl⟩ := hp
    rw [wrote_sess_same]
    exact ⟨by omega, fun _ => hsize⟩
  · rw [wrote_sess_other s es' mt size hj] at hp ⊢
    have := (hall j pm sz hp).1
    exact ⟨by omega, fun h => by omega⟩

theorem appendOut_bound (ws : Char → Bool) (s : Sys) (i fm : Nat) (F : List Text) (hg : Good s)
    (hall : ∀ pm size, (s.sess i).pathInfo = some (pm, size) →
      (pm = fm → size = F.length ∨ (s.sess i).fh.mem.maxLen ≤ size)) :
    (appendOut ws (s.sess i) fm F).1.length ≤ (s.sess i).fh.mem.maxLen ∧
    (appendOut ws (s.sess i) fm F).2 = (appendOut ws (s.sess i) fm F).1.length := by
  rcases appendOut_eq ws (s.sess i) fm F with ⟨_, e⟩ | ⟨h2, e⟩ | e <;> rw [e]
  · exact ⟨(hg.2 i).1, rfl⟩
  · obtain ⟨pm, size, hp, hpm, hlt, hle⟩ := (canJustAppend_iff _ _).mp h2
    have hsz : size = F.length := by
      rcases hall pm size hp hpm with h | h
      · exact h
      · omega
    simp only [hp, Option.map_some, Option.getD_some, List.length_append, newOnes_length _ (hg.2 i).2]
    omega
  · exact ⟨(slow_spec ws _ _).2, rfl⟩

/-- `Accurate` is kept by a step with a distinguishable time.  A write (`save`, `append` with
    something new) gets a modification time above the clock, so every older remembered pair
    stops matching and only the writer's new pair has to be right (`wrote_accurate`, with the size
    from `appendOut_bound`); `add` and a load into an empty store leave the file alone and record
    `F.length` cut at the limit. -/
theorem step_accurate (ws : Char → Bool) (s : Sys) (op : Op) (hg : Good s) (hacc : Accurate s)
    (hd : Dist s op) : Accurate (s.step ws op).1 := by
  obtain ⟨F, fm, hf, hne, hfm, hall⟩ := hacc
  cases op with
  | touch mt => exact hd.elim
  | add i l =>
    refine setSess_accurate s i _ F fm hf hne hfm hall (fun pm size hp => ?_)
    rw [maxLen_of_cfgOf (add_cfgOf ws (s.sess i).fh l)]
    exact hall i pm size hp
  | load i =>
    have hd : (s.sess i).fh.mem.entries = [] := hd
    show Accurate (s.load ws i).1
    rw [load_eq ws s i fm F hf hne]
    refine setSess_accurate s i _ F fm hf hne hfm hall (fun pm size hp => ?_)
    cases happ : acceptAll ws (s.sess i).fh F
    · rw [happ] at hp; cases hp
    · -- a load into an empty store records the number of entries, cut at the limit
      rw [happ, if_pos rfl, Option.some.injEq, Prod.mk.injEq] at hp
      obtain ⟨rfl, rfl⟩ := hp
      refine ⟨hfm, fun _ => ?_⟩
      have hl := acceptAll_length ws F (s.sess i).fh (hg.2 i).1 happ
      have hmax : (addAll ws (s.sess i).fh F).mem.maxLen = (s.sess i).fh.mem.maxLen :=
        maxLen_of_cfgOf (addAll_cfgOf ws F _)
      rw [hd] at hl ⊢
      simp only [List.length_nil, Nat.zero_add, Nat.sub_zero] at hl ⊢
      rw [hl, hmax]
      omega
  | append i mt =>
    have hd : s.clock < mt := hd
    have hacc : Accurate s := ⟨F, fm, hf, hne, hfm, hall⟩
    show Accurate (s.append ws i mt).1
    cases hnew : nothingNew s i
    · rw [append_eq ws s i mt fm F hf hne hnew]
      have hb := appendOut_bound ws s i fm F hg (fun pm size hp => (hall i pm size hp).2)
      exact wrote_accurate s i _ mt _ hacc (appendOut_nonempty ws _ fm F (hg.1.2 i) hne) hd (Or.inl hb.2)
    · rw [append_nothing ws s i mt hnew]; exact hacc
  | save i mt =>
    have hd : s.clock < mt := hd
    have hacc : Accurate s := ⟨F, fm, hf, hne, hfm, hall⟩
    show Accurate (s.save i mt).1
    cases hnew : nothingNew s i
    · rw [save_eq s i mt hnew]
      exact wrote_accurate s i _ mt _ hacc (hg.1.2 i) hd (Or.inl rfl)
    · rw [save_nothing s i mt hnew]; exact hacc

theorem run_accurate (ws : Char → Bool) (ops : List Op) (s : Sys) (hg : Good s) (hacc : Accurate s)
    (hd : DistRun ws s ops) : Accurate (s.run ws ops) ∧ Good (s.run ws ops) := by
  induction ops generalizing s with
  | nil => exact ⟨hacc, hg⟩
  | cons op ops ih =>
    exact ih _ (step_good ws s op hg) (step_accurate ws s op hg hacc hd.1) hd.2

theorem init_accurate (es : List Text) (m : Nat) (cfg : Nat → Nat × Bool × Bool) (hne : NonEmpty es) :
    Accurate (Sys.init (some { content := atomsOf (fileOf es), mtime := m }) cfg) :=
  ⟨es, m, rfl, hne, by simp [Sys.init], fun j pm size hp => by simp [Sys.init] at hp⟩

theorem fileOf_length_inj {a b : List Text} (h : atomsOf (fileOf a) = atomsOf (fileOf b)) :
    a.length = b.length := by
  have ha := count_nl_linesOf a
  have hb := count_nl_linesOf b
  have : (atomsOf (fileOf a)).count (Atom.chr '\n') = (atomsOf (fileOf b)).count (Atom.chr '\n') := by rw [h]
  have hsplit : ∀ es : List Text, (atomsOf (fileOf es)).count (Atom.chr '\n')
      = 1 + (atomsOf (linesOf es)).count (Atom.chr '\n') := by
    intro es
    have : atomsOf (fileOf es) = atomsOf header ++ Atom.chr '\n' :: atomsOf (linesOf es) := by
      simp [fileOf, atomsOf]
    rw [this, List.count_append, List.count_cons_self]
    have : (atomsOf header).count (Atom.chr '\n') = 0 := by decide
    omega
  rw [hsplit a, hsplit b] at this
  omega

theorem step_cfg (ws : Char → Bool) (s : Sys) (op : Op) (hw : WellFormed s) (j : Nat) :
    cfgOf ((s.step ws op).1.sess j).fh.mem = cfgOf (s.sess j).fh.mem := by
  rcases step_cases ws s op hw with e | ⟨i, x, ls, _, e, hm, _⟩ | ⟨i, es', mt, size, _, e, _⟩ | ⟨mt, e⟩ <;> rw [e]
  · by_cases hj : j = i
    · subst hj; rw [setSess_same, hm, addAll_cfgOf]
    · rw [setSess_other _ _ hj]
  · rw [wrote_mem]
  · rw [touch_sess]

theorem step_maxLen (ws : Char → Bool) (s : Sys) (op : Op) (hw : WellFormed s) (j : Nat) :
    ((s.step ws op).1.sess j).fh.mem.maxLen = (s.sess j).fh.mem.maxLen :=
  maxLen_of_cfgOf (step_cfg ws s op hw j)

theorem run_cfg (ws : Char → Bool) (ops : List Op) (s : Sys) (hw : WellFormed s) (j : Nat) :
    cfgOf ((s.run ws ops).sess j).fh.mem = cfgOf (s.sess j).fh.mem := by
  induction ops generalizing s with
  | nil => rfl
  | cons op ops ih => rw [Sys.run, ih _ (step_wellFormed ws s op hw), step_cfg ws s op hw]

theorem run_maxLen (ws : Char → Bool) (ops : List Op) (file : Option FileVal)
    (cfg : Nat → Nat × Bool × Bool) (hw : WellFormed (Sys.init file cfg)) (j : Nat) :
    (((Sys.init file cfg).run ws ops).sess j).fh.mem.maxLen = (cfg j).1 :=
  maxLen_of_cfgOf (run_cfg ws ops _ hw j)

theorem appendOut_bound_or_fast (ws : Char → Bool) (x : Sess) (fm : Nat) (F : List Text) (hx : SessOk x) :
    (appendOut ws x fm F).1.length ≤ x.fh.mem.maxLen ∨
    ((appendOut ws x fm F).1 = F ++ newOnes x.fh ∧
      ∃ pm size, x.pathInfo = some (pm, size) ∧ pm = fm ∧
        (appendOut ws x fm F).2 = size + x.fh.newEntries ∧
        (appendOut ws x fm F).1.length ≤ x.fh.mem.maxLen + (F.length - size)) := by
  rcases appendOut_eq ws x fm F with ⟨_, e⟩ | ⟨h2, e⟩ | e <;> rw [e]
  · exact Or.inl hx.1
  · obtain ⟨pm, size, hp, hpm, hlt, hle⟩ := (canJustAppend_iff _ _).mp h2
    refine Or.inr ⟨rfl, pm, size, hp, hpm, ?_, ?_⟩
    · simp only [hp, Option.map_some, Option.getD_some]
    · simp only [List.length_append, newOnes_length _ hx.2]
      omega
  · exact Or.inl (slow_spec ws _ _).2

/-- the file still holds the initial entries, or it fits the limit of some session -/
def Bounded (es0 : List Text) (s : Sys) : Prop :=
  ∃ F, FileIs s F ∧ (F = es0 ∨ ∃ j, F.length ≤ (s.sess j).fh.mem.maxLen)

theorem step_bounded (ws : Char → Bool) (es0 : List Text) (s : Sys) (op : Op) (hg : Good s)
    (hacc : Accurate s) (hb : Bounded es0 s) : Bounded es0 (s.step ws op).1 := by
  obtain ⟨F, hf, hF⟩ := hb
  have hm := fun j => step_maxLen ws s op hg.1 j
  have keep : FileIs (s.step ws op).1 F → Bounded es0 (s.step ws op).1 := fun h =>
    ⟨F, h, hF.imp id (fun ⟨j, hj⟩ => ⟨j, by rw [hm j]; exact hj⟩)⟩
  have wrote : ∀ i es' mt size, es'.length ≤ (s.sess i).fh.mem.maxLen → Bounded es0 (s.wrote i es' mt size) :=
    fun i es' mt size h => ⟨es', wrote_fileIs .., Or.inr ⟨i, by rw [wrote_mem]; exact h⟩⟩
  cases op with
  | load i => exact keep (Exists.imp (fun m h => (load_file ws s i).trans h) hf)
  | add i l => exact keep hf
  | touch mt => exact keep (touch_fileIs s mt hf)
  | append i mt =>
    cases hnew : nothingNew s i
    · obtain ⟨F0, fm0, hf0, hne0, _, hall⟩ := hacc
      show Bounded es0 (s.append ws i mt).1
      rw [append_eq ws s i mt fm0 F0 hf0 hne0 hnew]
      exact wrote i _ mt _ (appendOut_bound ws s i fm0 F0 hg (fun pm size hp => (hall i pm size hp).2)).1
    · refine keep ?_
      show FileIs (s.append ws i mt).1 F
      rw [append_nothing ws s i mt hnew]; exact hf
  | save i mt =>
    cases hnew : nothingNew s i
    · show Bounded es0 (s.save i mt).1
      rw [save_eq s i mt hnew]; exact wrote i _ mt _ (hg.2 i).1
    · refine keep ?_
      show FileIs (s.save i mt).1 F
      rw [save_nothing s i mt hnew]; exact hf

theorem run_bounded (ws : Char → Bool) (es0 : List Text) (ops : List Op) (s : Sys) (hg : Good s)
    (hacc : Accurate s) (hb : Bounded es0 s) (hd : DistRun ws s ops) : Bounded es0 (s.run ws ops) := by
  induction ops generalizing s with
  | nil => exact hb
  | cons op ops ih =>
    exact ih _ (step_good ws s op hg) (step_accurate ws s op hg hacc hd.1)
      (step_bounded ws es0 s op hg hacc hb) hd.2

end Rl.FS
