/-
  Two topics of property C11, over `Sys` / `SubSys` of Rl/FileSession.lean:
  * the sub-operation system `SubSys` (`truncFirst = false`, file present) is simulated by the
    operation-atomic system `Sys`: every sub-step is a stutter or commits exactly one atomic op
    (`SubInv`, `Commits`, `subStep_sim`, `subRun_sim`);
  * the counting form of "the limit is not exceeded": `CInv` (each session's entries plus the lines
    still to be entered fit its limit), the reference model `refRun` of the property text, and
    `refStep_session` / `count_step` relating them to `Sys.run`.
-/
import Rl.FileSession
import Rl.Lemmas.FileSession
namespace Rl.FS
open Rl Rl.Spec

/-- The invariant of the simulation: the data part is a good state with the file present, the code
    truncates only under the lock (`truncFirst = false`), and a session that is inside a call (`pc ≠ idle`: it passed the early
    return of `save` / `append`) still has something to write — nobody else can change its
    history, and its own `load` / `add` are not enabled until the call returns. -/
structure SubInv (t : SubSys) : Prop where
  good : Good t.sys
  file : t.sys.file.isSome = true
  tf : t.truncFirst = false
  pend : ∀ i, t.pc i ≠ .idle → nothingNew t.sys i = false

theorem subInv_init (s : Sys) (hg : Good s) (hf : s.file.isSome = true) : SubInv (SubSys.init s false) :=
  ⟨hg, hf, rfl, fun _ h => absurd rfl h⟩

@[simp] theorem setPc_sys (t : SubSys) (i : Nat) (p : Pc) : (t.setPc i p).sys = t.sys := rfl
@[simp] theorem setPc_tf (t : SubSys) (i : Nat) (p : Pc) : (t.setPc i p).truncFirst = t.truncFirst := rfl
@[simp] theorem setPc_same (t : SubSys) (i : Nat) (p : Pc) : (t.setPc i p).pc i = p := by simp [SubSys.setPc]
theorem setPc_other (t : SubSys) {i j : Nat} (p : Pc) (h : j ≠ i) : (t.setPc i p).pc j = t.pc j := by
  simp [SubSys.setPc, h]

/-- What a sub-step does: it leaves the data alone or commits one atomic operation `o` that is not
    an operation of any session that is still inside a call, and every session that is inside a
    call afterwards was so before or has something to write. -/
def Commits (ws : Char → Bool) (t t' : SubSys) : Prop :=
  t'.truncFirst = t.truncFirst ∧
  (t'.sys = t.sys ∨ ∃ o : Op, t'.sys = (t.sys.step ws o).1 ∧ ∀ j, t'.pc j ≠ .idle → opOf j o = false) ∧
  (∀ j, t'.pc j ≠ .idle → t.pc j ≠ .idle ∨ nothingNew t.sys j = false)

theorem Commits.subInv {ws : Char → Bool} {t t' : SubSys} (c : Commits ws t t') (h : SubInv t) : SubInv t' := by
  obtain ⟨htf, hsys, hpc⟩ := c
  have hp : ∀ j, t'.pc j ≠ .idle → nothingNew t.sys j = false := fun j hj => by
    rcases hpc j hj with h1 | h1
    · exact h.pend j h1
    · exact h1
  rcases hsys with hs | ⟨o, hs, ho⟩
  · exact ⟨by rw [hs]; exact h.good, by rw [hs]; exact h.file, by rw [htf]; exact h.tf,
      fun j hj => by rw [hs]; exact hp j hj⟩
  · refine ⟨by rw [hs]; exact step_good ws _ o h.good,
      by rw [hs]; exact step_file_some ws _ o h.good.1 h.file, by rw [htf]; exact h.tf, fun j hj => ?_⟩
    rw [hs, nothingNew_congr (step_other ws t.sys j o h.good.1 (ho j hj))]; exact hp j hj

theorem Commits.sys {ws : Char → Bool} {t t' : SubSys} (c : Commits ws t t') :
    t'.sys = t.sys ∨ ∃ o : Op, t'.sys = (t.sys.step ws o).1 :=
  c.2.1.imp id (fun ⟨o, h, _⟩ => ⟨o, h⟩)

theorem Commits.refl (ws : Char → Bool) (t : SubSys) : Commits ws t t :=
  ⟨rfl, Or.inl rfl, fun _ hj => Or.inl hj⟩

theorem Commits.setPc (ws : Char → Bool) (t : SubSys) (i : Nat) (p : Pc)
    (hp : p ≠ .idle → nothingNew t.sys i = false) : Commits ws t (t.setPc i p) := by
  refine ⟨rfl, Or.inl rfl, fun j hj => ?_⟩
  by_cases hji : j = i
  · subst hji; rw [setPc_same] at hj; exact Or.inr (hp hj)
  · rw [setPc_other _ _ hji] at hj; exact Or.inl hj

theorem Commits.commit {ws : Char → Bool} {t t' : SubSys} (i : Nat) (o : Op)
    (htf : t'.truncFirst = t.truncFirst) (hsys : t'.sys = (t.sys.step ws o).1)
    (ho : ∀ j, j ≠ i → opOf j o = false) (hi : t'.pc i = .idle) (hpc : ∀ j, j ≠ i → t'.pc j = t.pc j) :
    Commits ws t t' := by
  have key : ∀ j, t'.pc j ≠ .idle → j ≠ i := fun j hj e => hj (e ▸ hi)
  exact ⟨htf, Or.inr ⟨o, hsys, fun j hj => ho j (key j hj)⟩,
    fun j hj => Or.inl (by rw [← hpc j (key j hj)]; exact hj)⟩

theorem Commits.whole {ws : Char → Bool} {t t' : SubSys} (i : Nat) (o : Op)
    (ho : ∀ j, j ≠ i → opOf j o = false)
    (e : t' = if t.pc i = .idle then { t with sys := (t.sys.step ws o).1 } else t) : Commits ws t t' := by
  rw [e]
  split
  · rename_i hi; exact .commit i o rfl rfl ho hi (fun _ _ => rfl)
  · exact .refl ws t

theorem opOf_ne {i j : Nat} (h : j ≠ i) :
    (∀ l, opOf j (.add i l) = false) ∧ opOf j (.load i) = false ∧
    (∀ mt, opOf j (.append i mt) = false) ∧ (∀ mt, opOf j (.save i mt) = false) := by
  have : (i == j) = false := by simp; exact fun e => h e.symm
  simp [opOf, this]

/-- Every sub-step keeps `SubInv` and is a stutter or one atomic operation.  Idea: in each case the
    step is rewritten to one of three shapes — `t` (not enabled), `t.setPc i p` (a check or an open:
    no data changes), `{t.setPc i .idle with sys := one atomic op}` (the locked part; `SubInv.pend`
    says the early return of the atomic op is not taken) — and `Commits.refl / .setPc / .commit`
    close it. -/
theorem subStep_sim (ws : Char → Bool) (t : SubSys) (op : SubOp) (h : SubInv t) :
    SubInv (t.step ws op) ∧
    ((t.step ws op).sys = t.sys ∨ ∃ o : Op, (t.step ws op).sys = (t.sys.step ws o).1) := by
  suffices c : Commits ws t (t.step ws op) from ⟨c.subInv h, c.sys⟩
  cases op with
  | load i => exact .whole i (.load i) (fun j hj => (opOf_ne hj).2.1) rfl
  | add i l => exact .whole i (.add i l) (fun j hj => (opOf_ne hj).1 l) rfl
  | touch mt => exact ⟨rfl, Or.inr ⟨.touch mt, rfl, fun j _ => rfl⟩, fun j hj => Or.inl hj⟩
  | saveOpen i mt =>
    obtain ⟨f, hf⟩ := Option.isSome_iff_exists.mp h.file
    -- not enabled, or the early return (the call is over), or the file is opened
    have e : t.step ws (.saveOpen i mt) = t ∨
        t.step ws (.saveOpen i mt) = t.setPc i (if nothingNew t.sys i = true then .idle else .saveOpened) := by
      cases hn : nothingNew t.sys i <;>
        simp only [SubSys.step, nothingNew_fold, hn, h.tf, hf, Bool.false_eq_true, if_false, if_true] <;>
        split <;> split <;> first | exact Or.inl rfl | exact Or.inr rfl
    rcases e with e | e <;> rw [e]
    · exact .refl ws t
    · refine .setPc ws t i _ fun hp => ?_
      cases hn : nothingNew t.sys i
      · rfl
      · rw [hn] at hp; exact absurd rfl hp
  | saveWrite i mt =>
    by_cases hi : t.pc i = .saveOpened
    · have hn := h.pend i (by rw [hi]; simp)
      have hstep : (t.sys.step ws (.save i mt)).1 = t.sys.saveWrite i mt :=
        congrArg Prod.fst (save_eq t.sys i mt hn)
      have e : t.step ws (.saveWrite i mt)
          = { (t.setPc i .idle) with sys := (t.sys.step ws (.save i mt)).1 } := by
        rw [hstep]
        simp only [SubSys.step, hi, ne_eq, not_true_eq_false, if_false, h.tf, Bool.false_eq_true]
        rfl
      rw [e]
      exact .commit i (.save i mt) rfl rfl (fun j hj => (opOf_ne hj).2.2.2 mt) (setPc_same t i .idle)
        (fun j hj => setPc_other t .idle hj)
    · have e : t.step ws (.saveWrite i mt) = t := by
        simp only [SubSys.step]; rw [if_pos hi]
      rw [e]; exact .refl ws t
  | appendCheck i =>
    by_cases hi : t.pc i = .idle
    · cases hn : nothingNew t.sys i
      · have e : t.step ws (.appendCheck i) = t.setPc i (.appendChecked t.sys.file.isSome) := by
          simp only [SubSys.step, nothingNew_fold, hn, hi, ne_eq, not_true_eq_false, Bool.false_eq_true, if_false]
        rw [e]; exact .setPc ws t i _ (fun _ => hn)
      · have e : t.step ws (.appendCheck i) = t := by
          simp only [SubSys.step, nothingNew_fold, hn, if_true, ite_self]
        rw [e]; exact .refl ws t
    · have e : t.step ws (.appendCheck i) = t := by
        simp only [SubSys.step]; rw [if_pos hi]
      rw [e]; exact .refl ws t
  | appendLocked i mt =>
    obtain ⟨f, hf⟩ := Option.isSome_iff_exists.mp h.file
    by_cases hi : t.pc i = .appendChecked true
    · by_cases hmax : ((t.sys.sess i).fh.newEntries == (t.sys.sess i).fh.mem.maxLen) = true
      · have e : t.step ws (.appendLocked i mt) = t := by
          simp only [SubSys.step, hi, hmax, if_true]
        rw [e]; exact .refl ws t
      · have hn := h.pend i (by rw [hi]; simp)
        have hstep : (t.sys.step ws (.append i mt)).1 = (t.sys.appendLocked ws i f mt).1 := by
          simp only [Sys.step, Sys.append, nothingNew_fold, hn, Bool.false_eq_true, if_false, hf, hmax]
        have e : t.step ws (.appendLocked i mt)
            = { (t.setPc i .idle) with sys := (t.sys.step ws (.append i mt)).1 } := by
          rw [hstep]
          simp only [SubSys.step, hi, hmax, Bool.false_eq_true, if_false, hf]
        rw [e]
        exact .commit i (.append i mt) rfl rfl (fun j hj => (opOf_ne hj).2.2.1 mt) (setPc_same t i .idle)
          (fun j hj => setPc_other t .idle hj)
    · have e : t.step ws (.appendLocked i mt) = t := by
        simp only [SubSys.step]
      rw [e]; exact .refl ws t

theorem subRun_sim (ws : Char → Bool) (subops : List SubOp) (t : SubSys) (h : SubInv t) :
    SubInv (t.run ws subops) ∧ ∃ ops : List Op, (t.run ws subops).sys = t.sys.run ws ops := by
  induction subops generalizing t with
  | nil => exact ⟨h, [], rfl⟩
  | cons op subops ih =>
    obtain ⟨hinv, hsim⟩ := subStep_sim ws t op h
    obtain ⟨hinv', ops, hops⟩ := ih _ hinv
    refine ⟨hinv', ?_⟩
    rcases hsim with hs | ⟨o, hs⟩
    · exact ⟨ops, by rw [SubSys.run, hops, hs]⟩
    · exact ⟨o :: ops, by rw [SubSys.run, hops, hs]; rfl⟩

/-- a line that `add` does not refuse for its own shape (the per-entry clause of `Storable`) -/
def okLine (ws : Char → Bool) (isp : Bool) (e : Text) : Prop :=
  e ≠ [] ∧ (isp = true → ∀ c t, e = c :: t → ws c = false)

theorem add_refused (ws : Char → Bool) (f : FileHist) (l : Text) (h : f.mem.ignore ws l = true) :
    f.add ws l = (f, false) := by
  simp [FileHist.add, MemHist.add, h]

theorem add_accepted (ws : Char → Bool) (f : FileHist) (l : Text) (h : f.mem.ignore ws l = false) :
    f.add ws l = ({ mem := f.mem.insert l,
                    newEntries := min (f.newEntries + 1) (f.mem.insert l).entries.length }, true) := by
  simp [FileHist.add, MemHist.add, h]

theorem newOnes_add (ws : Char → Bool) (f : FileHist) (l : Text)
    (hx : f.mem.entries.length ≤ f.mem.maxLen ∧ f.newEntries ≤ f.mem.entries.length)
    (h : f.mem.ignore ws l = false) :
    newOnes (f.add ws l).1 = (newOnes f ++ [l]).drop (if f.newEntries = f.mem.maxLen then 1 else 0) := by
  have hm := ((ignore_eq_false_iff ws f.mem l).mp h).1
  obtain ⟨h1, h2⟩ := hx
  rw [add_accepted ws f l h]
  -- both sides are `(entries ++ [l]).drop k`
  simp only [newOnes, insert_entries h1 hm, Spec.takeLast]
  rw [← List.drop_append_of_le_length (Nat.sub_le _ _), List.drop_drop, List.drop_drop]
  congr 1
  simp only [List.length_drop, List.length_append, List.length_singleton]
  rcases Nat.lt_or_eq_of_le h1 with hlt | he
  · have e1 : f.mem.entries.length + 1 - f.mem.maxLen = 0 := by omega
    rw [e1, Nat.sub_zero, Nat.zero_add, if_neg (by omega), Nat.add_zero, Nat.min_eq_left (by omega)]
    omega
  · have e1 : f.mem.entries.length + 1 - f.mem.maxLen = 1 := by omega
    rw [e1, Nat.add_sub_cancel]
    split <;> omega

/-- The counting invariant, on the unwritten lines only.  `U` = every line there is (the initial
    entries and every line that is ever entered), `F` = the entries of the file, `N i` = the lines
    session `i` has accepted and not written yet, `A` = the lines that are still to be entered. -/
structure CInv (ws : Char → Bool) (isp : Bool) (U : List Text) (N : Nat → List Text) (F A : List Text) : Prop where
  nodup : ∀ i, (F ++ N i).Nodup
  mem : ∀ i, ∀ e ∈ F ++ N i, e ∈ U ∧ e ∉ A ∧ okLine ws isp e
  disj : ∀ i j, i ≠ j → ∀ e ∈ N i, e ∉ N j
  aNodup : A.Nodup
  aSub : ∀ e ∈ A, e ∈ U

theorem CInv.mono {ws isp U N F A} (h : CInv ws isp U N F A) (N' : Nat → List Text) (A' : List Text)
    (hN : ∀ i, (N' i).Sublist (N i)) (hA : A'.Sublist A) : CInv ws isp U N' F A' := by
  have hsub : ∀ i, (F ++ N' i).Sublist (F ++ N i) := fun i => List.Sublist.append (List.Sublist.refl F) (hN i)
  refine ⟨fun i => (h.nodup i).sublist (hsub i), fun i e he => ?_, fun i j hij e he hej => ?_,
    h.aNodup.sublist hA, fun e he => h.aSub e (hA.subset he)⟩
  · obtain ⟨h1, h2, h3⟩ := h.mem i e ((hsub i).subset he)
    exact ⟨h1, fun hh => h2 (hA.subset hh), h3⟩
  · exact h.disj i j hij e ((hN i).subset he) ((hN j).subset hej)

/-- session `i` enters the next line still to come: it moves from `A` to the end of `i`'s queue -/
theorem CInv.push {ws isp U N F A} {l : Text} (h : CInv ws isp U N F (l :: A)) (i : Nat)
    (hl : okLine ws isp l) :
    CInv ws isp U (fun j => if j = i then N i ++ [l] else N j) F A := by
  have hlA : l ∉ A ∧ A.Nodup := List.nodup_cons.mp h.aNodup
  have hnot : ∀ j, l ∉ F ++ N j := fun j hh => (h.mem j l hh).2.1 (by simp)
  have hold : ∀ j, ∀ e ∈ F ++ N j, e ∈ U ∧ e ∉ A ∧ okLine ws isp e := fun j e he =>
    let ⟨h1, h2, h3⟩ := h.mem j e he
    ⟨h1, fun hh => h2 (List.mem_cons_of_mem _ hh), h3⟩
  -- the longer queue against the queue of another session
  have key : ∀ b, b ≠ i → ∀ e ∈ N i ++ [l], e ∉ N b := fun b hb e he heb => by
    rcases List.mem_append.mp he with he | he
    · exact h.disj i b (fun e => hb e.symm) e he heb
    · rw [List.mem_singleton.mp he] at heb; exact hnot b (List.mem_append_right _ heb)
  refine ⟨fun j => ?_, fun j e he => ?_, fun a b hab e he heb => ?_, hlA.2, fun e he => h.aSub e (by simp [he])⟩
  · by_cases hj : j = i
    · subst hj
      simp only [if_true]
      rw [← List.append_assoc, List.nodup_append]
      refine ⟨h.nodup j, by simp, fun a ha b hb => ?_⟩
      simp at hb; subst hb
      intro hab; subst hab; exact hnot j ha
    · simp only [hj, if_false]; exact h.nodup j
  · by_cases hj : j = i
    · subst hj
      simp only [if_true, ← List.append_assoc] at he
      rcases List.mem_append.mp he with he | he
      · exact hold j e he
      · rw [List.mem_singleton.mp he]
        exact ⟨h.aSub l (by simp), hlA.1, hl⟩
    · simp only [hj, if_false] at he
      exact hold j e he
  · by_cases ha : a = i
    · subst ha
      rw [if_pos rfl] at he; rw [if_neg (fun e => hab e.symm)] at heb
      exact key b (fun e => hab e.symm) e he heb
    · rw [if_neg ha] at he
      by_cases hb : b = i
      · subst hb; rw [if_pos rfl] at heb; exact key a ha e heb he
      · rw [if_neg hb] at heb; exact h.disj a b hab e he heb

theorem CInv.flush {ws isp U N F A} (h : CInv ws isp U N F A) (i : Nat) :
    CInv ws isp U (fun j => if j = i then [] else N j) (F ++ N i) A := by
  refine ⟨fun j => ?_, fun j e he => ?_, fun a b hab e he heb => ?_, h.aNodup, h.aSub⟩
  · by_cases hj : j = i
    · subst hj; simp only [if_true, List.append_nil]; exact h.nodup j
    · simp only [hj, if_false]
      rw [List.nodup_append]
      have hn := List.nodup_append.mp (h.nodup j)
      refine ⟨h.nodup i, hn.2.1, fun a ha b hb hab => ?_⟩
      subst hab
      rcases List.mem_append.mp ha with ha | ha
      · exact hn.2.2 a ha a hb rfl
      · exact h.disj i j (fun e => hj e.symm) a ha hb
  · by_cases hj : j = i
    · subst hj; simp only [if_true, List.append_nil] at he; exact h.mem j e he
    · simp only [hj, if_false] at he
      rcases List.mem_append.mp he with he | he
      · exact h.mem i e he
      · exact h.mem j e (by simp [he])
  · by_cases ha : a = i
    · subst ha; simp at he
    · by_cases hb : b = i
      · subst hb; simp at heb
      · simp only [ha, if_false] at he; simp only [hb, if_false] at heb
        exact h.disj a b hab e he heb

/-- what the counting invariant is for: the file followed by the unwritten lines of any session is
    something a store with at least `|U|` places holds -/
theorem CInv.storable {ws isp U N F A} (h : CInv ws isp U N F A) (i max : Nat) (idp : Bool)
    (hmax : U.length ≤ max) : Storable ws max isp idp (F ++ N i) := by
  refine ⟨?_, fun e he => (h.mem i e he).2.2, fun _ l1 a b l2 heq hab => ?_⟩
  · exact Nat.le_trans ((h.nodup i).length_le_of_subset (fun e he => (h.mem i e he).1)) hmax
  · have := h.nodup i
    rw [heq] at this
    subst hab
    have := (List.nodup_append.mp this).2.1
    simp at this

/-- the lines session `i` has accepted and not written yet (the queue `N i` of `CInv`); not to be
    confused with the field `SubInv.pend` -/
def pend (s : Sys) : Nat → List Text := fun i => newOnes (s.sess i).fh

theorem newOnes_zero (f : FileHist) (h : f.newEntries = 0) : newOnes f = [] := by
  simp [newOnes, h]

theorem pend_setSess (s : Sys) (i : Nat) (x : Sess) :
    pend (s.setSess i x) = fun j => if j = i then newOnes x.fh else pend s j := by
  funext j
  by_cases hj : j = i
  · subst hj; simp only [pend, setSess_same, if_true]
  · simp only [pend, setSess_other _ _ hj, hj, if_false]

theorem pend_wrote (s : Sys) (i : Nat) (es' : List Text) (mt size : Nat) :
    pend (s.wrote i es' mt size) = fun j => if j = i then [] else pend s j := by
  rw [Sys.wrote, pend_setSess, newOnes_zero _ rfl]; rfl

theorem pend_touch (s : Sys) (mt : Nat) : pend (s.touch mt) = pend s := by
  unfold pend; rw [touch_sess]

/-- every session has the common ignore-space setting and a limit that holds every line of `U` -/
def CfgOk (isp : Bool) (U : List Text) (s : Sys) : Prop :=
  ∀ i, (s.sess i).fh.mem.ignoreSpace = isp ∧ U.length ≤ (s.sess i).fh.mem.maxLen

theorem cfgOk_step (ws : Char → Bool) (isp : Bool) (U : List Text) (s : Sys) (op : Op) (hg : Good s)
    (h : CfgOk isp U s) : CfgOk isp U (s.step ws op).1 := by
  intro i
  have hc := step_cfg ws s op hg.1 i
  have h2 : ((s.step ws op).1.sess i).fh.mem.ignoreSpace = (s.sess i).fh.mem.ignoreSpace :=
    congrArg Spec.FS.Cfg.isp hc
  rw [maxLen_of_cfgOf hc, h2]; exact h i

/-- the lines entered in `ops`, by any session, in order -/
def addsOf (ops : List Op) : List Text :=
  ops.filterMap (fun op => match op with | .add _ l => some l | _ => none)

theorem cinv_storable (ws : Char → Bool) (isp : Bool) (U : List Text) (s : Sys) (F A : List Text) (i : Nat)
    (hc : CfgOk isp U s) (h : CInv ws isp U (pend s) F A) :
    Storable ws (s.sess i).fh.mem.maxLen (s.sess i).fh.mem.ignoreSpace (s.sess i).fh.mem.ignoreDups
      (F ++ newOnes (s.sess i).fh) := by
  rw [(hc i).1]; exact h.storable i _ _ (hc i).2

theorem cinv_init (ws : Char → Bool) (isp : Bool) (es0 A : List Text) (m0 : Nat) (cfg : Nat → Nat × Bool × Bool)
    (hok : ∀ e ∈ es0, okLine ws isp e) (hnd : (es0 ++ A).Nodup) :
    CInv ws isp (es0 ++ A) (pend (Sys.init (some { content := atomsOf (fileOf es0), mtime := m0 }) cfg)) es0 A := by
  have hp : ∀ i, pend (Sys.init (some { content := atomsOf (fileOf es0), mtime := m0 }) cfg) i = [] := fun i => by
    simp [pend, Sys.init, FileHist.new, MemHist.new, newOnes]
  have hn := List.nodup_append.mp hnd
  refine ⟨fun i => by rw [hp, List.append_nil]; exact hn.1, fun i e he => ?_, fun i j _ e he => by rw [hp] at he; simp at he,
    hn.2.1, fun e he => by simp [he]⟩
  rw [hp, List.append_nil] at he
  exact ⟨by simp [he], fun hA => hn.2.2 e he e hA rfl, hok e he⟩

theorem cfgOk_init (isp : Bool) (U : List Text) (file : Option FileVal) (cfg : Nat → Nat × Bool × Bool)
    (h1 : ∀ i, (cfg i).2.1 = isp) (h2 : ∀ i, U.length ≤ (cfg i).1) : CfgOk isp U (Sys.init file cfg) :=
  fun i => ⟨by simp [Sys.init, FileHist.new, MemHist.new, h1 i], by simp [Sys.init, FileHist.new, MemHist.new, h2 i]⟩

theorem addsOf_length (ops : List Op) :
    (addsOf ops).length = (ops.filter (fun op => match op with | .add _ _ => true | _ => false)).length := by
  induction ops with
  | nil => rfl
  | cons op ops ih =>
    cases op with
    | add i l => exact congrArg (· + 1) ih
    | load i => exact ih
    | append i mt => exact ih
    | save i mt => exact ih
    | touch mt => exact ih

/-- the acceptance rule of a store that has room and does not hold the line yet -/
def accepts (ws : Char → Bool) (isp : Bool) : Text → Bool
  | [] => false
  | c :: _ => !(isp && ws c)

theorem okLine_of_accepts {ws : Char → Bool} {isp : Bool} {l : Text} (h : accepts ws isp l = true) :
    okLine ws isp l := by
  cases l with
  | nil => simp [accepts] at h
  | cons c t =>
    refine ⟨by simp, fun hi c' t' heq => ?_⟩
    simp at heq; rw [← heq.1]
    cases hw : ws c
    · rfl
    · simp [accepts, hi, hw] at h

theorem ignore_eq_accepts (ws : Char → Bool) (m : MemHist) (l : Text) (hm : m.maxLen ≠ 0)
    (hl : l ∉ m.entries) : m.ignore ws l = !accepts ws m.ignoreSpace l := by
  have key : m.ignore ws l = false ↔ accepts ws m.ignoreSpace l = true := by
    rw [ignore_eq_false_iff]
    constructor
    · rintro ⟨_, c, t, rfl, hsp, _⟩
      cases hi : m.ignoreSpace
      · rfl
      · simp only [accepts, hsp hi, Bool.and_false, Bool.not_false]
    · intro ha
      refine ⟨hm, ?_⟩
      cases l with
      | nil => cases ha
      | cons c t =>
        refine ⟨c, t, rfl, fun hi => ?_, fun _ hlast => hl (List.mem_of_getLast? hlast)⟩
        cases hw : ws c
        · rfl
        · rw [accepts, hi, hw] at ha; cases ha
  cases ha : accepts ws m.ignoreSpace l
  · cases hig : m.ignore ws l
    · rw [key.mp hig] at ha; cases ha
    · rfl
  · exact key.mpr ha

/-- no store holds a line that is still to be entered -/
def MemInv (s : Sys) (A : List Text) : Prop := ∀ i, ∀ e ∈ (s.sess i).fh.mem.entries, e ∉ A

theorem mem_add_subset (ws : Char → Bool) (f : FileHist) (l e : Text)
    (h : e ∈ (f.add ws l).1.mem.entries) : e ∈ f.mem.entries ∨ e = l := by
  rw [(FileHist.add_mem ws f l).1] at h
  exact (mem_of_mem_add ws f.mem l e h).imp id And.left

theorem mem_addAll_subset (ws : Char → Bool) (ls : List Text) (f : FileHist) (e : Text)
    (h : e ∈ (addAll ws f ls).mem.entries) : e ∈ f.mem.entries ∨ e ∈ ls := by
  induction ls generalizing f with
  | nil => exact Or.inl h
  | cons l ls ih =>
    rcases ih _ h with h | h
    · rcases mem_add_subset ws f l e h with h | h
      · exact Or.inl h
      · exact Or.inr (by simp [h])
    · exact Or.inr (by simp [h])

theorem memInv_setSess (s : Sys) (A : List Text) (i : Nat) (x : Sess) (h : MemInv s A)
    (hx : ∀ e ∈ x.fh.mem.entries, e ∉ A) : MemInv (s.setSess i x) A := by
  intro j e he
  by_cases hj : j = i
  · subst hj; rw [setSess_same] at he; exact hx e he
  · rw [setSess_other _ _ hj] at he; exact h j e he

theorem memInv_add (ws : Char → Bool) (s : Sys) (A : List Text) (i : Nat) (l : Text)
    (hA : (l :: A).Nodup) (h : MemInv s (l :: A)) : MemInv (s.add ws i l).1 A := by
  refine memInv_setSess s A i _ (fun j e he hh => h j e he (List.mem_cons_of_mem _ hh)) (fun e he hh => ?_)
  rcases mem_add_subset ws _ l e he with he | he
  · exact h i e he (List.mem_cons_of_mem _ hh)
  · subst he; exact (List.nodup_cons.mp hA).1 hh

theorem memInv_load (ws : Char → Bool) (s : Sys) (F A : List Text) (i : Nat) (hne : NonEmpty F)
    (hf : FileIs s F) (hF : ∀ e ∈ F, e ∉ A) (h : MemInv s A) : MemInv (s.load ws i).1 A := by
  obtain ⟨fm, hf⟩ := hf
  rw [load_eq ws s i fm F hf hne]
  refine memInv_setSess s A i _ h (fun e he => ?_)
  rcases mem_addAll_subset ws F _ e he with h1 | h1
  · exact h i e h1
  · exact hF e h1

theorem memInv_wrote (s : Sys) (A : List Text) (i : Nat) (es' : List Text) (mt size : Nat)
    (h : MemInv s A) : MemInv (s.wrote i es' mt size) A := by
  intro j e he
  rw [wrote_mem] at he; exact h j e he

theorem memInv_touch (s : Sys) (A : List Text) (mt : Nat) (h : MemInv s A) : MemInv (s.touch mt) A := by
  intro j e he
  rw [touch_sess] at he; exact h j e he

theorem pend_add (ws : Char → Bool) (isp : Bool) (U : List Text) (s : Sys) (F A : List Text) (i : Nat) (l : Text)
    (hg : Good s) (hc : CfgOk isp U s) (h : CInv ws isp U (pend s) F (l :: A)) (hm : MemInv s (l :: A)) :
    pend (s.add ws i l).1
      = if accepts ws isp l then (fun j => if j = i then pend s i ++ [l] else pend s j) else pend s := by
  have hlU : l ∈ U := h.aSub l (by simp)
  have hmax : (s.sess i).fh.mem.maxLen ≠ 0 := by
    have := (hc i).2
    have : 0 < U.length := List.length_pos_of_mem hlU
    omega
  have hig := ignore_eq_accepts ws (s.sess i).fh.mem l hmax (fun hh => hm i l hh (by simp))
  rw [(hc i).1] at hig
  show pend (s.setSess i _) = _
  rw [pend_setSess]
  cases hacc : accepts ws isp l
  · rw [hacc] at hig
    simp only [Bool.false_eq_true, if_false]
    rw [add_refused ws _ l hig]
    funext j
    split
    · rename_i hj; rw [hj]; rfl
    · rfl
  · rw [hacc] at hig
    simp only [if_true]
    rw [newOnes_add ws _ l (hg.2 i) hig]
    -- the queue is not full: the file, the queue and the line are distinct lines of `U`
    have hne : (s.sess i).fh.newEntries ≠ (s.sess i).fh.mem.maxLen := by
      have hst := ((h.push i (okLine_of_accepts hacc)).storable i (s.sess i).fh.mem.maxLen false (hc i).2).1
      simp only [if_true, List.length_append, List.length_cons, List.length_nil, pend,
        newOnes_length _ (hg.2 i).2] at hst
      omega
    rw [if_neg hne, List.drop_zero]; rfl

/-- The reference model of the property text: the file is a list of lines, every session has a
    queue of entered-and-not-yet-written lines; `add` puts an acceptable line at the end of the
    session's queue, `append` moves the queue to the end of the file, `load` empties the queue
    (the code's `new_entries = 0` after a load: lines entered before a load are never written). -/
def refStep (acc : Text → Bool) (F : List Text) (P : Nat → List Text) : Op → List Text × (Nat → List Text)
  | .add i l => if acc l then (F, fun j => if j = i then P i ++ [l] else P j) else (F, P)
  | .load i => (F, fun j => if j = i then [] else P j)
  | .append i _ => (F ++ P i, fun j => if j = i then [] else P j)
  | .save _ _ => (F, P)
  | .touch _ => (F, P)

def refRun (acc : Text → Bool) (F : List Text) (P : Nat → List Text) : List Op → List Text × (Nat → List Text)
  | [] => (F, P)
  | op :: ops => refRun acc (refStep acc F P op).1 (refStep acc F P op).2 ops

theorem refStep_add (acc : Text → Bool) (F : List Text) (P : Nat → List Text) (i : Nat) (l : Text) :
    refStep acc F P (.add i l) = (F, if acc l then (fun j => if j = i then P i ++ [l] else P j) else P) := by
  simp only [refStep]; cases acc l <;> rfl

/-- `addsOf (op :: ops)` from `A = addsOf ops` -/
def nextAdds (op : Op) (A : List Text) : List Text :=
  match op with
  | .add _ l => l :: A
  | _ => A

theorem addsOf_cons (op : Op) (ops : List Op) : addsOf (op :: ops) = nextAdds op (addsOf ops) := by
  cases op <;> simp [addsOf, nextAdds]

theorem cinv_refStep {ws : Char → Bool} {isp : Bool} {U F A : List Text} {P : Nat → List Text}
    {acc : Text → Bool} (hacc : ∀ l, acc l = true → okLine ws isp l) (op : Op)
    (h : CInv ws isp U P F (nextAdds op A)) :
    CInv ws isp U (refStep acc F P op).2 (refStep acc F P op).1 A := by
  cases op with
  | add i l =>
    rw [refStep_add]
    cases ha : acc l
    · exact h.mono P A (fun _ => List.Sublist.refl _) (List.sublist_cons_self _ _)
    · exact h.push i (hacc l ha)
  | load i =>
    refine h.mono _ A (fun j => ?_) (List.Sublist.refl _)
    show (if j = i then [] else P j).Sublist (P j)
    split
    · exact List.nil_sublist _
    · exact List.Sublist.refl _
  | append i mt => exact h.flush i
  | save i mt => exact h
  | touch mt => exact h

theorem pend_nothingNew (s : Sys) (i : Nat) (h : nothingNew s i = true) : pend s i = [] := by
  unfold nothingNew at h
  rcases Bool.or_eq_true_iff.mp h with h | h
  · have : (s.sess i).fh.mem.entries = [] := List.isEmpty_iff.mp h
    simp [pend, newOnes, this]
  · exact newOnes_zero _ (by simpa using h)

/-- `save` overwrites by design: the no-loss clause is about traces without it -/
def notSave : Op → Prop
  | .save _ _ => False
  | _ => True

theorem notSave_of {op : Op}
    (h : match op with | .save _ _ => False | .touch _ => True | _ => True) : notSave op := by
  cases op with
  | save i mt => exact h
  | _ => trivial

/-- One step of `Sys` under the counting invariant is one step of the reference model: the file
    is the model's file, the unwritten lines are the model's queues, and the invariants hold of
    the rest of the trace. -/
theorem count_step (ws : Char → Bool) (isp : Bool) (U : List Text) (s : Sys) (F A : List Text) (op : Op)
    (hg : Good s) (hf : FileIs s F) (hc : CfgOk isp U s)
    (hinv : CInv ws isp U (pend s) F (nextAdds op A)) (hm : MemInv s (nextAdds op A))
    (hns : notSave op) :
    FileIs (s.step ws op).1 (refStep (accepts ws isp) F (pend s) op).1 ∧
    pend (s.step ws op).1 = (refStep (accepts ws isp) F (pend s) op).2 ∧
    CInv ws isp U (pend (s.step ws op).1) (refStep (accepts ws isp) F (pend s) op).1 A ∧
    MemInv (s.step ws op).1 A := by
  have hne : NonEmpty F := fun e he => (hinv.mem 0 e (by simp [he])).2.2.1
  -- the invariant follows the reference model, so the queues are all there is to show
  suffices h : FileIs (s.step ws op).1 (refStep (accepts ws isp) F (pend s) op).1 ∧
      pend (s.step ws op).1 = (refStep (accepts ws isp) F (pend s) op).2 ∧ MemInv (s.step ws op).1 A from
    ⟨h.1, h.2.1, by rw [h.2.1]; exact cinv_refStep (fun _ => okLine_of_accepts) op hinv, h.2.2⟩
  cases op with
  | save i mt => exact hns.elim
  | touch mt => exact ⟨touch_fileIs s mt hf, pend_touch s mt, memInv_touch s A mt hm⟩
  | add i l =>
    rw [refStep_add]
    exact ⟨hf, pend_add ws isp U s F A i l hg hc hinv hm, memInv_add ws s A i l hinv.aNodup hm⟩
  | load i =>
    refine ⟨Exists.imp (fun m h => (load_file ws s i).trans h) hf, ?_,
      memInv_load ws s F A i hne hf (fun e he => (hinv.mem 0 e (by simp [he])).2.1) hm⟩
    obtain ⟨fm, hf⟩ := hf
    show pend (s.load ws i).1 = _
    rw [load_eq ws s i fm F hf hne, pend_setSess, newOnes_zero _ rfl]; rfl
  | append i mt =>
    show FileIs (s.append ws i mt).1 (F ++ pend s i) ∧
      pend (s.append ws i mt).1 = (fun j => if j = i then [] else pend s j) ∧ MemInv (s.append ws i mt).1 A
    cases hn : nothingNew s i
    · -- something to write: it fits, so it goes to the end of the file
      obtain ⟨fm, hf⟩ := hf
      rw [append_eq ws s i mt fm F hf hne hn,
        appendOut_fits ws _ fm F (hg.2 i) (cinv_storable ws isp U s F A i hc hinv)]
      exact ⟨wrote_fileIs .., pend_wrote .., memInv_wrote s A i _ mt _ hm⟩
    · -- nothing to write: the queue is empty
      have hp := pend_nothingNew s i hn
      rw [append_nothing ws s i mt hn, hp, List.append_nil]
      refine ⟨hf, ?_, hm⟩
      funext j
      split
      · rename_i hj; rw [hj]; exact hp
      · rfl

theorem count_run (ws : Char → Bool) (isp : Bool) (U : List Text) (ops : List Op) (s : Sys) (F : List Text)
    (hg : Good s) (hf : FileIs s F) (hc : CfgOk isp U s)
    (hinv : CInv ws isp U (pend s) F (addsOf ops)) (hm : MemInv s (addsOf ops))
    (hns : ∀ op ∈ ops, notSave op) :
    FileIs (s.run ws ops) (refRun (accepts ws isp) F (pend s) ops).1 ∧
    pend (s.run ws ops) = (refRun (accepts ws isp) F (pend s) ops).2 ∧
    CInv ws isp U (pend (s.run ws ops)) (refRun (accepts ws isp) F (pend s) ops).1 [] := by
  induction ops generalizing s F with
  | nil => exact ⟨hf, rfl, hinv⟩
  | cons op ops ih =>
    rw [addsOf_cons] at hinv hm
    obtain ⟨h1, h2, h3, h4⟩ := count_step ws isp U s F (addsOf ops) op hg hf hc hinv hm (hns op (by simp))
    have := ih (s.step ws op).1 _ (step_good ws s op hg) h1 (cfgOk_step ws isp U s op hg hc) h3 h4
      (fun o ho => hns o (by simp [ho]))
    rw [h2] at this
    exact this

theorem memInv_init (file : Option FileVal) (cfg : Nat → Nat × Bool × Bool) (A : List Text) :
    MemInv (Sys.init file cfg) A := by
  intro i e he; simp [Sys.init, FileHist.new, MemHist.new] at he

theorem pend_init (file : Option FileVal) (cfg : Nat → Nat × Bool × Bool) :
    pend (Sys.init file cfg) = fun _ => [] := by
  funext i; simp [pend, Sys.init, FileHist.new, MemHist.new, newOnes]

theorem refRun_prefix (acc : Text → Bool) (ops : List Op) (F : List Text) (P : Nat → List Text) :
    F <+: (refRun acc F P ops).1 := by
  induction ops generalizing F P with
  | nil => exact List.prefix_refl _
  | cons op ops ih =>
    refine List.IsPrefix.trans ?_ (ih _ _)
    cases op with
    | add i l => rw [refStep_add]; exact List.prefix_refl _
    | append i mt => exact List.prefix_append _ _
    | _ => exact List.prefix_refl _

/-- the lines session `i` enters in `ops` and its store accepts, in order -/
def entered (acc : Text → Bool) (i : Nat) (ops : List Op) : List Text :=
  ops.filterMap (fun op => match op with
    | .add j l => if j = i ∧ acc l = true then some l else none
    | _ => none)

theorem mem_entered {acc : Text → Bool} {i : Nat} {ops : List Op} {l : Text} :
    l ∈ entered acc i ops ↔ Op.add i l ∈ ops ∧ acc l = true := by
  simp only [entered, List.mem_filterMap]
  constructor
  · rintro ⟨op, hop, h⟩
    cases op with
    | add j m =>
      simp only at h
      split at h
      · rename_i hc
        simp at h; subst h
        obtain ⟨rfl, ha⟩ := hc
        exact ⟨hop, ha⟩
      · cases h
    | _ => simp at h
  · rintro ⟨hop, ha⟩
    exact ⟨.add i l, hop, by simp [ha]⟩

theorem mem_addsOf {ops : List Op} {j : Nat} {l : Text} (h : Op.add j l ∈ ops) : l ∈ addsOf ops := by
  simp only [addsOf, List.mem_filterMap]
  exact ⟨.add j l, h, rfl⟩

theorem refRun_append (acc : Text → Bool) (a b : List Op) (F : List Text) (P : Nat → List Text) :
    refRun acc F P (a ++ b) = refRun acc (refRun acc F P a).1 (refRun acc F P a).2 b := by
  induction a generalizing F P with
  | nil => rfl
  | cons op a ih => simp only [List.cons_append, refRun, ih]

theorem entered_append (acc : Text → Bool) (i : Nat) (a b : List Op) :
    entered acc i (a ++ b) = entered acc i a ++ entered acc i b := by
  simp [entered, List.filterMap_append]

theorem refStep_others (acc p : Text → Bool) (i : Nat) (op : Op) (F : List Text) (P : Nat → List Text)
    (hP : ∀ j, j ≠ i → ∀ e ∈ P j, p e = false)
    (ho : ∀ j l, op = .add j l → j ≠ i → acc l = true → p l = false) :
    ∀ j, j ≠ i → ∀ e ∈ (refStep acc F P op).2 j, p e = false := by
  -- queue `k` replaced by `X`
  have upd : ∀ (k : Nat) (X : List Text), (k ≠ i → ∀ e ∈ X, p e = false) →
      ∀ j, j ≠ i → ∀ e ∈ (if j = k then X else P j), p e = false := by
    intro k X hX j hj e he
    by_cases hjk : j = k
    · rw [if_pos hjk] at he; exact hX (hjk ▸ hj) e he
    · rw [if_neg hjk] at he; exact hP j hj e he
  cases op with
  | add j l =>
    rw [refStep_add]
    cases hacc : acc l
    · exact hP
    · exact upd j _ (fun hj => List.forall_mem_append.mpr
        ⟨hP j hj, List.forall_mem_singleton.mpr (ho j l rfl hj hacc)⟩)
  | load j => exact upd j [] (fun _ _ he => nomatch he)
  | append j mt => exact upd j [] (fun _ _ he => nomatch he)
  | save j mt => exact hP
  | touch mt => exact hP

/-- `p` marks the lines of session `i` (true on its queue and on what it enters, false on the
    other queues).  One step of the reference model without a load of `i` adds to "`p`-lines of
    the file ++ queue of `i`" exactly what `i` enters: an `add i` extends the queue, `append i`
    moves the queue into the file (the sum is unchanged), an `append j` adds only non-`p` lines,
    every other step touches neither. -/
theorem refStep_session (acc p : Text → Bool) (i : Nat) (op : Op) (F : List Text) (P : Nat → List Text)
    (hload : op ≠ .load i) (hmine : ∀ l, op = .add i l → acc l = true → p l = true)
    (hP : ∀ j, j ≠ i → ∀ e ∈ P j, p e = false) (hPi : ∀ e ∈ P i, p e = true) :
    (refStep acc F P op).1.filter p ++ (refStep acc F P op).2 i = F.filter p ++ P i ++ entered acc i [op] ∧
    ∀ e ∈ (refStep acc F P op).2 i, p e = true := by
  have other : ∀ {j : Nat} (X : List Text), j ≠ i → (if i = j then X else P i) = P i :=
    fun X hj => if_neg (fun e => hj e.symm)
  cases op with
  | add j l =>
    rw [refStep_add]
    cases hacc : acc l
    · exact ⟨by simp only [entered, hacc, Bool.false_eq_true, and_false, if_false, List.filterMap_cons_none,
        List.filterMap_nil, List.append_nil], hPi⟩
    · by_cases hj : j = i
      · subst hj
        refine ⟨by simp only [↓reduceIte, entered, hacc, and_self, Option.some.injEq, List.filterMap_cons_some,
          List.filterMap_nil, List.append_assoc], ?_⟩
        show ∀ e ∈ (if j = j then P j ++ [l] else P j), p e = true
        rw [if_pos rfl]
        exact List.forall_mem_append.mpr ⟨hPi, List.forall_mem_singleton.mpr (hmine l rfl hacc)⟩
      · have hq : (if i = j then P j ++ [l] else P i) = P i := other _ hj
        refine ⟨?_, fun e he => hPi e (hq ▸ he)⟩
        show List.filter p F ++ (if i = j then P j ++ [l] else P i) = _
        rw [hq]
        simp only [entered, hj, false_and, if_false, List.filterMap_cons_none, List.filterMap_nil, List.append_nil]
  | load j =>
    have hj : j ≠ i := fun e => hload (by rw [e])
    have hq : (if i = j then [] else P i) = P i := other _ hj
    refine ⟨?_, fun e he => hPi e (hq ▸ he)⟩
    show List.filter p F ++ (if i = j then [] else P i) = _
    rw [hq]; exact (List.append_nil _).symm
  | append j mt =>
    by_cases hj : j = i
    · subst hj
      refine ⟨?_, fun e he => by rw [show (refStep acc F P (.append j mt)).2 j = [] from if_pos rfl] at he; cases he⟩
      show List.filter p (F ++ P j) ++ (if j = j then [] else P j) = _
      rw [if_pos rfl, List.filter_append, List.filter_eq_self.mpr hPi]; rfl
    · have hq : (if i = j then [] else P i) = P i := other _ hj
      refine ⟨?_, fun e he => hPi e (hq ▸ he)⟩
      show List.filter p (F ++ P j) ++ (if i = j then [] else P i) = _
      have hn : (P j).filter p = [] :=
        List.filter_eq_nil_iff.mpr (fun e he => by rw [hP j hj e he]; exact Bool.false_ne_true)
      rw [hq, List.filter_append, hn, List.append_nil]; exact (List.append_nil _).symm
  | save j mt => exact ⟨(List.append_nil _).symm, hPi⟩
  | touch mt => exact ⟨(List.append_nil _).symm, hPi⟩

theorem refRun_session (acc p : Text → Bool) (i : Nat) (ops : List Op) (F : List Text) (P : Nat → List Text)
    (hload : ∀ op ∈ ops, op ≠ .load i)
    (hmine : ∀ l, Op.add i l ∈ ops → acc l = true → p l = true)
    (hothers : ∀ j l, j ≠ i → Op.add j l ∈ ops → acc l = true → p l = false)
    (hP : ∀ j, j ≠ i → ∀ e ∈ P j, p e = false) (hPi : ∀ e ∈ P i, p e = true) :
    (refRun acc F P ops).1.filter p ++ (refRun acc F P ops).2 i = F.filter p ++ P i ++ entered acc i ops := by
  induction ops generalizing F P with
  | nil => simp [refRun, entered]
  | cons op ops ih =>
    obtain ⟨h1, h2⟩ := refStep_session acc p i op F P (hload op (by simp))
      (fun l e => hmine l (by rw [e]; simp)) hP hPi
    have h3 := refStep_others acc p i op F P hP (fun j l e hj => hothers j l hj (by rw [e]; simp))
    rw [refRun, ih _ _ (fun o ho => hload o (by simp [ho])) (fun l hl => hmine l (by simp [hl]))
      (fun j l hj hl => hothers j l hj (by simp [hl])) h3 h2, h1, List.append_assoc,
      ← entered_append]
    rfl

theorem refStep_before (acc p : Text → Bool) (i : Nat) (op : Op) (F : List Text) (P : Nat → List Text)
    (hadd : ∀ l, op ≠ .add i l) (hP : ∀ j, j ≠ i → ∀ e ∈ P j, p e = false) (hPi : P i = []) :
    (refStep acc F P op).1.filter p = F.filter p ∧ (refStep acc F P op).2 i = [] := by
  have emptied : ∀ j, (if i = j then [] else P i) = [] := fun j => by split; rfl; exact hPi
  cases op with
  | add j l =>
    rw [refStep_add]
    refine ⟨rfl, ?_⟩
    cases acc l
    · exact hPi
    · show (if i = j then P j ++ [l] else P i) = []
      rw [if_neg (fun e => hadd l (by rw [e])), hPi]
  | load j => exact ⟨rfl, emptied j⟩
  | append j mt =>
    refine ⟨?_, emptied j⟩
    show (F ++ P j).filter p = F.filter p
    have hn : (P j).filter p = [] := by
      by_cases hj : j = i
      · rw [hj, hPi]; rfl
      · exact List.filter_eq_nil_iff.mpr (fun e he => by rw [hP j hj e he]; exact Bool.false_ne_true)
    rw [List.filter_append, hn, List.append_nil]
  | save j mt => exact ⟨rfl, hPi⟩
  | touch mt => exact ⟨rfl, hPi⟩

theorem refRun_before (acc p : Text → Bool) (i : Nat) (ops : List Op) (F : List Text) (P : Nat → List Text)
    (hadd : ∀ l, Op.add i l ∉ ops)
    (hothers : ∀ j l, j ≠ i → Op.add j l ∈ ops → acc l = true → p l = false)
    (hP : ∀ j, j ≠ i → ∀ e ∈ P j, p e = false) (hPi : P i = []) :
    (refRun acc F P ops).1.filter p = F.filter p ∧ (refRun acc F P ops).2 i = [] ∧
    ∀ j, j ≠ i → ∀ e ∈ (refRun acc F P ops).2 j, p e = false := by
  induction ops generalizing F P with
  | nil => exact ⟨rfl, hPi, hP⟩
  | cons op ops ih =>
    obtain ⟨h1, h2⟩ := refStep_before acc p i op F P (fun l e => hadd l (by rw [e]; simp)) hP hPi
    have h3 := refStep_others acc p i op F P hP (fun j l e hj => hothers j l hj (by rw [e]; simp))
    obtain ⟨a, b, c⟩ := ih _ _ (fun l hl => hadd l (by simp [hl]))
      (fun j l hj hl => hothers j l hj (by simp [hl])) h3 h2
    exact ⟨a.trans h1, b, c⟩

theorem sublist_nextAdds (op : Op) (A : List Text) : A.Sublist (nextAdds op A) := by
  cases op with
  | add i l => exact List.sublist_cons_self _ _
  | _ => exact List.Sublist.refl _

theorem adds_unique {ops : List Op} (h : (addsOf ops).Nodup) {i j : Nat} {l : Text}
    (hj : Op.add j l ∈ ops) (hi : Op.add i l ∈ ops) : j = i := by
  induction ops with
  | nil => cases hj
  | cons op ops ih =>
    rw [addsOf_cons] at h
    rcases List.mem_cons.mp hj with rfl | hj1
    · rcases List.mem_cons.mp hi with e | hi1
      · cases e; rfl
      · exact absurd (mem_addsOf hi1) (List.nodup_cons.mp h).1
    · rcases List.mem_cons.mp hi with rfl | hi1
      · exact absurd (mem_addsOf hj1) (List.nodup_cons.mp h).1
      · exact ih (h.sublist (sublist_nextAdds op _)) hj1 hi1

theorem addsOf_append (a b : List Op) : addsOf (a ++ b) = addsOf a ++ addsOf b := by
  simp [addsOf, List.filterMap_append]

theorem refRun_session_total (acc : Text → Bool) (i : Nat) (es0 : List Text) (pre rest : List Op)
    (hnd : (es0 ++ addsOf (pre ++ rest)).Nodup)
    (hpre : ∀ l, Op.add i l ∉ pre) (hrest : ∀ op ∈ rest, op ≠ .load i) :
    (refRun acc es0 (fun _ => []) (pre ++ rest)).1.filter (fun e => decide (e ∈ entered acc i (pre ++ rest)))
        ++ (refRun acc es0 (fun _ => []) (pre ++ rest)).2 i
      = entered acc i (pre ++ rest) := by
  have hn := List.nodup_append.mp hnd
  have hE : entered acc i (pre ++ rest) = entered acc i rest := by
    rw [entered_append]
    have : entered acc i pre = [] := List.eq_nil_iff_forall_not_mem.mpr (fun l hl => hpre l (mem_entered.mp hl).1)
    rw [this, List.nil_append]
  have hothers : ∀ j l, j ≠ i → Op.add j l ∈ pre ++ rest → acc l = true →
      decide (l ∈ entered acc i (pre ++ rest)) = false := by
    intro j l hj hl _
    simp only [decide_eq_false_iff_not]
    intro hm
    exact hj (adds_unique hn.2.1 hl (mem_entered.mp hm).1)
  have hes0 : es0.filter (fun e => decide (e ∈ entered acc i (pre ++ rest))) = [] := by
    apply List.filter_eq_nil_iff.mpr
    intro e he
    simp only [decide_eq_true_eq]
    intro hm
    exact hn.2.2 e he e (mem_addsOf (mem_entered.mp hm).1) rfl
  obtain ⟨h1, h2, h3⟩ := refRun_before acc (fun e => decide (e ∈ entered acc i (pre ++ rest))) i pre es0
    (fun _ => []) hpre (fun j l hj hl ha => hothers j l hj (by simp [hl]) ha) (fun j _ e he => by simp at he) rfl
  rw [refRun_append]
  rw [refRun_session acc (fun e => decide (e ∈ entered acc i (pre ++ rest))) i rest _ _ hrest
    (fun l hl ha => by
      simp only [decide_eq_true_eq]
      exact mem_entered.mpr ⟨by simp [hl], ha⟩)
    (fun j l hj hl ha => hothers j l hj (by simp [hl]) ha) h3 (fun e he => by rw [h2] at he; simp at he)]
  rw [h1, hes0, h2, hE]
  simp


end Rl.FS
