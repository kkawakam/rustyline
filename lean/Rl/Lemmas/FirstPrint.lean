/-
  C04, vi `^`: the model's `first_print` is the declarative `firstPrintTarget` of `Rl/Spec/Motion.lean`, and
  the motion lands on it (`firstPrint_eq_target`).  The helpers `fp_*` are those of this file (`fp` = first print);
  `vm_*` (`vm_Suf R`: `R` is empty or starts with a line break, `vm_line_at`) come from `Rl/Lemmas/Vertical.lean`, the
  decomposition of the buffer around the cursor's line used for the vertical motions; `gidxGo` pairs each grapheme
  with its byte offset (`Rl/LineBuffer.lean`).
-/
import Rl.Lemmas.Vertical
import Rl.Lemmas.Steps
namespace Rl
open Rl.Spec

theorem fp_gidxGo_find (P : Text → Bool) (o : Nat) (gs : List Text) :
    ((gidxGo o gs).find? (fun x => !P x.2)).map (·.1) =
      if (gs.takeWhile P).length < gs.length then some (o + offOf gs (gs.takeWhile P).length) else none := by
  induction gs generalizing o with
  | nil => simp [gidxGo]
  | cons g gs ih =>
    simp only [gidxGo, List.find?_cons, List.takeWhile_cons]
    cases hP : P g with
    | false => simp [offOf]
    | true =>
      simp only [Bool.not_true, if_true, List.length_cons, ih (o + blen g),
        Nat.add_lt_add_iff_right, offOf_cons_succ]
      split
      · simp; omega
      · rfl

theorem fp_takeWhile_line (v m R : Text) (hv : '\n' ∉ v) (hm : '\n' ∉ m) (hR : vm_Suf R) :
    (v ++ m ++ R).takeWhile (· != '\n') = v ++ m := by
  have hvm : ∀ c ∈ v ++ m, (c != '\n') = true := by
    intro c hc
    have : c ≠ '\n' := by
      intro e; subst e
      rcases List.mem_append.mp hc with h | h
      · exact hv h
      · exact hm h
    simpa using this
  rw [List.takeWhile_append_of_pos hvm]
  rcases hR with rfl | ⟨q, rfl⟩ <;> simp

/-- **the model's `first_print` is the declarative target** -/
theorem firstPrint_eq_target (S : Segmenter) (U : UData) (lb : LB) (h : WF lb) :
    ∃ fp, firstPrintTarget S U lb.buf lb.pos = some fp ∧ LB.firstPrint S U lb = .ok fp := by
  obtain ⟨x, s, hb, hp⟩ := h.split
  obtain ⟨X, v, m, R, hx, hs, hX, hR, hv, hm, hL, h1, h2⟩ := vm_line_at hb
  rw [← hp] at h1 h2
  have hsl := startOfLine_eq lb h
  have hel := endOfLine_eq lb h
  have hline : slice lb.buf (blen X) (lineEndOf lb.buf lb.pos) = .ok (v ++ m) := by
    rw [h2, hp]; exact hL.slice
  have hbuf : lb.buf = X ++ (v ++ m ++ R) := by rw [hb, hx, hs]; simp
  have hsp : splitAtByte lb.buf (blen X) = some (X, v ++ m ++ R) := by
    conv => lhs; rw [hbuf]
    exact splitAtByte_append _ _
  have hfind := fp_gidxGo_find (fun g => g.any U.ws) 0 (S.seg (v ++ m))
  unfold firstPrintTarget LB.firstPrint
  simp only [h1, splitAt?, hsp, fp_takeWhile_line v m R hv hm hR, hsl, hel, hline, bind, Except.bind, gidx]
  refine ⟨_, rfl, ?_⟩
  have hle : lineEndOf lb.buf lb.pos = blen X + blen (v ++ m) := by rw [h2, hp, hx]; simp; omega
  cases hf : (gidxGo 0 (S.seg (v ++ m))).find? (fun x => !x.2.any U.ws) with
  | some ig =>
    obtain ⟨i, g⟩ := ig
    rw [hf] at hfind
    simp only [Option.map_some] at hfind
    split at hfind
    · cases hfind
      simp [pure, Except.pure]
    · cases hfind
  | none =>
    rw [hf] at hfind
    simp only [Option.map_none] at hfind
    split at hfind
    · cases hfind
    · rename_i hlt
      have hk : ((S.seg (v ++ m)).takeWhile (fun g => g.any U.ws)).length = (S.seg (v ++ m)).length := by
        have := List.IsPrefix.length_le (List.takeWhile_prefix (fun g => g.any U.ws) (l := S.seg (v ++ m)))
        omega
      simp only [pure, Except.pure, hk, vm_offOf_length, hle]

theorem moveToFirstPrint_target (S : Segmenter) (U : UData) (lb lb' : LB) (r : Bool) (ns : List Notif)
    (h : WF lb) (hrun : LB.moveToFirstPrint S U lb = .ok (r, lb', ns)) :
    firstPrintTarget S U lb.buf lb.pos = some lb'.pos ∧ lb'.buf = lb.buf ∧ (r = false ↔ lb'.pos = lb.pos) := by
  obtain ⟨fp, ht, hf⟩ := firstPrint_eq_target S U lb h
  simp [LB.moveToFirstPrint, LM.bind_apply, LM.ro, hf, LM.get, LM.setPos] at hrun
  obtain ⟨rfl, rfl, _⟩ := hrun
  exact ⟨ht, rfl, by simp⟩

/-- `d^` / `c^`: the text between the cursor and the first non-blank of the line, whichever side it is on -/
theorem kill_viFirstPrint_eval (S : Segmenter) (U : UData) (lb : LB) (h : WF lb) :
    KillsSpan S U True .viFirstPrint (LB.kill S U .viFirstPrint) lb := by
  obtain ⟨fp, ht, hf⟩ := firstPrint_eq_target S U lb h
  obtain ⟨p', hp', hpb⟩ := firstPrint_ok S U lb h
  rw [hf] at hp'; cases hp'
  have hj : ∀ o, (lb.buf.isEmpty = false → spanOf S U lb.buf lb.pos .viFirstPrint false = rangeSpan o) →
      (lb.buf.isEmpty = true → o = none) → Judged S U lb .viFirstPrint false o := by
    intro o h1 h2
    by_cases hemp : lb.buf.isEmpty = true
    · rw [h2 hemp]; exact judged_of_isEmpty hemp _ _
    · exact Or.inr (h1 (by simpa using hemp))
  have hlen := h.le_len
  by_cases h1 : fp < lb.pos
  · obtain ⟨y, buf', hd, hcut⟩ := drain_cut .backward hpb h (Nat.le_of_lt h1)
    have hne : (fp != lb.pos) = true := by simp; omega
    exact ⟨some (fp, lb.pos), true, _, _,
      by simp [LB.kill, LM.bind_apply, LM.notify, LM.ro, hf, LM.get, h1, hd, LM.setPos, hne],
      Killed.wrap ⟨Nat.le_of_lt h1, Nat.le_refl _, hcut⟩,
      fun _ => hj _ (fun he => by simp [spanOf_viFirstPrint he, ht, h1, rangeSpan, mkSpan])
        (fun he => by have := (pos_eq_len_of_empty h he).1; omega)⟩
  · by_cases h2 : lb.pos < fp
    · obtain ⟨y, buf', hd, hcut⟩ := drain_cut .forward h hpb (Nat.le_of_lt h2)
      have hne : (fp != lb.pos) = true := by simp; omega
      exact ⟨some (lb.pos, fp), true, _, _,
        by simp [LB.kill, LM.bind_apply, LM.notify, LM.ro, hf, LM.get, h1, h2, hd, hne],
        Killed.wrap ⟨Nat.le_refl _, Nat.le_of_lt h2, hcut⟩,
        fun _ => hj _ (fun he => by simp [spanOf_viFirstPrint he, ht, h1, h2, rangeSpan, mkSpan])
          (fun he => by have := (pos_eq_len_of_empty h he).2; have := hpb.le_len; simp only [LB.len] at *; omega)⟩
    · have hne : (fp != lb.pos) = false := by simp; omega
      exact ⟨none, false, lb, [.startKill, .stopKill],
        by simp [LB.kill, LM.bind_apply, LM.notify, LM.ro, hf, LM.get, h1, h2, hne], rfl,
        fun _ => hj _ (fun he => by simp [spanOf_viFirstPrint he, ht, h1, h2, rangeSpan]) (fun _ => rfl)⟩

/-- `y^` -/
theorem copy_viFirstPrint_eval (S : Segmenter) (U : UData) (lb : LB) (h : WF lb) :
    CopiesSpan S U True .viFirstPrint lb := by
  by_cases hemp : lb.buf.isEmpty = true
  · exact copiesSpan_of_isEmpty hemp
  have hemp' : lb.buf.isEmpty = false := by simpa using hemp
  obtain ⟨fp, ht, hf⟩ := firstPrint_eq_target S U lb h
  obtain ⟨p', hp', hpb⟩ := firstPrint_ok S U lb h
  rw [hf] at hp'; cases hp'
  by_cases h1 : fp < lb.pos
  · obtain ⟨y, hy, hc⟩ := slice_cut hpb h (Nat.le_of_lt h1)
    exact ⟨_, some y, by simp [LB.copy, hemp', hf, h1, hy, bind, Except.bind, pure, Except.pure], hc,
      fun _ => Or.inr (by simp [spanOf_viFirstPrint hemp', ht, h1, rangeSpan, mkSpan])⟩
  · by_cases h2 : lb.pos < fp
    · obtain ⟨y, hy, hc⟩ := slice_cut h hpb (Nat.le_of_lt h2)
      exact ⟨_, some y, by simp [LB.copy, hemp', hf, h1, h2, hy, bind, Except.bind, pure, Except.pure], hc,
        fun _ => Or.inr (by simp [spanOf_viFirstPrint hemp', ht, h1, h2, rangeSpan, mkSpan])⟩
    · exact ⟨none, none, by simp [LB.copy, hemp', hf, h1, h2, bind, Except.bind, pure, Except.pure], rfl,
        fun _ => Or.inr (by simp [spanOf_viFirstPrint hemp', ht, h1, h2, rangeSpan])⟩

end Rl
