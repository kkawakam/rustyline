/-
  Lemmas for the bracket-matching model (`Rl/Highlight.lean`): the six brackets, one round of
  `check_bracket`, and the scan of `find_matching_bracket` characterised by counting.
-/
import Rl.Highlight
namespace Rl.Highlight

theorem bracket_cases {b : UInt8} (h : isOpenB b = true ∨ isCloseB b = true) :
    b = 123 ∨ b = 91 ∨ b = 40 ∨ b = 125 ∨ b = 93 ∨ b = 41 := by
  simpa only [isOpenB, isCloseB, Bool.or_eq_true, beq_iff_eq, or_assoc] using h

/-- the six brackets: the partner is another byte, ASCII, and a bracket opens or closes, not both -/
theorem bracket_table {b : UInt8} (h : isOpenB b = true ∨ isCloseB b = true) :
    matchingBracket b ≠ b ∧ (matchingBracket b).toNat < 128 ∧ isOpenB b = !isCloseB b := by
  rcases bracket_cases h with rfl | rfl | rfl | rfl | rfl | rfl <;> decide

theorem matching_ne {b : UInt8} (h : isOpenB b = true ∨ isCloseB b = true) : matchingBracket b ≠ b :=
  (bracket_table h).1

theorem matching_toNat_lt {b : UInt8} (h : isOpenB b = true ∨ isCloseB b = true) :
    (matchingBracket b).toNat < 128 :=
  (bracket_table h).2.1

theorem not_open_of_close {b : UInt8} (h : isCloseB b = true) : isOpenB b = false := by
  rw [(bracket_table (.inr h)).2.2, h]; rfl

/-- a bracket found by one round of `check_bracket` is the byte at the inspected position, not a
    closing bracket at offset 0 and not an opening bracket at the end of the line -/
theorem checkAt_some {bs : Bytes} {q p : Nat} {br : UInt8} (h : checkAt bs q = some (some (br, p))) :
    p = q ∧ p < bs.length ∧ bs[p]? = some br ∧ (isOpenB br = true ∨ isCloseB br = true) ∧
    (isOpenB br = true → p + 1 < bs.length) ∧ (isCloseB br = true → 0 < p) := by
  unfold checkAt at h
  cases hb : bs[q]? with
  | none => rw [hb] at h; cases h
  | some b =>
    have hl := (List.getElem?_eq_some_iff.1 hb).1
    cases hcl : isCloseB b
    · cases hop : isOpenB b
      · simp only [hb, hcl, hop, Bool.false_eq_true, if_false] at h; cases h
      · simp only [hb, hcl, hop, Bool.false_eq_true, if_false, if_true, Option.some.injEq,
          Option.ite_none_left_eq_some, Prod.mk.injEq, beq_iff_eq] at h
        obtain ⟨hne, rfl, rfl⟩ := h
        exact ⟨rfl, hl, hb, .inl hop, fun _ => by omega, fun hc => absurd (hcl ▸ hc) Bool.false_ne_true⟩
    · simp only [hb, hcl, if_true, Option.some.injEq, Option.ite_none_left_eq_some, Prod.mk.injEq,
        beq_iff_eq] at h
      obtain ⟨hne, rfl, rfl⟩ := h
      exact ⟨rfl, hl, hb, .inr hcl, fun ho => absurd (not_open_of_close hcl ▸ ho) Bool.false_ne_true,
        fun _ => Nat.pos_of_ne_zero hne⟩

theorem count_take_succ_cons (x b0 : UInt8) (bs : Bytes) (n : Nat) :
    ((b0 :: bs).take (n + 1)).count x = (bs.take n).count x + if b0 == x then 1 else 0 := by
  rw [List.take_succ_cons, List.count_cons]

/-- What the answer `r` of `scan m b l k u` says by counting: the depth starts at `u`, goes up on `b`
    and down on `m`; `some q` = it first reaches 0 on byte `q - k` of `l`, `none` = never. -/
def ScanPost (m b : UInt8) (l : Bytes) (k u : Nat) : Option Nat → Prop
  | some q => ∃ j, q = k + j ∧ l[j]? = some m ∧
      (l.take j).count m + 1 = (l.take j).count b + u ∧
      ∀ n, n ≤ j → (l.take n).count m < (l.take n).count b + u
  | none => ∀ n, (l.take n).count m < (l.take n).count b + u

variable {m b b0 : UInt8} {bs : Bytes} {k u u' : Nat}

theorem depth_nil (hu : 1 ≤ u) : ([] : Bytes).count m < ([] : Bytes).count b + u := by
  rw [List.count_nil, List.count_nil, Nat.zero_add]; exact hu

theorem depth_cons (hu : 1 ≤ u)
    (hd : u' + (if b0 == m then 1 else 0) = u + if b0 == b then 1 else 0) (n : Nat)
    (h : ∀ n', n = n' + 1 → (bs.take n').count m < (bs.take n').count b + u') :
    ((b0 :: bs).take n).count m < ((b0 :: bs).take n).count b + u := by
  cases n with
  | zero => exact depth_nil hu
  | succ n =>
    have := h n rfl
    rw [count_take_succ_cons, count_take_succ_cons]; omega

theorem ScanPost.cons (hu : 1 ≤ u)
    (hd : u' + (if b0 == m then 1 else 0) = u + if b0 == b then 1 else 0) :
    ∀ {r}, ScanPost m b bs (k + 1) u' r → ScanPost m b (b0 :: bs) k u r
  | some _, ⟨j, hq, hj, hc, hp⟩ =>
    ⟨j + 1, by omega, hj, by rw [count_take_succ_cons, count_take_succ_cons]; omega,
      fun n hn => depth_cons hu hd n fun n' e => hp n' (by omega)⟩
  | none, h => fun n => depth_cons hu hd n fun n' _ => h n'

theorem scan_spec (hne : m ≠ b) (l : Bytes) (k u : Nat) (hu : 1 ≤ u) :
    ScanPost m b l k u (scan m b l k u) := by
  induction l generalizing k u with
  | nil => intro n; rw [List.take_nil]; exact depth_nil hu
  | cons b0 bs ih =>
    rw [scan]
    by_cases hm : (b0 == m) = true
    · have hb : ¬ (b0 == b) = true := fun hb => hne ((beq_iff_eq.1 hm).symm.trans (beq_iff_eq.1 hb))
      rw [if_pos hm]
      by_cases hu1 : (u - 1 == 0) = true
      · rw [if_pos hu1]
        have hu1 := beq_iff_eq.1 hu1
        refine ⟨0, rfl, congrArg some (beq_iff_eq.1 hm), by rw [List.take_zero, List.count_nil, List.count_nil]; omega, fun n hn => ?_⟩
        rw [Nat.le_zero.1 hn]; exact depth_nil hu
      · rw [if_neg hu1]
        have hu1 := mt beq_iff_eq.2 hu1
        exact (ih _ _ (by omega)).cons hu (by rw [if_pos hm, if_neg hb]; omega)
    · rw [if_neg hm]
      by_cases hb : (b0 == b) = true
      · rw [if_pos hb]
        exact (ih _ _ (by omega)).cons hu (by rw [if_neg hm, if_pos hb])
      · rw [if_neg hb]
        exact (ih _ _ hu).cons hu (by rw [if_neg hm, if_neg hb])

theorem scan_some (hne : m ≠ b) {l : Bytes} {q : Nat} (hu : 1 ≤ u)
    (h : scan m b l k u = some q) :
    ∃ j, q = k + j ∧ l[j]? = some m ∧
      (l.take j).count m + 1 = (l.take j).count b + u ∧
      ∀ n, n ≤ j → (l.take n).count m < (l.take n).count b + u := by
  have := scan_spec hne l k u hu; rw [h] at this; exact this

theorem scan_none (hne : m ≠ b) {l : Bytes} (hu : 1 ≤ u)
    (h : scan m b l k u = none) :
    ∀ n, (l.take n).count m < (l.take n).count b + u := by
  have := scan_spec hne l k u hu; rw [h] at this; exact this

/-- The scan as `find_matching_bracket` starts it (depth 1): it stops on the first byte `m` before
    which `m` and `b` are balanced. -/
theorem scan_start_some {l : Bytes} {q : Nat} (hne : m ≠ b) (h : scan m b l 0 1 = some q) :
    l[q]? = some m ∧ (l.take q).count m = (l.take q).count b ∧
      ∀ n, n ≤ q → (l.take n).count m ≤ (l.take n).count b := by
  obtain ⟨j, hq, hj, hc, hp⟩ := scan_some hne (Nat.le_refl 1) h
  rw [Nat.zero_add] at hq; subst hq
  exact ⟨hj, Nat.add_right_cancel hc, fun n hn => Nat.le_of_lt_succ (hp n hn)⟩

theorem scan_start_none {l : Bytes} (hne : m ≠ b) (h : scan m b l 0 1 = none) (n : Nat) :
    (l.take n).count m ≤ (l.take n).count b :=
  Nat.le_of_lt_succ (scan_none hne (Nat.le_refl 1) h n)

theorem findMatchingBracket_open {br : UInt8} (ho : isOpenB br = true) (bs : Bytes) (pos : Nat) :
    findMatchingBracket bs pos br = if pos + 1 > bs.length then none else
      some ((scan (matchingBracket br) br (bs.drop (pos + 1)) 0 1).map
        fun k => (matchingBracket br, pos + 1 + k)) := by
  simp only [findMatchingBracket, ho, if_true]
  split
  · rfl
  · cases scan (matchingBracket br) br (bs.drop (pos + 1)) 0 1 <;> rfl

theorem findMatchingBracket_close {br : UInt8} (ho : isOpenB br = false) (bs : Bytes) (pos : Nat) :
    findMatchingBracket bs pos br = if pos > bs.length then none else
      some ((scan (matchingBracket br) br (bs.take pos).reverse 0 1).map
        fun k => (matchingBracket br, pos - k - 1)) := by
  simp only [findMatchingBracket, ho, Bool.false_eq_true, if_false]
  split
  · rfl
  · cases scan (matchingBracket br) br (bs.take pos).reverse 0 1 <;> rfl

end Rl.Highlight
