/-
  The partner search of the bracket-matching model (`findMatchingBracket`, a scan with a depth
  counter) equals the declarative counting oracle `Rl.Spec.Highlight.partner` on every input on
  which the model does not panic.
-/
import Rl.Highlight
import Rl.Spec.Highlight
import Rl.Lemmas.Highlight
import Rl.Lemmas.History
namespace Rl.Highlight
open Rl.Spec.Highlight (seg partner)

theorem find_range_none {P : Nat → Bool} {n : Nat} (h : ∀ j, j < n → P j = false) :
    (List.range n).find? P = none := by
  rw [List.find?_eq_none]
  intro x hx
  have := h x (List.mem_range.mp hx)
  simp [this]

theorem find_range_some {P : Nat → Bool} {n q : Nat} (hq : q < n) (hP : P q = true)
    (hmin : ∀ j, j < q → P j = false) : (List.range n).find? P = some q := by
  induction n with
  | zero => omega
  | succ n ih =>
    rw [List.range_succ, List.find?_append]
    rcases Nat.lt_or_ge q n with hlt | hge
    · rw [ih hlt]; rfl
    · have : q = n := by omega
      subst this
      rw [find_range_none hmin]
      simp [hP]

/-- one more byte `m` after a balanced prefix: `m` outnumbers `b` by exactly one -/
theorem count_step {m b : UInt8} (hne : m ≠ b) {l : Bytes} {k : Nat} (hk : l[k]? = some m)
    (hc : (l.take k).count m = (l.take k).count b) :
    (l.take (k + 1)).count m = (l.take (k + 1)).count b + 1 := by
  rw [List.take_add_one, hk, Option.toList_some, List.count_append, List.count_append, hc,
    List.count_singleton_self, List.count_singleton, if_neg (mt beq_iff_eq.1 hne)]

theorem seg_after (bs : Bytes) (p q : Nat) (h : p < q) :
    seg bs (p + 1) (q + 1) = (bs.drop (p + 1)).take (q - p) := by
  unfold seg
  rw [List.drop_take]
  congr 1
  omega

theorem count_seg_before (bs : Bytes) (p q : Nat) (x : UInt8) (hp : p ≤ bs.length) (h : q ≤ p) :
    (seg bs q p).count x = (((bs.take p).reverse).take (p - q)).count x := by
  unfold seg
  rw [List.take_reverse, List.count_reverse]
  have : (bs.take p).length - (p - q) = q := by
    rw [List.length_take]; omega
  rw [this]

/-- The model's partner search and the counting oracle agree whenever the model does not panic
    and the remembered byte is a bracket. -/
theorem find_eq_partner (bs : Bytes) (pos : Nat) (br : UInt8)
    (hb : (isOpenB br || isCloseB br) = true) (r : Option (UInt8 × Nat))
    (h : findMatchingBracket bs pos br = some r) :
    r = (partner bs pos br).map (fun q => (matchingBracket br, q)) := by
  have hne := matching_ne (Bool.or_eq_true_iff.1 hb)
  unfold partner
  cases ho : isOpenB br
  · simp only [findMatchingBracket_close ho, Option.ite_none_left_eq_some, Option.some.injEq] at h
    obtain ⟨hlen, rfl⟩ := h
    have hple := Nat.le_of_not_gt hlen
    rw [if_neg Bool.false_ne_true, Nat.min_eq_left hple]
    cases hk : scan (matchingBracket br) br (bs.take pos).reverse 0 1 with
    | none =>
      rw [find_range_rev_none.2]; · rfl
      intro q hq
      rw [count_seg_before bs pos _ _ hple (Nat.le_of_lt hq), count_seg_before bs pos _ _ hple (Nat.le_of_lt hq)]
      have := scan_start_none hne hk (pos - q)
      exact beq_eq_false_iff_ne.2 (by omega)
    | some k =>
      obtain ⟨hj, hc, hp⟩ := scan_start_some hne hk
      have hkl := (List.getElem?_eq_some_iff.1 hj).1
      rw [List.length_reverse, List.length_take, Nat.min_eq_left hple] at hkl
      rw [(find_range_rev_some (i := pos - k - 1)).2]; · rfl
      have hqp : pos - k - 1 ≤ pos := Nat.le_trans (Nat.sub_le _ _) (Nat.sub_le _ _)
      refine ⟨?_, by omega, fun q hq1 hq2 => ?_⟩
      · rw [count_seg_before bs pos _ _ hple hqp, count_seg_before bs pos _ _ hple hqp,
          Nat.sub_sub, Nat.sub_sub_self hkl]
        exact beq_iff_eq.2 (count_step hne hj hc)
      · rw [count_seg_before bs pos _ _ hple (Nat.le_of_lt hq2), count_seg_before bs pos _ _ hple (Nat.le_of_lt hq2)]
        have := hp (pos - q) (by omega)
        exact beq_eq_false_iff_ne.2 (by omega)
  · simp only [findMatchingBracket_open ho, Option.ite_none_left_eq_some, Option.some.injEq] at h
    obtain ⟨hlen, rfl⟩ := h
    rw [if_pos rfl]
    cases hk : scan (matchingBracket br) br (bs.drop (pos + 1)) 0 1 with
    | none =>
      rw [find_range_none]; · rfl
      intro q hq
      by_cases hpq : pos < q
      · rw [seg_after bs pos q hpq]
        have := scan_start_none hne hk (q - pos)
        rw [Bool.and_eq_false_iff]; exact .inr (beq_eq_false_iff_ne.2 (by omega))
      · rw [Bool.and_eq_false_iff]; exact .inl (decide_eq_false hpq)
    | some k =>
      obtain ⟨hj, hc, hp⟩ := scan_start_some hne hk
      have hkl := (List.getElem?_eq_some_iff.1 hj).1
      rw [List.length_drop] at hkl
      rw [find_range_some (q := pos + 1 + k) (by omega)]; · rfl
      · rw [seg_after bs pos (pos + 1 + k) (Nat.lt_of_lt_of_le (Nat.lt_succ_self _) (Nat.le_add_right ..)),
          Nat.add_assoc, Nat.add_sub_cancel_left, Nat.add_comm 1 k,
          count_step hne hj hc, beq_self_eq_true, Bool.and_true]
        exact decide_eq_true (by omega)
      · intro q hq
        by_cases hpq : pos < q
        · rw [seg_after bs pos q hpq]
          have := hp (q - pos) (by omega)
          rw [Bool.and_eq_false_iff]; exact .inr (beq_eq_false_iff_ne.2 (by omega))
        · rw [Bool.and_eq_false_iff]; exact .inl (decide_eq_false hpq)

/-- Remark: the bracket hypothesis is needed — for a byte that is not a bracket the model (which
    then looks for the byte itself, backwards) and the oracle differ. -/
theorem find_ne_partner_non_bracket :
    findMatchingBracket [120, 120] 1 120 = some (some (120, 0)) ∧ partner [120, 120] 1 120 = none := by
  decide +kernel

/-! ## ASCII bytes of a line are whole characters (for the `replace_range` boundary check) -/

theorem toNat_or_ge (x y : UInt8) : y.toNat ≤ (x ||| y).toNat := by
  rw [UInt8.toNat_or]; exact Nat.right_le_or

theorem enc_ge {c : Char} (h : c.utf8Size ≠ 1) : ∀ x ∈ String.utf8EncodeChar c, 128 ≤ x.toNat := by
  intro x hx
  rcases c.utf8Size_eq with h1 | h2 | h3 | h4
  · exact absurd h1 h
  · rw [String.utf8EncodeChar_eq_cons_cons h2] at hx
    simp only [List.mem_cons, List.not_mem_nil, or_false] at hx
    rcases hx with rfl | rfl <;> exact Nat.le_trans (by decide) (toNat_or_ge _ _)
  · rw [String.utf8EncodeChar_eq_cons_cons_cons h3] at hx
    simp only [List.mem_cons, List.not_mem_nil, or_false] at hx
    rcases hx with rfl | rfl | rfl <;> exact Nat.le_trans (by decide) (toNat_or_ge _ _)
  · rw [String.utf8EncodeChar_eq_cons_cons_cons_cons h4] at hx
    simp only [List.mem_cons, List.not_mem_nil, or_false] at hx
    rcases hx with rfl | rfl | rfl | rfl <;> exact Nat.le_trans (by decide) (toNat_or_ge _ _)

/-- an ASCII byte of the line is a whole one-byte character: both its offset and the next one are
    character boundaries -/
theorem split_at_ascii (line : Text) (q : Nat) (m : UInt8) (hq : (bytesOf line)[q]? = some m)
    (hm : m.toNat < 128) : ∃ a c b, splitAtByte line q = some (a, c :: b) ∧ c.utf8Size = 1 := by
  induction line generalizing q with
  | nil => simp [bytesOf] at hq
  | cons c t ih =>
    have hb : bytesOf (c :: t) = String.utf8EncodeChar c ++ bytesOf t := by simp [bytesOf]
    rw [hb] at hq
    rcases Nat.lt_or_ge q c.utf8Size with hlt | hge
    · rw [List.getElem?_append_left (by simpa using hlt)] at hq
      have hmem : m ∈ String.utf8EncodeChar c := List.mem_of_getElem? hq
      have h1 : c.utf8Size = 1 := by
        by_cases h1 : c.utf8Size = 1
        · exact h1
        · have := enc_ge h1 m hmem; omega
      have : q = 0 := by omega
      subst this
      exact ⟨[], c, t, by simp [splitAtByte], h1⟩
    · have hpos := c.utf8Size_pos
      rw [List.getElem?_append_right (by simpa using hge)] at hq
      simp only [String.length_utf8EncodeChar] at hq
      obtain ⟨a, c', b, hs, hc'⟩ := ih _ hq
      cases q with
      | zero => omega
      | succ n =>
        refine ⟨c :: a, c', b, ?_, hc'⟩
        simp only [splitAtByte, hge, if_true, hs]

end Rl.Highlight
