/-
  The history hinter (`historyHint` of Rl/Hint.lean) in terms of the nearest entry at or below its
  start index that has the line as a prefix (`hintStart`, `NearestPrefix`), for the
  `C09_hinter_…` theorems.
-/
import Rl.History
import Rl.Hint
import Rl.Spec.History
import Rl.Lemmas.History
namespace Rl
open MemHist

/-- the index at which `HistoryHinter::hint` starts its backward search: the context's history
    index, or the last entry when the context is on the line being typed (`idx = len`) -/
def hintStart (h : MemHist) (idx : Nat) : Nat :=
  if idx = h.entries.length then idx - 1 else idx

/-- `e = es[i]` is the entry nearest to `s`, going down from `s`, that starts with `line` -/
def NearestPrefix (es : List Text) (line : Text) (s i : Nat) (e : Text) : Prop :=
  i ≤ s ∧ es[i]? = some e ∧ line <+: e ∧
    ∀ (j : Nat) (e' : Text), i < j → j ≤ s → es[j]? = some e' → ¬ line <+: e'

theorem historyHint_unfold (h : MemHist) (idx : Nat) (line : Text) (pos : Nat) :
    historyHint h idx line pos =
      if line = [] ∨ pos < blen line then some none
      else
        match h.startsWith line (hintStart h idx) .reverse with
        | some (_, e, _) =>
          if e = line then some none
          else
            match splitAtByte e pos with
            | some (_, r) => some (some r)
            | none => none
        | none => some none := by
  unfold historyHint hintStart
  simp only [List.isEmpty_iff, Bool.or_eq_true, decide_eq_true_eq, beq_iff_eq]
  by_cases hg : line = [] ∨ pos < blen line
  · simp only [hg, if_true]
  · simp only [hg, if_false]
    generalize h.startsWith line _ Dir.reverse = sw
    rcases sw with _ | ⟨i, e, c⟩
    · rfl
    · by_cases he : e = line
      · simp only [he, if_true]
      · simp only [he, if_false]
        rcases splitAtByte e pos with _ | ⟨a, r⟩ <;> rfl

theorem startsWith_nearest {h : MemHist} {line : Text} {s i : Nat} {e : Text} {c : Nat}
    (hs : h.startsWith line s .reverse = some (i, e, c)) :
    NearestPrefix h.entries line s i e := by
  obtain ⟨_, _, hget, htest, _, hr⟩ := (searchMatch_iff (prefixTest_eq_none_iff line)).mp hs
  exact ⟨(hr rfl).1, hget, ((prefixTest_eq_some_iff line e c).mp htest).1, (hr rfl).2⟩

theorem historyHint_cases (h : MemHist) (idx : Nat) (line : Text) (pos : Nat) :
    ((line = [] ∨ pos < blen line) ∧ historyHint h idx line pos = some none) ∨
    (line ≠ [] ∧ blen line ≤ pos ∧
      ((h.startsWith line (hintStart h idx) .reverse = none ∧ historyHint h idx line pos = some none) ∨
       ∃ i e, hintStart h idx < h.entries.length ∧ NearestPrefix h.entries line (hintStart h idx) i e ∧
         historyHint h idx line pos =
           if e = line then some none else (splitAtByte e pos).map fun ar => some ar.2)) := by
  rw [historyHint_unfold]
  by_cases hg : line = [] ∨ pos < blen line
  · exact Or.inl ⟨hg, if_pos hg⟩
  · refine Or.inr ⟨fun hh => hg (Or.inl hh), Nat.le_of_not_lt fun hh => hg (Or.inr hh), ?_⟩
    rw [if_neg hg]
    cases hsw : h.startsWith line (hintStart h idx) .reverse with
    | none => exact Or.inl ⟨rfl, rfl⟩
    | some r =>
      obtain ⟨i, e, c⟩ := r
      refine Or.inr ⟨i, e, (searchMatch_some hsw).2.1, startsWith_nearest hsw, ?_⟩
      dsimp only
      cases splitAtByte e pos <;> rfl

theorem nearestPrefix_unique {es : List Text} {line : Text} {s i i' : Nat} {e e' : Text}
    (h1 : NearestPrefix es line s i e) (h2 : NearestPrefix es line s i' e') :
    i = i' ∧ e = e' := by
  obtain ⟨a1, a2, a3, a4⟩ := h1
  obtain ⟨b1, b2, b3, b4⟩ := h2
  have : i = i' := by
    rcases Nat.lt_trichotomy i i' with hlt | heq | hgt
    · exact absurd b3 (a4 i' e' hlt b1 b2)
    · exact heq
    · exact absurd a3 (b4 i e hgt a1 a2)
  subst this
  rw [a2] at b2
  exact ⟨rfl, Option.some.inj b2⟩

theorem splitAtByte_prefix {line e : Text} (hp : line <+: e) :
    splitAtByte e (blen line) = some (line, e.drop line.length) := by
  obtain ⟨t, rfl⟩ := hp
  rw [splitAtByte_append]; simp

end Rl
