/- Lemmas about Rl/HistFile.lean, for C10 (round trip), C12 (torn files) and the file side of C11,
   in this order: UTF-8 lengths and the byte-indexed helpers of the unescape loop; `unescape` as the
   character-level `unescChars`, inverse of `escEntry` also on prefixes; `splitLines`, `lineText`
   and `decodeLine` on written files; `loadFrom` as `loadLines` over the lines; `Storable` (what a
   store with given settings can hold) and the round trip `loadFrom_fileOf`; status and
   only-adds lemmas for arbitrary files; cuts (`cutAtoms`) of a written file; `appendedFile`. -/
import Rl.HistFile
import Rl.Lemmas.History
namespace Rl

theorem utf8Bytes_length (c : Char) : (utf8Bytes c).length = c.utf8Size := by
  unfold utf8Bytes Char.utf8Size
  simp only [UInt32.le_iff_toNat_le, Char.toNat]
  generalize c.val.toNat = n
  by_cases h1 : n < 128
  · have : n ≤ 127 := by omega
    simp [h1, this]
  · by_cases h2 : n < 2048
    · have a : ¬ n ≤ 127 := by omega
      have b : n ≤ 2047 := by omega
      simp [h1, h2, a, b]
    · by_cases h3 : n < 65536
      · have a : ¬ n ≤ 127 := by omega
        have b : ¬ n ≤ 2047 := by omega
        have d : n ≤ 65535 := by omega
        simp [h1, h2, h3, a, b, d]
      · have a : ¬ n ≤ 127 := by omega
        have b : ¬ n ≤ 2047 := by omega
        have d : ¬ n ≤ 65535 := by omega
        simp [h1, h2, h3, a, b, d]

theorem bytesOf_length (t : Text) : (bytesOf t).length = blen t := by
  induction t with
  | nil => rfl
  | cons c t ih => simp [bytesOf, List.flatMap_cons, utf8Bytes_length] at *; omega

theorem bytesOf_append (a b : Text) : bytesOf (a ++ b) = bytesOf a ++ bytesOf b := by
  simp [bytesOf]

theorem utf8Bytes_head_ascii (d : Char) (b : Nat) (hb : b < 128) (h : (utf8Bytes d)[0]? = some b) :
    d = Char.ofNat b := by
  unfold utf8Bytes at h
  by_cases h1 : d.toNat < 128
  · simp [h1] at h
    rw [← h, Char.ofNat_toNat]
  · by_cases h2 : d.toNat < 2048
    · simp [h1, h2] at h; omega
    · by_cases h3 : d.toNat < 65536
      · simp [h1, h2, h3] at h; omega
      · simp [h1, h2, h3] at h; omega

theorem utf8Bytes_head_some (d : Char) : ∃ b, (utf8Bytes d)[0]? = some b := by
  have := utf8Bytes_length d
  have hp := Char.utf8Size_pos d
  cases hu : utf8Bytes d with
  | nil => rw [hu] at this; simp at this; omega
  | cons b _ => exact ⟨b, rfl⟩

theorem hfFindChar_none {c : Char} {t : Text} (h : hfFindChar c t = none) : c ∉ t := by
  induction t with
  | nil => simp
  | cons d t ih =>
    simp only [hfFindChar] at h
    split at h
    · simp at h
    · rename_i hd
      cases hf : hfFindChar c t with
      | none => simp [ih hf]; exact fun h' => hd h'.symm
      | some k => simp [hf] at h

theorem hfFindChar_some {c : Char} {t : Text} {i : Nat} (h : hfFindChar c t = some i) :
    ∃ pre rest, t = pre ++ c :: rest ∧ c ∉ pre ∧ i = blen pre := by
  induction t generalizing i with
  | nil => simp [hfFindChar] at h
  | cons d t ih =>
    simp only [hfFindChar] at h
    split at h
    · rename_i hd
      simp at h; subst h; subst hd
      exact ⟨[], t, rfl, by simp, rfl⟩
    · rename_i hd
      cases hf : hfFindChar c t with
      | none => simp [hf] at h
      | some k =>
        simp [hf] at h
        obtain ⟨pre, rest, h1, h2, h3⟩ := ih hf
        refine ⟨d :: pre, rest, by simp [h1], ?_, by simp [← h, h3]; omega⟩
        simp [h2]; exact fun h' => hd h'.symm

theorem sliceTo_append (a b : Text) : hfSliceTo (a ++ b) (blen a) = some a := by
  simp [hfSliceTo, splitAtByte_append]

theorem sliceFrom_append (a b : Text) : hfSliceFrom (a ++ b) (blen a) = some b := by
  simp [hfSliceFrom, splitAtByte_append]

theorem byteAt_append (a : Text) (d : Char) (b : Text) :
    byteAt (a ++ d :: b) (blen a) = (utf8Bytes d)[0]? := by
  unfold byteAt
  have hd : 0 < (utf8Bytes d).length := by rw [utf8Bytes_length]; exact Char.utf8Size_pos d
  rw [bytesOf_append, List.getElem?_append_right (by rw [bytesOf_length]; exact Nat.le_refl _),
    bytesOf_length, Nat.sub_self]
  show (utf8Bytes d ++ bytesOf b)[0]? = _
  rw [List.getElem?_append_left hd]

/-- what the unescape loop computes, read off character by character; `none` = a bad escape
    (the loop then keeps the raw line) -/
def unescChars : Text → Option Text
  | [] => some []
  | c :: t =>
    if c = '\\' then
      match t with
      | [] => some []
      | d :: t' =>
        if d = 'n' then (unescChars t').map ('\n' :: ·)
        else if d = 'r' then (unescChars t').map ('\r' :: ·)
        else if d = '\\' then (unescChars t').map ('\\' :: ·)
        else none
    else (unescChars t).map (c :: ·)

theorem unescChars_cons_ne {c : Char} (hc : c ≠ '\\') (t : Text) :
    unescChars (c :: t) = (unescChars t).map (c :: ·) := by
  cases t <;> simp [unescChars, hc]

theorem unescChars_bs_nil : unescChars ['\\'] = some [] := by
  simp [unescChars]

theorem unescChars_bs_cons (d : Char) (t : Text) :
    unescChars ('\\' :: d :: t) =
      if d = 'n' then (unescChars t).map ('\n' :: ·)
      else if d = 'r' then (unescChars t).map ('\r' :: ·)
      else if d = '\\' then (unescChars t).map ('\\' :: ·)
      else none := by
  simp [unescChars]

theorem unescChars_append {pre : Text} (h : '\\' ∉ pre) (t : Text) :
    unescChars (pre ++ t) = (unescChars t).map (pre ++ ·) := by
  induction pre with
  | nil => simp
  | cons c pre ih =>
    simp at h
    have hc : c ≠ '\\' := fun h' => h.1 h'.symm
    simp [unescChars_cons_ne hc, ih h.2]
    cases unescChars t <;> simp

theorem unescChars_no_bs {t : Text} (h : '\\' ∉ t) : unescChars t = some t := by
  simpa [unescChars] using unescChars_append h []

/-- The byte-indexed loop never takes a panic branch and computes the character-level `unescChars`
    of the unread rest, appended to the copy (or returns the line itself when no backslash was
    met).  Induction on the fuel; each round finds the next backslash with `hfFindChar`, and the
    slices at that index are `sliceTo_append`, `byteAt_append`, `sliceFrom_append`. -/
theorem unescLoop_eq (line : Text) : ∀ (fuel : Nat) (str : Text) (copy : Option Text),
    str.length < fuel → (copy = none → line = str) →
    unescLoop line fuel str copy =
      some (match unescChars str with | some u => copy.getD [] ++ u | none => line) := by
  intro fuel
  induction fuel with
  | zero => intro str copy h; omega
  | succ fuel ih =>
    intro str copy hf hc
    simp only [unescLoop]
    cases hfind : hfFindChar '\\' str with
    | none =>
      have hn := hfFindChar_none hfind
      simp only [unescChars_no_bs hn]
      cases copy with
      | none => simp [hc rfl]
      | some s => simp
    | some i =>
      obtain ⟨pre, rest, hstr, hpre, hi⟩ := hfFindChar_some hfind
      subst hstr hi
      simp only [sliceTo_append]
      have hlen : blen (pre ++ '\\' :: rest) = blen pre + 1 + blen rest := by
        simp [show ('\\' : Char).utf8Size = 1 from rfl]; omega
      rw [unescChars_append hpre]
      cases rest with
      | nil =>
        have : ¬ (blen pre + 1 < blen (pre ++ ['\\'])) := by rw [hlen]; simp
        simp only [this, if_false, unescChars_bs_nil]
        simp
      | cons d rest' =>
        have hlt : blen pre + 1 < blen (pre ++ '\\' :: d :: rest') := by
          rw [hlen]; have := Char.utf8Size_pos d; simp; omega
        simp only [hlt, if_true]
        have hb : byteAt (pre ++ '\\' :: d :: rest') (blen pre + 1) = (utf8Bytes d)[0]? := by
          have := byteAt_append (pre ++ ['\\']) d rest'
          simpa [show ('\\' : Char).utf8Size = 1 from rfl] using this
        rw [hb]
        obtain ⟨b, hb0⟩ := utf8Bytes_head_some d
        rw [hb0]
        simp only
        -- slicing after an ASCII escape character
        have hslice : d.utf8Size = 1 →
            hfSliceFrom (pre ++ '\\' :: d :: rest') (blen pre + 1 + 1) = some rest' := by
          intro hd
          have := sliceFrom_append (pre ++ ['\\', d]) rest'
          simpa [show ('\\' : Char).utf8Size = 1 from rfl, hd, Nat.add_assoc] using this
        have hlen' : rest'.length < fuel := by simp at hf; omega
        rw [unescChars_bs_cons]
        have ih' := fun s => ih rest' (some s) hlen' (by simp)
        -- the byte after the backslash is an ASCII code exactly for that character
        have hbd : ∀ x : Char, x.toNat < 128 → (b = x.toNat) = (d = x) := by
          intro x hx
          apply propext
          constructor
          · intro hbx; rw [utf8Bytes_head_ascii d b (by omega) hb0, hbx, Char.ofNat_toNat]
          · rintro rfl; simp [utf8Bytes, hx] at hb0; exact hb0.symm
        simp only [show (b = 110) = (d = 'n') from hbd 'n' (by decide),
          show (b = 114) = (d = 'r') from hbd 'r' (by decide),
          show (b = 92) = (d = '\\') from hbd '\\' (by decide)]
        by_cases hd : d = 'n' ∨ d = 'r' ∨ d = '\\'
        · rcases hd with rfl | rfl | rfl <;> simp [hslice rfl, ih'] <;> cases unescChars rest' <;> simp
        · simp only [not_or] at hd; simp [hd]

theorem unescape_eq (line : Text) : unescape line = some ((unescChars line).getD line) := by
  unfold unescape
  rw [unescLoop_eq line _ line none (by omega) (fun _ => rfl)]
  cases unescChars line <;> simp

theorem escEntry_cons (c : Char) (t : Text) :
    (∃ x, escEntry (c :: t) = '\\' :: x :: escEntry t ∧ (c = '\n' ∨ c = '\r' ∨ c = '\\') ∧
        x ≠ '\n' ∧ x ≠ '\r' ∧ ∀ q, unescChars ('\\' :: x :: q) = (unescChars q).map (c :: ·)) ∨
    (escEntry (c :: t) = c :: escEntry t ∧ c ≠ '\n' ∧ c ≠ '\r' ∧ c ≠ '\\') := by
  by_cases h1 : c = '\n'
  · subst h1
    exact .inl ⟨'n', rfl, .inl rfl, by decide, by decide, fun q => by rw [unescChars_bs_cons]; rfl⟩
  by_cases h2 : c = '\r'
  · subst h2
    exact .inl ⟨'r', rfl, .inr (.inl rfl), by decide, by decide, fun q => by rw [unescChars_bs_cons]; rfl⟩
  by_cases h3 : c = '\\'
  · subst h3
    exact .inl ⟨'\\', rfl, .inr (.inr rfl), by decide, by decide, fun q => by rw [unescChars_bs_cons]; rfl⟩
  exact .inr ⟨by simp only [escEntry, h1, h2, h3, if_false], h1, h2, h3⟩

theorem unescChars_esc (e : Text) : unescChars (escEntry e) = some e := by
  induction e with
  | nil => rfl
  | cons c t ih =>
    rcases escEntry_cons c t with ⟨x, he, _, _, _, hu⟩ | ⟨he, _, _, hc⟩
    · rw [he, hu, ih]; rfl
    · rw [he, unescChars_cons_ne hc, ih]; rfl

theorem esc_not_mem {c : Char} (hc : c = '\n' ∨ c = '\r') (e : Text) : c ∉ escEntry e := by
  induction e with
  | nil => simp [escEntry]
  | cons d t ih =>
    have hb : c ≠ '\\' := by rcases hc with rfl | rfl <;> decide
    rcases escEntry_cons d t with ⟨x, he, _, hn, hr, _⟩ | ⟨he, hn, hr, _⟩ <;>
      rw [he] <;> rcases hc with rfl | rfl <;> simp [ih, hb, Ne.symm hn, Ne.symm hr]

theorem esc_eq_nil {e : Text} : escEntry e = [] ↔ e = [] := by
  cases e with
  | nil => simp [escEntry]
  | cons c t => rcases escEntry_cons c t with ⟨x, he, _⟩ | ⟨he, _⟩ <;> simp [he]

theorem unescChars_esc_prefix (e : Text) : ∀ p : Text, p <+: escEntry e →
    ∃ e', e' <+: e ∧ unescChars p = some e' := by
  induction e with
  | nil =>
    intro p hp
    simp [escEntry] at hp; subst hp
    exact ⟨[], List.prefix_refl _, rfl⟩
  | cons c t ih =>
    intro p hp
    cases p with
    | nil => exact ⟨[], List.nil_prefix, rfl⟩
    | cons a p1 =>
      rcases escEntry_cons c t with ⟨x, he, _, _, _, hu⟩ | ⟨he, _, _, hc⟩
      · rw [he, List.cons_prefix_cons] at hp
        obtain ⟨rfl, hp1⟩ := hp
        cases p1 with
        | nil => exact ⟨[], List.nil_prefix, unescChars_bs_nil⟩
        | cons a2 p2 =>
          rw [List.cons_prefix_cons] at hp1
          obtain ⟨rfl, hp2⟩ := hp1
          obtain ⟨e', he', hu'⟩ := ih p2 hp2
          exact ⟨c :: e', by simpa [List.cons_prefix_cons] using he', by rw [hu, hu']; rfl⟩
      · rw [he, List.cons_prefix_cons] at hp
        obtain ⟨rfl, hp1⟩ := hp
        obtain ⟨e', he', hu⟩ := ih p1 hp1
        exact ⟨a :: e', by simpa [List.cons_prefix_cons] using he', by rw [unescChars_cons_ne hc, hu]; rfl⟩

def nlAtom : Atom := .chr '\n'

theorem splitLines_line (l : List Atom) (hl : Atom.chr '\n' ∉ l) (rest : List Atom) :
    splitLines (l ++ Atom.chr '\n' :: rest) = (l, true) :: splitLines rest := by
  induction l with
  | nil => simp [splitLines]
  | cons a l ih =>
    simp at hl
    have ha : a ≠ Atom.chr '\n' := fun h => hl.1 h.symm
    simp only [List.cons_append, splitLines, ha, if_false, ih hl.2]

theorem splitLines_last (l : List Atom) (hl : Atom.chr '\n' ∉ l) (hne : l ≠ []) :
    splitLines l = [(l, false)] := by
  induction l with
  | nil => exact absurd rfl hne
  | cons a l ih =>
    simp at hl
    have ha : a ≠ Atom.chr '\n' := fun h => hl.1 h.symm
    simp only [splitLines, ha, if_false]
    cases l with
    | nil => simp [splitLines]
    | cons b l' => rw [ih (by simpa using hl.2) (by simp)]

theorem mem_atomsOf {c : Char} {t : Text} : Atom.chr c ∈ atomsOf t ↔ c ∈ t := by
  simp [atomsOf]

theorem atomsOf_append (a b : Text) : atomsOf (a ++ b) = atomsOf a ++ atomsOf b := by
  simp [atomsOf]

theorem lineText_append_atomsOf (t : Text) (l : List Atom) :
    lineText (atomsOf t ++ l) = (lineText l).map (t ++ ·) := by
  induction t with
  | nil => simp [atomsOf]
  | cons c t ih =>
    simp only [atomsOf, List.map_cons, List.cons_append, lineText] at *
    rw [ih]; cases lineText l <;> simp

theorem lineText_atomsOf (t : Text) : lineText (atomsOf t) = some t := by
  simpa [lineText] using lineText_append_atomsOf t []

theorem stripCr_of_getLast {t : Text} (h : t.getLast? ≠ some '\r') : stripCr t = t := by
  unfold stripCr; simp [h]

theorem decodeLine_atomsOf (t : Text) (term : Bool) (h : term = true → t.getLast? ≠ some '\r') :
    decodeLine (atomsOf t) term = some t := by
  cases term
  · simp [decodeLine, lineText_atomsOf]
  · simp [decodeLine, lineText_atomsOf, stripCr_of_getLast (h rfl)]

/-- the lines `save_to` writes, as `lines()` items -/
def v2Lines (es : List Text) : List (List Atom × Bool) := es.map (fun e => (atomsOf (escEntry e), true))

/-- the lines of a header-less file, as `lines()` items -/
def plainLines (ls : List Text) : List (List Atom × Bool) := ls.map (fun l => (atomsOf l, true))

/-- the text of a header-less file whose lines are `ls`, every line terminated -/
def legacyText (ls : List Text) : Text := ls.flatMap (fun l => l ++ ['\n'])

theorem splitLines_legacy_tail (ls : List Text) (hnl : ∀ l ∈ ls, '\n' ∉ l) (rest : List Atom) :
    splitLines (atomsOf (legacyText ls) ++ rest) = plainLines ls ++ splitLines rest := by
  induction ls with
  | nil => simp [legacyText, atomsOf, plainLines]
  | cons l ls ih =>
    have : atomsOf (legacyText (l :: ls)) ++ rest
        = atomsOf l ++ Atom.chr '\n' :: (atomsOf (legacyText ls) ++ rest) := by
      simp [legacyText, atomsOf]
    rw [this, splitLines_line _ (by rw [mem_atomsOf]; exact hnl l (by simp)),
      ih (fun l' h' => hnl l' (by simp [h']))]
    simp [plainLines]

theorem splitLines_linesOf (es : List Text) (rest : List Atom) :
    splitLines (atomsOf (linesOf es) ++ rest) = v2Lines es ++ splitLines rest := by
  have := splitLines_legacy_tail (es.map escEntry) (by simpa using fun e _ => esc_not_mem (.inl rfl) e) rest
  simpa [legacyText, plainLines, List.flatMap_map, linesOf, v2Lines, Function.comp_def] using this

theorem fileOf_atoms (es : List Text) (rest : List Atom) :
    splitLines (atomsOf (fileOf es) ++ rest) = (atomsOf header, true) :: (v2Lines es ++ splitLines rest) := by
  have : atomsOf (fileOf es) ++ rest = atomsOf header ++ Atom.chr '\n' :: (atomsOf (linesOf es) ++ rest) := by
    simp [fileOf, atomsOf]
  rw [this, splitLines_line _ (by rw [mem_atomsOf]; decide), splitLines_linesOf]

theorem add_nil (ws : Char → Bool) (h : FileHist) : h.add ws [] = (h, false) := by
  have : h.mem.ignore ws [] = true := by simp [MemHist.ignore]
  simp [FileHist.add, add_of_ignore this]

theorem insert_of_lt {h : MemHist} (hlt : h.entries.length < h.maxLen) (l : Text) :
    (h.insert l).entries = h.entries ++ [l] := by
  unfold MemHist.insert
  rw [if_neg (by simp; omega)]

theorem FileHist.add_cfg (ws : Char → Bool) (f : FileHist) (l : Text) :
    (f.add ws l).1.mem.maxLen = f.mem.maxLen ∧ (f.add ws l).1.mem.ignoreSpace = f.mem.ignoreSpace ∧
      (f.add ws l).1.mem.ignoreDups = f.mem.ignoreDups := by
  rw [(FileHist.add_mem ws f l).1]; exact Rl.add_cfg ws f.mem l

theorem addAll_cfg (ws : Char → Bool) (h : FileHist) (ls : List Text) :
    (addAll ws h ls).mem.maxLen = h.mem.maxLen ∧ (addAll ws h ls).mem.ignoreSpace = h.mem.ignoreSpace ∧
      (addAll ws h ls).mem.ignoreDups = h.mem.ignoreDups := by
  induction ls generalizing h with
  | nil => exact ⟨rfl, rfl, rfl⟩
  | cons l ls ih =>
    obtain ⟨a, b, c⟩ := ih (h.add ws l).1
    obtain ⟨a', b', c'⟩ := FileHist.add_cfg ws h l
    exact ⟨a.trans a', b.trans b', c.trans c'⟩

/-- `add` accepts every line of the list, one after the other -/
def acceptAll (ws : Char → Bool) (h : FileHist) : List Text → Bool
  | [] => true
  | e :: es => (h.add ws e).2 && acceptAll ws (h.add ws e).1 es

/-- the entry a non-empty line stands for: unescaped in a V2 file (a bad escape keeps the raw
    line), verbatim in a legacy file -/
def lineEntry (v2 : Bool) (line : Text) : Text := if v2 then (unescChars line).getD line else line

/-- one round of the line loop; by `unescape_eq` its panic branch is never taken -/
theorem loadLines_cons (ws : Char → Bool) (v2 : Bool) (l : List Atom) (term : Bool)
    (rest : List (List Atom × Bool)) (h : FileHist) (app : Bool) :
    loadLines ws v2 ((l, term) :: rest) h app =
      match decodeLine l term with
      | none => { h, status := .invalidData, appendable := app }
      | some line =>
        if line = [] then loadLines ws v2 rest h app
        else loadLines ws v2 rest (h.add ws (lineEntry v2 line)).1 (app && (h.add ws (lineEntry v2 line)).2) := by
  simp only [loadLines, lineEntry]
  cases decodeLine l term with
  | none => rfl
  | some line => cases v2 <;> simp [unescape_eq]

/-- `load_from` is the line loop: in V2 mode on the lines after a header, otherwise in legacy mode
    on all lines (an empty first line is refused by `add`, as the loop would skip it) -/
theorem loadFrom_eq (ws : Char → Bool) (f : List Atom) (h : FileHist) :
    loadFrom ws f h =
      match splitLines f with
      | [] => loadLines ws false [] h false
      | (l, term) :: rest =>
        if decodeLine l term = some header then loadLines ws true rest h true
        else loadLines ws false ((l, term) :: rest) h false := by
  unfold loadFrom
  cases splitLines f with
  | nil => rfl
  | cons p rest =>
    obtain ⟨l, term⟩ := p
    dsimp only
    rw [loadLines_cons]
    cases decodeLine l term with
    | none => rfl
    | some line =>
      by_cases hh : line = header
      · simp only [hh, if_true]
      · simp only [hh, Option.some.injEq, if_false, lineEntry, Bool.false_and, Bool.false_eq_true]
        split
        · rename_i hl; rw [hl, add_nil]
        · rfl

theorem loadLines_v2 (ws : Char → Bool) (es : List Text) (hne : ∀ e ∈ es, e ≠ [])
    (tail : List (List Atom × Bool)) (h : FileHist) (app : Bool) :
    loadLines ws true (v2Lines es ++ tail) h app
      = loadLines ws true tail (addAll ws h es) (app && acceptAll ws h es) := by
  induction es generalizing h app with
  | nil => simp [v2Lines, addAll, acceptAll]
  | cons e es ih =>
    have hesc : escEntry e ≠ [] := fun h' => hne e (by simp) (esc_eq_nil.mp h')
    simp only [v2Lines, List.map_cons, List.cons_append]
    rw [loadLines_cons, decodeLine_atomsOf _ _ (fun _ hl => esc_not_mem (.inr rfl) e (List.mem_of_getLast? hl))]
    simp only [hesc, if_false, lineEntry, if_true, unescChars_esc, Option.getD_some]
    have := ih (fun e' h' => hne e' (by simp [h'])) (h.add ws e).1 (app && (h.add ws e).2)
    simp only [v2Lines] at this
    rw [this]
    simp [addAll, acceptAll, Bool.and_assoc]

/-- What a history with these settings can hold, as a condition on the list alone: at most `max`
    entries, none empty, none starting with a blank if ignore-space, no two equal neighbours if
    ignore-dups.  `addAll_storable`: adding such a list to a fresh history stores exactly it. -/
def Storable (ws : Char → Bool) (max : Nat) (isp idp : Bool) (es : List Text) : Prop :=
  es.length ≤ max ∧
  (∀ e ∈ es, e ≠ [] ∧ (isp = true → ∀ c t, e = c :: t → ws c = false)) ∧
  (idp = true → ∀ l1 a b l2, es = l1 ++ a :: b :: l2 → a ≠ b)

theorem Storable.nil (ws : Char → Bool) (max : Nat) (isp idp : Bool) : Storable ws max isp idp [] :=
  ⟨Nat.zero_le _, fun _ h => by simp at h, fun _ l1 a b l2 h => by simp at h⟩

theorem Storable.nonempty {ws max isp idp es} (h : Storable ws max isp idp es) : ∀ e ∈ es, e ≠ [] :=
  fun e he => (h.2.1 e he).1

theorem addAll_storable (ws : Char → Bool) (es pre : List Text) (h : FileHist)
    (hpre : h.mem.entries = pre)
    (hs : Storable ws h.mem.maxLen h.mem.ignoreSpace h.mem.ignoreDups (pre ++ es)) :
    (addAll ws h es).mem.entries = pre ++ es ∧ acceptAll ws h es = true ∧
    (addAll ws h es).mem.maxLen = h.mem.maxLen ∧ (addAll ws h es).mem.ignoreSpace = h.mem.ignoreSpace ∧
    (addAll ws h es).mem.ignoreDups = h.mem.ignoreDups := by
  suffices h2 : (addAll ws h es).mem.entries = pre ++ es ∧ acceptAll ws h es = true from
    ⟨h2.1, h2.2, addAll_cfg ws h es⟩
  induction es generalizing pre h with
  | nil => simp [addAll, acceptAll, hpre]
  | cons e es ih =>
    obtain ⟨hlen, hall, hdup⟩ := hs
    have hmem := FileHist.add_mem ws h e
    have he := hall e (by simp)
    have hlt : h.mem.entries.length < h.mem.maxLen := by rw [hpre]; simp at hlen; omega
    have hig : h.mem.ignore ws e = false := by
      rw [ignore_eq_false_iff]
      obtain ⟨c, t, rfl⟩ := List.exists_cons_of_ne_nil he.1
      refine ⟨by omega, c, t, rfl, fun hi => he.2 hi c t rfl, fun hd hl => ?_⟩
      rw [hpre] at hl
      obtain ⟨l1, hl1⟩ := List.getLast?_eq_some_iff.mp hl
      exact hdup hd l1 (c :: t) (c :: t) es (by simp [hl1]) rfl
    have hadd := add_of_not_ignore hig
    have hins : (h.mem.insert e).entries = pre ++ [e] := by rw [insert_of_lt hlt, hpre]
    have h1 : (h.add ws e).1.mem = h.mem.insert e := by rw [hmem.1, hadd]
    have h2 : (h.add ws e).2 = true := by rw [hmem.2, hadd]
    obtain ⟨c1, c2, c3⟩ := FileHist.add_cfg ws h e
    have := ih (pre ++ [e]) (h.add ws e).1 (by rw [h1, hins])
      (by rw [c1, c2, c3, List.append_assoc]; exact ⟨hlen, hall, hdup⟩)
    simp only [addAll, acceptAll, h2, Bool.true_and]
    exact ⟨by simpa using this.1, this.2⟩

theorem decodeLine_header (term : Bool) : decodeLine (atomsOf header) term = some header :=
  decodeLine_atomsOf header term (fun _ => by decide)

theorem loadFrom_fileOf (ws : Char → Bool) (es : List Text) (hne : ∀ e ∈ es, e ≠ [])
    (tail : List Atom) (h : FileHist) :
    loadFrom ws (atomsOf (fileOf es) ++ tail) h
      = loadLines ws true (splitLines tail) (addAll ws h es) (acceptAll ws h es) := by
  unfold loadFrom
  rw [fileOf_atoms]
  simp only [decodeLine_header, if_true]
  rw [loadLines_v2 ws es hne]
  simp

theorem loadFrom_fileOf_ok (ws : Char → Bool) (es : List Text) (hne : ∀ e ∈ es, e ≠ []) (h : FileHist) :
    loadFrom ws (atomsOf (fileOf es)) h
      = { h := { addAll ws h es with newEntries := 0 }, status := .ok, appendable := acceptAll ws h es } := by
  have := loadFrom_fileOf ws es hne [] h
  rw [List.append_nil] at this
  rw [this]
  simp [splitLines, loadLines]

theorem loadLines_legacy_tail (ws : Char → Bool) (ls : List Text) (hcr : ∀ l ∈ ls, l.getLast? ≠ some '\r')
    (tail : List (List Atom × Bool)) (h : FileHist) :
    loadLines ws false (plainLines ls ++ tail) h false = loadLines ws false tail (addAll ws h ls) false := by
  induction ls generalizing h with
  | nil => rfl
  | cons l ls ih =>
    have ih' := ih (fun l' h' => hcr l' (by simp [h']))
    simp only [plainLines, List.map_cons, List.cons_append] at ih' ⊢
    rw [loadLines_cons, decodeLine_atomsOf l true (fun _ => hcr l (by simp))]
    dsimp only
    split
    · rename_i hl; rw [hl, addAll, add_nil, ih']
    · exact ih' _

theorem loadFrom_legacy (ws : Char → Bool) (l : Text) (ls : List Text) (hnl : ∀ x ∈ l :: ls, '\n' ∉ x)
    (hcr : ∀ x ∈ l :: ls, x.getLast? ≠ some '\r') (hl : l ≠ header) (tail : List Atom) (h : FileHist) :
    loadFrom ws (atomsOf (legacyText (l :: ls)) ++ tail) h
      = loadLines ws false (splitLines tail) (addAll ws h (l :: ls)) false := by
  have hd : decodeLine (atomsOf l) true ≠ some header := by
    rw [decodeLine_atomsOf l true (fun _ => hcr l (by simp))]; exact fun h' => hl (Option.some.inj h')
  rw [loadFrom_eq, splitLines_legacy_tail (l :: ls) hnl tail]
  simp only [plainLines, List.map_cons, List.cons_append, hd, if_false]
  exact loadLines_legacy_tail ws (l :: ls) hcr (splitLines tail) h

theorem loadLines_status (ws : Char → Bool) (v2 : Bool) (ls : List (List Atom × Bool)) (h : FileHist)
    (app : Bool) :
    (loadLines ws v2 ls h app).status = .ok ∨ (loadLines ws v2 ls h app).status = .invalidData := by
  induction ls generalizing h app with
  | nil => exact Or.inl rfl
  | cons l ls ih =>
    rw [loadLines_cons]
    split
    · exact Or.inr rfl
    · split
      · exact ih _ _
      · exact ih _ _

theorem loadLines_no_panic (ws : Char → Bool) (v2 : Bool) (ls : List (List Atom × Bool)) (h : FileHist)
    (app : Bool) : (loadLines ws v2 ls h app).status ≠ .panic := by
  rcases loadLines_status ws v2 ls h app with h' | h' <;> rw [h'] <;> exact HfStatus.noConfusion

theorem loadFrom_status (ws : Char → Bool) (f : List Atom) (h : FileHist) :
    (loadFrom ws f h).status = .ok ∨ (loadFrom ws f h).status = .invalidData := by
  rw [loadFrom_eq]
  split
  · exact loadLines_status ..
  · split <;> exact loadLines_status ..

theorem loadFrom_ok_iff (ws : Char → Bool) (f : List Atom) (h : FileHist) :
    (loadFrom ws f h).status = .ok ↔ ¬ (loadFrom ws f h).status = .invalidData := by
  rcases loadFrom_status ws f h with h' | h' <;> simp [h']

theorem loadLines_only_adds (ws : Char → Bool) (v2 : Bool) (ls : List (List Atom × Bool)) (h : FileHist)
    (app : Bool) : ∃ added, (loadLines ws v2 ls h app).h.mem = (addAll ws h added).mem := by
  induction ls generalizing h app with
  | nil => exact ⟨[], rfl⟩
  | cons l ls ih =>
    rw [loadLines_cons]
    split
    · exact ⟨[], rfl⟩
    · split
      · exact ih _ _
      · rename_i line _ _
        obtain ⟨a, ha⟩ := ih (h.add ws (lineEntry v2 line)).1 (app && (h.add ws (lineEntry v2 line)).2)
        exact ⟨lineEntry v2 line :: a, ha⟩

theorem loadFrom_only_adds (ws : Char → Bool) (f : List Atom) (h : FileHist) :
    ∃ added, (loadFrom ws f h).h.mem = (addAll ws h added).mem := by
  rw [loadFrom_eq]
  split
  · exact loadLines_only_adds ..
  · split <;> exact loadLines_only_adds ..

theorem loadLines_bad_line (ws : Char → Bool) (v2 : Bool) (L1 : List (List Atom × Bool))
    (b : List Atom) (term : Bool) (L2 : List (List Atom × Bool)) (hb : lineText b = none)
    (h : FileHist) (app : Bool) :
    (loadLines ws v2 (L1 ++ (b, term) :: L2) h app).h.mem = (loadLines ws v2 L1 h app).h.mem ∧
    ((loadLines ws v2 L1 h app).status = .ok →
      (loadLines ws v2 (L1 ++ (b, term) :: L2) h app).status = .invalidData) := by
  induction L1 generalizing h app with
  | nil => simp [loadLines, decodeLine, hb]
  | cons l L1 ih =>
    rw [List.cons_append, loadLines_cons, loadLines_cons]
    split
    · simp
    · split
      · exact ih _ _
      · exact ih _ _

theorem loadFrom_bad_line (ws : Char → Bool) {f g : List Atom} {b : List Atom} {term : Bool}
    {L2 : List (List Atom × Bool)} (hb : lineText b = none)
    (hg : splitLines g = splitLines f ++ (b, term) :: L2) (h : FileHist) :
    (loadFrom ws g h).h.mem = (loadFrom ws f h).h.mem ∧
    ((loadFrom ws f h).status = .ok → (loadFrom ws g h).status = .invalidData) := by
  rw [loadFrom_eq ws g, loadFrom_eq ws f, hg]
  cases splitLines f with
  | nil =>
    have hbd : decodeLine b term ≠ some header := by simp [decodeLine, hb]
    simp only [List.nil_append, hbd, if_false]
    exact loadLines_bad_line ws false [] b term L2 hb h false
  | cons p ps =>
    obtain ⟨l, t⟩ := p
    dsimp only [List.cons_append]
    split
    · exact loadLines_bad_line ws true ps b term L2 hb h true
    · exact loadLines_bad_line ws false ((l, t) :: ps) b term L2 hb h false

theorem splitLines_eq_nil {f : List Atom} : splitLines f = [] ↔ f = [] := by
  cases f with
  | nil => simp [splitLines]
  | cons a t => simp only [splitLines]; split <;> (try split) <;> simp

theorem splitLines_complete (l x : List Atom) :
    splitLines (l ++ Atom.chr '\n' :: x) = splitLines (l ++ [Atom.chr '\n']) ++ splitLines x := by
  induction l with
  | nil => simp [splitLines]
  | cons a l ih =>
    simp only [List.cons_append, splitLines]
    split
    · simp [ih]
    · rw [ih]
      cases hs : splitLines (l ++ [Atom.chr '\n']) with
      | nil => exact absurd (splitLines_eq_nil.mp hs) (by simp)
      | cons p ps => obtain ⟨p1, p2⟩ := p; simp

theorem prefix_append_cases {α} {p A B : List α} (h : p <+: A ++ B) :
    p <+: A ∨ ∃ p', p = A ++ p' ∧ p' <+: B := by
  induction A generalizing p with
  | nil => exact Or.inr ⟨p, rfl, by simpa using h⟩
  | cons a A ih =>
    cases p with
    | nil => exact Or.inl List.nil_prefix
    | cons x p =>
      rw [List.cons_append, List.cons_prefix_cons] at h
      obtain ⟨hx, hp⟩ := h
      subst hx
      rcases ih hp with h1 | ⟨p', h1, h2⟩
      · exact Or.inl (by rw [List.cons_prefix_cons]; exact ⟨rfl, h1⟩)
      · exact Or.inr ⟨p', by rw [h1]; rfl, h2⟩

/-- the first `k` bytes of a text: a prefix of whole characters, then the bytes of a cut one -/
theorem cutAtoms_atomsOf (t : Text) : ∀ k : Nat, ∃ p bads, p <+: t ∧
    cutAtoms (atomsOf t) k = atomsOf p ++ bads ∧ (∀ a ∈ bads, ∃ b, a = Atom.bad b) := by
  induction t with
  | nil =>
    intro k
    refine ⟨[], [], List.prefix_refl _, ?_, by simp⟩
    cases k <;> simp [atomsOf, cutAtoms]
  | cons c t ih =>
    intro k
    cases k with
    | zero => exact ⟨[], [], List.nil_prefix, by simp [atomsOf, cutAtoms], by simp⟩
    | succ k =>
      simp only [atomsOf, List.map_cons, cutAtoms]
      split
      · obtain ⟨p, bads, h1, h2, h3⟩ := ih (k + 1 - c.utf8Size)
        refine ⟨c :: p, bads, by rw [List.cons_prefix_cons]; exact ⟨rfl, h1⟩, ?_, h3⟩
        simp only [atomsOf] at h2
        simp [h2]
      · refine ⟨[], ((utf8Bytes c).take (k + 1)).map Atom.bad, List.nil_prefix, by simp, ?_⟩
        intro a ha
        simp only [List.mem_map] at ha
        obtain ⟨b, _, hb⟩ := ha
        exact ⟨b, hb.symm⟩

theorem linesOf_append (a b : List Text) : linesOf (a ++ b) = linesOf a ++ linesOf b := by
  simp [linesOf]

theorem prefix_linesOf (es : List Text) : ∀ p : Text, p <+: linesOf es →
    ∃ j q, j ≤ es.length ∧ p = linesOf (es.take j) ++ q ∧
      (q = [] ∨ ∃ e, es[j]? = some e ∧ q <+: escEntry e) := by
  induction es with
  | nil =>
    intro p hp
    simp [linesOf] at hp
    exact ⟨0, [], by simp, by simp [hp, linesOf], Or.inl rfl⟩
  | cons e es ih =>
    intro p hp
    have hl : linesOf (e :: es) = (escEntry e ++ ['\n']) ++ linesOf es := by simp [linesOf]
    rw [hl] at hp
    rcases prefix_append_cases hp with h1 | ⟨p', h1, h2⟩
    · rcases prefix_append_cases h1 with h3 | ⟨p'', h3, h4⟩
      · exact ⟨0, p, by simp, by simp [linesOf], Or.inr ⟨e, by simp, h3⟩⟩
      · -- p = esc e ++ p'' with p'' a prefix of the line feed
        have : p'' = [] ∨ p'' = ['\n'] := by
          cases p'' with
          | nil => exact Or.inl rfl
          | cons x xs =>
            rw [List.cons_prefix_cons] at h4
            obtain ⟨hx, hxs⟩ := h4
            have : xs = [] := List.prefix_nil.mp hxs
            exact Or.inr (by rw [hx, this])
        rcases this with h5 | h5
        · subst h5
          exact ⟨0, p, by simp, by simp [linesOf], Or.inr ⟨e, by simp, by rw [h3]; simp⟩⟩
        · subst h5
          exact ⟨1, [], by simp, by simp [h3, linesOf], Or.inl rfl⟩
    · obtain ⟨j, q, hj, hpq, hq⟩ := ih p' h2
      refine ⟨j + 1, q, by simp; omega, ?_, ?_⟩
      · rw [h1, hpq]; simp [linesOf]
      · rcases hq with hq | ⟨e', he', hq⟩
        · exact Or.inl hq
        · exact Or.inr ⟨e', by simpa using he', hq⟩

theorem Storable.take {ws max isp idp es} (h : Storable ws max isp idp es) (j : Nat) :
    Storable ws max isp idp (es.take j) := by
  obtain ⟨h1, h2, h3⟩ := h
  refine ⟨by simp; omega, fun e he => h2 e (List.mem_of_mem_take he), ?_⟩
  intro hd l1 a b l2 heq
  have : es = l1 ++ a :: b :: (l2 ++ es.drop j) := by
    conv => lhs; rw [← List.take_append_drop j es, heq]
    simp
  exact h3 hd l1 a b _ this

theorem lineText_bads (q : Text) (bads : List Atom) (hb : ∀ a ∈ bads, ∃ b, a = Atom.bad b) :
    lineText (atomsOf q ++ bads) = if bads = [] then some q else none := by
  rw [lineText_append_atomsOf]
  cases bads with
  | nil => simp [lineText]
  | cons a bs =>
    obtain ⟨b, hb'⟩ := hb a (by simp)
    subst hb'
    simp [lineText]

theorem add_entries (ws : Char → Bool) (h : FileHist) (l : Text) (hlt : h.mem.entries.length < h.mem.maxLen) :
    (h.add ws l).1.mem.entries = h.mem.entries ∨ (h.add ws l).1.mem.entries = h.mem.entries ++ [l] := by
  rw [(FileHist.add_mem ws h l).1]
  unfold MemHist.add
  split
  · exact Or.inl rfl
  · exact Or.inr (insert_of_lt hlt l)

theorem cutAtoms_ascii (c : Char) (hc : c.utf8Size = 1) (t : List Atom) (k : Nat) :
    cutAtoms (Atom.chr c :: t) (k + 1) = Atom.chr c :: cutAtoms t k := by
  simp [cutAtoms, hc]

/-- a cut at or after byte 4 keeps the header line `#V2\n` (four one-byte characters) whole -/
theorem cutAtoms_fileOf (es : List Text) (k : Nat) :
    cutAtoms (atomsOf (fileOf es)) (k + 4)
      = atomsOf header ++ Atom.chr '\n' :: cutAtoms (atomsOf (linesOf es)) k := by
  simp only [fileOf, header, atomsOf, List.map_cons, List.cons_append, List.nil_append, List.map_nil]
  rw [show k + 4 = (k + 3) + 1 from rfl, cutAtoms_ascii _ rfl,
      show k + 3 = (k + 2) + 1 from rfl, cutAtoms_ascii _ rfl,
      show k + 2 = (k + 1) + 1 from rfl, cutAtoms_ascii _ rfl,
      cutAtoms_ascii _ rfl]

/-- a store that holds a storable list still does after `add` -/
theorem storable_add (ws : Char → Bool) (h : FileHist)
    (hs : Storable ws h.mem.maxLen h.mem.ignoreSpace h.mem.ignoreDups h.mem.entries) (l : Text) :
    Storable ws h.mem.maxLen h.mem.ignoreSpace h.mem.ignoreDups (h.add ws l).1.mem.entries := by
  rw [(FileHist.add_mem ws h l).1]
  cases hig : h.mem.ignore ws l
  case true => rw [add_of_ignore hig]; exact hs
  rw [add_of_not_ignore hig]
  obtain ⟨hm, c, t, rfl, hsp, hdup⟩ := (ignore_eq_false_iff ws h.mem l).mp hig
  obtain ⟨h1, h2, h3⟩ := hs
  -- the kept part is a suffix of the old entries
  obtain ⟨dropped, X, hX, hXdef⟩ : ∃ dropped X, h.mem.entries = dropped ++ X ∧
      (h.mem.insert (c :: t)).entries = X ++ [c :: t] ∧ X.length + 1 ≤ h.mem.maxLen := by
    by_cases he : h.mem.entries.length = h.mem.maxLen
    · refine ⟨h.mem.entries.take 1, h.mem.entries.drop 1, (List.take_append_drop 1 _).symm,
        by simp [MemHist.insert, he], ?_⟩
      simp; omega
    · exact ⟨[], h.mem.entries, rfl, insert_of_lt (by omega) _, by omega⟩
  show Storable _ _ _ _ (h.mem.insert (c :: t)).entries
  rw [hXdef.1]
  refine ⟨by simpa using hXdef.2, ?_, ?_⟩
  · intro e he
    rcases List.mem_append.mp he with he | he
    · exact h2 e (by rw [hX]; exact List.mem_append_right _ he)
    · simp at he; subst he
      exact ⟨by simp, fun hi c' t' heq => by
        simp at heq; rw [← heq.1]; exact hsp hi⟩
  · intro hd l1 a b l2 heq
    rcases List.eq_nil_or_concat l2 with hl2 | ⟨l2', z, hl2⟩
    · subst hl2
      -- `b` is the new line, `a` the last old entry
      have : X ++ [c :: t] = (l1 ++ [a]) ++ [b] := by simpa using heq
      obtain ⟨hXa, hb⟩ := List.append_inj' this rfl
      simp at hb; subst hb
      intro hab; subst hab
      apply hdup hd
      rw [hX, hXa]; simp
    · subst hl2
      have : X ++ [c :: t] = (l1 ++ a :: b :: l2') ++ [z] := by simpa using heq
      obtain ⟨hXa, _⟩ := List.append_inj' this rfl
      exact h3 hd (dropped ++ l1) a b l2' (by rw [hX, hXa]; simp)

theorem storable_addAll (ws : Char → Bool) (h : FileHist)
    (hs : Storable ws h.mem.maxLen h.mem.ignoreSpace h.mem.ignoreDups h.mem.entries) (ls : List Text) :
    Storable ws h.mem.maxLen h.mem.ignoreSpace h.mem.ignoreDups (addAll ws h ls).mem.entries := by
  induction ls generalizing h with
  | nil => exact hs
  | cons l ls ih =>
    obtain ⟨a, b, c⟩ := FileHist.add_cfg ws h l
    have := ih (h.add ws l).1 (by rw [a, b, c]; exact storable_add ws h hs l)
    rwa [a, b, c] at this

theorem cutAtoms_prefix_max (p0 : Text) : ∀ (t : Text) (k : Nat), p0 <+: t → blen p0 ≤ k →
    atomsOf p0 <+: cutAtoms (atomsOf t) k := by
  induction p0 with
  | nil => intro t k _ _; exact List.nil_prefix
  | cons c p0 ih =>
    intro t k hp hk
    cases t with
    | nil => simp at hp
    | cons c' t =>
      rw [List.cons_prefix_cons] at hp
      obtain ⟨hc, hp⟩ := hp
      subst hc
      have hpos := Char.utf8Size_pos c
      simp only [blen_cons] at hk
      obtain ⟨k', rfl⟩ : ∃ k', k = k' + 1 := ⟨k - 1, by omega⟩
      have hle : c.utf8Size ≤ k' + 1 := by omega
      simp only [atomsOf, List.map_cons, cutAtoms, hle, if_true]
      rw [List.cons_prefix_cons]
      exact ⟨rfl, ih t _ hp (by omega)⟩

theorem count_nl_atomsOf_of_not_mem {t : Text} (h : '\n' ∉ t) :
    (atomsOf t).count (Atom.chr '\n') = 0 := by
  rw [List.count_eq_zero]
  rw [mem_atomsOf]; exact h

theorem count_nl_linesOf (es : List Text) : (atomsOf (linesOf es)).count (Atom.chr '\n') = es.length := by
  induction es with
  | nil => simp [linesOf, atomsOf]
  | cons e es ih =>
    have : atomsOf (linesOf (e :: es)) = atomsOf (escEntry e) ++ Atom.chr '\n' :: atomsOf (linesOf es) := by
      simp [linesOf, atomsOf]
    rw [this, List.count_append, List.count_cons_self, ih, count_nl_atomsOf_of_not_mem (esc_not_mem (.inl rfl) e)]
    simp

theorem addAll_append (ws : Char → Bool) (h : FileHist) (a b : List Text) :
    addAll ws h (a ++ b) = addAll ws (addAll ws h a) b := by
  induction a generalizing h with
  | nil => rfl
  | cons x a ih => simp [addAll, ih]

theorem lineText_none_iff (l : List Atom) : lineText l = none ↔ ∃ b, Atom.bad b ∈ l := by
  induction l with
  | nil => simp [lineText]
  | cons a t ih =>
    cases a with
    | chr c => simp [lineText, ih]
    | bad b => simp [lineText]

theorem bad_mem_splitLines (b : Nat) (f : List Atom) :
    Atom.bad b ∈ f ↔ ∃ p ∈ splitLines f, Atom.bad b ∈ p.1 := by
  induction f with
  | nil => simp [splitLines]
  | cons a t ih =>
    simp only [splitLines]
    split
    · rename_i h; subst h; simp [ih]
    · split
      · rename_i hs
        rw [hs] at ih
        simp at ih
        simp [ih]
      · rename_i l term rest hs
        rw [hs] at ih
        simp only [List.mem_cons, ih]
        constructor
        · rintro (h | ⟨p, hp | hp, hb⟩)
          · exact ⟨_, Or.inl rfl, by simp [h]⟩
          · subst hp; exact ⟨_, Or.inl rfl, by simp [hb]⟩
          · exact ⟨p, Or.inr hp, hb⟩
        · rintro ⟨p, hp | hp, hb⟩
          · subst hp
            simp only [List.mem_cons] at hb
            rcases hb with hb | hb
            · exact Or.inl hb
            · exact Or.inr ⟨_, Or.inl rfl, hb⟩
          · exact Or.inr ⟨p, Or.inr hp, hb⟩

theorem loadLines_status_iff (ws : Char → Bool) (v2 : Bool) (ls : List (List Atom × Bool))
    (h : FileHist) (app : Bool) :
    (loadLines ws v2 ls h app).status = .invalidData ↔ ∃ p ∈ ls, lineText p.1 = none := by
  induction ls generalizing h app with
  | nil => simp [loadLines]
  | cons l ls ih =>
    obtain ⟨l, term⟩ := l
    have hd : lineText l = none ↔ decodeLine l term = none := by simp [decodeLine]
    rw [loadLines_cons]
    simp only [List.mem_cons, exists_eq_or_imp, hd]
    cases decodeLine l term with
    | none => simp
    | some t => dsimp only; split <;> (rw [ih]; simp)

theorem loadFrom_status_iff (ws : Char → Bool) (f : List Atom) (h : FileHist) :
    (loadFrom ws f h).status = .invalidData ↔ ∃ b, Atom.bad b ∈ f := by
  have key : (∃ b, Atom.bad b ∈ f) ↔ ∃ p ∈ splitLines f, lineText p.1 = none := by
    constructor
    · rintro ⟨b, hb⟩
      obtain ⟨p, hp, hb'⟩ := (bad_mem_splitLines b f).mp hb
      exact ⟨p, hp, (lineText_none_iff _).mpr ⟨b, hb'⟩⟩
    · rintro ⟨p, hp, hn⟩
      obtain ⟨b, hb⟩ := (lineText_none_iff _).mp hn
      exact ⟨b, (bad_mem_splitLines b f).mpr ⟨p, hp, hb⟩⟩
  rw [key, loadFrom_eq]
  cases splitLines f with
  | nil => exact loadLines_status_iff ..
  | cons p rest =>
    obtain ⟨l, term⟩ := p
    dsimp only
    split
    · rename_i hd
      have hl : lineText l ≠ none := by intro hn; simp [decodeLine, hn] at hd
      rw [loadLines_status_iff]; simp [hl]
    · exact loadLines_status_iff ..

/-- the file after `save` of `es` and then any number of fast-path `append`s of batches -/
def appendedFile (es : List Text) (batches : List (List Text)) : List Atom :=
  atomsOf (fileOf es) ++ batches.flatMap (fun b => atomsOf (linesOf b))

theorem appendedFile_eq (es : List Text) (batches : List (List Text)) :
    appendedFile es batches = atomsOf (fileOf (es ++ batches.flatten)) := by
  induction batches generalizing es with
  | nil => simp [appendedFile]
  | cons b bs ih =>
    have := ih (es ++ b)
    simp only [appendedFile, List.flatMap_cons, List.flatten_cons] at this ⊢
    rw [← List.append_assoc es, ← this]
    simp [fileOf, linesOf, atomsOf]

/-- A cut leaves undecodable bytes exactly when it is inside the text and not on a character
    boundary.  Induction on the text, following `cutAtoms`: if the first character fits in `k`
    bytes the question moves to the tail with `k - size` (a prefix of `c :: t` of `k` bytes is `c`
    followed by a prefix of `t` of `k - size` bytes); if it does not fit it is cut, and no prefix
    has a length strictly between 0 and its size. -/
theorem cutAtoms_bad_iff (t : Text) : ∀ k : Nat, (∃ b, Atom.bad b ∈ cutAtoms (atomsOf t) k) ↔
    (k < blen t ∧ ¬ ∃ p, p <+: t ∧ blen p = k) := by
  induction t with
  | nil => intro k; cases k <;> simp [atomsOf, cutAtoms]
  | cons c t ih =>
    intro k
    have hpos := Char.utf8Size_pos c
    cases k with
    | zero =>
      simp only [atomsOf, List.map_cons, cutAtoms, List.not_mem_nil, exists_false, false_iff, not_and]
      intro _ hno; exact hno ⟨[], List.nil_prefix, rfl⟩
    | succ k =>
      simp only [atomsOf, List.map_cons, cutAtoms]
      split
      · rename_i hle
        have := ih (k + 1 - c.utf8Size)
        simp only [atomsOf] at this
        simp only [List.mem_cons, reduceCtorEq, false_or, this, blen_cons]
        constructor
        · rintro ⟨h1, h2⟩
          refine ⟨by omega, ?_⟩
          rintro ⟨p, hp, hb⟩
          cases p with
          | nil => simp at hb
          | cons d p =>
            rw [List.cons_prefix_cons] at hp
            obtain ⟨rfl, hp⟩ := hp
            exact h2 ⟨p, hp, by simp at hb; omega⟩
        · rintro ⟨h1, h2⟩
          refine ⟨by omega, ?_⟩
          rintro ⟨p, hp, hb⟩
          exact h2 ⟨c :: p, by rw [List.cons_prefix_cons]; exact ⟨rfl, hp⟩, by simp; omega⟩
      · rename_i hgt
        have hlen : 0 < ((utf8Bytes c).take (k + 1)).length := by
          rw [List.length_take, utf8Bytes_length]; omega
        constructor
        · intro _
          refine ⟨by simp; omega, ?_⟩
          rintro ⟨p, hp, hb⟩
          cases p with
          | nil => simp at hb
          | cons d p =>
            rw [List.cons_prefix_cons] at hp
            obtain ⟨rfl, hp⟩ := hp
            simp at hb; omega
        · intro _
          cases hq : (utf8Bytes c).take (k + 1) with
          | nil => rw [hq] at hlen; simp at hlen
          | cons b bs => exact ⟨b, by simp⟩

theorem cutAtoms_of_size_le : ∀ (f : List Atom) (k : Nat), atomsSize f ≤ k → cutAtoms f k = f := by
  intro f
  induction f with
  | nil => intro k _; cases k <;> rfl
  | cons a t ih =>
    intro k hk
    have hsz : atomsSize (a :: t) = a.size + atomsSize t := by simp [atomsSize]
    rw [hsz] at hk
    cases a with
    | bad b =>
      simp only [Atom.size] at hk
      obtain ⟨k', rfl⟩ : ∃ k', k = k' + 1 := ⟨k - 1, by omega⟩
      simp only [cutAtoms]
      rw [ih k' (by omega)]
    | chr c =>
      simp only [Atom.size] at hk
      have hpos := Char.utf8Size_pos c
      obtain ⟨k', rfl⟩ : ∃ k', k = k' + 1 := ⟨k - 1, by omega⟩
      simp only [cutAtoms]
      rw [if_pos (by omega), ih _ (by omega)]

theorem World.load_some (ws : Char → Bool) (w : World) (f : List Atom) (hf : w.file = some f) :
    (w.load ws).2 = (loadFrom ws f w.sess.fh).status ∧
    (w.load ws).1.sess.fh = (loadFrom ws f w.sess.fh).h := by
  simp only [World.load, hf]
  split
  · rename_i h; split <;> simp [h]
  · simp

end Rl
