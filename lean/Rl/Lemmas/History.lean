/-
  The in-memory history `MemHist` of Rl/History.lean (`src/history.rs`) against the declarative store of
  Rl/Spec/History.lean (C09): what makes `add` refuse a line (`ignore_eq_false_iff`, `add_cases`), the window of
  the last `maxLen` accepted lines (`insert_entries`, `setMaxLen_entries`, the `takeLast` lemmas), and the
  search: `scan` finds the nearest entry a test accepts, so `searchMatch_iff` / `searchMatch_finds` hold for an
  arbitrary test and `search` / `startsWith` are its instances.
-/
import Rl.History
import Rl.Spec.History
namespace Rl
open MemHist

theorem scan_some {test : Text → Option Nat} {l : List Text} {k idx : Nat} {e : Text} {cur : Nat}
    (h : scan test l k = some (idx, e, cur)) :
    ∃ j, l[j]? = some e ∧ test e = some cur ∧ idx = k + j ∧
      ∀ j', j' < j → ∀ e', l[j']? = some e' → test e' = none := by
  induction l generalizing k with
  | nil => simp [scan] at h
  | cons x xs ih =>
    simp only [scan] at h
    split at h
    · rename_i c hc
      simp at h; obtain ⟨rfl, rfl, rfl⟩ := h
      exact ⟨0, by simp, hc, by simp, by intro j' hj; omega⟩
    · rename_i hc
      obtain ⟨j, h1, h2, h3, h4⟩ := ih h
      refine ⟨j + 1, by simpa using h1, h2, by omega, ?_⟩
      intro j' hj e' he'
      cases j' with
      | zero => simp at he'; subst he'; exact hc
      | succ j'' => exact h4 j'' (by omega) e' (by simpa using he')

theorem scan_none {test : Text → Option Nat} {l : List Text} {k : Nat}
    (h : scan test l k = none) : ∀ (j : Nat) (e : Text), l[j]? = some e → test e = none := by
  induction l generalizing k with
  | nil => intro j e he; simp at he
  | cons x xs ih =>
    simp only [scan] at h
    split at h
    · simp at h
    · rename_i hc
      intro j e he
      cases j with
      | zero => simp at he; subst he; exact hc
      | succ j' => exact ih h j' e (by simpa using he)

theorem getElem?_reverse_drop (l : List α) (s j : Nat) (hs : s < l.length) (hj : j ≤ s) :
    (l.reverse.drop (l.length - 1 - s))[j]? = l[s - j]? := by
  rw [List.getElem?_drop]
  rw [List.getElem?_reverse (by omega)]
  congr 1; omega

theorem getElem?_reverse_drop_none (l : List α) (s j : Nat) (hs : s < l.length) (hj : s < j) :
    (l.reverse.drop (l.length - 1 - s))[j]? = none := by
  rw [List.getElem?_drop]
  apply List.getElem?_eq_none
  simp; omega

theorem takeLast_eq_self {n : Nat} {l : List α} (h : l.length ≤ n) : Spec.takeLast n l = l := by
  unfold Spec.takeLast; rw [Nat.sub_eq_zero_of_le h]; rfl

theorem takeLast_length_le (n : Nat) (l : List α) : (Spec.takeLast n l).length ≤ n := by
  simp only [Spec.takeLast, List.length_drop]; omega

theorem takeLast_takeLast {n m : Nat} (hnm : n ≤ m) (l : List α) :
    Spec.takeLast n (Spec.takeLast m l) = Spec.takeLast n l := by
  simp only [Spec.takeLast, List.length_drop, List.drop_drop]
  congr 1; omega

theorem takeLast_snoc (m : Nat) (l : List α) (x : α) :
    Spec.takeLast m (Spec.takeLast m l ++ [x]) = Spec.takeLast m (l ++ [x]) := by
  simp only [Spec.takeLast, List.length_drop, List.length_append, List.length_singleton]
  by_cases hl : l.length ≤ m
  · have h0 : l.length - m = 0 := by omega
    simp [h0]
  · by_cases hm0 : m = 0
    · subst hm0; simp
    have h1 : l.length - (l.length - m) + 1 - m = 1 := by omega
    have h2 : l.length + 1 - m = (l.length - m) + 1 := by omega
    rw [h1, h2]
    have hlt : l.length - m < l.length := by omega
    rw [List.drop_append_of_le_length (by rw [List.length_drop]; omega), List.drop_drop]
    rw [List.drop_append_of_le_length (by omega)]

/-- the size bound of the store (`entries.len() <= max_len`) -/
def HInv (h : MemHist) : Prop := h.entries.length ≤ h.maxLen

theorem insert_entries {h : MemHist} (hi : HInv h) (hm : h.maxLen ≠ 0) (l : Text) :
    (h.insert l).entries = Spec.takeLast h.maxLen (h.entries ++ [l]) := by
  unfold HInv at hi
  simp only [MemHist.insert, Spec.takeLast, List.length_append, List.length_singleton]
  by_cases he : h.entries.length = h.maxLen
  · have hb : (h.entries.length == h.maxLen) = true := by simp [he]
    have : h.entries.length + 1 - h.maxLen = 1 := by omega
    rw [this]
    simp only [hb, if_true]
    rw [List.drop_append_of_le_length (by omega)]
  · have hb : (h.entries.length == h.maxLen) = false := by simp [he]
    have : h.entries.length + 1 - h.maxLen = 0 := by omega
    rw [this]; simp [hb]

theorem insert_inv {h : MemHist} (hi : HInv h) (hm : h.maxLen ≠ 0) (l : Text) : HInv (h.insert l) := by
  unfold HInv; rw [insert_entries hi hm]; exact takeLast_length_le _ _

theorem exists_cons_eq {α} (c : α) (t : List α) (P : α → Prop) :
    (∃ c' t', c :: t = c' :: t' ∧ P c') ↔ P c :=
  ⟨fun ⟨_, _, he, hp⟩ => (List.cons.inj he).1 ▸ hp, fun hp => ⟨c, t, rfl, hp⟩⟩

theorem ignore_eq_false_iff (ws) (h : MemHist) (l : Text) :
    h.ignore ws l = false ↔ h.maxLen ≠ 0 ∧ ∃ c t, l = c :: t ∧
      (h.ignoreSpace = true → ws c = false) ∧ (h.ignoreDups = true → h.entries.getLast? ≠ some l) := by
  unfold MemHist.ignore
  cases l with
  | nil => simp
  | cons c t =>
    rw [exists_cons_eq]
    cases h.ignoreSpace <;> cases h.ignoreDups <;> cases h.entries.getLast? <;> simp

theorem setMaxLen_entries (h : MemHist) (n : Nat) :
    (h.setMaxLen n).entries = Spec.takeLast n h.entries := by
  unfold MemHist.setMaxLen
  simp only
  split
  · rfl
  · rename_i hle
    exact (takeLast_eq_self (Nat.not_lt.mp hle)).symm

theorem setMaxLen_cfg (h : MemHist) (n : Nat) :
    (h.setMaxLen n).maxLen = n ∧ (h.setMaxLen n).ignoreSpace = h.ignoreSpace ∧
      (h.setMaxLen n).ignoreDups = h.ignoreDups := by
  unfold MemHist.setMaxLen; simp only; split <;> exact ⟨rfl, rfl, rfl⟩

theorem add_cfg (ws) (h : MemHist) (l : Text) :
    (h.add ws l).1.maxLen = h.maxLen ∧ (h.add ws l).1.ignoreSpace = h.ignoreSpace ∧
      (h.add ws l).1.ignoreDups = h.ignoreDups := by
  unfold MemHist.add; split <;> exact ⟨rfl, rfl, rfl⟩

theorem add_of_ignore {ws} {h : MemHist} {l : Text} (hi : h.ignore ws l = true) :
    h.add ws l = (h, false) := by
  unfold MemHist.add; rw [if_pos hi]

theorem add_of_not_ignore {ws} {h : MemHist} {l : Text} (hi : h.ignore ws l = false) :
    h.add ws l = (h.insert l, true) := by
  unfold MemHist.add; rw [hi]; rfl

theorem add_cases (ws) (h : MemHist) (l : Text) :
    (h.ignore ws l = true ∧ h.add ws l = (h, false)) ∨
    (h.ignore ws l = false ∧ h.maxLen ≠ 0 ∧ h.add ws l = (h.insert l, true)) := by
  cases hg : h.ignore ws l
  · exact Or.inr ⟨rfl, ((ignore_eq_false_iff ws h l).mp hg).1, add_of_not_ignore hg⟩
  · exact Or.inl ⟨rfl, add_of_ignore hg⟩

theorem add_snd (ws) (h : MemHist) (l : Text) : (h.add ws l).2 = !h.ignore ws l := by
  unfold MemHist.add; cases h.ignore ws l <;> rfl

theorem add_refused_iff (ws) (h : MemHist) (l : Text) :
    (h.add ws l).2 = false ↔
      (l = [] ∨ h.maxLen = 0 ∨ (h.ignoreSpace = true ∧ ∃ c t, l = c :: t ∧ ws c = true)
        ∨ (h.ignoreDups = true ∧ h.entries.getLast? = some l)) := by
  rw [add_snd, Bool.not_eq_false', ← Bool.not_eq_false, ignore_eq_false_iff]
  cases l with
  | nil => simp
  | cons c t =>
    simp only [exists_cons_eq, reduceCtorEq, false_or, Classical.not_and_iff_not_or_not, Classical.not_imp,
      Decidable.not_not, Bool.not_eq_false]

theorem FileHist.add_mem (ws : Char → Bool) (f : FileHist) (l : Text) :
    (f.add ws l).1.mem = (f.mem.add ws l).1 ∧ (f.add ws l).2 = (f.mem.add ws l).2 := by
  unfold FileHist.add
  cases hi : f.mem.ignore ws l
  · rw [add_of_not_ignore hi]; exact ⟨rfl, rfl⟩
  · rw [add_of_ignore hi]; exact ⟨rfl, rfl⟩

theorem refused_eq_ignore (ws : Char → Bool) (h : MemHist) (l : Text) :
    Spec.refused ws { entries := h.entries, max := h.maxLen, ignoreSpace := h.ignoreSpace,
                      ignoreDups := h.ignoreDups } l = h.ignore ws l := by
  unfold Spec.refused MemHist.ignore
  cases l with
  | nil => simp
  | cons c t =>
    by_cases hm : h.maxLen = 0
    · simp [hm]
    · cases hsp : h.ignoreSpace <;> cases hd : h.ignoreDups <;> simp [hm]
      · cases hl : h.entries.getLast? <;> simp [eq_comm]
        rename_i v; by_cases hv : v = c :: t <;> simp [hv]
      · cases hw : ws c <;> simp
        cases hl : h.entries.getLast? <;> simp [eq_comm]
        rename_i v; by_cases hv : v = c :: t <;> simp [hv]

theorem add_inv (ws) {h : MemHist} (hi : HInv h) (l : Text) : HInv (h.add ws l).1 := by
  rcases add_cases ws h l with ⟨_, e⟩ | ⟨_, hm, e⟩ <;> rw [e]
  · exact hi
  · exact insert_inv hi hm l

theorem mem_of_mem_add (ws) (h : MemHist) (l e : Text) (he : e ∈ (h.add ws l).1.entries) :
    e ∈ h.entries ∨ (e = l ∧ h.ignore ws l = false) := by
  rcases add_cases ws h l with ⟨_, ea⟩ | ⟨hig, _, ea⟩ <;> rw [ea] at he
  · exact Or.inl he
  · simp only [MemHist.insert] at he
    rcases List.mem_append.mp he with he | he
    · left; split at he
      · exact List.mem_of_mem_drop he
      · exact he
    · exact Or.inr ⟨List.mem_singleton.mp he, hig⟩

theorem step_inv (ws) {h : MemHist} (hi : HInv h) (op : HOp) : HInv (h.step ws op).1 := by
  cases op with
  | add l | addOwned l => exact add_inv ws hi l
  | setMax n =>
    show (h.setMaxLen n).entries.length ≤ (h.setMaxLen n).maxLen
    rw [setMaxLen_entries, (setMaxLen_cfg h n).1]; exact takeLast_length_le n _
  | clear => exact Nat.zero_le _
  | _ => exact hi

theorem run_inv (ws) {h : MemHist} (hi : HInv h) (ops : List HOp) : HInv (MemHist.run ws h ops).1 := by
  induction ops generalizing h with
  | nil => exact hi
  | cons op ops ih =>
    simp only [MemHist.run]
    exact ih (step_inv ws hi op)

/-- `test` accepts no entry of `es` whose index is in `R` -/
def NoneIn (es : List Text) (test : Text → Option Nat) (R : Nat → Prop) : Prop :=
  ∀ (j : Nat) (e' : Text), R j → es[j]? = some e' → test e' = none

/-- An answer of `searchMatch`, for any test: the entry at the reported index passes the test and
    no entry between the start and it does (forward: `scan` over `drop s`; reverse: `scan` over the
    reversed list, indices translated by `getElem?_reverse_drop`). -/
theorem searchMatch_some {h : MemHist} {t : Text} {s : Nat} {d : Dir} {test : Text → Option Nat}
    {i : Nat} {e : Text} {cur : Nat} (hs : h.searchMatch t s d test = some (i, e, cur)) :
    t ≠ [] ∧ s < h.entries.length ∧ h.entries[i]? = some e ∧ test e = some cur ∧
    (d = .forward → s ≤ i ∧ NoneIn h.entries test (fun j => s ≤ j ∧ j < i)) ∧
    (d = .reverse → i ≤ s ∧ NoneIn h.entries test (fun j => i < j ∧ j ≤ s)) := by
  unfold MemHist.searchMatch at hs
  split at hs
  · simp at hs
  · rename_i hc
    simp at hc
    obtain ⟨hne, hlt⟩ := hc
    refine ⟨by simpa using hne, hlt, ?_⟩
    cases d with
    | forward =>
      simp only at hs
      split at hs
      · rename_i idx e0 c0 hsc
        simp at hs; obtain ⟨rfl, rfl, rfl⟩ := hs
        obtain ⟨j, h1, h2, h3, h4⟩ := scan_some hsc
        rw [List.getElem?_drop] at h1
        simp at h3; subst h3
        refine ⟨by rw [Nat.add_comm]; exact h1, h2, ?_, by intro hh; cases hh⟩
        intro _
        refine ⟨by omega, ?_⟩
        intro j' e' ⟨hj1, hj2⟩ he'
        apply h4 (j' - s) (by omega) e'
        rw [List.getElem?_drop]
        have : s + (j' - s) = j' := by omega
        rw [this]; exact he'
      · simp at hs
    | reverse =>
      simp only at hs
      split at hs
      · rename_i idx e0 c0 hsc
        simp at hs; obtain ⟨rfl, rfl, rfl⟩ := hs
        obtain ⟨j, h1, h2, h3, h4⟩ := scan_some hsc
        simp at h3; subst h3
        have hjs : idx ≤ s := by
          by_cases hle : idx ≤ s
          · exact hle
          · rw [getElem?_reverse_drop_none _ _ _ hlt (by omega)] at h1
            simp at h1
        rw [getElem?_reverse_drop _ _ _ hlt hjs] at h1
        refine ⟨h1, h2, (by intro hh; cases hh), ?_⟩
        intro _
        refine ⟨by omega, ?_⟩
        intro j' e' ⟨hj1, hj2⟩ he'
        apply h4 (s - j') (by omega) e'
        rw [getElem?_reverse_drop _ _ _ hlt (by omega)]
        have : s - (s - j') = j' := by omega
        rw [this]; exact he'
      · simp at hs

/-- No answer: the guard failed, or no entry on the requested side passes the test. -/
theorem searchMatch_none {h : MemHist} {t : Text} {s : Nat} {d : Dir} {test : Text → Option Nat}
    (hs : h.searchMatch t s d test = none) :
    t = [] ∨ h.entries.length ≤ s ∨
    ((d = .forward → NoneIn h.entries test (fun j => s ≤ j)) ∧
     (d = .reverse → NoneIn h.entries test (fun j => j ≤ s))) := by
  unfold MemHist.searchMatch at hs
  split at hs
  · rename_i hc
    simp at hc
    by_cases ht : t = []
    · exact Or.inl ht
    · right; left
      cases t with
      | nil => exact absurd rfl ht
      | cons c t' => simp at hc; exact hc
  · rename_i hc
    simp at hc
    obtain ⟨_, hlt⟩ := hc
    right; right
    cases d with
    | forward =>
      simp only at hs
      split at hs
      · simp at hs
      · rename_i hsc
        refine ⟨?_, by intro hh; cases hh⟩
        intro _ j e' hj he'
        apply scan_none hsc (j - s) e'
        rw [List.getElem?_drop]
        have : s + (j - s) = j := by omega
        rw [this]; exact he'
    | reverse =>
      simp only at hs
      split at hs
      · simp at hs
      · rename_i hsc
        refine ⟨(by intro hh; cases hh), ?_⟩
        intro _ j e' hj he'
        apply scan_none hsc (s - j) e'
        rw [getElem?_reverse_drop _ _ _ hlt (by omega)]
        have : s - (s - j) = j := by omega
        rw [this]; exact he'

theorem searchMatch_guard {h : MemHist} {t : Text} {s : Nat} {d : Dir} {test : Text → Option Nat}
    (hg : t = [] ∨ h.entries.length ≤ s) : h.searchMatch t s d test = none := by
  unfold MemHist.searchMatch
  split
  · rfl
  · rename_i hc
    simp at hc
    rcases hg with rfl | hg
    · simp at hc
    · omega

theorem searchMatch_finds {h : MemHist} {t : Text} {s : Nat} {d : Dir} {test : Text → Option Nat}
    {j : Nat} {e' : Text} (ht : t ≠ []) (hs : s < h.entries.length)
    (hj : h.entries[j]? = some e') (hp : test e' ≠ none)
    (hside : (d = .forward → s ≤ j) ∧ (d = .reverse → j ≤ s)) :
    ∃ i e c, h.searchMatch t s d test = some (i, e, c) ∧
      (d = .forward → s ≤ i ∧ i ≤ j) ∧ (d = .reverse → j ≤ i ∧ i ≤ s) := by
  cases hres : h.searchMatch t s d test with
  | none =>
    rcases searchMatch_none hres with h1 | h1 | ⟨hf, hr⟩
    · exact absurd h1 ht
    · exact absurd hs (Nat.not_lt.mpr h1)
    · cases d with
      | forward => exact absurd (hf rfl j e' (hside.1 rfl) hj) hp
      | reverse => exact absurd (hr rfl j e' (hside.2 rfl) hj) hp
  | some r =>
    obtain ⟨i, e, c⟩ := r
    obtain ⟨_, _, _, _, hf, hr⟩ := searchMatch_some hres
    refine ⟨i, e, c, rfl, fun hd => ?_, fun hd => ?_⟩
    · exact ⟨(hf hd).1, Nat.le_of_not_lt fun hlt => hp ((hf hd).2 j e' ⟨hside.1 hd, hlt⟩ hj)⟩
    · exact ⟨Nat.le_of_not_lt fun hlt => hp ((hr hd).2 j e' ⟨hlt, hside.2 hd⟩ hj), (hr hd).1⟩

/-- `N e` reads "the test fails on `e`"; the answer is determined because the nearest passing entry
    is unique and `test` is a function. -/
theorem searchMatch_iff {h : MemHist} {t : Text} {s : Nat} {d : Dir} {test : Text → Option Nat}
    {N : Text → Prop} (hN : ∀ e, test e = none ↔ N e) {i : Nat} {e : Text} {c : Nat} :
    h.searchMatch t s d test = some (i, e, c) ↔
      (t ≠ [] ∧ s < h.entries.length ∧ h.entries[i]? = some e ∧ test e = some c ∧
       (d = .forward → s ≤ i ∧ ∀ (j : Nat) (e' : Text), s ≤ j → j < i → h.entries[j]? = some e' → N e') ∧
       (d = .reverse → i ≤ s ∧ ∀ (j : Nat) (e' : Text), i < j → j ≤ s → h.entries[j]? = some e' → N e')) := by
  constructor
  · intro hs
    obtain ⟨h1, h2, h3, h4, hf, hr⟩ := searchMatch_some hs
    exact ⟨h1, h2, h3, h4,
      fun hd => ⟨(hf hd).1, fun j e' a b he' => (hN e').mp ((hf hd).2 j e' ⟨a, b⟩ he')⟩,
      fun hd => ⟨(hr hd).1, fun j e' a b he' => (hN e').mp ((hr hd).2 j e' ⟨a, b⟩ he')⟩⟩
  · rintro ⟨ht, hs, hget, htest, hf, hr⟩
    obtain ⟨i', e', c', hres, hfw, hrv⟩ := searchMatch_finds ht hs hget
      (fun hn => Option.some_ne_none c (htest.symm.trans hn)) ⟨fun hd => (hf hd).1, fun hd => (hr hd).1⟩
    obtain ⟨_, _, hget', htest', _, _⟩ := searchMatch_some hres
    have hne : ¬ N e' := fun hn => Option.some_ne_none c' (htest'.symm.trans ((hN e').mpr hn))
    have hi : i' = i := by
      cases d with
      | forward =>
        exact Nat.le_antisymm (hfw rfl).2
          (Nat.le_of_not_lt fun hlt => hne ((hf rfl).2 i' e' (hfw rfl).1 hlt hget'))
      | reverse =>
        exact Nat.le_antisymm
          (Nat.le_of_not_lt fun hlt => hne ((hr rfl).2 i' e' hlt (hrv rfl).2 hget')) (hrv rfl).1
    subst hi
    obtain rfl : e' = e := Option.some.inj (hget'.symm.trans hget)
    obtain rfl : c' = c := Option.some.inj (htest'.symm.trans htest)
    exact hres

theorem searchMatch_none_of {h : MemHist} {t : Text} {s : Nat} {d : Dir} {test : Text → Option Nat}
    {N : Text → Prop} (hN : ∀ e, test e = none ↔ N e) (hs : h.searchMatch t s d test = none) :
    t = [] ∨ h.entries.length ≤ s ∨
    ((d = .forward → ∀ (j : Nat) (e' : Text), s ≤ j → h.entries[j]? = some e' → N e') ∧
     (d = .reverse → ∀ (j : Nat) (e' : Text), j ≤ s → h.entries[j]? = some e' → N e')) := by
  rcases searchMatch_none hs with h1 | h1 | ⟨hf, hr⟩
  · exact Or.inl h1
  · exact Or.inr (Or.inl h1)
  · exact Or.inr (Or.inr ⟨fun hd j e' hj he' => (hN e').mp (hf hd j e' hj he'),
      fun hd j e' hj he' => (hN e').mp (hr hd j e' hj he')⟩)

theorem findSub_eq_none_iff (t e : Text) : findSub t e = none ↔ ∀ o, ¬ OccursAt t e o :=
  ⟨findSub_none, fun hn => by
    cases hf : findSub t e with
    | none => rfl
    | some c => exact absurd (findSub_some hf).1 (hn c)⟩

theorem findSub_eq_some_iff (t e : Text) (off : Nat) :
    findSub t e = some off ↔ OccursAt t e off ∧ ∀ o, OccursAt t e o → off ≤ o :=
  ⟨findSub_some, fun ⟨ho, hmin⟩ => by
    cases hf : findSub t e with
    | none => exact absurd ho (findSub_none hf off)
    | some c =>
      exact congrArg some (Nat.le_antisymm ((findSub_some hf).2 off ho) (hmin c (findSub_some hf).1))⟩

theorem prefixTest_eq_none_iff (t e : Text) :
    (if t.isPrefixOf e then some (blen t) else none) = none ↔ ¬ t <+: e := by
  rw [← List.isPrefixOf_iff_prefix]; split <;> simp [*]

theorem prefixTest_eq_some_iff (t e : Text) (c : Nat) :
    (if t.isPrefixOf e then some (blen t) else none) = some c ↔ t <+: e ∧ c = blen t := by
  rw [← List.isPrefixOf_iff_prefix]; split <;> simp [*, eq_comm]

theorem find_range_rev_some {p : Nat → Bool} {n i : Nat} :
    (List.range n).reverse.find? p = some i ↔
      p i = true ∧ i < n ∧ ∀ j, i < j → j < n → p j = false := by
  rw [List.find?_eq_some_iff_getElem]
  constructor
  · rintro ⟨hp, k, hk, hki, hmin⟩
    simp at hk
    simp [List.getElem_reverse] at hki
    refine ⟨hp, by omega, ?_⟩
    intro j hj1 hj2
    have := hmin (n - 1 - j) (by omega)
    simp [List.getElem_reverse] at this
    have e : n - 1 - (n - 1 - j) = j := by omega
    rw [e] at this; exact this
  · rintro ⟨hp, hi, hmax⟩
    refine ⟨hp, n - 1 - i, by simp; omega, ?_, ?_⟩
    · simp [List.getElem_reverse]; omega
    · intro j hj
      simp [List.getElem_reverse]
      exact hmax _ (by omega) (by omega)

theorem find_range_rev_none {p : Nat → Bool} {n : Nat} :
    (List.range n).reverse.find? p = none ↔ ∀ j, j < n → p j = false := by
  simp [List.find?_eq_none]

theorem and_getD_map_true {α} {p : α → Bool} {o : Option α} {c : Bool} :
    (c && (o.map p).getD false) = true ↔ c = true ∧ ∃ e, o = some e ∧ p e = true := by
  cases c <;> cases o <;> simp

theorem and_getD_map_false {α} {p : α → Bool} {o : Option α} {c : Bool} :
    (c && (o.map p).getD false) = false ↔ (c = true → ∀ e, o = some e → p e = false) := by
  cases c <;> cases o <;> simp

theorem nearest_eq_some_iff {p : Text → Bool} {es : List Text} {s i : Nat} {d : Dir} :
    Spec.nearest p es s d = some i ↔ ∃ e, es[i]? = some e ∧ p e = true ∧
      (d = .forward → s ≤ i ∧ ∀ (j : Nat) (e' : Text), s ≤ j → j < i → es[j]? = some e' → p e' = false) ∧
      (d = .reverse → i ≤ s ∧ ∀ (j : Nat) (e' : Text), i < j → j ≤ s → es[j]? = some e' → p e' = false) := by
  cases d with
  | forward =>
    simp only [Spec.nearest, List.find?_range_eq_some, Bool.not_eq_true', and_getD_map_true,
      and_getD_map_false, decide_eq_true_eq]
    constructor
    · rintro ⟨⟨hsi, e, hget, hp⟩, _, hmin⟩
      exact ⟨e, hget, hp, fun _ => ⟨hsi, fun j e' hsj hji => hmin j hji hsj e'⟩, fun hd => Dir.noConfusion hd⟩
    · rintro ⟨e, hget, hp, hf, _⟩
      exact ⟨⟨(hf trivial).1, e, hget, hp⟩, List.mem_range.mpr (List.getElem?_eq_some_iff.mp hget).1,
        fun j hji hsj e' => (hf trivial).2 j e' hsj hji⟩
  | reverse =>
    simp only [Spec.nearest, find_range_rev_some, and_getD_map_true, and_getD_map_false,
      decide_eq_true_eq]
    constructor
    · rintro ⟨⟨his, e, hget, hp⟩, _, hmax⟩
      exact ⟨e, hget, hp, fun hd => Dir.noConfusion hd, fun _ => ⟨his, fun j e' hij hjs he' =>
        hmax j hij (List.getElem?_eq_some_iff.mp he').1 hjs e' he'⟩⟩
    · rintro ⟨e, hget, hp, _, hr⟩
      exact ⟨⟨(hr trivial).1, e, hget, hp⟩, (List.getElem?_eq_some_iff.mp hget).1,
        fun j hij _ hjs e' => (hr trivial).2 j e' hij hjs⟩

/-- the test `search` (`sub = true`: substring, answers the offset) and `starts_with`
    (`sub = false`: prefix, answers the length of the term) hand to `searchMatch` … -/
def testOf (sub : Bool) (t : Text) : Text → Option Nat :=
  if sub then fun e => findSub t e else fun e => if t.isPrefixOf e then some (blen t) else none

/-- … and the spec's yes/no form of it -/
def predOf (sub : Bool) (t : Text) : Text → Bool :=
  fun e => if sub then Spec.contains t e else t.isPrefixOf e

theorem testOf_none_iff (sub : Bool) (t e : Text) : testOf sub t e = none ↔ predOf sub t e = false := by
  cases sub
  · simp only [testOf, predOf, Bool.false_eq_true, if_false]
    rw [prefixTest_eq_none_iff, ← List.isPrefixOf_iff_prefix, Bool.not_eq_true]
  · simp [testOf, predOf, Spec.contains]

theorem testOf_eq_some_iff (sub : Bool) (t e : Text) (c : Nat) :
    testOf sub t e = some c ↔
      predOf sub t e = true ∧ c = if sub then (findSub t e).getD 0 else blen t := by
  cases sub
  · simp only [testOf, predOf, Bool.false_eq_true, if_false]
    rw [prefixTest_eq_some_iff, List.isPrefixOf_iff_prefix]
  · simp only [testOf, predOf, Spec.contains, if_true]
    cases findSub t e <;> simp [eq_comm]

theorem find_eq_some_iff {sub : Bool} {es : List Text} {t : Text} {s : Nat} {d : Dir}
    {i : Nat} {e : Text} {c : Nat} :
    Spec.find sub es t s d = some (i, e, c) ↔
      (t ≠ [] ∧ s < es.length ∧ es[i]? = some e ∧
       (predOf sub t e = true ∧ c = if sub then (findSub t e).getD 0 else blen t) ∧
       (d = .forward → s ≤ i ∧ ∀ (j : Nat) (e' : Text), s ≤ j → j < i → es[j]? = some e' → predOf sub t e' = false) ∧
       (d = .reverse → i ≤ s ∧ ∀ (j : Nat) (e' : Text), i < j → j ≤ s → es[j]? = some e' → predOf sub t e' = false)) := by
  unfold Spec.find
  split
  · rename_i hg
    refine ⟨(fun h => nomatch h), fun ⟨ht, hs, _⟩ => ?_⟩
    rcases hg with hg | hg
    · exact absurd hg ht
    · exact absurd hs (Nat.not_lt.mpr hg)
  · rename_i hg
    show (match Spec.nearest (predOf sub t) es s d with
      | none => none
      | some i =>
        match es[i]? with
        | none => none
        | some e => some (i, e, if sub then (findSub t e).getD 0 else blen t)) = some (i, e, c) ↔ _
    constructor
    · intro h
      cases hn : Spec.nearest (predOf sub t) es s d with
      | none => rw [hn] at h; cases h
      | some i' =>
        obtain ⟨e0, hget, hp, hf, hr⟩ := nearest_eq_some_iff.mp hn
        simp only [hn, hget, Option.some.injEq, Prod.mk.injEq] at h
        obtain ⟨rfl, rfl, rfl⟩ := h
        exact ⟨fun ht => hg (Or.inl ht), Nat.lt_of_not_le fun hs => hg (Or.inr hs), hget, ⟨hp, rfl⟩, hf, hr⟩
    · rintro ⟨_, _, hget, ⟨hp, rfl⟩, hf, hr⟩
      simp only [nearest_eq_some_iff.mpr ⟨e, hget, hp, hf, hr⟩, hget]

theorem searchMatch_eq_find (sub : Bool) (h : MemHist) (t : Text) (s : Nat) (d : Dir) :
    h.searchMatch t s d (testOf sub t) = Spec.find sub h.entries t s d :=
  Option.ext fun ⟨i, e, c⟩ => by
    rw [searchMatch_iff (testOf_none_iff sub t), find_eq_some_iff, testOf_eq_some_iff]

theorem search_eq_find (h : MemHist) (t : Text) (s : Nat) (d : Dir) :
    h.search t s d = Spec.find true h.entries t s d := searchMatch_eq_find true h t s d

theorem startsWith_eq_find (h : MemHist) (t : Text) (s : Nat) (d : Dir) :
    h.startsWith t s d = Spec.find false h.entries t s d := searchMatch_eq_find false h t s d

end Rl
