/-
  The ghost log of accepted lines of an operation sequence on the in-memory history (`accLog`: the
  lines for which `add` answered `true` since the last `clear`), and the relation of the store to
  that log: the entries are always a suffix of it (`run_suffix`), and exactly its last `maxLen`
  lines (`Win`, `run_win`) as long as no `set_max_len` raises the limit (`nonRaising`) — raising
  it does not bring dropped lines back.
-/
import Rl.History
import Rl.Spec.History
import Rl.Lemmas.History
namespace Rl
open MemHist

/-- the log after one operation that answered `obs` -/
def logStep (acc : List Text) : HOp → HObs → List Text
  | .add l, .bool true => acc ++ [l]
  | .addOwned l, .bool true => acc ++ [l]
  | .clear, _ => []
  | _, _ => acc

/-- The lines for which `add` answered `true` since the last `clear`, in order, starting from the
    log `acc`, along the model run of `ops` from `h`. -/
def accLog (ws : Char → Bool) (h : MemHist) (acc : List Text) : List HOp → List Text
  | [] => acc
  | op :: ops => accLog ws (h.step ws op).1 (logStep acc op (h.step ws op).2) ops

/-- no `set_max_len` of `ops` raises the limit, `m` being the limit in force -/
def nonRaising : Nat → List HOp → Prop
  | _, [] => True
  | m, .setMax n :: ops => n ≤ m ∧ nonRaising n ops
  | m, _ :: ops => nonRaising m ops

theorem suffix_snoc {a b : List α} (h : a <:+ b) (x : α) : a ++ [x] <:+ b ++ [x] := by
  obtain ⟨t, ht⟩ := h
  exact ⟨t, by simp [← ht]⟩

theorem step_suffix (ws) {h : MemHist} {acc : List Text} (hs : h.entries <:+ acc) (op : HOp) :
    (h.step ws op).1.entries <:+ logStep acc op (h.step ws op).2 := by
  cases op with
  | add l | addOwned l =>
    show (h.add ws l).1.entries <:+ logStep acc _ (.bool (h.add ws l).2)
    rcases add_cases ws h l with ⟨_, e⟩ | ⟨_, _, e⟩ <;> rw [e]
    · exact hs
    · apply suffix_snoc
      split
      · exact (List.drop_suffix 1 _).trans hs
      · exact hs
  | setMax n =>
    show (h.setMaxLen n).entries <:+ acc
    rw [setMaxLen_entries]
    exact (List.drop_suffix _ _).trans hs
  | clear => exact List.nil_suffix
  | _ => exact hs

theorem run_suffix (ws) {h : MemHist} {acc : List Text} (hs : h.entries <:+ acc) (ops : List HOp) :
    (MemHist.run ws h ops).1.entries <:+ accLog ws h acc ops := by
  induction ops generalizing h acc with
  | nil => exact hs
  | cons op ops ih =>
    simp only [MemHist.run, accLog]
    exact ih (step_suffix ws hs op)

/-- the store is the window of the last `maxLen` lines of the log -/
def Win (h : MemHist) (acc : List Text) : Prop := h.entries = Spec.takeLast h.maxLen acc

theorem Win.inv {h : MemHist} {acc : List Text} (hw : Win h acc) : HInv h := by
  unfold HInv; rw [hw]; exact takeLast_length_le _ _

theorem step_win (ws) {h : MemHist} {acc : List Text} (hw : Win h acc) (op : HOp)
    (hop : ∀ n, op = .setMax n → n ≤ h.maxLen) :
    Win (h.step ws op).1 (logStep acc op (h.step ws op).2) := by
  cases op with
  | add l | addOwned l =>
    show Win (h.add ws l).1 (logStep acc _ (.bool (h.add ws l).2))
    rcases add_cases ws h l with ⟨_, e⟩ | ⟨_, hm, e⟩ <;> rw [e]
    · exact hw
    · show (h.insert l).entries = Spec.takeLast h.maxLen (acc ++ [l])
      rw [insert_entries hw.inv hm, hw]
      exact takeLast_snoc _ _ _
  | setMax n =>
    show (h.setMaxLen n).entries = Spec.takeLast (h.setMaxLen n).maxLen acc
    rw [setMaxLen_entries, (setMaxLen_cfg h n).1, hw]
    exact takeLast_takeLast (hop n rfl) acc
  | clear => exact List.drop_nil.symm
  | _ => exact hw

theorem step_maxLen (ws) (h : MemHist) (op : HOp) :
    (h.step ws op).1.maxLen = match op with | .setMax n => n | _ => h.maxLen := by
  cases op with
  | add l | addOwned l => exact (add_cfg ws h l).1
  | setMax n => exact (setMaxLen_cfg h n).1
  | _ => rfl

theorem run_win (ws) {h : MemHist} {acc : List Text} (hw : Win h acc) (ops : List HOp)
    (hnr : nonRaising h.maxLen ops) :
    Win (MemHist.run ws h ops).1 (accLog ws h acc ops) := by
  induction ops generalizing h acc with
  | nil => exact hw
  | cons op ops ih =>
    simp only [MemHist.run, accLog]
    apply ih
    · apply step_win ws hw
      intro n hn; subst hn; exact hnr.1
    · rw [step_maxLen]
      cases op with
      | setMax n => exact hnr.2
      | _ => exact hnr

end Rl
