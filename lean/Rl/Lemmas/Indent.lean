/-
  Helper lemmas for the C03 totality / cursor-validity theorem of `indent` (and dedent):
  `splitNl`/`joinNl`, the chunked blank insertion, and the per-line loops with their invariant
  `buf = X ++ joinNl lines ++ Z`, `index = blen X`.
-/
import Rl.Lemmas.Motion
namespace Rl
open Rl.Spec

theorem blen_blanks (n : Nat) : blen (List.replicate n ' ') = n := by
  rw [blen_replicate, show Char.utf8Size ' ' = 1 by decide]; omega

theorem splitNl_ne_nil (t : Text) : LB.splitNl t ≠ [] := by
  induction t with
  | nil => simp [LB.splitNl]
  | cons c t ih =>
    unfold LB.splitNl
    cases h : LB.splitNl t with
    | nil => simp
    | cons l ls => simp only; split <;> simp

theorem joinNl_cons_cons (l l2 : Text) (ls : List Text) :
    joinNl (l :: l2 :: ls) = l ++ '\n' :: joinNl (l2 :: ls) := rfl

theorem joinNl_splitNl (t : Text) : joinNl (LB.splitNl t) = t := by
  induction t with
  | nil => rfl
  | cons c t ih =>
    unfold LB.splitNl
    cases h : LB.splitNl t with
    | nil => exact absurd h (splitNl_ne_nil t)
    | cons l ls =>
      rw [h] at ih
      simp only
      split
      · rename_i hc
        have : c = '\n' := by simpa using hc
        subst this
        rw [joinNl_cons_cons, ih]; rfl
      · cases ls with
        | nil =>
          have : l = t := ih
          subst this; rfl
        | cons l2 ls' =>
          rw [joinNl_cons_cons] at ih
          rw [joinNl_cons_cons, ← ih]; rfl

/-- the lines still to be processed sit in the buffer at `index` -/
def LinesAt (buf : Text) (ls : List Text) (index : Nat) : Prop :=
  ls = [] ∨ ∃ X Z, buf = X ++ joinNl ls ++ Z ∧ index = blen X

/-- first line of a non-empty `LinesAt`: `buf = X ++ l ++ T ++ Z`, and after the first line has become
    `l'` (of any length) the rest sits at `blen X + blen l' + 1` -/
theorem LinesAt.cons {buf : Text} {l : Text} {rest : List Text} {index : Nat} (h : LinesAt buf (l :: rest) index) :
    ∃ X T, buf = X ++ l ++ T ∧ index = blen X ∧
      ∀ (X' l' : Text), LinesAt (X' ++ l' ++ T) rest (blen X' + blen l' + 1) := by
  rcases h with h | ⟨X, Z, hb, hi⟩
  · cases h
  · cases rest with
    | nil =>
      exact ⟨X, Z, by simpa [joinNl] using hb, hi, fun _ _ => Or.inl rfl⟩
    | cons l2 ls =>
      refine ⟨X, '\n' :: joinNl (l2 :: ls) ++ Z, by rw [hb, joinNl_cons_cons]; simp, hi, ?_⟩
      intro X' l'
      exact Or.inr ⟨X' ++ l' ++ ['\n'], Z, by simp, by simp [utf8Size_newline]; omega⟩

theorem indentInserts_ok (S : Segmenter) (U : UData) (X : Text) (amount : Nat) :
    ∀ (fuel off : Nat) (R : Text) (lb : LB), lb.buf = X ++ R → amount ≤ off + 32 * fuel →
      ∃ cap' ns, LB.indentInserts S U (blen X) amount fuel off lb =
        .ok ((), { lb with buf := X ++ List.replicate (amount - off) ' ' ++ R, cap := cap' }, ns) := by
  intro fuel
  induction fuel with
  | zero =>
    intro off R lb hb hle
    have h0 : amount - off = 0 := by omega
    refine ⟨lb.cap, [], ?_⟩
    unfold LB.indentInserts
    rw [h0]
    cases lb
    simp only at hb
    subst hb
    simp
  | succ k ih =>
    intro off R lb hb hle
    unfold LB.indentInserts
    by_cases hlt : off < amount
    · have hins := insertStr_at S U X R (List.replicate (min (amount - off) 32) ' ') lb hb
      obtain ⟨cap', ns, hrec⟩ := ih (off + 32) (List.replicate (min (amount - off) 32) ' ' ++ R)
        { lb with buf := X ++ List.replicate (min (amount - off) 32) ' ' ++ R,
                  cap := growCap lb.cap (blen lb.buf + blen (List.replicate (min (amount - off) 32) ' ')) }
        (by simp) (by omega)
      refine ⟨cap', [.insStr (blen X) (List.replicate (min (amount - off) 32) ' ')] ++ ns, ?_⟩
      simp only [hlt, if_true, LM.bind_apply, hins, hrec]
      have hrep : List.replicate (amount - (off + 32)) ' ' ++ (List.replicate (min (amount - off) 32) ' ' ++ R) =
          List.replicate (amount - off) ' ' ++ R := by
        rw [← List.append_assoc, List.replicate_append_replicate]
        congr 2; omega
      simp only [List.append_assoc, hrep]
    · have h0 : amount - off = 0 := by omega
      refine ⟨lb.cap, [], ?_⟩
      simp only [hlt, if_false]
      rw [h0]
      cases lb
      simp only at hb
      subst hb
      simp

theorem indentLines_ok (S : Segmenter) (U : UData) (amount : Nat) (ha : amount ≤ 255) :
    ∀ (ls : List Text) (index : Nat) (lb : LB), LinesAt lb.buf ls index → WF lb →
      ∃ lb' ns, LB.indentLines S U amount ls index lb = .ok ((), lb', ns) ∧ WF lb' := by
  intro ls
  induction ls with
  | nil => intro index lb _ hwf; exact ⟨lb, [], rfl, hwf⟩
  | cons l rest ih =>
    intro index lb hl hwf
    obtain ⟨X, T, hb, hi, hnext⟩ := hl.cons
    subst hi
    -- fuel 8 suffices: `amount : u8` ≤ 255 < 8 * 32, each turn inserts up to 32 blanks (`INDENT`)
    obtain ⟨cap', ns1, hins⟩ := indentInserts_ok S U X amount 8 0 (l ++ T) lb (by rw [hb]; simp) (by omega)
    simp only [Nat.sub_zero] at hins
    -- the cursor after the adjustment
    have hwf2 : WF { lb with buf := X ++ List.replicate amount ' ' ++ (l ++ T), cap := cap',
                             pos := if lb.pos ≥ blen X then lb.pos + amount else lb.pos } := by
      show IsBoundary (X ++ List.replicate amount ' ' ++ (l ++ T)) (if lb.pos ≥ blen X then lb.pos + amount else lb.pos)
      have hwf' : IsBoundary (X ++ (l ++ T)) lb.pos := by
        have : IsBoundary lb.buf lb.pos := hwf
        rw [hb] at this; simpa using this
      split
      · rename_i hge
        have h1 := isBoundary_suffix hwf' hge
        have h2 := isBoundary_append_right (X ++ List.replicate amount ' ') h1
        have e : blen (X ++ List.replicate amount ' ') + (lb.pos - blen X) = lb.pos + amount := by
          simp [blen_blanks]; omega
        rw [e] at h2; exact h2
      · rename_i hlt
        have h1 : IsBoundary X lb.pos := isBoundary_prefix hwf' (by omega)
        rw [List.append_assoc]
        exact isBoundary_append_left h1 _
    have hl2 : LinesAt (X ++ List.replicate amount ' ' ++ (l ++ T)) rest (blen X + (amount + blen l + 1)) := by
      have := hnext (X ++ List.replicate amount ' ') l
      simp only [blen_append, blen_blanks, List.append_assoc] at this ⊢
      have e : blen X + amount + blen l + 1 = blen X + (amount + blen l + 1) := by omega
      rw [e] at this; exact this
    obtain ⟨lb', ns2, hrec, hwf'⟩ := ih (blen X + (amount + blen l + 1)) _ hl2 hwf2
    unfold LB.indentLines
    simp only [List.append_assoc] at hrec hins
    by_cases hge : lb.pos ≥ blen X
    · simp only [hge, if_true] at hrec
      exact ⟨lb', ns1 ++ ns2, by simp [LM.bind_apply, hins, LM.get, hge, LM.setPos, hrec], hwf'⟩
    · simp only [hge, if_false] at hrec
      exact ⟨lb', ns1 ++ ns2, by simp [LM.bind_apply, hins, LM.get, hge, hrec], hwf'⟩

theorem dedentLines_ok (ws : Char → Bool) (amount : Nat) :
    ∀ (ls : List Text) (index : Nat) (lb : LB), LinesAt lb.buf ls index → WF lb →
      ∃ lb' ns, LB.dedentLines ws amount ls index lb = .ok ((), lb', ns) ∧ WF lb' := by
  intro ls
  induction ls with
  | nil => intro index lb _ hwf; exact ⟨lb, [], rfl, hwf⟩
  | cons l rest ih =>
    intro index lb hl hwf
    obtain ⟨X, T, hb, hi, hnext⟩ := hl.cons
    subst hi
    -- the part of the line that is removed
    obtain ⟨hfb, hfle⟩ := floorBoundary_spec l (min (blen l - blen (l.dropWhile ws)) amount)
    generalize hdel : floorBoundary l (min (blen l - blen (l.dropWhile ws)) amount) = deleting at hfb hfle
    obtain ⟨d, l', hl', hd⟩ := hfb
    subst hl' hd
    have hdr := drain_at X d (l' ++ T) .forward lb (by rw [hb]; simp)
    have hwf0 : IsBoundary (X ++ (d ++ (l' ++ T))) lb.pos := by
      have : IsBoundary lb.buf lb.pos := hwf
      rw [hb] at this; simpa using this
    have hwf2 : WF { lb with buf := X ++ (l' ++ T),
                             pos := if lb.pos ≥ blen X then (if lb.pos - blen X < blen d then blen X else lb.pos - blen d)
                                    else lb.pos } := by
      show IsBoundary (X ++ (l' ++ T)) _
      split
      · rename_i hge
        split
        · exact isBoundary_mid X _
        · rename_i hnl
          have h0 : IsBoundary ((X ++ d) ++ (l' ++ T)) lb.pos := by simpa using hwf0
          have h1 := isBoundary_suffix h0 (by simp; omega)
          have h2 := isBoundary_append_right X h1
          have e : blen X + (lb.pos - blen (X ++ d)) = lb.pos - blen d := by simp; omega
          rw [e] at h2; exact h2
      · rename_i hlt
        have h1 : IsBoundary X lb.pos := isBoundary_prefix hwf0 (by omega)
        exact isBoundary_append_left h1 _
    have hl2 : LinesAt (X ++ (l' ++ T)) rest (blen X + (blen (d ++ l') + 1 - blen d)) := by
      have := hnext X l'
      simp only [blen_append, List.append_assoc] at this ⊢
      have e : blen X + (blen d + blen l' + 1 - blen d) = blen X + blen l' + 1 := by omega
      rw [e]; exact this
    obtain ⟨lb', ns2, hrec, hwf'⟩ := ih _ _ hl2 hwf2
    unfold LB.dedentLines
    dsimp only
    rw [hdel]
    simp only [blen_append] at hrec
    by_cases hge : lb.pos ≥ blen X
    · by_cases hlt : lb.pos - blen X < blen d
      · simp only [hge, hlt, if_true] at hrec
        exact ⟨lb', [.del (blen X) d .forward] ++ ns2, by simp [LM.bind_apply, hdr, LM.get, hge, hlt, LM.setPos, hrec], hwf'⟩
      · simp only [hge, hlt, if_true, if_false] at hrec
        exact ⟨lb', [.del (blen X) d .forward] ++ ns2, by simp [LM.bind_apply, hdr, LM.get, hge, hlt, LM.setPos, hrec], hwf'⟩
    · simp only [hge, if_false] at hrec
      exact ⟨lb', [.del (blen X) d .forward] ++ ns2, by simp [LM.bind_apply, hdr, LM.get, hge, hrec], hwf'⟩

open LM in
/-- `indent` from `let start = self.buf[..start].rfind('\n')…` on (the state is still the initial one) -/
def LB.indentTail (S : Segmenter) (U : UData) (amount : Nat) (dedent : Bool) (lb : LB) (start e : Nat) : LM Bool := do
  let pre ← lift (sliceTo lb.buf start)
  let start := match rfindChar '\n' pre with
    | some p => p + 1
    | none => 0
  let suf ← lift (sliceFrom lb.buf e)
  let e := match findChar '\n' suf with
    | some p => e + p
    | none => lb.len
  let region ← lift (slice lb.buf start e)
  if dedent then LB.dedentLines U.ws amount (LB.splitNl region) start
  else LB.indentLines S U amount (LB.splitNl region) start
  return true

theorem indentTail_ok (S : Segmenter) (U : UData) (amount : Nat) (ha : amount ≤ 255) (dedent : Bool) (lb : LB)
    (hwf : WF lb) (a b : Nat) (hA : IsBoundary lb.buf a) (hB : IsBoundary lb.buf b) (hab : a ≤ b) :
    ∃ lb' ns, LB.indentTail S U amount dedent lb a b lb = .ok (true, lb', ns) ∧ WF lb' := by
  obtain ⟨u, r1, hb1, rfl⟩ := hA
  obtain ⟨x, s, hb2, rfl⟩ := hB
  have hst : sliceTo lb.buf (blen u) = .ok u := by rw [hb1]; exact sliceTo_mid u r1
  have hsf : sliceFrom lb.buf (blen x) = .ok s := by rw [hb2]; exact sliceFrom_mid x s
  obtain ⟨ds, hdsc, h1, h1'⟩ := lineStart_cases (buf := lb.buf) (u := u) (rest := r1) hb1
  obtain ⟨de, hdec, h2, h2'⟩ := lineEnd_cases (buf := lb.buf) (x := x) (s := s) hb2
  obtain ⟨X, region, Z, hs3, hbuf, hX, hde⟩ := split3_of_boundaries h1.boundary h2.boundary (by omega)
  have hsl : slice lb.buf ds de = .ok region := by simp [slice, hs3]
  have hl : LinesAt lb.buf (LB.splitNl region) ds := Or.inr ⟨X, Z, by rw [joinNl_splitNl]; exact hbuf, hX⟩
  cases dedent with
  | true =>
    obtain ⟨lb', ns, hrun, hwf'⟩ := dedentLines_ok U.ws amount _ ds lb hl hwf
    refine ⟨lb', ns, ?_, hwf'⟩
    unfold LB.indentTail
    rcases hdsc with ⟨g1, rfl⟩ | ⟨k, g1, rfl⟩ <;> rcases hdec with ⟨f1, rfl⟩ | ⟨v, f1, rfl⟩ <;>
      simp [LM.bind_apply, LM.lift, hst, hsf, LB.len, g1, f1, hsl, hrun]
  | false =>
    obtain ⟨lb', ns, hrun, hwf'⟩ := indentLines_ok S U amount ha _ ds lb hl hwf
    refine ⟨lb', ns, ?_, hwf'⟩
    unfold LB.indentTail
    rcases hdsc with ⟨g1, rfl⟩ | ⟨k, g1, rfl⟩ <;> rcases hdec with ⟨f1, rfl⟩ | ⟨v, f1, rfl⟩ <;>
      simp [LM.bind_apply, LM.lift, hst, hsf, LB.len, g1, f1, hsl, hrun]

open LM in
theorem indent_eq (S : Segmenter) (U : UData) (mvt : Movement) (amount : Nat) (dedent : Bool) :
    LB.indent S U mvt amount dedent = (do
      let lb ← get
      let pair : Option (Nat × Nat) ← match mvt with
        | .wholeLine | .beginningOfLine | .viFirstPrint | .endOfLine
        | .backwardChar _ | .forwardChar _ | .viCharSearch _ _ => pure (some (lb.pos, lb.pos))
        | .endOfBuffer => pure (some (lb.pos, lb.len))
        | .wholeBuffer => pure (some (0, lb.len))
        | .beginningOfBuffer => pure (some (0, lb.pos))
        | .backwardWord n d => do
          let r ← lift (LB.prevWordPos S U lb lb.pos d n)
          pure (r.map (fun p => (p, lb.pos)))
        | .forwardWord n a d => do
          let r ← lift (LB.nextWordPos S U lb lb.pos a d n)
          pure (r.map (fun p => (lb.pos, p)))
        | .lineUp n => do
          let r ← lift (LB.nLinesUp lb n)
          pure (r.map (fun (a, _) => (a, lb.pos)))
        | .lineDown n => do
          match ← lift (LB.nLinesDown lb n) with
          | none => pure none
          | some (_, b) =>
            let pre ← lift (sliceTo lb.buf b)
            if b > lb.pos && pre.getLast? == some '\n' then pure (some (lb.pos, b - 1))
            else pure (some (lb.pos, b))
      LB.indentTail S U amount dedent lb (pair.getD (lb.pos, lb.pos)).1 (pair.getD (lb.pos, lb.pos)).2) := by
  rfl

end Rl
