/-
  Helper lemmas for C01 (on top of the `EM` library of Lemmas/EditorM.lean): "the text is not changed" as a
  compositional predicate (`TextPure`), the numeric-argument arithmetic (`countOf`), one step of the read loop in
  closed form (`mainLoop_step`, `nextCmd_emacs`, `readline_eq`, `execute_endOfFile`), the denotation of
  a resolved documented action as a `Cmd`, and the emacs keymap against the README tables: on keys
  that read nothing further `common` and `emacs` are pure functions (`commonPure`, `emacsPure`); one
  walk through each keymap shows that it returns what its evaluator says (`common_reads`,
  `emacs_yields`), and the tables agree with the evaluators by computation (`emacsTable_pure`,
  `commonTable_emacsPure`).
-/
import Rl.Editor
import Rl.Spec.Doc
import Rl.Lemmas.LineBuffer
import Rl.Lemmas.LineBufferSafe
import Rl.Lemmas.EditorM
import Rl.Lemmas.EditorOps
namespace Rl
open Rl.Spec Rl.Spec.Doc

theorem EM.map_unit_apply {α : Type} (m : EM α) (s : Ed) :
    (do let _ ← m; pure () : EM Unit) s = match m s with | .error e => .error e | .ok (_, s') => .ok ((), s') := rfl

theorem EM.bind_read {α β : Type} (g : Ed → α) (f : α → EM β) (s : Ed) :
    ((fun s => Except.ok (g s, s) : EM α) >>= f) s = f (g s) s := rfl

theorem EM.bind_ok {α β : Type} {m : EM β} {f : β → EM α} {s s1 : Ed} {b : β} (h : m s = .ok (b, s1)) :
    (m >>= f) s = f b s1 := by
  rw [EM.bind_apply, h]

/-- count and direction of a pending `num_args` value (`0` = no argument = 1) -/
def countOf (a : Int) : Nat × Bool :=
  let a := if a == 0 then 1 else a
  if a < 0 then (a.natAbs, false) else (a.toNat, true)

theorem emacsNumArgs_eq (s : Ed) :
    emacsNumArgs s = .ok (countOf s.inp.numArgs, { s with inp := { s.inp with numArgs := 0 } }) := by
  simp only [emacsNumArgs, takeNumArgs, EM.bind_apply, countOf]
  by_cases h0 : s.inp.numArgs = 0
  · simp [h0, EM.pure_apply]
  · by_cases h1 : s.inp.numArgs < 0 <;> simp [h0, h1, EM.pure_apply]

theorem viNumArgs_eq (s : Ed) (h : 0 ≤ s.inp.numArgs) :
    viNumArgs s = .ok ((countOf s.inp.numArgs).1, { s with inp := { s.inp with numArgs := 0 } }) := by
  simp only [viNumArgs, takeNumArgs, EM.bind_apply, countOf]
  by_cases h0 : s.inp.numArgs = 0
  · (simp [h0]) <;> rfl
  · have : ¬ s.inp.numArgs < 0 := by omega
    (simp [h0, this]) <;> rfl

theorem foldl_digitAccum_some (ds : List Nat) (v : Nat) :
    ds.foldl digitAccum (some v) = some (ds.foldl (fun v d => if v < 1000 then 10 * v + d else v) v) := by
  induction ds generalizing v with
  | nil => rfl
  | cons d ds ih =>
    simp only [List.foldl_cons, digitAccum, Option.getD_some]
    rw [ih]
    congr 2
    split <;> omega

theorem foldl_digitAccum_none (d : Nat) (ds : List Nat) :
    (d :: ds).foldl digitAccum none = some (argValue (d :: ds)) := by
  simp only [List.foldl_cons, digitAccum, Option.getD_none, argValue]
  rw [foldl_digitAccum_some]

/-- the `Cmd` a resolved documented action denotes -/
def Spec.Doc.Act.toCmd : Act → Option Cmd
  | .insert n c => some (.selfInsert n c)
  | .move m => some (.move m)
  | .kill m => some (.kill m)
  | .change m => some (.replace m none)
  | .yankOnly m => some (.viYankTo m)
  | .editWord .uppercase => some .upcaseWord
  | .editWord .lowercase => some .downcaseWord
  | .editWord .capitalize => some .capitalizeWord
  | .transposeChars => some .transposeChars
  | .replaceChar n c => some (.replaceChar n c)
  | .toInsert (some m) => some (.move m)
  | .toInsert none => some .noop
  | .toCommand => some (.move (.backwardChar 1))
  | .accept => some (.acceptOrInsertLine true)
  | .eof => some .endOfFile
  | .interrupt => some .interrupt
  | .nothing => some .noop
  | .unjudged => none

/-- `m` leaves the edited text alone, whether it returns or exits -/
def TextPure {α : Type} (m : EM α) : Prop :=
  ∀ s, match m s with
       | .ok (_, s') => s'.line.buf = s.line.buf
       | .error (_, s') => s'.line.buf = s.line.buf

namespace TextPure
variable {α β : Type}

theorem bind {m : EM α} {f : α → EM β} (hm : TextPure m) (hf : ∀ a, TextPure (f a)) : TextPure (m >>= f) := by
  intro s
  have h1 := hm s
  rw [EM.bind_apply]
  cases hms : m s with
  | error e => obtain ⟨o, s'⟩ := e; rw [hms] at h1; exact h1
  | ok r =>
    obtain ⟨a, s1⟩ := r
    rw [hms] at h1
    have h2 := hf a s1
    simp only at h1 ⊢
    cases hfs : f a s1 with
    | error e => obtain ⟨o, s'⟩ := e; rw [hfs] at h2; simp only at h2 ⊢; rw [h2, h1]
    | ok r => obtain ⟨b, s2⟩ := r; rw [hfs] at h2; simp only at h2 ⊢; rw [h2, h1]

theorem pure (a : α) : TextPure (Pure.pure a : EM α) := fun _ => rfl

theorem modify (f : Ed → Ed) (h : ∀ s, (f s).line.buf = s.line.buf) : TextPure (EM.modify f) := fun s => h s

theorem exit (o : Outcome) : TextPure (EM.exit o : EM α) := fun _ => rfl

theorem ite {c : Prop} [Decidable c] {a b : EM α} (ha : TextPure a) (hb : TextPure b) :
    TextPure (if c then a else b) := by split <;> assumption

theorem lbQuiet {op : LM α} (h : PosOnly op) : TextPure (Rl.lbQuiet op) := by
  intro s
  unfold Rl.lbQuiet
  cases hop : op s.line with
  | error e => rfl
  | ok r =>
    obtain ⟨a, l, ns⟩ := r
    exact (h.h _ _ _ _ hop).1

theorem highlightCharStep (cfg : EdCfg) : TextPure (Rl.highlightCharStep cfg) := by
  intro s
  unfold Rl.highlightCharStep
  by_cases h1 : cfg.hasHelper = true
  · by_cases h2 : cfg.highlightChar s.line.buf s.line.pos = true
    · simp [h1, h2]
    · by_cases h3 : s.highlightChar = true <;> simp [h1, h2, h3]
  · simp [h1]

theorem logRender (f : Ed → RenderOp) : TextPure (Rl.logRender f) := modify _ (fun _ => rfl)

theorem moveCursor (S : Segmenter) (U : UData) (cfg : EdCfg) : TextPure (Rl.moveCursor S U cfg) := by
  unfold Rl.moveCursor
  refine bind (fun _ => rfl) (fun s => ?_)
  refine ite (logRender _) ?_
  refine bind (highlightCharStep cfg) (fun hl => ?_)
  dsimp only
  refine ite ?_ ?_
  · exact bind (modify _ (fun _ => rfl)) (fun _ => logRender _)
  · exact bind (modify _ (fun _ => rfl)) (fun _ => logRender _)

theorem editMove (S : Segmenter) (U : UData) (cfg : EdCfg) {op : LM Bool} (h : PosOnly op) :
    TextPure (Rl.editMove S U cfg op) := by
  unfold Rl.editMove
  exact bind (lbQuiet h) (fun b => by cases b <;> simp <;> first | exact moveCursor S U cfg | exact pure _)

theorem getLine : TextPure Rl.getLine := fun _ => rfl
theorem getPromptCol : TextPure Rl.getPromptCol := fun _ => rfl

end TextPure
theorem execute_endOfFile (S : Segmenter) (U : UData) (cfg : EdCfg) :
    execute S U cfg .endOfFile = withPreAccept S U cfg (do
      let empty ← lineEmpty
      if empty then EM.exit .eof else if cfg.vi then pure .submit else pure .proceed) := by
  unfold execute withPreAccept
  simp only []

/-- one iteration of the main loop for a command that needs no sub-loop -/
theorem mainLoop_step (S : Segmenter) (U : UData) (cfg : EdCfg) (fuel : Nat) (s s1 : Ed) (cmd : Cmd)
    (hnext : nextCmd S U cfg (fuel + 1) false false s = .ok (cmd, s1))
    (hc1 : cmd ≠ .complete) (hc2 : cmd ≠ .reverseSearchHistory) (hc3 : cmd ≠ .suspend) (hc4 : cmd ≠ .quotedInsert) :
    mainLoop S U cfg (fuel + 2) s =
      (do match ← execute S U cfg cmd with
          | .proceed => mainLoop S U cfg (fuel + 1)
          | .submit => pure ())
        (if cmd.shouldResetKillRing then { s1 with ring := s1.ring.reset } else s1) := by
  rw [mainLoop]
  by_cases hr : cmd.shouldResetKillRing = true <;>
    (simp [EM.bind_apply, hnext, preCmds, hc1, hc2, hc3, hc4, hr, EM.modify]; try rfl)

theorem nextCmd_ok (S : Segmenter) (U : UData) (cfg : EdCfg) (fuel : Nat) (s s0 s1 : Ed) (k : KeyEvent) (cmd : Cmd)
    (hk : nextKey false s = .ok (k, s0))
    (he : (if !cfg.vi then emacs S U cfg fuel k
      else if !(s0.inp.inputMode == .command) then viInsert S U cfg fuel k else viCommand S U cfg fuel k) s0 = .ok (cmd, s1))
    (hnr : ∀ m t, cmd ≠ .replace m t) :
    nextCmd S U cfg fuel false false s = .ok (cmd, s1) := by
  have tail : ∀ m : EM Cmd, m s0 = .ok (cmd, s1) →
      (do let cmd ← m
          match cmd with
          | .replace _ _ => do let _ ← changesBegin; pure cmd
          | _ => pure cmd) s0 = .ok (cmd, s1) :=
    fun m hm => (EM.bind_ok hm).trans (by
      split
      · exact absurd rfl (hnr _ _)
      · rfl)
  unfold nextCmd
  simp only [ite_self, Bool.false_eq_true, waitForInput]
  refine (EM.bind_ok hk).trans ((EM.bind_ok (b := s0.inp.inputMode == .command) (s1 := s0) rfl).trans ?_)
  split at he
  · rename_i h; rw [if_pos h]; exact tail _ he
  · rename_i h; rw [if_neg h]
    split at he
    · rename_i h2; rw [if_pos h2]; exact tail _ he
    · rename_i h2; rw [if_neg h2]; exact tail _ he

theorem nextCmd_emacs (S : Segmenter) (U : UData) (cfg : EdCfg) (hvi : cfg.vi = false) (fuel : Nat) (s s0 s1 : Ed)
    (k : KeyEvent) (cmd : Cmd) (hk : nextKey false s = .ok (k, s0))
    (he : emacs S U cfg fuel k s0 = .ok (cmd, s1)) (hnr : ∀ m t, cmd ≠ .replace m t) :
    nextCmd S U cfg fuel false false s = .ok (cmd, s1) :=
  nextCmd_ok S U cfg fuel s s0 s1 k cmd hk (by rw [hvi]; exact he) hnr

theorem commonTable_right : ∀ e ∈ commonTable, e.1 = key .right → e.2 = .move .charRight := by decide

theorem EM.bind_assoc' {α β γ : Type} (m : EM α) (f : α → EM β) (g : β → EM γ) :
    (m >>= f) >>= g = m >>= fun a => f a >>= g := by
  funext s
  simp only [EM.bind_apply]
  cases m s with
  | error e => rfl
  | ok r => rfl

theorem exits_of_wp {α : Type} {m : EM α} {s : Ed} {E : Outcome → Ed → Prop} (h : wp m (fun _ _ => False) E s) :
    ∃ o s', m s = .error (o, s') ∧ E o s' := by
  unfold wp at h
  cases hm : m s with
  | error e => rw [hm] at h; exact ⟨e.1, e.2, rfl, h⟩
  | ok r => rw [hm] at h; exact h.elim

theorem readline_eq (S : Segmenter) (U : UData) (cfg : EdCfg) (ring : KillRing) (left right : Text) (inp : Input) :
    readline S U cfg ring left right inp =
      match ((do if !(left.isEmpty && right.isEmpty) then lb S U (LB.update S U (left ++ right) (blen left))
                 refreshLine S U cfg
                 mainLoop S U cfg (inp.size + 2) : EM Unit) >>= fun _ => editMove S U cfg (LB.moveBufferEnd S U))
            (initEd cfg ring inp) with
      | .ok (_, s) => (.line s.line.buf, { s with render := .writeln :: s.render })
      | .error (o, s) => (o, { s with render := .writeln :: s.render }) := by
  unfold readline
  by_cases hc : (!(left.isEmpty && right.isEmpty)) = true <;>
    (simp only [hc, if_true, Bool.false_eq_true, if_false, EM.bind_assoc']; rfl)

/-- from `s`, `m` returns the value `o` (where `o` is defined) and leaves the state as it is -/
def Reads {α : Type} (m : EM α) (o : Option α) (s : Ed) : Prop :=
  ∀ a, o = some a → m s = .ok (a, s)

/-- the same, whatever the state becomes -/
def Yields {α : Type} (m : EM α) (o : Option α) (s : Ed) : Prop :=
  ∀ a, o = some a → ∃ s', m s = .ok (a, s')

namespace Reads
variable {α β : Type} {s : Ed}

theorem pure (a : α) : Reads (Pure.pure a : EM α) (some a) s := fun _ h => by cases h; rfl

theorem none (m : EM α) : Reads m none s := fun _ h => nomatch h

theorem ite {c : Prop} [Decidable c] {a b : EM α} {x y : Option α} (ha : Reads a x s) (hb : Reads b y s) :
    Reads (if c then a else b) (if c then x else y) s := by
  split <;> assumption

theorem read (g : Ed → β) {f : β → EM α} {o : Option α} (h : Reads (f (g s)) o s) :
    Reads ((fun s => .ok (g s, s) : EM β) >>= f) o s := h

theorem yields {m : EM α} {o : Option α} (h : Reads m o s) : Yields m o s := fun a ha => ⟨s, h a ha⟩

end Reads

namespace Yields
variable {α β : Type} {s : Ed}

theorem pure (a : α) : Yields (Pure.pure a : EM α) (some a) s := (Reads.pure a).yields

theorem none (m : EM α) : Yields m none s := fun _ h => nomatch h

theorem of_ok {m : EM α} {a : α} {s' : Ed} (h : m s = .ok (a, s')) : Yields m (some a) s :=
  fun _ e => ⟨s', by cases e; exact h⟩

theorem of_eq {m m' : EM α} {o : Option α} (h : m = m') (hy : Yields m' o s) : Yields m o s := h ▸ hy

theorem ite {c : Prop} [Decidable c] {a b : EM α} {x y : Option α} (ha : Yields a x s) (hb : Yields b y s) :
    Yields (if c then a else b) (if c then x else y) s := by
  split <;> assumption

theorem read (g : Ed → β) {f : β → EM α} {o : Option α} (h : Yields (f (g s)) o s) :
    Yields ((fun s => .ok (g s, s) : EM β) >>= f) o s := h

theorem bind_ok {m : EM β} {f : β → EM α} {o : Option α} {b : β} {s1 : Ed} (hm : m s = .ok (b, s1))
    (h : Yields (f b) o s1) : Yields (m >>= f) o s := by
  intro a ha
  rw [EM.bind_apply, hm]
  exact h a ha

theorem bind_tail {m : EM α} {f : α → EM α} {o : Option α} (hf : ∀ a s1, ∃ s2, f a s1 = .ok (a, s2))
    (h : Yields m o s) : Yields (m >>= f) o s := by
  intro a ha
  obtain ⟨s1, h1⟩ := h a ha
  rw [EM.bind_apply, h1]
  exact hf a s1

end Yields

/-- The walk through a keymap: `Reads` and `Yields` are closed under the control structure of the
    keymaps, and an evaluator has the structure of its keymap (`pure` ↦ `some`, a branch that reads
    on ↦ `none`).  `hs`: what is known about the keymaps called. -/
macro "keymap_walk" "[" hs:term,* "]" : tactic => `(tactic| repeat' first
  | with_reducible first
    | exact .pure _
    | exact .none _
    | refine .ite ?_ ?_
    $[| exact $hs]*
  | refine .read _ ?_)

theorem forall_mem_cons_of {α : Type} {P : α → Prop} {a : α} {l : List α} (h : P a) (t : ∀ x ∈ l, P x) :
    ∀ x ∈ a :: l, P x := List.forall_mem_cons.2 ⟨h, t⟩

/-- a goal `∀ x ∈ [a₁, …, aₙ], P x` becomes the goals `P a₁`, …, `P aₙ` -/
macro "each_entry" : tactic =>
  `(tactic| repeat' first | exact List.forall_mem_nil _ | refine forall_mem_cons_of ?_ ?_)

variable (S : Segmenter) (U : UData) (cfg : EdCfg)

theorem customSeqBinding_unbound (hb : cfg.binds = []) (fuel : Nat) (keys : List KeyEvent) (n : Nat) (p : Bool) :
    customSeqBinding cfg fuel keys n p = pure (none, keys) := by
  cases fuel <;> simp [customSeqBinding, hasDescendant, hb]

theorem common_fallback_unbound (hb : cfg.binds = []) (fuel : Nat) (keys : List KeyEvent) (n : Nat) (p : Bool)
    (s : Ed) : common.fallback cfg fuel keys n p s = .ok (.unknown, s) := by
  rw [common.fallback, customSeqBinding_unbound cfg hb]
  rfl

/-- `common` without custom bindings (`none` for a bracketed paste, which reads on) -/
def commonPure (vi : Bool) (key : KeyEvent) (n : Nat) (p empty : Bool) : Option Cmd :=
  let plain := key.mods == 0
  let ctrl := key.mods == 8
  match key.code with
  | .home => if plain then some (.move .beginningOfLine) else some .unknown
  | .left => if plain then some (.move (dirMove p (.backwardChar n) (.forwardChar n))) else some .unknown
  | .delete => if plain then some (.kill (dirMove p (.forwardChar n) (.backwardChar n))) else some .unknown
  | .end_ => if plain then some (.move .endOfLine) else some .unknown
  | .right => if plain then some (.move (dirMove p (.forwardChar n) (.backwardChar n))) else some .unknown
  | .enter => if plain then some (.acceptOrInsertLine true) else some .unknown
  | .down => if plain then some (.lineDownOrNextHistory 1) else some .unknown
  | .up => if plain then some (.lineUpOrPreviousHistory 1) else some .unknown
  | .unknownEscSeq => if plain then some .noop else some .unknown
  | .bracketedPasteStart => if plain then none else some .unknown
  | .char c =>
    if ctrl then
      if c == 'D' then
        if !vi && !empty then some (.kill (dirMove p (.forwardChar n) (.backwardChar n)))
        else if !empty then some .endOfFile
        else some .unknown
      else if c == 'J' || c == 'M' then some (.acceptOrInsertLine true)
      else if c == 'R' then some .reverseSearchHistory
      else if c == 'S' then some .forwardSearchHistory
      else if c == 'T' then some .transposeChars
      else if c == 'U' then some (.kill (dirMove p .beginningOfLine .endOfLine))
      else if c == 'Q' || c == 'V' then some .quotedInsert
      else if c == 'W' then some (.kill (dirMove p (.backwardWord n .big) (.forwardWord n .afterEnd .big)))
      else if c == 'Y' then some (if p then .yank n .before else .unknown)
      else if c == '_' then some (.undo n)
      else some .unknown
    else some .unknown
  | _ => some .unknown

theorem common_reads (hb : cfg.binds = []) (fuel : Nat) (keys : List KeyEvent) (key : KeyEvent) (n : Nat)
    (p : Bool) (s : Ed) :
    Reads (common cfg fuel keys key n p) (commonPure cfg.vi key n p s.line.buf.isEmpty) s := by
  have hf : Reads (common.fallback cfg fuel keys n p) (some .unknown) s :=
    fun _ h => by cases h; exact common_fallback_unbound cfg hb fuel keys n p s
  obtain ⟨code, mods⟩ := key
  cases code <;> dsimp only [common, commonPure] <;> keymap_walk [hf]

/-- `term_binding` -/
def termPure (key : KeyEvent) (empty : Bool) : Option Cmd :=
  let c : Option Cmd :=
    if key == ⟨.char 'D', 8⟩ then some .endOfFile
    else if key == ⟨.char 'C', 8⟩ then some .interrupt
    else if key == ⟨.char '\\', 8⟩ then some .interrupt
    else if key == ⟨.char 'Z', 8⟩ then some .suspend
    else none
  if c == some .endOfFile && !empty then none else c

theorem termBinding_eq (key : KeyEvent) (s : Ed) :
    termBinding key s = .ok (termPure key s.line.buf.isEmpty, s) :=
  (apply_ite (fun c : Option Cmd => (Except.ok (c, s) : Except (Outcome × Ed) (Option Cmd × Ed))) _ _ _).symm

theorem customBinding_bound {keys ks : List KeyEvent} {c : Cmd}
    (h : cfg.binds.find? (fun b => b.1 == keys) = some (ks, c)) (n : Nat) (p : Bool) (s : Ed) :
    customBinding cfg keys n p s = .ok (some c, s) := by
  unfold customBinding
  rw [h]

theorem customBinding_unbound (hb : cfg.binds = []) (keys : List KeyEvent) (n : Nat) (p : Bool) (s : Ed) :
    ∃ s', customBinding cfg keys n p s = .ok (none, s') ∧ s'.line = s.line ∧ s'.hint = s.hint ∧ s'.inp = s.inp := by
  unfold customBinding
  rw [hb]
  exact ⟨_, rfl, rfl, rfl, rfl⟩

/-- a key that starts a numeric argument in emacs mode: `M--`, `M-0` … `M-9` -/
def startsArg (key : KeyEvent) : Bool :=
  match key.code with
  | .char d => key.mods == Mods.alt && (d == '-' || isDigit d)
  | _ => false

/-- the test for a numeric argument at the start of `emacs`, on a key that starts none; `jp` is the
    rest of the keymap -/
theorem emacs_noArg {β : Type} {key : KeyEvent} (h : startsArg key = false) (a : Char → EM KeyEvent)
    (jp : KeyEvent → EM β) :
    (match key.code with
      | .char d => if key.mods == Mods.alt && (d == '-' || isDigit d) then (do let k ← a d; jp k) else jp key
      | _ => jp key) = jp key := by
  obtain ⟨code, mods⟩ := key
  cases code
  case char d => dsimp only [startsArg] at h ⊢; rw [h]; rfl
  all_goals rfl

/-- … and on a key that starts one -/
theorem emacs_arg {β : Type} (d : Char) (h : (d == '-' || isDigit d) = true) (a : Char → EM KeyEvent)
    (jp : KeyEvent → EM β) :
    (match (⟨.char d, Mods.alt⟩ : KeyEvent).code with
      | .char d' =>
        if (⟨.char d, Mods.alt⟩ : KeyEvent).mods == Mods.alt && (d' == '-' || isDigit d') then (do let k ← a d'; jp k)
        else jp ⟨.char d, Mods.alt⟩
      | _ => jp ⟨.char d, Mods.alt⟩) = (do let k ← a d; jp k) := by
  dsimp only
  rw [h]
  rfl

/-- `emacs` without custom bindings on a key that reads nothing further: `none` for `C-x`, `C-]`,
    `M-C-]` and the keys that start a numeric argument -/
def emacsPure (vi : Bool) (key : KeyEvent) (n : Nat) (p empty hintAtEnd : Bool) : Option Cmd :=
  if startsArg key then none else
  match termPure key empty with
  | some cmd => some cmd
  | none =>
  let m := key.mods
  match key.code with
  | .char c =>
    if m == 0 then some (if p then .selfInsert n c else .unknown)
    else if m == 8 then
      if c == 'A' then some (.move .beginningOfLine)
      else if c == 'B' then some (.move (dirMove p (.backwardChar n) (.forwardChar n)))
      else if c == 'E' then some (.move .endOfLine)
      else if c == 'F' then some (.move (dirMove p (.forwardChar n) (.backwardChar n)))
      else if c == 'G' then some .abort
      else if c == 'H' then some (.kill (dirMove p (.backwardChar n) (.forwardChar n)))
      else if c == 'I' then some (if p then .complete else .completeBackward)
      else if c == 'K' then some (.kill (dirMove p .endOfLine .beginningOfLine))
      else if c == 'L' then some .clearScreen
      else if c == 'N' then some .nextHistory
      else if c == 'P' then some .previousHistory
      else if c == 'X' then none
      else if c == ']' then none
      else commonPure vi key n p empty
    else if m == 12 then
      if c == 'G' then some .abort
      else if c == ']' then none
      else commonPure vi key n p empty
    else if m == 4 then
      if c == '<' then some .beginningOfHistory
      else if c == '>' then some .endOfHistory
      else if c == 'B' || c == 'b' then some (.move (dirMove p (.backwardWord n .emacs) (.forwardWord n .afterEnd .emacs)))
      else if c == 'C' || c == 'c' then some .capitalizeWord
      else if c == 'D' || c == 'd' then some (.kill (dirMove p (.forwardWord n .afterEnd .emacs) (.backwardWord n .emacs)))
      else if c == 'F' || c == 'f' then some (.move (dirMove p (.forwardWord n .afterEnd .emacs) (.backwardWord n .emacs)))
      else if c == 'L' || c == 'l' then some .downcaseWord
      else if c == 'T' || c == 't' then some (.transposeWords n)
      else if c == 'U' || c == 'u' then some .upcaseWord
      else if c == 'Y' || c == 'y' then some .yankPop
      else commonPure vi key n p empty
    else commonPure vi key n p empty
  | .esc => if m == 0 then some .abort else commonPure vi key n p empty
  | .backspace =>
    if m == 0 then some (.kill (dirMove p (.backwardChar n) (.forwardChar n)))
    else if m == 4 then some (.kill (dirMove p (.backwardWord n .emacs) (.forwardWord n .afterEnd .emacs)))
    else commonPure vi key n p empty
  | .backTab => if m == 0 then some .completeBackward else commonPure vi key n p empty
  | .tab => if m == 0 then some (if p then .complete else .completeBackward) else commonPure vi key n p empty
  | .right =>
    if m == 0 then
      if hintAtEnd then some .completeHint else commonPure vi key n p empty
    else if m == 4 || m == 8 then some (.move (dirMove p (.forwardWord n .afterEnd .emacs) (.backwardWord n .emacs)))
    else commonPure vi key n p empty
  | .left =>
    if m == 4 || m == 8 then some (.move (dirMove p (.backwardWord n .emacs) (.forwardWord n .afterEnd .emacs)))
    else commonPure vi key n p empty
  | _ => commonPure vi key n p empty

theorem emacs_yields (hb : cfg.binds = []) (fuel : Nat) (key : KeyEvent) (s : Ed) :
    Yields (emacs S U cfg fuel key)
      (emacsPure cfg.vi key (countOf s.inp.numArgs).1 (countOf s.inp.numArgs).2 s.line.buf.isEmpty
        (s.hint.isSome && s.line.pos == blen s.line.buf)) s := by
  unfold emacsPure
  cases hk : startsArg key
  case true => exact .none _
  rw [if_neg Bool.false_ne_true]
  have hna := emacsNumArgs_eq s
  generalize countOf s.inp.numArgs = np at hna ⊢
  obtain ⟨n, p⟩ := np
  obtain ⟨s1, h1, hl, hh, _⟩ := customBinding_unbound cfg hb [key] n p { s with inp := { s.inp with numArgs := 0 } }
  have hc := (common_reads cfg hb fuel [key] key n p s1).yields
  rw [show s.line = s1.line from hl.symm, show s.hint = s1.hint from hh.symm]
  unfold emacs
  refine .of_eq (emacs_noArg hk _ _) ?_
  refine .bind_ok hna (.bind_ok h1 (.bind_ok (termBinding_eq key s1) ?_))
  dsimp only
  cases termPure key s1.line.buf.isEmpty
  case some c => exact .pure c
  obtain ⟨code, mods⟩ := key
  cases code <;> dsimp only <;> keymap_walk [hc]

/-- the resolutions guarded by `n == 1` (`editWord`, `transposeChars`) -/
theorem toCmd_guard {g : Prop} [Decidable g] {a : Act} {cmd : Cmd}
    (h : (if g then a else Act.unjudged).toCmd = some cmd) : a.toCmd = some cmd := by
  split at h
  · exact h
  · cases h

theorem emacsTable_pure : ∀ e ∈ emacsTable, ∀ (n : Nat) (p empty hint : Bool) (cmd : Cmd),
    (e.2.resolve n p empty false).toCmd = some cmd → emacsPure false e.1 n p empty hint = some cmd := by
  each_entry
  all_goals intro n p empty hint cmd hc; cases p <;> first | (cases hc <;> rfl) | (cases toCmd_guard hc; rfl)

/-- `Right` with a hint shown at the end of the line completes the hint instead -/
theorem commonTable_emacsPure : ∀ e ∈ commonTable, ∀ (n : Nat) (p empty hint : Bool) (cmd : Cmd),
    (e.1 = key .right → hint = false) → (e.2.resolve n p empty false).toCmd = some cmd →
    emacsPure false e.1 n p empty hint = some cmd := by
  each_entry
  all_goals intro n p empty hint cmd hr hc; cases p <;> cases empty <;>
    first | (cases hc <;> rfl) | (cases hr rfl; cases hc; rfl) | (cases toCmd_guard hc; rfl)

end Rl
