/-
  C01, vi modes: the README tables of vi command mode and vi insert mode against the model's
  `viCommand` / `viInsert`, and the movement `viCmdMotion` builds for an operator (`d` / `c` / `y` +
  [count] motion), in the way of Rl/Lemmas/Keymap.lean: a pure evaluator per keymap
  (`viCommandPure`, `viInsertPure`, `viMotionPure`), one walk through the keymap, and the tables
  against the evaluators by computation.
-/
import Rl.Editor
import Rl.Spec.Doc
import Rl.Lemmas.Keymap
import Rl.Lemmas.EditorM
import Rl.Lemmas.EditorFrame
namespace Rl
open Rl.Spec Rl.Spec.Doc
variable (S : Segmenter) (U : UData) (cfg : EdCfg)

/-- a key that starts a count in vi command mode: `1` … `9` -/
def startsCount (key : KeyEvent) : Bool :=
  match key.code with
  | .char d => key.mods == 0 && '1' ≤ d && d ≤ '9'
  | _ => false

/-- the test for a count, in `viCommand` and in `viCmdMotion`, on a key that starts none -/
theorem startsCount_false {β : Type} {key : KeyEvent} (h : startsCount key = false) (a : Char → β) (b : β) :
    (match key.code with
      | .char d => if key.mods == 0 && '1' ≤ d && d ≤ '9' then a d else b
      | _ => b) = b := by
  obtain ⟨code, mods⟩ := key
  cases code
  case char d => dsimp only [startsCount] at h ⊢; rw [h]; rfl
  all_goals rfl

/-- the first step of `viCommand`; `jp` is the rest of the keymap -/
theorem vi_noCount {β : Type} {key : KeyEvent} (h : startsCount key = false) (a : Char → EM KeyEvent)
    (jp : KeyEvent → EM β) :
    (match key.code with
      | .char d => if key.mods == 0 && '1' ≤ d && d ≤ '9' then (do let k ← a d; jp k) else jp key
      | _ => jp key) = jp key :=
  startsCount_false h _ _

/-- `viCommand` without custom bindings on a key that reads nothing further: `none` for a count, the
    operators, `f t F T ; , r .` and a bracketed paste -/
def viCommandPure (vi : Bool) (key : KeyEvent) (n : Nat) (empty : Bool) : Option Cmd :=
  if startsCount key then none else
  match termPure key empty with
  | some cmd => some cmd
  | none =>
  let m := key.mods
  match key.code with
  | .char c =>
    if m == 0 then
      if c == '$' then some (.move .endOfLine)
      else if c == '.' then none
      else if c == '0' then some (.move .beginningOfLine)
      else if c == '^' then some (.move .viFirstPrint)
      else if c == 'a' then some (.move (.forwardChar n))
      else if c == 'A' then some (.move .endOfLine)
      else if c == 'b' then some (.move (.backwardWord n .vi))
      else if c == 'B' then some (.move (.backwardWord n .big))
      else if c == 'c' then none
      else if c == 'C' then some (.replace .endOfLine none)
      else if c == 'd' then none
      else if c == 'D' then some (.kill .endOfLine)
      else if c == 'e' then some (.move (.forwardWord n .beforeEnd .vi))
      else if c == 'E' then some (.move (.forwardWord n .beforeEnd .big))
      else if c == 'i' then some .noop
      else if c == 'I' then some (.move .beginningOfLine)
      else if c == 'f' || c == 'F' || c == 't' || c == 'T' then none
      else if c == ';' then none
      else if c == ',' then none
      else if c == 'p' then some (.yank n .after)
      else if c == 'P' then some (.yank n .before)
      else if c == 'r' then none
      else if c == 'R' then some (.replace (.forwardChar 0) none)
      else if c == 's' then some (.replace (.forwardChar n) none)
      else if c == 'S' then some (.replace .wholeLine none)
      else if c == 'u' then some (.undo n)
      else if c == 'w' then some (.move (.forwardWord n .start .vi))
      else if c == 'W' then some (.move (.forwardWord n .start .big))
      else if c == 'x' then some (.kill (.forwardChar n))
      else if c == 'X' then some (.kill (.backwardChar n))
      else if c == 'y' then none
      else if c == 'h' then some (.move (.backwardChar n))
      else if c == 'l' || c == ' ' then some (.move (.forwardChar n))
      else if c == '+' || c == 'j' then some (.lineDownOrNextHistory n)
      else if c == '-' || c == 'k' then some (.lineUpOrPreviousHistory n)
      else if c == '<' then none
      else if c == '>' then none
      else commonPure vi key n true empty
    else if m == 8 then
      if c == 'K' then some (.kill .endOfLine)
      else if c == 'H' then some (.move (.backwardChar n))
      else if c == 'G' then some .abort
      else if c == 'L' then some .clearScreen
      else if c == 'N' then some .nextHistory
      else if c == 'P' then some .previousHistory
      else if c == 'R' then some .reverseSearchHistory
      else if c == 'S' then some .forwardSearchHistory
      else commonPure vi key n true empty
    else commonPure vi key n true empty
  | .end_ => if m == 0 then some (.move .endOfLine) else commonPure vi key n true empty
  | .backspace => if m == 0 then some (.move (.backwardChar n)) else commonPure vi key n true empty
  | .esc => if m == 0 then some .noop else commonPure vi key n true empty
  | _ => commonPure vi key n true empty

theorem viCommand_yields (hb : cfg.binds = []) (fuel : Nat) (key : KeyEvent) (s : Ed) (h0 : 0 ≤ s.inp.numArgs) :
    Yields (viCommand S U cfg fuel key) (viCommandPure cfg.vi key (countOf s.inp.numArgs).1 s.line.buf.isEmpty) s := by
  unfold viCommandPure
  cases hk : startsCount key
  case true => exact .none _
  rw [if_neg Bool.false_ne_true]
  have hna := viNumArgs_eq s h0
  generalize (countOf s.inp.numArgs).1 = n at hna ⊢
  obtain ⟨s1, h1, hl, _, _⟩ := customBinding_unbound cfg hb [key] n true { s with inp := { s.inp with numArgs := 0 } }
  have hc := (common_reads cfg hb fuel [key] key n true s1).yields
  rw [show s.line = s1.line from hl.symm]
  unfold viCommand
  refine .of_eq (vi_noCount hk _ _) ?_
  refine .read _ (.bind_ok hna (.bind_ok h1 (.bind_ok (termBinding_eq key s1) ?_)))
  dsimp only
  cases termPure key s1.line.buf.isEmpty
  case some c => exact .pure c
  refine .bind_tail (fun a s2 => ?_) ?_
  · cases a.isRepeatableChange <;> exact ⟨_, rfl⟩
  obtain ⟨code, mods⟩ := key
  cases code <;> dsimp only <;> keymap_walk [hc, Yields.of_ok rfl]

theorem viCommandTable_pure (vi : Bool) : ∀ e ∈ table .viCommand, ∀ (n : Nat) (empty : Bool) (cmd : Cmd),
    (e.2.resolve n true empty true).toCmd = some cmd → viCommandPure vi e.1 n empty = some cmd := by
  each_entry
  all_goals
    intro n empty cmd hc
    first | (cases hc <;> rfl) | (cases toCmd_guard hc; rfl) | (cases empty <;> cases hc <;> rfl)

/-- `viInsert` without custom bindings on a key that reads nothing further (`none` for a key with
    Meta, which is handed to `viCommand`) -/
def viInsertPure (vi : Bool) (key : KeyEvent) (empty hintAtEnd replaceMode : Bool) : Option Cmd :=
  match termPure key empty with
  | some cmd => some cmd
  | none =>
  let m := key.mods
  match key.code with
  | .char c =>
    if m == 0 then some (if replaceMode then .overwrite c else .selfInsert 1 c)
    else if m == 8 && c == 'H' then some (.kill (.backwardChar 1))
    else if m == 8 && c == 'I' then some .complete
    else if m == 4 then none
    else commonPure vi key 1 true empty
  | .backspace => if m == 0 then some (.kill (.backwardChar 1)) else commonPure vi key 1 true empty
  | .backTab => if m == 0 then some .completeBackward else commonPure vi key 1 true empty
  | .tab => if m == 0 then some .complete else commonPure vi key 1 true empty
  | .right =>
    if m == 0 then
      if hintAtEnd then some .completeHint else commonPure vi key 1 true empty
    else commonPure vi key 1 true empty
  | .esc => if m == 0 then some (.move (.backwardChar 1)) else commonPure vi key 1 true empty
  | _ => commonPure vi key 1 true empty

theorem viInsert_yields (hb : cfg.binds = []) (fuel : Nat) (key : KeyEvent) (s : Ed) :
    Yields (viInsert S U cfg fuel key)
      (viInsertPure cfg.vi key s.line.buf.isEmpty (s.hint.isSome && s.line.pos == blen s.line.buf)
        (s.inp.inputMode == .replace)) s := by
  unfold viInsertPure
  obtain ⟨s1, h1, hl, hh, hi⟩ := customBinding_unbound cfg hb [key] 0 true s
  have hc := (common_reads cfg hb fuel [key] key 1 true s1).yields
  rw [show s.line = s1.line from hl.symm, show s.hint = s1.hint from hh.symm, show s.inp = s1.inp from hi.symm]
  unfold viInsert
  refine .bind_ok h1 (.bind_ok (termBinding_eq key s1) ?_)
  dsimp only
  cases termPure key s1.line.buf.isEmpty
  case some c => exact .pure c
  refine .read _ (.bind_tail (fun a s2 => ?_) ?_)
  · cases a.isRepeatableChange
    · exact ⟨_, rfl⟩
    · rw [if_pos rfl, EM.bind_ok (rfl : getLastCmd s2 = .ok (s2.inp.lastCmd, s2))]
      split <;> exact ⟨_, rfl⟩
  obtain ⟨code, mods⟩ := key
  cases code <;> dsimp only <;> keymap_walk [hc, Yields.of_ok rfl]

theorem viInsertTable_pure (vi : Bool) : ∀ e ∈ table .viInsert, ∀ (empty hint replaceMode : Bool) (cmd : Cmd),
    (e.1 = key .right → hint = false) → (e.2.resolve 1 true empty true).toCmd = some cmd →
    viInsertPure vi e.1 empty hint replaceMode = some cmd := by
  each_entry
  all_goals
    intro empty hint replaceMode cmd hr hc
    first | (cases hc <;> rfl) | (cases hr rfl; cases hc; rfl) | (cases empty <;> cases hc <;> rfl)

/-- the movement the documentation gives an operator for a motion-table entry: count `n`
    (count before the operator × count before the motion), `isChange` for `c` (`cw` = `ce`),
    the last character search (for `;` `,`) and the character typed after `f t F T` -/
def docMotion (a : DocAction) (n : Nat) (isChange : Bool) (last : Option CharSearch) (ch : Option Char) :
    Option Movement :=
  match a with
  | .move dm => operatorMovement dm n isChange
  | .charSearch kind => ch.map (fun c => .viCharSearch n (charSearchOf kind c))
  | .repeatSearch opp => last.map (fun cs => .viCharSearch n (if opp then cs.opposite else cs))
  | _ => none

def isOperatorKey (k : KeyEvent) : Prop := k = plain 'd' ∨ k = plain 'c' ∨ k = plain 'y'

/-- the movement `viCmdMotion` builds for the motion key `mvt` with the count `n`, `last` the
    remembered character search; `none` for `f t F T`, which read on -/
def viMotionPure (isC : Bool) (mvt : KeyEvent) (n : Nat) (last : Option CharSearch) : Option (Option Movement) :=
  match mvt.code with
  | .char c =>
    if mvt.mods == 0 then
      if c == '$' then some (some .endOfLine)
      else if c == '0' then some (some .beginningOfLine)
      else if c == '^' then some (some .viFirstPrint)
      else if c == 'b' then some (some (.backwardWord n .vi))
      else if c == 'B' then some (some (.backwardWord n .big))
      else if c == 'e' then some (some (.forwardWord n .afterEnd .vi))
      else if c == 'E' then some (some (.forwardWord n .afterEnd .big))
      else if c == 'f' || c == 'F' || c == 't' || c == 'T' then none
      else if c == ';' then some (last.map (fun cs => .viCharSearch n cs))
      else if c == ',' then some (last.map (fun cs => .viCharSearch n cs.opposite))
      else if c == 'h' then some (some (.backwardChar n))
      else if c == 'l' || c == ' ' then some (some (.forwardChar n))
      else if c == 'j' || c == '+' then some (some (.lineDown n))
      else if c == 'k' || c == '-' then some (some (.lineUp n))
      else if c == 'w' then some (some (if isC then .forwardWord n .afterEnd .vi else .forwardWord n .start .vi))
      else if c == 'W' then some (some (if isC then .forwardWord n .afterEnd .big else .forwardWord n .start .big))
      else some none
    else if mvt.mods == 8 && c == 'H' then some (some (.backwardChar n))
    else some none
  | .backspace => if mvt.mods == 0 then some (some (.backwardChar n)) else some none
  | _ => some none

/-- `viCmdMotion` once the motion key `mvt0` is read (it is not the operator key again) and the
    optional count before the motion has given the key `mvt` and the count `n` -/
theorem viCmdMotion_reads (fuel : Nat) (op : KeyEvent) (n0 : Nat) (s s1 s2 : Ed) (mvt0 mvt : KeyEvent) (n : Nat)
    (hk : nextKey false s = .ok (mvt0, s1)) (hne : (mvt0 == op) = false)
    (hcount : (match mvt0.code with
        | .char d =>
          if mvt0.mods == 0 && '1' ≤ d && d ≤ '9' then do
            let k ← viArgDigit S U cfg fuel d
            let a ← viNumArgs
            pure (k, min (a * n0) 65535)
          else pure (mvt0, n0)
        | _ => pure (mvt0, n0) : EM (KeyEvent × Nat)) s1 = .ok ((mvt, n), s2))
    (r : Option Movement) (hr : viMotionPure (op == ⟨.char 'c', 0⟩) mvt n s2.inp.lastCharSearch = some r) :
    viCmdMotion S U cfg fuel op n0 s = .ok (r, s2) := by
  unfold viCmdMotion
  refine (EM.bind_ok hk).trans ?_
  dsimp only
  rw [hne, if_neg Bool.false_ne_true]
  refine (EM.bind_ok hcount).trans ?_
  revert r
  change Reads _ _ s2
  unfold viMotionPure
  obtain ⟨code, mods⟩ := mvt
  cases code <;> dsimp only <;> keymap_walk []

theorem viMotionTable_pure : ∀ e ∈ viMotionTable, (∀ k, e.2 ≠ .charSearch k) →
    ∀ (isC : Bool) (n : Nat) (last : Option CharSearch),
      viMotionPure isC e.1 n last = some (docMotion e.2 n isC last none) := by
  each_entry
  all_goals intro hcs isC n last; first | exact absurd rfl (hcs _) | (cases isC <;> rfl)

theorem viMotionTable_keys (op : KeyEvent) (hop : isOperatorKey op) :
    ∀ e ∈ viMotionTable, (e.1 == op) = false ∧ startsCount e.1 = false := by
  rcases hop with rfl | rfl | rfl <;> decide

theorem viCharSearch_plain (kind ch : Char) (s1 s2 : Ed) (hk : nextKey false s1 = .ok (⟨.char ch, 0⟩, s2)) :
    viCharSearch kind s1 = .ok (some (charSearchOf kind ch),
      { s2 with inp := { s2.inp with lastCharSearch := some (charSearchOf kind ch) } }) := by
  unfold viCharSearch
  exact (EM.bind_ok hk).trans rfl

theorem nextCmd_vi_insert (S : Segmenter) (U : UData) (cfg : EdCfg) (hvi : cfg.vi = true) (fuel : Nat) (s s0 s1 : Ed)
    (k : KeyEvent) (cmd : Cmd) (hk : nextKey false s = .ok (k, s0)) (hm : s0.inp.inputMode ≠ .command)
    (he : viInsert S U cfg fuel k s0 = .ok (cmd, s1)) (hnr : ∀ m t, cmd ≠ .replace m t) :
    nextCmd S U cfg fuel false false s = .ok (cmd, s1) :=
  nextCmd_ok S U cfg fuel s s0 s1 k cmd hk (by rw [hvi, beq_false_of_ne hm]; exact he) hnr

theorem nextCmd_vi_command (S : Segmenter) (U : UData) (cfg : EdCfg) (hvi : cfg.vi = true) (fuel : Nat) (s s0 s1 : Ed)
    (k : KeyEvent) (cmd : Cmd) (hk : nextKey false s = .ok (k, s0)) (hm : s0.inp.inputMode = .command)
    (he : viCommand S U cfg fuel k s0 = .ok (cmd, s1)) (hnr : ∀ m t, cmd ≠ .replace m t) :
    nextCmd S U cfg fuel false false s = .ok (cmd, s1) :=
  nextCmd_ok S U cfg fuel s s0 s1 k cmd hk (by rw [hvi, hm]; exact he) hnr

theorem viInsertTable_right : ∀ e ∈ table .viInsert, e.1 = key .right → e.2 = .move .charRight := by decide

end Rl
