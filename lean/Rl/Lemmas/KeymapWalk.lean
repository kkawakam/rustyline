/-
  One walk through each key-map function of Rl/Editor.lean, for every predicate at once.

  Most facts about `next_cmd` and the functions below it have the shape "`C m` holds for every `do`
  block `m` assembled from a fixed stock of effects", where `C : EM α → Prop` is closed under `pure`
  and `>>=`: a frame fact (`Keeps f`), an invariant with an exit clause (`NPI`, `LogK`, `MkK P`,
  `Pres I`, `PresB`), "does not panic" (`NoPanic`).  `KeyPrims C` lists that stock for the code shared
  by all modes, `EmacsPrims C` / `ViPrims C` add what one mode needs, `ArgPrims C` the steps of the
  digit-argument loops.  `KeyPrims.common`, `EmacsPrims.emacs`, `ViPrims.viCommand`, `ViPrims.viInsert`
  and `nextCmd_of_prims` are then proved once, by structural descent; a family supplies its leaf
  lemmas as a record and gets every key-map function in one application.

  The one step that uses the *result* of an effect is the custom binding table: a bound command that is
  repeatable is re-done, and some predicates (`NoPanic`) hold of that only for a command that really
  is in the table.  Hence `bound`: the continuation of `customBinding` may assume `InBinds`.
-/
import Rl.Editor
namespace Rl
open EM

theorem pred_ite {α : Type} {C : EM α → Prop} {c : Prop} [Decidable c] {a b : EM α} (ha : c → C a) (hb : ¬c → C b) :
    C (if c then a else b) := by
  split
  · exact ha ‹_›
  · exact hb ‹_›

structure InBinds (cfg : EdCfg) (r : Option Cmd) : Prop where
  h : ∀ c, r = some c → ∃ b ∈ cfg.binds, b.2 = c

theorem customBinding_inBinds (cfg : EdCfg) (keys : List KeyEvent) (n : Nat) (p : Bool) (s : Ed)
    (r : Option Cmd) (s' : Ed) (h : customBinding cfg keys n p s = .ok (r, s')) : InBinds cfg r := by
  unfold customBinding at h
  cases hf : cfg.binds.find? (fun b => b.1 == keys) with
  | none => rw [hf] at h; cases h; exact ⟨fun c hc => nomatch hc⟩
  | some b =>
    rw [hf] at h; cases h
    exact ⟨fun c hc => by cases hc; exact ⟨b, List.mem_of_find?_eq_some hf, rfl⟩⟩

section
variable (S : Segmenter) (U : UData) (cfg : EdCfg)

structure KeyPrims (C : ∀ {α : Type}, EM α → Prop) : Prop where
  pure : ∀ {α : Type} (a : α), C (Pure.pure a : EM α)
  bind : ∀ {α β : Type} {m : EM α} {f : α → EM β}, C m → (∀ a, C (f a)) → C (m >>= f)
  read : ∀ {α : Type} (g : Ed → α), C (fun s => .ok (g s, s) : EM α)
  nextKey : ∀ sea, C (nextKey sea)
  readPasted : C readPasted
  bound : ∀ {β : Type} keys n p {f : Option Cmd → EM β}, (∀ r, InBinds cfg r → C (f r)) →
    C (customBinding cfg keys n p >>= f)
  termBinding : ∀ k, C (termBinding k)
  takeNumArgs : C takeNumArgs
  redoBound : ∀ (c : Cmd) new, InBinds cfg (some c) → c.isRepeatable = true → C (redoCmd c new)

/-- emacs mode: `M-digit` / `M--` run the digit-argument loop.  The loop is a unit of its own: while
    it runs the `(arg: n)` prompt is on display, which not every `C` survives step by step. -/
structure EmacsPrims (C : ∀ {α : Type}, EM α → Prop) : Prop extends KeyPrims cfg C where
  digitLoop : ∀ negative fuel mag, C (emacsDigitLoop S U cfg negative fuel mag)

/-- the vi modes: digit arguments (again a unit), mode switches with their undo-group markers, the
    remembered command and character search; `.` re-does the remembered command if it is repeatable -/
structure ViPrims (C : ∀ {α : Type}, EM α → Prop) : Prop extends KeyPrims cfg C where
  viNumArgs : C viNumArgs
  argDigit : ∀ fuel d, C (viArgDigit S U cfg fuel d)
  setInputMode : ∀ m, C (setInputMode m)
  setLastCmd : ∀ c, C (setLastCmd c)
  setLastCharSearch : ∀ cs, C (EM.modify fun s => { s with inp := { s.inp with lastCharSearch := some cs } })
  redoLast : ∀ (c : Cmd) new, c.isRepeatable = true → C (redoCmd c new)
  changesBegin : C changesBegin
  changesEnd : C changesEnd

/-- what the two digit-argument loops are made of, for a `C` that does hold of each of their steps
    (the emacs loop also sets the argument to a value of either sign: a hypothesis of its own below,
    since in vi mode not every `C` allows that) -/
structure ArgPrims (C : ∀ {α : Type}, EM α → Prop) : Prop extends KeyPrims cfg C where
  exitFuel : ∀ {α : Type}, C (EM.exit .fuel : EM α)
  refreshLine : C (refreshLine S U cfg)
  refreshPromptAndLine : ∀ p, C (refreshPromptAndLine S U cfg p)
  viSetArg : ∀ d : Char, C (EM.modify fun s => { s with inp := { s.inp with numArgs := digitVal d } })
  viDigitStep : ∀ d : Char, C (EM.modify fun s =>
    let a := s.inp.numArgs
    let a' := if a.natAbs < 1000 then satMulAdd a (digitVal d) else a
    { s with inp := { s.inp with numArgs := a' } })

end

/-- structural descent through a `do` block: the given rules first (at reducible transparency, so
    that a rule for one effect is never tried by unfolding another), then `if`, `let`, `match` -/
syntax "em_walk" "[" term,* "]" : tactic
macro_rules
  | `(tactic| em_walk [$ts,*]) =>
    `(tactic| repeat' (first | intro _ | (with_reducible first $[| apply $ts]* | assumption) | (apply pred_ite) | dsimp only | split))

variable {S : Segmenter} {U : UData} {cfg : EdCfg} {C : ∀ {α : Type}, EM α → Prop}

namespace KeyPrims
variable (h : KeyPrims cfg C)
include h

/-- `bind` for a state reader written as a lambda -/
theorem bind' {α β : Type} {m : Ed → Except (Outcome × Ed) (α × Ed)} {f : α → EM β}
    (hm : C (m : EM α)) (hf : ∀ a, C (f a)) : C (@Bind.bind EM _ α β m f) := h.bind hm hf

theorem customSeqBinding (fuel : Nat) (keys : List KeyEvent) (n : Nat) (p : Bool) :
    C (customSeqBinding cfg fuel keys n p) := by
  induction fuel generalizing keys with
  | zero => unfold Rl.customSeqBinding; exact h.pure _
  | succ k ih =>
    unfold Rl.customSeqBinding
    em_walk [h.pure, h.bind, h.nextKey, ih]

theorem common (fuel : Nat) (keys : List KeyEvent) (key : KeyEvent) (n : Nat) (p : Bool) :
    C (common cfg fuel keys key n p) := by
  have h0 : C (common.fallback cfg fuel keys n p) := by
    unfold common.fallback
    exact h.bind (h.customSeqBinding ..) fun _ => h.pure _
  have hl : C lineEmpty := h.read _
  unfold Rl.common
  em_walk [h.pure, h.bind, h.readPasted, h0, hl]

end KeyPrims

namespace ArgPrims
variable (h : ArgPrims S U cfg C)
include h

theorem emacsDigitLoop (hset : ∀ v : Int, C (EM.modify fun s => { s with inp := { s.inp with numArgs := v } }))
    (negative : Bool) (fuel : Nat) (mag : Option Nat) : C (emacsDigitLoop S U cfg negative fuel mag) := by
  induction fuel generalizing mag with
  | zero => unfold Rl.emacsDigitLoop; exact h.exitFuel
  | succ k ih =>
    unfold Rl.emacsDigitLoop
    em_walk [h.pure, h.bind, h.nextKey, hset, h.refreshLine, h.refreshPromptAndLine, ih]

theorem viDigitLoop (fuel : Nat) : C (viDigitLoop S U cfg fuel) := by
  induction fuel with
  | zero => unfold Rl.viDigitLoop; exact h.exitFuel
  | succ k ih =>
    unfold Rl.viDigitLoop
    em_walk [h.pure, h.bind, h.toKeyPrims.bind', h.read, h.nextKey, h.viDigitStep, h.refreshLine,
      h.refreshPromptAndLine, ih]

theorem viArgDigit (fuel : Nat) (d : Char) : C (viArgDigit S U cfg fuel d) := by
  unfold Rl.viArgDigit
  exact h.bind (h.viSetArg d) fun _ => h.viDigitLoop fuel

theorem toEmacsPrims (hset : ∀ v : Int, C (EM.modify fun s => { s with inp := { s.inp with numArgs := v } })) :
    EmacsPrims S U cfg C := ⟨h.toKeyPrims, h.emacsDigitLoop hset⟩

end ArgPrims

namespace EmacsPrims
variable (h : EmacsPrims S U cfg C)
include h

theorem emacs (fuel : Nat) (key : KeyEvent) : C (emacs S U cfg fuel key) := by
  have h1 := fun ng m => h.digitLoop ng fuel m
  have h2 := fun keys key n p => h.toKeyPrims.common fuel keys key n p
  have h3 := fun keys n p => h.toKeyPrims.customSeqBinding fuel keys n p
  have r1 : C hasHint := h.read _
  have r2 : C cursorAtEnd := h.read _
  unfold Rl.emacs emacsDigitArgument emacsNumArgs emacs.charSearchCmd
  -- the code after the digit argument is a join point of three branches: walk it once
  extract_lets rest
  have hrest : ∀ key, C (rest key) := by
    intro key
    em_walk [h.bound, h.redoBound, h.pure, h.bind, h.nextKey, h.termBinding, h.takeNumArgs, r1, r2, h2, h3]
  clear_value rest
  em_walk [h.pure, h.bind, h1, hrest]

end EmacsPrims

namespace ViPrims
variable (h : ViPrims S U cfg C)
include h

theorem redoIfRepeatable (c x : Cmd) (new : Option Nat) :
    C (if (!c.isRepeatable) = true then Pure.pure x else redoCmd c new) :=
  pred_ite (fun _ => h.pure x) fun hn => h.redoLast c new (by simpa using hn)

theorem viCharSearch (c : Char) : C (viCharSearch c) := by
  unfold Rl.viCharSearch
  em_walk [h.pure, h.bind, h.nextKey, h.setLastCharSearch]

theorem viCmdMotion (fuel : Nat) (key : KeyEvent) (n : Nat) : C (viCmdMotion S U cfg fuel key n) := by
  have h1 := fun d => h.argDigit fuel d
  have h3 := fun c => h.viCharSearch c
  have r1 : C lastCharSearch := h.read _
  unfold Rl.viCmdMotion
  em_walk [h.pure, h.bind, h.nextKey, h.viNumArgs, r1, h1, h3]

theorem viCommand (fuel : Nat) (key : KeyEvent) : C (viCommand S U cfg fuel key) := by
  have h1 := fun d => h.argDigit fuel d
  have h3 := fun c => h.viCharSearch c
  have h4 := fun key n => h.viCmdMotion fuel key n
  have h5 := fun keys key n p => h.toKeyPrims.common fuel keys key n p
  have r1 : C lastCharSearch := h.read _
  have r2 : C getLastCmd := h.read _
  have d1 : C doingInsert := h.bind h.changesBegin fun _ => h.pure _
  unfold Rl.viCommand
  -- the code after the digit argument is a join point of three branches: walk it once
  extract_lets rest
  have hrest : ∀ key, C (rest key) := by
    intro key
    em_walk [h.bound, h.redoBound, h.redoIfRepeatable, h.pure, h.bind, h.toKeyPrims.bind', h.read, h.nextKey,
      h.termBinding, h.viNumArgs, h.setInputMode, h.setLastCmd, r1, r2, d1, h3, h4, h5]
  clear_value rest
  em_walk [h.pure, h.bind, h1, hrest]

theorem viInsert (fuel : Nat) (key : KeyEvent) : C (viInsert S U cfg fuel key) := by
  have h4 := fun key => h.viCommand fuel key
  have h5 := fun keys key n p => h.toKeyPrims.common fuel keys key n p
  have r1 : C hasHint := h.read _
  have r2 : C cursorAtEnd := h.read _
  have r3 : C getLastCmd := h.read _
  have d1 : C doneInserting := h.bind h.changesEnd fun _ => h.pure _
  unfold Rl.viInsert
  em_walk [h.bound, h.redoBound, h.pure, h.bind, h.toKeyPrims.bind', h.read, h.termBinding, h.setInputMode,
    h.setLastCmd, r1, r2, r3, d1, h4, h5]

end ViPrims

/-- **`next_cmd`**, from the stock of the mode that is configured (a `Replace` command opens an undo
    group in either mode) -/
theorem nextCmd_of_prims (he : cfg.vi = false → EmacsPrims S U cfg C) (hv : cfg.vi = true → ViPrims S U cfg C)
    (hb : C changesBegin) (fuel : Nat) (sea iep : Bool) : C (nextCmd S U cfg fuel sea iep) := by
  unfold nextCmd waitForInput
  by_cases hvi : cfg.vi = true
  · have h := hv hvi
    have h2 := fun key => h.viInsert fuel key
    have h3 := fun key => h.viCommand fuel key
    simp only [hvi, Bool.not_true, Bool.false_eq_true, if_false, if_true]
    em_walk [h.pure, h.bind, h.toKeyPrims.bind', h.read, h.nextKey, h.changesBegin, h2, h3]
  · have hvf : cfg.vi = false := by simpa using hvi
    have h := he hvf
    have h1 := fun key => h.emacs fuel key
    simp only [hvf, Bool.not_false, Bool.false_eq_true, if_false, if_true]
    em_walk [h.pure, h.bind, h.toKeyPrims.bind', h.read, h.nextKey, hb, h1]

end Rl
