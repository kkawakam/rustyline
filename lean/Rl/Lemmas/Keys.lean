/- The byte layer of the decoder model (Rl/Keys.lean: `Input` = reader buffer + kernel queue + future key presses,
   `Input.size` = bytes left in all three).  A successful `readByte` consumes exactly one byte (`Input.readByte_size`);
   it fails only at the hang-up, when no input is left (`Input.readByte_error`); `pollWait` loses nothing.  What
   Lemmas/KeysProgress.lean lifts to whole keys.  Needs only the model. -/
import Rl.Keys
namespace Rl

theorem sum_map_length_cons (c : List UInt8) (rest : List (List UInt8)) :
    ((c :: rest).map List.length).sum = c.length + (rest.map List.length).sum := by simp

/-- refilling the reader's buffer from the chunk `b :: bs` hands out `b` and loses nothing else -/
theorem Input.size_refill (b : UInt8) (bs : List UInt8) (rest : List (List UInt8)) :
    Input.size { buf := ((b :: bs).take bufCap).drop 1, avail := (b :: bs).drop bufCap, future := rest } + 1
      = (b :: bs).length + (rest.map List.length).sum := by
  simp only [Input.size, bufCap, List.take_succ_cons, List.drop_succ_cons, List.drop_zero, List.length_cons]
  rw [← List.length_append, List.take_append_drop, Nat.add_right_comm]

theorem Input.readByte_next_spec (fut : List (List UInt8)) :
    match Input.readByte.next fut with
    | .ok (_, i') => i'.size + 1 = (fut.map List.length).sum
    | .error e => e = .io ∧ (fut.map List.length).sum = 0 := by
  induction fut with
  | nil => exact ⟨rfl, rfl⟩
  | cons c rest ih =>
    cases c with
    | nil => simpa [Input.readByte.next] using ih
    | cons x xs => simp only [Input.readByte.next]; rw [Input.size_refill, sum_map_length_cons]

theorem Input.readByte_spec (i : Input) :
    match i.readByte with
    | .ok (_, i') => i'.size + 1 = i.size
    | .error e => e = .io ∧ i.size = 0 := by
  unfold Input.readByte
  cases hb : i.buf with
  | cons b0 bs => simp only [Input.size, hb, List.length_cons]; omega
  | nil =>
    cases ha : i.avail with
    | cons b0 bs =>
      simp only [Input.size_refill]
      simp only [Input.size, hb, ha, List.length_nil, Nat.zero_add]
    | nil =>
      simp only [Input.size, hb, ha, List.length_nil, Nat.zero_add]
      exact Input.readByte_next_spec i.future

theorem Input.readByte_size {i i' : Input} {b : UInt8} (h : i.readByte = .ok (b, i')) :
    i'.size + 1 = i.size := by
  have := i.readByte_spec; rwa [h] at this

theorem Input.readByte_hangup {i : Input} {e : RdErr} (h : i.readByte = .error e) :
    e = .io ∧ i.size = 0 := by
  have := i.readByte_spec; rwa [h] at this

theorem Input.readByte_error {i : Input} {e : RdErr} (h : i.readByte = .error e) : e = .io :=
  (Input.readByte_hangup h).1

theorem Input.pollWait_size (i : Input) : i.pollWait.size = i.size := by
  unfold Input.pollWait
  split
  · rfl
  · rename_i hp
    simp [Input.pollNow] at hp
    obtain ⟨hb, ha⟩ := hp
    have : ∀ fut, (Input.pollWait.next i fut).size = i.buf.length + (fut.map List.length).sum := by
      intro fut
      induction fut with
      | nil => simp [Input.pollWait.next, Input.size, ha]
      | cons c rest ih =>
        cases c with
        | nil => simp [Input.pollWait.next]; simpa using ih
        | cons x xs => simp [Input.pollWait.next, Input.size]; omega
    rw [this]
    simp [Input.size, ha]

end Rl
