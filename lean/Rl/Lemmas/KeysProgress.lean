/-
  Progress of the byte decoder, lifted from `readByte` through `nextChar`, `escapeO`, `escapeCsi`,
  `extendedEscape`, `escapeSequence` and `nextKey`.

  `Res lo hi i r` says about a decoder result `r` obtained from the input `i`:
  * on success the decoder consumed between `lo` and `hi` bytes;
  * a failure is `invalidData`, or `io` — and then fewer than `hi` bytes were left in `i`
    (the input ran out inside the sequence: the hang-up).
-/
import Rl.Keys
import Rl.Lemmas.Keys
namespace Rl

def Res {α : Type} (lo hi : Nat) (i : Input) (r : Except RdErr (α × Input)) : Prop :=
  match r with
  | .ok (_, i') => i'.size + lo ≤ i.size ∧ i.size ≤ i'.size + hi
  | .error e => (e = .io ∧ i.size < hi) ∨ e = .invalidData

namespace Res
variable {α β : Type}

theorem pure {h : Nat} {i : Input} {a : α} : Res 0 h i (Pure.pure (a, i) : Except RdErr (α × Input)) :=
  ⟨Nat.le_refl _, Nat.le_add_right _ _⟩

theorem throwInvalid {l h : Nat} {i : Input} :
    Res l h i (throw RdErr.invalidData : Except RdErr (α × Input)) :=
  .inr rfl

theorem throwBind (l h : Nat) (i : Input) (k : β → Except RdErr (α × Input)) :
    Res l h i ((throw RdErr.invalidData : Except RdErr β) >>= k) :=
  .inr rfl

/-- `Res` read from another input `j`: the three inequalities on `i.size` are carried over one by one -/
theorem imp {l h l' h' : Nat} {i j : Input} {r : Except RdErr (α × Input)} (hr : Res l h i r)
    (hlo : ∀ s, s + l ≤ i.size → s + l' ≤ j.size) (hhi : ∀ s, i.size ≤ s + h → j.size ≤ s + h')
    (he : i.size < h → j.size < h') : Res l' h' j r :=
  match r, hr with
  | .ok (_, _), hr => ⟨hlo _ hr.1, hhi _ hr.2⟩
  | .error _, hr => Or.imp (fun h => ⟨h.1, he h.2⟩) id hr

theorem mono {l l' h h' : Nat} {i : Input} {r : Except RdErr (α × Input)}
    (hr : Res l h i r) (hl : l' ≤ l) (hh : h ≤ h') : Res l' h' i r :=
  hr.imp (fun _ _ => by omega) (fun _ _ => by omega) (fun _ => by omega)

theorem bind {l1 h1 l2 h2 : Nat} {i : Input} {m : Except RdErr (β × Input)}
    {k : β × Input → Except RdErr (α × Input)}
    (hm : Res l1 h1 i m) (hk : ∀ a i', Res l2 h2 i' (k (a, i'))) :
    Res (l2 + l1) (h2 + h1) i (m >>= k) := by
  cases m with
  | error e => exact Or.imp (fun h => ⟨h.1, Nat.lt_of_lt_of_le h.2 (Nat.le_add_left _ _)⟩) id hm
  | ok p =>
    obtain ⟨a, i'⟩ := p
    obtain ⟨hlo, hhi⟩ : i'.size + l1 ≤ i.size ∧ i.size ≤ i'.size + h1 := hm
    exact (hk a i').imp (fun _ _ => by omega) (fun _ _ => by omega) (fun _ => by omega)

theorem ofPollWait {l h : Nat} {i : Input} {r : Except RdErr (α × Input)}
    (hr : Res l h i.pollWait r) : Res l h i r := by
  unfold Res at *
  rw [Input.pollWait_size] at hr
  exact hr

end Res

theorem Input.readByte_res (i : Input) : Res 1 1 i i.readByte := by
  cases h : i.readByte with
  | error e =>
    obtain ⟨rfl, hs⟩ := Input.readByte_hangup h
    exact .inl ⟨rfl, by omega⟩
  | ok p =>
    obtain ⟨b, i'⟩ := p
    have := Input.readByte_size h
    exact ⟨by omega, by omega⟩

theorem Res.bindByte {α : Type} {l h : Nat} {i : Input} {k : UInt8 × Input → Except RdErr (α × Input)}
    (hk : ∀ b i', Res l h i' (k (b, i'))) : Res (l + 1) (h + 1) i (i.readByte >>= k) :=
  Res.bind (Input.readByte_res i) hk

theorem Res.bindByte0 {α : Type} {h : Nat} {i : Input} {k : UInt8 × Input → Except RdErr (α × Input)}
    (hk : ∀ b i', Res 0 h i' (k (b, i'))) : Res 0 (h + 1) i (i.readByte >>= k) :=
  (Res.bindByte hk).mono (Nat.zero_le _) (Nat.le_refl _)

theorem Res.ite {α : Type} {l h : Nat} {i : Input} {c : Prop} [Decidable c] {a b : Except RdErr (α × Input)}
    (ha : c → Res l h i a) (hb : ¬c → Res l h i b) : Res l h i (if c then a else b) := by
  by_cases hc : c
  · simp only [hc, if_true]; exact ha hc
  · simp only [hc, if_false]; exact hb hc

/- The decoders are walked along their own structure: a read lowers the upper bound left for the
   continuation by its own (`bindByte0` by 1, `bindChar0` by 4), an `if` keeps it (`ite`), and the
   leaves `pure`, `throwInvalid`, `throwBind` hold for any bound. A `guard`-like
   `if !c then throw …; rest` is `if … then throw … >>= rest else rest ()`. -/

theorem Input.nextChar_res (i : Input) : Res 1 4 i i.nextChar := by
  unfold Input.nextChar
  refine Res.bindByte fun b0 i1 => ?_
  refine Res.ite (fun _ => Res.pure) fun _ => Res.ite (fun _ => Res.throwInvalid) fun _ => ?_
  refine Res.ite (fun _ => ?_) fun _ => Res.ite (fun _ => ?_) fun _ =>
    Res.ite (fun _ => ?_) fun _ => Res.throwInvalid
  · refine Res.bindByte0 fun b1 i2 => ?_
    exact Res.ite (fun _ => Res.pure) fun _ => Res.throwInvalid
  · refine Res.bindByte0 fun b1 i2 => Res.ite (fun _ => Res.throwBind _ _ _ _) fun _ => ?_
    refine Res.bindByte0 fun b2 i3 => ?_
    exact Res.ite (fun _ => Res.pure) fun _ => Res.throwInvalid
  · refine Res.bindByte0 fun b1 i2 => Res.ite (fun _ => Res.throwBind _ _ _ _) fun _ => ?_
    refine Res.bindByte0 fun b2 i3 => Res.ite (fun _ => Res.throwBind _ _ _ _) fun _ => ?_
    refine Res.bindByte0 fun b3 i4 => ?_
    exact Res.ite (fun _ => Res.pure) fun _ => Res.throwInvalid

theorem Res.bindChar {α : Type} {h : Nat} {i : Input} {k : Char × Input → Except RdErr (α × Input)}
    (hk : ∀ c i', Res 0 h i' (k (c, i'))) : Res 1 (h + 4) i (i.nextChar >>= k) :=
  Res.bind (Input.nextChar_res i) hk

theorem Res.bindChar0 {α : Type} {h : Nat} {i : Input} {k : Char × Input → Except RdErr (α × Input)}
    (hk : ∀ c i', Res 0 h i' (k (c, i'))) : Res 0 (h + 4) i (i.nextChar >>= k) :=
  (Res.bindChar hk).mono (Nat.zero_le _) (Nat.le_refl _)

theorem Input.escapeO_res (i : Input) : Res 1 4 i i.escapeO := by
  unfold Input.escapeO
  exact Res.bindChar fun _ _ => Res.pure

/-- The upper bounds count characters of at most four bytes each; the longest sequence is the nine characters
    `ESC ESC [ d d ; d d x`: `extended_escape` reads at most the last five (20), `escape_csi` the digit before them
    (24), `escape_sequence` the second ESC and the `[` (32; the `[` directly after the first ESC gives 28),
    `next_key` the first ESC (36). -/
theorem Input.extendedEscape_res (i : Input) (seq2 : Char) : Res 1 20 i (i.extendedEscape seq2) := by
  unfold Input.extendedEscape
  refine Res.bindChar fun seq3 i1 => ?_
  refine Res.ite (fun _ => Res.pure) fun _ => Res.ite (fun _ => ?_) fun _ =>
    Res.ite (fun _ => ?_) fun _ => Res.pure
  · refine Res.bindChar0 fun seq4 i2 => ?_
    refine Res.ite (fun _ => Res.pure) fun _ => Res.ite (fun _ => ?_) fun _ =>
      Res.ite (fun _ => ?_) fun _ => Res.pure
    · refine Res.bindChar0 fun seq5 i3 => Res.ite (fun _ => ?_) fun _ => Res.pure
      refine Res.bindChar0 fun seq6 i4 => ?_
      refine Res.ite (fun _ => Res.bindChar0 fun _ _ => Res.pure) fun _ => ?_
      exact Res.ite (fun _ => Res.pure) fun _ => Res.ite (fun _ => Res.pure) fun _ => Res.pure
    · refine Res.bindChar0 fun seq5 i3 => Res.ite (fun _ => ?_) fun _ => Res.pure
      exact Res.ite (fun _ => Res.pure) fun _ => Res.ite (fun _ => Res.pure) fun _ => Res.pure
  · refine Res.bindChar0 fun seq4 i2 => Res.ite (fun _ => ?_) fun _ => Res.pure
    refine Res.bindChar0 fun seq5 i3 => ?_
    refine Res.ite (fun _ => Res.bindChar0 fun _ _ => Res.pure) fun _ => ?_
    exact Res.ite (fun _ => Res.pure) fun _ => Res.ite (fun _ => Res.pure) fun _ => Res.pure

theorem Input.escapeCsi_res (i : Input) : Res 1 24 i i.escapeCsi := by
  unfold Input.escapeCsi
  refine Res.bindChar fun seq2 i1 => Res.ite (fun _ => ?_) fun _ =>
    Res.ite (fun _ => Res.bindChar0 fun _ _ => Res.pure) fun _ => Res.pure
  exact Res.ite (fun _ => Res.pure) fun _ =>
    (Input.extendedEscape_res i1 seq2).mono (Nat.zero_le _) (Nat.le_refl _)

theorem Input.escapeSequence_res (i : Input) (allowRecurse : Bool) :
    Res 1 32 i (i.escapeSequence allowRecurse) := by
  unfold Input.escapeSequence
  refine Res.bindChar fun seq1 i1 => ?_
  refine Res.ite (fun _ => (Input.escapeCsi_res i1).mono (Nat.zero_le _) (by decide)) fun _ => ?_
  refine Res.ite (fun _ => (Input.escapeO_res i1).mono (Nat.zero_le _) (by decide)) fun _ => ?_
  refine Res.ite (fun _ => Res.ite (fun _ => Res.pure) fun _ => ?_) fun _ => Res.pure
  refine Res.ofPollWait (Res.bindChar0 fun seq1' i2 => ?_)
  -- every branch of this `if` is followed by the pure step that adds ALT; after a `pure` it computes away
  refine Res.ite (fun _ => ?_) fun _ => Res.ite (fun _ => ?_) fun _ =>
    Res.ite (fun _ => Res.pure) fun _ => Res.pure
  · exact Res.mono (Res.bind (Input.escapeCsi_res i2) fun _ _ => Res.pure (h := 0))
      (Nat.zero_le _) (Nat.le_refl _)
  · exact Res.mono (Res.bind (Input.escapeO_res i2) fun _ _ => Res.pure (h := 0))
      (Nat.zero_le _) (by decide)

theorem Input.nextKey_res (i : Input) (singleEscAbort : Bool) : Res 1 36 i (i.nextKey singleEscAbort) := by
  unfold Input.nextKey
  refine Res.bindChar fun c i1 => Res.ite (fun _ => ?_) fun _ => Res.pure
  refine Res.ite (fun _ => Res.ite (fun _ => ?_) fun _ => Res.pure) fun _ => Res.ofPollWait ?_
  all_goals exact (Input.escapeSequence_res _ true).mono (Nat.zero_le _) (Nat.le_refl _)

end Rl
