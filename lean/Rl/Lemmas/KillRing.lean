/-
  Helper lemmas for property C06 (kill ring): the well-formedness invariant of `KillRing` and its
  preservation by every ring operation, the exact results of `kill` / `yank` / `yankPop` under the
  invariant, the text a kill sequence has accumulated (`accOf`), and the abstract "directional kill run"
  used by `C06_accumulate`.
-/
import Rl.KillRing
import Rl.LineBuffer

/-- the slot index one yank-pop moves to (one step back, wrapping to the last slot) -/
def cyc (len i : Nat) : Nat := if i == 0 then len - 1 else i - 1

theorem cyc_lt {len i : Nat} (h : i < len) : cyc len i < len := by
  unfold cyc; split <;> omega

namespace Rl
namespace KillRing

/-- The invariant of the ring: slots within capacity; the index addresses a slot when the ring is
    non-empty and is 0 while it is empty; `lastAction = kill` only with a non-empty ring
    (when `cap > 0`). -/
structure WF (k : KillRing) : Prop where
  len_le : k.slots.length ≤ k.cap
  idx_lt : k.slots ≠ [] → k.index < k.slots.length
  idx_zero : k.slots = [] → k.index = 0
  kill_ne : k.lastAction = .kill → 0 < k.cap → k.slots ≠ []
  /-- `yankIndex`, the slot `yank` reads and `yank_pop` rotates, addresses a slot (`index` is the slot kills write) -/
  yidx_lt : k.slots ≠ [] → k.yankIndex < k.slots.length
  /-- a kill ends the rotation of yank-pop: during a kill sequence yank reads the slot being written -/
  kill_yidx : k.lastAction = .kill → 0 < k.cap → k.yankIndex = k.index

theorem wf_new (n : Nat) : WF (new n) :=
  ⟨Nat.zero_le n, fun h => absurd rfl h, fun _ => rfl, nofun, fun h => absurd rfl h, nofun⟩

theorem wf_setAction {k : KillRing} (h : WF k) (a : KAction) (ha : a ≠ .kill) : WF { k with lastAction := a } :=
  ⟨h.len_le, h.idx_lt, h.idx_zero, fun e => absurd e ha, h.yidx_lt, fun e => absurd e ha⟩

theorem wf_reset {k : KillRing} (h : WF k) : WF k.reset := wf_setAction h .other nofun

theorem wf_startKilling {k : KillRing} (h : WF k) : WF k.startKilling :=
  ⟨h.len_le, h.idx_lt, h.idx_zero, h.kill_ne, h.yidx_lt, h.kill_yidx⟩

theorem wf_stopKilling {k : KillRing} (h : WF k) : WF k.stopKilling :=
  ⟨h.len_le, h.idx_lt, h.idx_zero, h.kill_ne, h.yidx_lt, h.kill_yidx⟩

/-- the slot index a fresh kill goes to (`kill` from a non-kill last action) -/
def nextIdx (k : KillRing) : Nat :=
  if k.index == k.cap - 1 then 0 else if !k.slots.isEmpty then k.index + 1 else k.index

theorem nextIdx_nil {k : KillRing} (he : k.slots = []) (h0 : k.index = 0) : nextIdx k = 0 := by
  unfold nextIdx; rw [he, h0]; split <;> rfl

theorem nextIdx_cons {k : KillRing} (he : k.slots ≠ []) :
    nextIdx k = if k.index = k.cap - 1 then 0 else k.index + 1 := by
  have hne : k.slots.isEmpty = false := by cases hs : k.slots with
    | nil => exact absurd hs he
    | cons _ _ => rfl
  unfold nextIdx
  simp only [hne, Bool.not_false, if_true, beq_iff_eq]

theorem nextIdx_le {k : KillRing} (h : WF k) (hc : 0 < k.cap) :
    nextIdx k ≤ k.slots.length ∧ (nextIdx k = k.slots.length → k.slots.length < k.cap) := by
  by_cases he : k.slots = []
  · rw [nextIdx_nil he (h.idx_zero he), he]
    exact ⟨Nat.le_refl _, fun _ => hc⟩
  · have hl := h.idx_lt he
    have hlen := h.len_le
    rw [nextIdx_cons he]
    split <;> constructor <;> omega

theorem nextIdx_push {k : KillRing} (h : WF k) (hfull : k.slots.length < k.cap)
    (hfill : k.slots ≠ [] → k.index + 1 = k.slots.length) : nextIdx k = k.slots.length := by
  by_cases he : k.slots = []
  · rw [nextIdx_nil he (h.idx_zero he), he]; rfl
  · have hf := hfill he
    rw [nextIdx_cons he, if_neg (by omega)]; exact hf

theorem nextIdx_full {k : KillRing} (he : k.slots ≠ []) (hlen : k.slots.length = k.cap) :
    nextIdx k = if k.index + 1 = k.slots.length then 0 else k.index + 1 := by
  have : 0 < k.slots.length := List.length_pos_iff.mpr he
  rw [nextIdx_cons he]
  by_cases hw : k.index = k.cap - 1
  · rw [if_pos hw, if_pos (by omega)]
  · rw [if_neg hw, if_neg (by omega)]

/-- what a continued kill stores in the current slot -/
def mergeSlot (dir : KMode) (s text : Text) : Text :=
  match dir with | .append => s ++ text | .prepend => text ++ s

theorem mergeSlot_nil (m : KMode) (x : Text) : mergeSlot m [] x = x := by
  cases m
  · rfl
  · exact List.append_nil x

theorem kill_cap0 {k : KillRing} (hc : k.cap = 0) (text : Text) (dir : KMode) :
    k.kill text dir = .ok { k with lastAction := .kill } := by
  obtain ⟨sl, i, y, la, kg, cap⟩ := k
  cases hc
  cases la <;> rfl

theorem kill_cont_eq {k : KillRing} (hk : k.lastAction = .kill) (hc : k.cap ≠ 0) (text : Text) (dir : KMode) :
    k.kill text dir = match k.slots[k.index]? with
      | none => .error .panic
      | some s => .ok { k with slots := k.slots.set k.index (mergeSlot dir s text) } := by
  have hc' : (k.cap == 0) = false := beq_false_of_ne hc
  simp only [kill, hk, beq_self_eq_true, if_true, hc', Bool.false_eq_true, if_false, mergeSlot]
  cases k.slots[k.index]? <;> cases dir <;> rfl

/-- the ring after a kill that opens a slot -/
def fresh (k : KillRing) (t : Text) : KillRing :=
  { k with lastAction := .kill, index := nextIdx k, yankIndex := nextIdx k,
           slots := if nextIdx k = k.slots.length then k.slots ++ [t] else k.slots.set (nextIdx k) t }

theorem kill_fresh_eq {k : KillRing} (hk : k.lastAction ≠ .kill) (hc : k.cap ≠ 0) (t : Text) (d : KMode) :
    k.kill t d = if nextIdx k ≤ k.slots.length then .ok (fresh k t) else .error .panic := by
  have hb : (k.lastAction == KAction.kill) = false := beq_false_of_ne hk
  have hc' : (k.cap == 0) = false := beq_false_of_ne hc
  simp only [kill, hb, Bool.false_eq_true, if_false, hc']
  show (if (nextIdx k == k.slots.length) = true then _ else if nextIdx k < k.slots.length then _ else _) = _
  by_cases h1 : nextIdx k = k.slots.length
  · rw [if_pos (beq_iff_eq.mpr h1), if_pos (Nat.le_of_eq h1)]
    unfold fresh; rw [if_pos h1]; rfl
  · rw [if_neg (fun h => h1 (beq_iff_eq.mp h))]
    unfold fresh; rw [if_neg h1]
    by_cases h2 : nextIdx k < k.slots.length
    · rw [if_pos h2, if_pos (Nat.le_of_lt h2)]; rfl
    · rw [if_neg h2, if_neg (by omega)]

theorem kill_ok_fields {k k' : KillRing} {t : Text} {d : KMode} (h : k.kill t d = .ok k') :
    k'.lastAction = .kill ∧ k'.killing = k.killing ∧ k'.cap = k.cap := by
  by_cases hc : k.cap = 0
  · rw [kill_cap0 hc] at h; cases h; exact ⟨rfl, rfl, rfl⟩
  by_cases hk : k.lastAction = .kill
  · rw [kill_cont_eq hk hc] at h
    split at h
    · cases h
    · cases h; exact ⟨hk, rfl, rfl⟩
  · rw [kill_fresh_eq hk hc] at h
    split at h
    · cases h; exact ⟨rfl, rfl, rfl⟩
    · cases h

theorem fresh_bounds {k : KillRing} (h : WF k) (hc : 0 < k.cap) (t : Text) :
    nextIdx k < (fresh k t).slots.length ∧ (fresh k t).slots.length ≤ k.cap ∧
      (fresh k t).slots[nextIdx k]? = some t := by
  obtain ⟨h1, h2⟩ := nextIdx_le h hc
  have hlen := h.len_le
  unfold fresh
  by_cases he : nextIdx k = k.slots.length
  · simp only [if_pos he, List.length_append, List.length_cons, List.length_nil]
    refine ⟨by omega, by have := h2 he; omega, ?_⟩
    rw [he, List.getElem?_append_right (Nat.le_refl _), Nat.sub_self]; rfl
  · have hlt : nextIdx k < k.slots.length := by omega
    simp only [if_neg he, List.length_set]
    exact ⟨hlt, hlen, List.getElem?_set_self hlt⟩

theorem wf_fresh {k : KillRing} (h : WF k) (hc : 0 < k.cap) (t : Text) : WF (fresh k t) := by
  obtain ⟨hlt, hle, _⟩ := fresh_bounds h hc t
  have hne : (fresh k t).slots ≠ [] := fun h0 => by rw [h0] at hlt; exact Nat.not_lt_zero _ hlt
  exact ⟨hle, fun _ => hlt, fun h0 => absurd h0 hne, fun _ _ => hne, fun _ => hlt, fun _ _ => rfl⟩

theorem kill_cont {k : KillRing} (h : WF k) (hk : k.lastAction = .kill) (hc : 0 < k.cap)
    (text : Text) (dir : KMode) :
    ∃ s, k.slots[k.index]? = some s ∧
      k.kill text dir = .ok { k with slots := k.slots.set k.index (mergeSlot dir s text) } ∧
      WF { k with slots := k.slots.set k.index (mergeSlot dir s text) } := by
  have hne := h.kill_ne hk hc
  have hl := h.idx_lt hne
  have hget : k.slots[k.index]? = some k.slots[k.index] := List.getElem?_eq_getElem hl
  have hne' : ∀ s, k.slots.set k.index s ≠ [] := fun s h0 => hne ((List.set_eq_nil_iff _ _).mp h0)
  refine ⟨_, hget, ?_, ?_⟩
  · rw [kill_cont_eq hk (Nat.ne_of_gt hc), hget]
  · exact ⟨by rw [List.length_set]; exact h.len_le, fun _ => by rw [List.length_set]; exact hl,
      fun h0 => absurd h0 (hne' _), fun _ _ => hne' _, fun _ => by rw [List.length_set]; exact h.yidx_lt hne,
      h.kill_yidx⟩

theorem kill_fresh {k : KillRing} (h : WF k) (hk : k.lastAction ≠ .kill) (hc : 0 < k.cap)
    (text : Text) (dir : KMode) : k.kill text dir = .ok (fresh k text) := by
  rw [kill_fresh_eq hk (Nat.ne_of_gt hc), if_pos (nextIdx_le h hc).1]

/-- a disabled ring holds nothing, so the last action is unconstrained -/
theorem wf_cap0 {k : KillRing} (h : WF k) (hc : k.cap = 0) (a : KAction) : WF { k with lastAction := a } :=
  have hn : ¬ 0 < k.cap := hc ▸ Nat.lt_irrefl 0
  ⟨h.len_le, h.idx_lt, h.idx_zero, fun _ h0 => absurd h0 hn, h.yidx_lt, fun _ h0 => absurd h0 hn⟩

/-- the text the running kill sequence has accumulated: the current slot while the last action is a
    kill, nothing otherwise (the next kill opens a slot of its own) -/
def accOf (k : KillRing) : Text :=
  if k.lastAction = .kill then (k.slots[k.index]?).getD [] else []

/-- where a deleted text goes relative to what has been accumulated: behind it (forward), before it
    (backward), or around it (`delete_around`: the part left of the cursor before, the rest behind) -/
def accDel (acc t : Text) : Direction → Text
  | .forward => acc ++ t
  | .backward => t ++ acc
  | .around n => (cutBytes t n).1 ++ acc ++ (cutBytes t n).2

theorem slot_accOf {k : KillRing} (h : WF k) (hc : 0 < k.cap) (hk : k.lastAction = .kill) :
    k.slots[k.index]? = some (accOf k) ∧ k.yankIndex = k.index := by
  have hl := h.idx_lt (h.kill_ne hk hc)
  refine ⟨?_, h.kill_yidx hk hc⟩
  unfold accOf
  rw [if_pos hk, List.getElem?_eq_getElem hl]; rfl

theorem kill_acc {k : KillRing} (h : WF k) (hc : 0 < k.cap) (text : Text) (dir : KMode) :
    ∃ k', k.kill text dir = .ok k' ∧ WF k' ∧ k'.cap = k.cap ∧ k'.killing = k.killing ∧
      k'.lastAction = .kill ∧ accOf k' = mergeSlot dir (accOf k) text := by
  by_cases hk : k.lastAction = .kill
  · obtain ⟨s, hs, he, hw⟩ := kill_cont h hk hc text dir
    have hs' : s = accOf k := Option.some.inj (hs.symm.trans (slot_accOf h hc hk).1)
    refine ⟨_, he, hw, rfl, rfl, hk, ?_⟩
    rw [← hs']
    exact Option.some.inj ((slot_accOf hw hc hk).1.symm.trans (List.getElem?_set_self (h.idx_lt (h.kill_ne hk hc))))
  · refine ⟨_, kill_fresh h hk hc text dir, wf_fresh h hc text, rfl, rfl, rfl, ?_⟩
    have h0 : accOf k = [] := if_neg hk
    rw [h0, mergeSlot_nil]
    exact Option.some.inj ((slot_accOf (wf_fresh h hc text) hc rfl).1.symm.trans (fresh_bounds h hc text).2.2)

theorem wf_kill {k : KillRing} (h : WF k) (text : Text) (dir : KMode) :
    ∃ k', k.kill text dir = .ok k' ∧ WF k' ∧ k'.cap = k.cap ∧ k'.killing = k.killing := by
  by_cases hc : k.cap = 0
  · exact ⟨_, kill_cap0 hc text dir, wf_cap0 h hc _, rfl, rfl⟩
  · obtain ⟨k', he, hw, hcap, hkl, _⟩ := kill_acc h (Nat.pos_of_ne_zero hc) text dir
    exact ⟨k', he, hw, hcap, hkl⟩

theorem yank_ok {k : KillRing} (h : WF k) :
    (k.slots = [] ∧ k.yank = .ok (k, none)) ∨
    (∃ s, k.slots[k.yankIndex]? = some s ∧ k.yank = .ok ({ k with lastAction := .yank (blen s) }, some s)) := by
  by_cases he : k.slots = []
  · left; simp [yank, he]
  · right
    have hl := h.yidx_lt he
    have hget : k.slots[k.yankIndex]? = some k.slots[k.yankIndex] := List.getElem?_eq_getElem hl
    refine ⟨_, hget, ?_⟩
    have : k.slots.isEmpty = false := by simpa using he
    simp only [yank, this, Bool.false_eq_true, if_false, hget]

theorem yank_cases {k k' : KillRing} {o : Option Text} (h : k.yank = .ok (k', o)) :
    (k' = k ∧ o = none) ∨ ∃ t, o = some t ∧ k' = { k with lastAction := .yank (blen t) } := by
  unfold yank at h
  split at h
  · cases h; exact Or.inl ⟨rfl, rfl⟩
  · split at h
    · cases h
    · cases h; exact Or.inr ⟨_, rfl, rfl⟩

theorem wf_yank {k : KillRing} (h : WF k) :
    ∃ k' r, k.yank = .ok (k', r) ∧ WF k' ∧ k'.cap = k.cap ∧ k'.slots = k.slots := by
  rcases yank_ok h with ⟨_, he⟩ | ⟨s, _, he⟩
  · exact ⟨_, _, he, h, rfl, rfl⟩
  · exact ⟨_, _, he, wf_setAction h _ nofun, rfl, rfl⟩

theorem yank_acc {k : KillRing} (h : WF k) (hc : 0 < k.cap) (hk : k.lastAction = .kill) :
    ∃ k2, k.yank = .ok (k2, some (accOf k)) ∧ k2.lastAction = .yank (blen (accOf k)) ∧
      k2.slots = k.slots ∧ k2.index = k.index := by
  obtain ⟨hs, hy⟩ := slot_accOf h hc hk
  rcases yank_ok h with ⟨h0, _⟩ | ⟨s, hs', he⟩
  · exact absurd h0 (h.kill_ne hk hc)
  · rw [hy, hs] at hs'; cases hs'
    exact ⟨_, he, rfl, rfl, rfl⟩

/-- the slot index `yankPop` moves to (`cyc k.slots.length k.yankIndex`, by `rfl`) -/
def prevIdx (k : KillRing) : Nat := if k.yankIndex == 0 then k.slots.length - 1 else k.yankIndex - 1

theorem prevIdx_lt {k : KillRing} (h : WF k) (he : k.slots ≠ []) : prevIdx k < k.slots.length :=
  cyc_lt (h.yidx_lt he)

theorem wf_popped {k : KillRing} (h : WF k) (he : k.slots ≠ []) (n : Nat) :
    WF { k with yankIndex := prevIdx k, lastAction := .yank n } :=
  ⟨h.len_le, h.idx_lt, h.idx_zero, nofun, fun _ => prevIdx_lt h he, nofun⟩

theorem yankPop_ok {k : KillRing} (h : WF k) (size : Nat) (hy : k.lastAction = .yank size)
    (he : k.slots ≠ []) :
    ∃ s, k.slots[prevIdx k]? = some s ∧
      k.yankPop = .ok ({ k with yankIndex := prevIdx k, lastAction := .yank (blen s) }, some (size, s)) := by
  have hl := prevIdx_lt h he
  have hget : k.slots[prevIdx k]? = some k.slots[prevIdx k] := List.getElem?_eq_getElem hl
  refine ⟨_, hget, ?_⟩
  have : k.slots.isEmpty = false := by simpa using he
  unfold prevIdx at hget
  simp only [yankPop, hy, this, Bool.false_eq_true, if_false, hget]
  rfl

theorem yankPop_cases {k k' : KillRing} {o : Option (Nat × Text)} (h : k.yankPop = .ok (k', o)) :
    (k' = k ∧ o = none) ∨ ∃ size t, k.lastAction = .yank size ∧ o = some (size, t) ∧
      k' = { k with yankIndex := prevIdx k, lastAction := .yank (blen t) } := by
  unfold yankPop at h
  simp only [show (if k.yankIndex == 0 then k.slots.length - 1 else k.yankIndex - 1) = prevIdx k from rfl] at h
  split at h
  · rename_i size hla
    split at h
    · cases h; exact Or.inl ⟨rfl, rfl⟩
    · split at h
      · cases h
      · cases h; exact Or.inr ⟨size, _, hla, rfl, rfl⟩
  · cases h; exact Or.inl ⟨rfl, rfl⟩

theorem wf_yankPop {k : KillRing} (h : WF k) :
    ∃ k' r, k.yankPop = .ok (k', r) ∧ WF k' ∧ k'.cap = k.cap ∧ k'.slots = k.slots := by
  cases hy : k.lastAction with
  | kill => exact ⟨k, none, by simp [yankPop, hy], h, rfl, rfl⟩
  | other => exact ⟨k, none, by simp [yankPop, hy], h, rfl, rfl⟩
  | yank size =>
    by_cases he : k.slots = []
    · exact ⟨k, none, by simp [yankPop, hy, he], h, rfl, rfl⟩
    · obtain ⟨s, _, hp⟩ := yankPop_ok h size hy he
      exact ⟨_, _, hp, wf_popped h he _, rfl, rfl⟩

/-- a kill that skips an empty text (`delete_around` reports its two halves this way) -/
def killNE (k : KillRing) (x : Text) (m : KMode) : Except Panic KillRing :=
  if x.isEmpty then .ok k else k.kill x m

theorem killNE_of_ne {k : KillRing} {x : Text} (hx : x ≠ []) (m : KMode) : k.killNE x m = k.kill x m :=
  if_neg (fun he => hx (List.isEmpty_iff.mp he))

theorem onDelete_off {k : KillRing} (h : k.killing = false) (t : Text) (d : Direction) : k.onDelete t d = .ok k := by
  simp only [onDelete, h, Bool.not_false, if_true]

theorem onDelete_on {k : KillRing} (h : k.killing = true) (t : Text) (d : Direction) :
    k.onDelete t d =
      match d with
      | .forward => k.kill t .append
      | .backward => k.kill t .prepend
      | .around n =>
        match k.killNE (cutBytes t n).1 .prepend with
        | .error e => .error e
        | .ok k1 => k1.killNE (cutBytes t n).2 .append := by
  simp only [onDelete, h, Bool.not_true, Bool.false_eq_true, if_false]
  cases d <;> rfl

theorem wf_killNE {k : KillRing} (h : WF k) (x : Text) (m : KMode) :
    ∃ k', k.killNE x m = .ok k' ∧ WF k' ∧ k'.cap = k.cap ∧ k'.killing = k.killing := by
  unfold killNE
  split
  · exact ⟨k, rfl, h, rfl, rfl⟩
  · exact wf_kill h x m

theorem killNE_acc {k : KillRing} (h : WF k) (hc : 0 < k.cap) (x : Text) (m : KMode) :
    ∃ k', k.killNE x m = .ok k' ∧ WF k' ∧ k'.cap = k.cap ∧ k'.killing = k.killing ∧
      accOf k' = mergeSlot m (accOf k) x := by
  unfold killNE
  split
  · rename_i he
    rw [List.isEmpty_iff.mp he]
    exact ⟨k, rfl, h, rfl, rfl, by cases m <;> simp only [mergeSlot, List.append_nil, List.nil_append]⟩
  · obtain ⟨k', he, hw, hcap, hkl, _, ha⟩ := kill_acc h hc x m
    exact ⟨k', he, hw, hcap, hkl, ha⟩

theorem killNE_fields {k k' : KillRing} {x : Text} {m : KMode} (h : k.killNE x m = .ok k') :
    k'.killing = k.killing ∧ (k'.lastAction = k.lastAction ∨ k'.lastAction = .kill) ∧
      (x ≠ [] → k'.lastAction = .kill) := by
  unfold killNE at h
  split at h
  · rename_i he
    cases h
    exact ⟨rfl, Or.inl rfl, fun hx => absurd (List.isEmpty_iff.mp he) hx⟩
  · obtain ⟨hl, hk, _⟩ := kill_ok_fields h
    exact ⟨hk, Or.inr hl, fun _ => hl⟩

theorem cutBytes_parts (t : Text) (n : Nat) : (cutBytes t n).1 ++ (cutBytes t n).2 = t := by
  induction t generalizing n with
  | nil => rfl
  | cons c t ih =>
    unfold cutBytes
    split
    · rfl
    · exact congrArg (c :: ·) (ih _)

theorem onDelete_fields {k k' : KillRing} {t : Text} {d : Direction} (h : k.onDelete t d = .ok k') :
    k'.killing = k.killing ∧ (k'.lastAction = k.lastAction ∨ k'.lastAction = .kill) ∧
      (k.killing = true → (∀ n, d = .around n → t ≠ []) → k'.lastAction = .kill) := by
  cases hk : k.killing with
  | false =>
    rw [onDelete_off hk] at h; cases h
    exact ⟨hk, Or.inl rfl, nofun⟩
  | true =>
    rw [onDelete_on hk] at h
    have one : ∀ {m}, k.kill t m = .ok k' → k'.killing = true ∧
        (k'.lastAction = k.lastAction ∨ k'.lastAction = .kill) ∧
        (true = true → (∀ n, d = .around n → t ≠ []) → k'.lastAction = .kill) := fun h =>
      ⟨(kill_ok_fields h).2.1.trans hk, Or.inr (kill_ok_fields h).1, fun _ _ => (kill_ok_fields h).1⟩
    cases d with
    | forward => exact one h
    | backward => exact one h
    | around n =>
      simp only [] at h
      cases h1 : k.killNE (cutBytes t n).1 .prepend with
      | error e => rw [h1] at h; cases h
      | ok k1 =>
        rw [h1] at h
        obtain ⟨a1, b1, c1⟩ := killNE_fields h1
        obtain ⟨a2, b2, c2⟩ := killNE_fields h
        have hkill : k1.lastAction = .kill → k'.lastAction = .kill := fun e => b2.elim (·.trans e) id
        refine ⟨a2.trans (a1.trans hk), ?_, fun _ hne => ?_⟩
        · exact b1.elim (fun e => b2.imp_left (·.trans e)) (fun e => Or.inr (hkill e))
        · by_cases h2 : (cutBytes t n).2 = []
          · refine hkill (c1 fun h0 => hne n rfl ?_)
            rw [← cutBytes_parts t n, h0, h2]; rfl
          · exact c2 h2

theorem wf_onDelete {k : KillRing} (h : WF k) (text : Text) (dir : Direction) :
    ∃ k', k.onDelete text dir = .ok k' ∧ WF k' ∧ k'.cap = k.cap := by
  cases hk : k.killing with
  | false => exact ⟨k, onDelete_off hk text dir, h, rfl⟩
  | true =>
    rw [onDelete_on hk]
    cases dir with
    | forward => obtain ⟨k', he, hw, hc, _⟩ := wf_kill h text .append; exact ⟨k', he, hw, hc⟩
    | backward => obtain ⟨k', he, hw, hc, _⟩ := wf_kill h text .prepend; exact ⟨k', he, hw, hc⟩
    | around n =>
      obtain ⟨k1, he1, hw1, hc1, _⟩ := wf_killNE h (cutBytes text n).1 .prepend
      obtain ⟨k2, he2, hw2, hc2, _⟩ := wf_killNE hw1 (cutBytes text n).2 .append
      refine ⟨k2, ?_, hw2, hc2.trans hc1⟩
      simp only [he1]; exact he2

theorem onDelete_acc {k : KillRing} (h : WF k) (hc : 0 < k.cap) (hk : k.killing = true) (t : Text) (d : Direction) :
    ∃ k', k.onDelete t d = .ok k' ∧ WF k' ∧ k'.cap = k.cap ∧ k'.killing = true ∧
      accOf k' = accDel (accOf k) t d := by
  rw [onDelete_on hk]
  cases d with
  | forward =>
    obtain ⟨k', he, hw, hcap, hkl, _, ha⟩ := kill_acc h hc t .append
    exact ⟨k', he, hw, hcap, hkl.trans hk, ha⟩
  | backward =>
    obtain ⟨k', he, hw, hcap, hkl, _, ha⟩ := kill_acc h hc t .prepend
    exact ⟨k', he, hw, hcap, hkl.trans hk, ha⟩
  | around n =>
    obtain ⟨k1, he1, hw1, hc1, hk1, ha1⟩ := killNE_acc h hc (cutBytes t n).1 .prepend
    obtain ⟨k2, he2, hw2, hc2, hk2, ha2⟩ := killNE_acc hw1 (hc1 ▸ hc) (cutBytes t n).2 .append
    refine ⟨k2, ?_, hw2, hc2.trans hc1, hk2.trans (hk1.trans hk), ?_⟩
    · simp only [he1]; exact he2
    · rw [ha2, ha1]; rfl

end KillRing

end Rl

/-! Vocabulary of the C06 statements: sequences of ring operations (`KOp`, `runOps`), directional
    kill runs (`DKill`, `dkRun`, `AccInv`) and series of yank-pops (`cycN`, `popN`, `popSpec`).  They
    are declared outside `Rl.KillRing`, like `cyc` above, and the C06 statements name them so. -/
open Rl Rl.KillRing

/-- one operation on the ring, as the editor issues them -/
inductive KOp
  | kill (text : Text) (dir : KMode)
  | yank | yankPop | reset
  | onDelete (text : Text) (dir : Direction)
  | startKilling | stopKilling
deriving DecidableEq, Repr

def KOp.run (k : KillRing) : KOp → Except Panic KillRing
  | .kill t d => k.kill t d
  | .yank => match k.yank with | .ok (k', _) => .ok k' | .error e => .error e
  | .yankPop => match k.yankPop with | .ok (k', _) => .ok k' | .error e => .error e
  | .reset => .ok k.reset
  | .onDelete t d => k.onDelete t d
  | .startKilling => .ok k.startKilling
  | .stopKilling => .ok k.stopKilling

def runOps : KillRing → List KOp → Except Panic KillRing
  | k, [] => .ok k
  | k, op :: ops => match op.run k with | .ok k' => runOps k' ops | .error e => .error e

theorem KOp.run_wf {k : KillRing} (h : WF k) (op : KOp) : ∃ k', op.run k = .ok k' ∧ WF k' ∧ k'.cap = k.cap := by
  cases op with
  | kill t d => obtain ⟨k', he, hw, hc, _⟩ := wf_kill h t d; exact ⟨k', he, hw, hc⟩
  | yank => obtain ⟨k', r, he, hw, hc, _⟩ := wf_yank h; exact ⟨k', by simp [KOp.run, he], hw, hc⟩
  | yankPop => obtain ⟨k', r, he, hw, hc, _⟩ := wf_yankPop h; exact ⟨k', by simp [KOp.run, he], hw, hc⟩
  | reset => exact ⟨_, rfl, wf_reset h, rfl⟩
  | onDelete t d => exact wf_onDelete h t d
  | startKilling => exact ⟨_, rfl, wf_startKilling h, rfl⟩
  | stopKilling => exact ⟨_, rfl, wf_stopKilling h, rfl⟩

theorem runOps_wf {k : KillRing} (h : WF k) (ops : List KOp) : ∃ k', runOps k ops = .ok k' ∧ WF k' ∧ k'.cap = k.cap := by
  induction ops generalizing k with
  | nil => exact ⟨k, rfl, h, rfl⟩
  | cons op ops ih =>
    obtain ⟨k1, he, hw, hc⟩ := KOp.run_wf h op
    obtain ⟨k2, he2, hw2, hc2⟩ := ih hw
    exact ⟨k2, by simp [runOps, he, he2], hw2, by omega⟩

/-- A directional kill, abstractly: the line is `L ++ R` with the cursor between `L` and `R`;
    a forward kill removes `x` from the front of `R`, a backward kill removes `x` from the end of `L`. -/
inductive DKill | fwd (x : Text) | bwd (x : Text)
deriving DecidableEq, Repr

/-- One directional kill on (text left of the cursor, text right of the cursor, ring); the ring is
    told `Append` for a forward and `Prepend` for a backward kill, as `DeleteListener::delete` does
    (`KillRing.onDelete` with `killing = true`). `none` when `x` is not adjacent to the cursor. -/
def dkStep (s : Text × Text × KillRing) : DKill → Option (Text × Text × KillRing)
  | .fwd x =>
    if x.isPrefixOf s.2.1 then
      match s.2.2.kill x .append with
      | .ok k' => some (s.1, s.2.1.drop x.length, k')
      | .error _ => none
    else none
  | .bwd x =>
    if x.isSuffixOf s.1 then
      match s.2.2.kill x .prepend with
      | .ok k' => some (s.1.take (s.1.length - x.length), s.2.1, k')
      | .error _ => none
    else none

def dkRun (s : Text × Text × KillRing) : List DKill → Option (Text × Text × KillRing)
  | [] => some s
  | d :: ds => match dkStep s d with | some s' => dkRun s' ds | none => none

/-- invariant of a run of kills: the current slot is what is missing from `T0` at the cursor -/
def AccInv (T0 : Text) (s : Text × Text × KillRing) : Prop :=
  WF s.2.2 ∧ s.2.2.lastAction = .kill ∧ 0 < s.2.2.cap ∧
  ∃ slot, s.2.2.slots[s.2.2.index]? = some slot ∧ T0 = s.1 ++ slot ++ s.2.1

theorem dkStep_kill {s s' : Text × Text × KillRing} {d : DKill} (h : dkStep s d = some s') :
    ∃ x m, s.2.2.kill x m = .ok s'.2.2 ∧ ∀ acc, s'.1 ++ mergeSlot m acc x ++ s'.2.1 = s.1 ++ acc ++ s.2.1 := by
  cases d with
  | fwd x =>
    simp only [dkStep] at h
    split at h
    · rename_i hp
      cases hk : s.2.2.kill x .append with
      | error e => rw [hk] at h; cases h
      | ok k' =>
        rw [hk] at h; cases h
        obtain ⟨t, ht⟩ := List.isPrefixOf_iff_prefix.mp hp
        refine ⟨x, .append, hk, fun acc => ?_⟩
        show s.1 ++ (acc ++ x) ++ s.2.1.drop x.length = _
        rw [← ht, List.drop_left, List.append_assoc, List.append_assoc, List.append_assoc]
    · cases h
  | bwd x =>
    simp only [dkStep] at h
    split at h
    · rename_i hp
      cases hk : s.2.2.kill x .prepend with
      | error e => rw [hk] at h; cases h
      | ok k' =>
        rw [hk] at h; cases h
        obtain ⟨t, ht⟩ := List.isSuffixOf_iff_suffix.mp hp
        refine ⟨x, .prepend, hk, fun acc => ?_⟩
        show s.1.take (s.1.length - x.length) ++ (x ++ acc) ++ s.2.1 = _
        rw [← ht, List.length_append, Nat.add_sub_cancel, List.take_left, List.append_assoc, List.append_assoc,
          List.append_assoc, List.append_assoc]
    · cases h

theorem accInv_step {T0 : Text} {s s' : Text × Text × KillRing} {d : DKill}
    (hi : AccInv T0 s) (h : dkStep s d = some s') : AccInv T0 s' := by
  obtain ⟨x, m, hkill, hT'⟩ := dkStep_kill h
  obtain ⟨hw, hk, hc, slot, hs, hT⟩ := hi
  obtain ⟨s0, hs0, he, hw1⟩ := kill_cont hw hk hc x m
  rw [hs] at hs0; cases hs0
  have he : s'.2.2 = _ := Except.ok.inj (hkill.symm.trans he)
  unfold AccInv
  rw [he]
  exact ⟨hw1, hk, hc, mergeSlot m slot x, List.getElem?_set_self (hw.idx_lt (hw.kill_ne hk hc)),
    hT.trans (hT' slot).symm⟩

theorem accInv_run {T0 : Text} {s s' : Text × Text × KillRing} {ds : List DKill}
    (hi : AccInv T0 s) (h : dkRun s ds = some s') : AccInv T0 s' := by
  induction ds generalizing s with
  | nil => simp only [dkRun, Option.some.injEq] at h; exact h ▸ hi
  | cons d ds ih =>
    simp only [dkRun] at h
    split at h
    · rename_i s1 h1; exact ih (accInv_step hi h1) h
    · cases h

theorem accInv_first {L R : Text} {k : KillRing} {s' : Text × Text × KillRing} {d : DKill}
    (hw : WF k) (hk : k.lastAction ≠ .kill) (hc : 0 < k.cap)
    (h : dkStep (L, R, k) d = some s') : AccInv (L ++ R) s' := by
  obtain ⟨x, m, hkill, hT'⟩ := dkStep_kill h
  have he : s'.2.2 = fresh k x := Except.ok.inj (hkill.symm.trans (kill_fresh hw hk hc x m))
  unfold AccInv
  rw [he]
  refine ⟨wf_fresh hw hc x, rfl, hc, x, (fresh_bounds hw hc x).2.2, ?_⟩
  have := hT' []
  rw [mergeSlot_nil, List.append_nil] at this
  exact this.symm

def cycN (len i : Nat) : Nat → Nat
  | 0 => i
  | j + 1 => cyc len (cycN len i j)

theorem cycN_lt {len i : Nat} (h : i < len) (j : Nat) : cycN len i j < len := by
  induction j with
  | zero => exact h
  | succ j ih => exact cyc_lt ih

theorem cyc_succ_mod {len i : Nat} (h : i < len) : (cyc len i + 1) % len = i := by
  unfold cyc
  split
  · rename_i h0
    have h0 : i = 0 := by simpa using h0
    subst h0
    have : len - 1 + 1 = len := by omega
    rw [this]; simp
  · rename_i h0
    have h0 : i ≠ 0 := by simpa using h0
    have : i - 1 + 1 = i := by omega
    rw [this]; exact Nat.mod_eq_of_lt h

theorem cycN_cyc (len i j : Nat) : cycN len (cyc len i) j = cycN len i (j + 1) := by
  induction j with
  | zero => rfl
  | succ j ih => exact congrArg (cyc len) ih

theorem cycN_add_mod {len i : Nat} (h : i < len) (j : Nat) : (cycN len i j + j) % len = i := by
  induction j with
  | zero => exact Nat.mod_eq_of_lt h
  | succ j ih =>
    have hl := cycN_lt h j
    show (cyc len (cycN len i j) + (j + 1)) % len = i
    have : cyc len (cycN len i j) + (j + 1) = (cyc len (cycN len i j) + 1) + j := by omega
    rw [this, ← Nat.mod_add_mod, cyc_succ_mod hl]; exact ih

/-- `j` consecutive yank-pops: final ring and the (size to replace, text to insert) of each -/
def popN : Nat → KillRing → Except Panic (KillRing × List (Option (Nat × Text)))
  | 0, k => .ok (k, [])
  | j + 1, k =>
    match k.yankPop with
    | .error e => .error e
    | .ok (k', r) =>
      match popN j k' with
      | .error e => .error e
      | .ok (k'', rs) => .ok (k'', r :: rs)

/-- what the `i`-th of a series of yank-pops must answer, given the slots, the index at the yank
    and the size yanked: replace the previous insertion (its byte length) by the slot one further back -/
def popSpec (slots : List Text) (idx : Nat) : Nat → Nat → List (Option (Nat × Text))
  | _, 0 => []
  | size, j + 1 =>
    let s := slots.getD (cyc slots.length idx) []
    some (size, s) :: popSpec slots (cyc slots.length idx) (blen s) j

theorem popSpec_mem {slots : List Text} {i : Nat} (hi : i < slots.length) (size j : Nat) :
    ∀ r ∈ popSpec slots i size j, ∃ sz t, r = some (sz, t) ∧ t ∈ slots := by
  induction j generalizing i size with
  | zero => intro r hr; cases hr
  | succ j ih =>
    intro r hr
    have hc := cyc_lt hi
    rcases List.mem_cons.mp hr with rfl | hr
    · refine ⟨size, _, rfl, ?_⟩
      rw [List.getD_eq_getElem?_getD, List.getElem?_eq_getElem hc]
      exact List.getElem_mem hc
    · exact ih hc _ r hr

theorem popN_spec (j : Nat) (k : KillRing) (h : WF k) (size : Nat) (hy : k.lastAction = .yank size)
    (hne : k.slots ≠ []) :
    ∃ k', popN j k = .ok (k', popSpec k.slots k.yankIndex size j) ∧ k'.slots = k.slots ∧
      k'.yankIndex = cycN k.slots.length k.yankIndex j ∧ k'.cap = k.cap ∧ WF k' ∧
      (∃ sz, k'.lastAction = .yank sz) := by
  induction j generalizing k size with
  | zero => exact ⟨k, rfl, rfl, rfl, rfl, h, size, hy⟩
  | succ j ih =>
    obtain ⟨s, hs, hp⟩ := yankPop_ok h size hy hne
    obtain ⟨k', he, hsl, hidx, hcap, hw', hl⟩ := ih _ (wf_popped h hne (blen s)) (blen s) rfl hne
    refine ⟨k', ?_, hsl, ?_, hcap, hw', hl⟩
    · simp only [popN, hp, he, popSpec]
      have : k.slots.getD (cyc k.slots.length k.yankIndex) [] = s := by
        have : cyc k.slots.length k.yankIndex = prevIdx k := rfl
        rw [this, List.getD_eq_getElem?_getD, hs]; rfl
      rw [this]; rfl
    · rw [hidx]; exact cycN_cyc _ _ j

theorem cutBytes_append (b a : Text) : cutBytes (b ++ a) (blen b) = (b, a) := by
  induction b with
  | nil => cases a <;> simp [cutBytes]
  | cons c b ih =>
    have hpos := Char.utf8Size_pos c
    have hne : ¬ (c.utf8Size + blen b = 0) := by omega
    simp only [List.cons_append, blen_cons, cutBytes, hne, if_false, Nat.add_sub_cancel_left, ih]

