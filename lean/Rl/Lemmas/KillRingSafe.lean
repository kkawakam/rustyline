/-
  Bounds invariant of the kill ring (`src/kill_ring.rs`): the index addresses a slot whenever the
  ring is non-empty, the ring never outgrows its capacity, and `lastAction = kill` implies a slot to
  append to (when the capacity is not 0).  Under it `kill`, `yank`, `yank_pop` and the delete
  listener never hit the `slots[index]` panic.
-/
import Rl.KillRing
import Rl.Lemmas.KillRing
namespace Rl

structure RingOK (k : KillRing) : Prop where
  len : k.slots.length ≤ k.cap
  empty : k.slots = [] → k.index = 0
  idx : k.slots ≠ [] → k.index < k.slots.length
  kill : k.lastAction = .kill → k.cap = 0 ∨ k.slots ≠ []
  /-- `yankIndex`, the slot `yank` reads and `yank_pop` rotates, addresses a slot -/
  yidx : k.slots ≠ [] → k.yankIndex < k.slots.length
  /-- during a kill sequence yank reads the slot being written -/
  kyidx : k.lastAction = .kill → 0 < k.cap → k.yankIndex = k.index

/-- `RingOK` is the invariant `KillRing.WF` of `Rl/Lemmas/KillRing.lean` in the shape the editor
    proofs use; the per-operation facts below are the `wf_…` lemmas carried over -/
theorem RingOK.toWF {k : KillRing} (h : RingOK k) : KillRing.WF k :=
  ⟨h.len, h.idx, h.empty, fun hk hc => by
    rcases h.kill hk with h0 | h1
    · omega
    · exact h1, h.yidx, h.kyidx⟩

theorem KillRing.WF.toRingOK {k : KillRing} (h : KillRing.WF k) : RingOK k :=
  ⟨h.len_le, h.idx_zero, h.idx_lt,
   fun hk => by
    by_cases hc : k.cap = 0
    · exact .inl hc
    · exact .inr (h.kill_ne hk (by omega)), h.yidx_lt, h.kill_yidx⟩

theorem RingOK.new (n : Nat) : RingOK (KillRing.new n) := (KillRing.wf_new n).toRingOK

theorem RingOK.reset {k : KillRing} (h : RingOK k) : RingOK k.reset := (KillRing.wf_reset h.toWF).toRingOK

theorem RingOK.startKilling {k : KillRing} (h : RingOK k) : RingOK k.startKilling :=
  (KillRing.wf_startKilling h.toWF).toRingOK

theorem RingOK.stopKilling {k : KillRing} (h : RingOK k) : RingOK k.stopKilling :=
  (KillRing.wf_stopKilling h.toWF).toRingOK

theorem RingOK.kill_ok {k : KillRing} (h : RingOK k) (t : Text) (d : KMode) :
    ∃ k', k.kill t d = .ok k' ∧ RingOK k' := by
  obtain ⟨k', he, hw, _⟩ := KillRing.wf_kill h.toWF t d
  exact ⟨k', he, hw.toRingOK⟩

theorem RingOK.onDelete_ok {k : KillRing} (h : RingOK k) (t : Text) (d : Direction) :
    ∃ k', k.onDelete t d = .ok k' ∧ RingOK k' := by
  obtain ⟨k', he, hw, _⟩ := KillRing.wf_onDelete h.toWF t d
  exact ⟨k', he, hw.toRingOK⟩

theorem RingOK.yank_ok {k : KillRing} (h : RingOK k) : ∃ k' t, k.yank = .ok (k', t) ∧ RingOK k' := by
  obtain ⟨k', r, he, hw, _⟩ := KillRing.wf_yank h.toWF
  exact ⟨k', r, he, hw.toRingOK⟩

theorem RingOK.yankCount {k : KillRing} (h : RingOK k) (n : Nat) : RingOK (k.yankCount n) := by
  unfold KillRing.yankCount
  split
  · exact (KillRing.wf_setAction h.toWF (.yank _) nofun).toRingOK
  · exact h

theorem RingOK.yankPop_ok {k : KillRing} (h : RingOK k) : ∃ k' r, k.yankPop = .ok (k', r) ∧ RingOK k' := by
  obtain ⟨k', r, he, hw, _⟩ := KillRing.wf_yankPop h.toWF
  exact ⟨k', r, he, hw.toRingOK⟩

end Rl
