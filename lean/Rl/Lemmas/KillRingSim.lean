/-
  The reference ring of the property text (C06: "cycling through the most recent kills (at most the
  ring size) and never through anything else") and the simulation between it and the model of
  `src/kill_ring.rs` (`yankIndex`, the position yank-pop rotates, is kept apart from `index`, the
  slot of the most recent kill).  Idea of the simulation `Sim`: read backwards from `index`, with
  wrap-around (`slotOf`), the slots are the kills by recency; while the ring is not full the most
  recent kill is in the last slot (`fill`), so a push always lands on the slot after `index`.
-/
import Rl.Lemmas.KillRing
open Rl Rl.KillRing

/-- reference ring of the property text: the kills, most recent first (at most `cap`), and how far
    yank-pop has rotated; a new kill always becomes the most recent one and ends the rotation -/
structure SRing where
  kills : List Text
  rot : Nat
  last : KAction
  cap : Nat

def SRing.step (r : SRing) : KOp → SRing × Option (Option Text)
  | .kill t d =>
    if r.cap == 0 then ({ r with last := .kill }, none)
    else if r.last == .kill then
      match r.kills with
      | x :: xs => ({ r with kills := mergeSlot d x t :: xs }, none)
      | [] => (r, none)
    else ({ r with kills := (t :: r.kills).take r.cap, rot := 0, last := .kill }, none)
  | .yank =>
    match r.kills[r.rot]? with
    | some x => ({ r with last := .yank (blen x) }, some (some x))
    | none => (r, some none)
  | .yankPop =>
    match r.last with
    | .yank _ =>
      if r.kills.isEmpty then (r, some none)
      else
        let i := (r.rot + 1) % r.kills.length
        match r.kills[i]? with
        | some x => ({ r with rot := i, last := .yank (blen x) }, some (some x))
        | none => (r, some none)
    | _ => (r, some none)
  | .reset => ({ r with last := .other }, none)
  | _ => (r, none)

def SRing.obs (r : SRing) : List KOp → List (Option Text)
  | [] => []
  | op :: ops =>
    match r.step op with
    | (r', some o) => o :: SRing.obs r' ops
    | (r', none) => SRing.obs r' ops

/-- what yank / yank-pop return along a sequence of ring operations in the model -/
def modelObs (k : KillRing) : List KOp → List (Option Text)
  | [] => []
  | op :: ops =>
    match op with
    | .yank => match k.yank with
      | .ok (k', o) => o :: modelObs k' ops
      | .error _ => []
    | .yankPop => match k.yankPop with
      | .ok (k', o) => o.map (·.2) :: modelObs k' ops
      | .error _ => []
    | op => match op.run k with
      | .ok k' => modelObs k' ops
      | .error _ => []

/-- operations that come through the listener (deletions, start/stop killing) rather than from a
    command.  `sim_obs` excludes them: `SRing.step` ignores them, while in the model an `onDelete`
    with `killing = true` is a kill. -/
def KOp.isListener : KOp → Bool
  | .onDelete _ _ | .startKilling | .stopKilling => true
  | _ => false

/-- slot of the `i`-th most recent kill in the circular buffer (`i < len`, `idx < len`) -/
def slotOf (len idx i : Nat) : Nat := if i ≤ idx then idx - i else idx + len - i

theorem slotOf_le {len idx i : Nat} (h : i ≤ idx) : slotOf len idx i = idx - i := if_pos h

theorem slotOf_gt {len idx i : Nat} (h : idx < i) : slotOf len idx i = idx + len - i := if_neg (Nat.not_le.mpr h)

theorem slotOf_lt {len idx i : Nat} (hi : i < len) (hx : idx < len) : slotOf len idx i < len := by
  unfold slotOf; split <;> omega

theorem slotOf_zero (len idx : Nat) : slotOf len idx 0 = idx := slotOf_le (Nat.zero_le idx)

theorem slotOf_ne {len idx i : Nat} (hi : i < len) (h0 : 0 < i) : slotOf len idx i ≠ idx := by
  unfold slotOf; split <;> omega

/-- one yank-pop: the model steps the yank position back cyclically, the reference ring rotates by one -/
theorem slotOf_pop {len idx rot : Nat} (hx : idx < len) (hr : rot < len) :
    cyc len (slotOf len idx rot) = slotOf len idx ((rot + 1) % len) := by
  unfold cyc
  have hm : (rot + 1) % len = if rot + 1 = len then 0 else rot + 1 := by
    split
    · rename_i h; rw [h, Nat.mod_self]
    · exact Nat.mod_eq_of_lt (by omega)
  rw [hm]; simp only [beq_iff_eq]
  by_cases h1 : rot ≤ idx
  · rw [slotOf_le h1]
    by_cases h2 : rot + 1 = len
    · rw [if_pos h2, slotOf_zero, if_pos (by omega)]; omega
    · rw [if_neg h2]
      by_cases h3 : rot + 1 ≤ idx
      · rw [slotOf_le h3, if_neg (by omega)]; omega
      · rw [slotOf_gt (by omega), if_pos (by omega)]; omega
  · rw [slotOf_gt (by omega), if_neg (by omega)]
    by_cases h2 : rot + 1 = len
    · rw [if_pos h2, slotOf_zero]; omega
    · rw [if_neg h2, slotOf_gt (by omega)]; omega

/-- the model ring `k` and the reference ring `r` hold the same kills in the same order of recency,
    and point at the same one -/
structure Sim (k : KillRing) (r : SRing) : Prop where
  wf : WF k
  cap : r.cap = k.cap
  last : r.last = k.lastAction
  len : r.kills.length = k.slots.length
  kills : ∀ i, i < k.slots.length → r.kills[i]? = k.slots[slotOf k.slots.length k.index i]?
  rot : k.slots ≠ [] → r.rot < k.slots.length
  yidx : k.slots ≠ [] → k.yankIndex = slotOf k.slots.length k.index r.rot
  /-- while the ring is not full the most recent kill is in the last slot -/
  fill : k.slots ≠ [] → k.slots.length < k.cap → k.index + 1 = k.slots.length

theorem Sim.new (size : Nat) : Sim (KillRing.new size) { kills := [], rot := 0, last := .other, cap := size } :=
  ⟨wf_new size, rfl, rfl, rfl, fun i hi => absurd hi (Nat.not_lt_zero i), fun h => absurd rfl h,
   fun h => absurd rfl h, fun h => absurd rfl h⟩

theorem Sim.setAction {k : KillRing} {r : SRing} (h : Sim k r) (a : KAction) (hw : WF { k with lastAction := a }) :
    Sim { k with lastAction := a } { r with last := a } :=
  ⟨hw, h.cap, rfl, h.len, h.kills, h.rot, h.yidx, h.fill⟩

theorem Sim.kills_nil {k : KillRing} {r : SRing} (h : Sim k r) (he : k.slots = []) : r.kills = [] :=
  List.eq_nil_of_length_eq_zero (h.len.trans (congrArg List.length he))

theorem Sim.reset {k : KillRing} {r : SRing} (h : Sim k r) : Sim k.reset (r.step .reset).1 :=
  h.setAction .other (wf_reset h.wf)

theorem Sim.yank {k : KillRing} {r : SRing} (h : Sim k r) :
    ∃ k' o, k.yank = .ok (k', o) ∧ (r.step .yank).2 = some o ∧ Sim k' (r.step .yank).1 := by
  rcases yank_ok h.wf with ⟨he, hy⟩ | ⟨s, hs, hy⟩
  · refine ⟨k, none, hy, ?_⟩
    simp only [SRing.step, h.kills_nil he, List.getElem?_nil]
    exact ⟨trivial, h⟩
  · have hne : k.slots ≠ [] := fun h0 => by rw [h0] at hs; cases hs
    have hkr : r.kills[r.rot]? = some s := by rw [h.kills _ (h.rot hne), ← h.yidx hne]; exact hs
    refine ⟨_, some s, hy, ?_⟩
    simp only [SRing.step, hkr]
    exact ⟨trivial, h.setAction _ (wf_setAction h.wf _ nofun)⟩

theorem Sim.yankPop {k : KillRing} {r : SRing} (h : Sim k r) :
    ∃ k' o, k.yankPop = .ok (k', o) ∧ (r.step .yankPop).2 = some (o.map (·.2)) ∧ Sim k' (r.step .yankPop).1 := by
  cases hla : k.lastAction with
  | kill =>
    have hl : r.last = .kill := h.last.trans hla
    refine ⟨k, none, by simp only [KillRing.yankPop, hla], ?_⟩
    simp only [SRing.step, hl]; exact ⟨rfl, h⟩
  | other =>
    have hl : r.last = .other := h.last.trans hla
    refine ⟨k, none, by simp only [KillRing.yankPop, hla], ?_⟩
    simp only [SRing.step, hl]; exact ⟨rfl, h⟩
  | yank size =>
    have hl : r.last = .yank size := h.last.trans hla
    by_cases he : k.slots = []
    · refine ⟨k, none, by simp only [KillRing.yankPop, hla, he, List.isEmpty_nil, if_true], ?_⟩
      simp only [SRing.step, hl, h.kills_nil he, List.isEmpty_nil, if_true]; exact ⟨rfl, h⟩
    · obtain ⟨s, hs, hp⟩ := yankPop_ok h.wf size hla he
      have hne : r.kills.isEmpty = false := by
        cases hk : r.kills with
        | nil => exact absurd (List.eq_nil_of_length_eq_zero (h.len.symm.trans (congrArg List.length hk))) he
        | cons a b => rfl
      have hi : (r.rot + 1) % r.kills.length < k.slots.length := by
        rw [h.len]; exact Nat.mod_lt _ (List.length_pos_iff.mpr he)
      have hslot : prevIdx k = slotOf k.slots.length k.index ((r.rot + 1) % r.kills.length) := by
        unfold prevIdx
        rw [h.yidx he, h.len]
        exact slotOf_pop (h.wf.idx_lt he) (h.rot he)
      have hkr : r.kills[(r.rot + 1) % r.kills.length]? = some s := by
        rw [h.kills _ hi, ← hslot]; exact hs
      refine ⟨_, some (size, s), hp, ?_⟩
      simp only [SRing.step, hl, hne, Bool.false_eq_true, if_false, hkr]
      exact ⟨rfl, wf_popped h.wf he _, h.cap, rfl, h.len, h.kills, fun _ => hi, fun _ => hslot, h.fill⟩

/-- a fresh kill into a full ring overwrites the oldest slot: every other kill is one step older -/
theorem slotOf_next {len idx j : Nat} (hj : j + 1 < len) :
    slotOf len (if idx + 1 = len then 0 else idx + 1) (j + 1) = slotOf len idx j ∧
      slotOf len idx j ≠ (if idx + 1 = len then 0 else idx + 1) := by
  by_cases h1 : idx + 1 = len
  · rw [if_pos h1, slotOf_gt (Nat.succ_pos j)]
    by_cases h2 : j ≤ idx
    · rw [slotOf_le h2]; omega
    · omega
  · rw [if_neg h1]
    by_cases h2 : j ≤ idx
    · rw [slotOf_le h2, slotOf_le (Nat.succ_le_succ h2)]; omega
    · rw [slotOf_gt (by omega), slotOf_gt (by omega)]; omega

theorem Sim.kill {k : KillRing} {r : SRing} (h : Sim k r) (t : Text) (d : KMode) :
    ∃ k', k.kill t d = .ok k' ∧ Sim k' (r.step (.kill t d)).1 ∧ (r.step (.kill t d)).2 = none := by
  by_cases hc0 : k.cap = 0
  · -- a disabled ring: only the last action changes
    refine ⟨_, kill_cap0 hc0 t d, ?_⟩
    have : (r.cap == 0) = true := by rw [h.cap, hc0]; rfl
    simp only [SRing.step, this, if_true]
    exact ⟨h.setAction .kill (wf_cap0 h.wf hc0 _), trivial⟩
  have hc : 0 < k.cap := Nat.pos_of_ne_zero hc0
  have hrc : (r.cap == 0) = false := by rw [h.cap]; exact beq_false_of_ne hc0
  by_cases hk : k.lastAction = .kill
  · -- the kill sequence goes on: the most recent kill grows
    have hne := h.wf.kill_ne hk hc
    have hx := h.wf.idx_lt hne
    obtain ⟨s, hs, hcont, hw'⟩ := kill_cont h.wf hk hc t d
    refine ⟨_, hcont, ?_⟩
    have hrl : (r.last == KAction.kill) = true := by rw [h.last, hk]; rfl
    have h0 : r.kills[0]? = some s := by
      rw [h.kills 0 (Nat.zero_lt_of_lt hx), slotOf_zero]; exact hs
    cases hkl : r.kills with
    | nil => rw [hkl] at h0; cases h0
    | cons x xs =>
      rw [hkl] at h0
      cases h0
      simp only [SRing.step, hrc, Bool.false_eq_true, if_false, hrl, if_true, hkl]
      refine ⟨⟨hw', h.cap, h.last, ?_, ?_, ?_, ?_, ?_⟩, trivial⟩
      · simp only [List.length_cons, List.length_set]; rw [← h.len, hkl]; rfl
      · intro i hi
        simp only [List.length_set] at hi ⊢
        cases i with
        | zero => rw [slotOf_zero, List.getElem?_set_self hx]; rfl
        | succ j =>
          have hold := h.kills (j + 1) hi
          rw [hkl] at hold
          simp only [List.getElem?_cons_succ] at hold ⊢
          rw [hold, List.getElem?_set_ne (Ne.symm (slotOf_ne hi (Nat.succ_pos j)))]
      · intro _; simp only [List.length_set]; exact h.rot hne
      · intro _; simp only [List.length_set]; exact h.yidx hne
      · intro _; simp only [List.length_set]; exact h.fill hne
  · -- a new kill: it becomes the most recent one and ends the rotation
    refine ⟨_, kill_fresh h.wf hk hc t d, ?_⟩
    have hw' := wf_fresh h.wf hc t
    have hrl : (r.last == KAction.kill) = false := by rw [h.last]; exact beq_false_of_ne hk
    simp only [SRing.step, hrc, Bool.false_eq_true, if_false, hrl]
    by_cases hfull : k.slots.length < k.cap
    · -- not full: the text is pushed
      have hnext := nextIdx_push h.wf hfull (fun he => h.fill he hfull)
      have hsl : (fresh k t).slots = k.slots ++ [t] := if_pos hnext
      have hidx : (fresh k t).index = k.slots.length := hnext
      have htake : (t :: r.kills).take r.cap = t :: r.kills := by
        apply List.take_of_length_le; rw [List.length_cons, h.len, h.cap]; exact hfull
      rw [htake]
      refine ⟨⟨hw', h.cap, rfl, ?_, ?_, ?_, ?_, ?_⟩, trivial⟩
      · rw [hsl, List.length_cons, List.length_append, h.len]; rfl
      · intro i hi
        rw [hsl] at hi ⊢
        rw [hidx]
        simp only [List.length_append, List.length_cons, List.length_nil] at hi ⊢
        cases i with
        | zero => rw [slotOf_zero, List.getElem?_append_right (Nat.le_refl _), Nat.sub_self]; rfl
        | succ j =>
          have hj : j < k.slots.length := Nat.lt_of_succ_lt_succ hi
          have hemp : k.slots ≠ [] := fun h0 => by rw [h0] at hj; exact Nat.not_lt_zero _ hj
          have hf := h.fill hemp hfull
          have e : k.slots.length - (j + 1) = k.index - j := by rw [← hf, Nat.add_sub_add_right]
          rw [List.getElem?_cons_succ, h.kills j hj, slotOf_le (Nat.le_of_lt_succ (hf.symm ▸ hj : j < k.index + 1)),
            slotOf_le (Nat.succ_le_of_lt hj), e,
            List.getElem?_append_left (Nat.lt_of_le_of_lt (Nat.sub_le _ _) (h.wf.idx_lt hemp))]
      · intro _; rw [hsl, List.length_append]; exact Nat.succ_pos _
      · intro _; exact (slotOf_zero _ _).symm
      · intro _ _; rw [hidx, hsl, List.length_append]; rfl
    · -- full: the oldest kill is overwritten
      have hlen : k.slots.length = k.cap := Nat.le_antisymm h.wf.len_le (Nat.not_lt.mp hfull)
      have hne : k.slots ≠ [] := fun h0 => by rw [h0] at hlen; exact Nat.ne_of_lt hc hlen
      have hx := h.wf.idx_lt hne
      have hnx := nextIdx_full hne hlen
      have hnlt : nextIdx k < k.slots.length := by rw [hnx]; split <;> omega
      have hsl : (fresh k t).slots = k.slots.set (nextIdx k) t := if_neg (Nat.ne_of_lt hnlt)
      have htake : (t :: r.kills).take r.cap = t :: r.kills.take (k.slots.length - 1) := by
        have : r.cap = (k.slots.length - 1) + 1 := by rw [h.cap]; omega
        rw [this, List.take_succ_cons]
      rw [htake]
      refine ⟨⟨hw', h.cap, rfl, ?_, ?_, ?_, ?_, ?_⟩, trivial⟩
      · simp only [List.length_cons, List.length_take, hsl, List.length_set, h.len]; omega
      · intro i hi
        rw [hsl] at hi ⊢
        simp only [List.length_set] at hi ⊢
        show _ = (k.slots.set (nextIdx k) t)[slotOf k.slots.length (nextIdx k) i]?
        cases i with
        | zero => rw [slotOf_zero, List.getElem?_set_self hnlt]; rfl
        | succ j =>
          obtain ⟨e1, e2⟩ := slotOf_next (len := k.slots.length) (idx := k.index) (j := j) hi
          rw [← hnx] at e1 e2
          rw [List.getElem?_cons_succ, List.getElem?_take_of_lt (by omega), h.kills j (by omega), e1,
            List.getElem?_set_ne (Ne.symm e2)]
      · intro _; rw [hsl, List.length_set]; exact Nat.zero_lt_of_lt hx
      · intro _; exact (slotOf_zero _ _).symm
      · intro _ hlt; rw [hsl, List.length_set] at hlt; exact absurd hlt hfull

theorem Sim.step {k : KillRing} {r : SRing} (h : Sim k r) {op : KOp} (hop : op.isListener = false) (ops : List KOp) :
    ∃ k', Sim k' (r.step op).1 ∧
      modelObs k (op :: ops) = (match (r.step op).2 with | some o => o :: modelObs k' ops | none => modelObs k' ops) := by
  cases op with
  | kill t d =>
    obtain ⟨k', he, hs, ho⟩ := h.kill t d
    exact ⟨k', hs, by rw [ho]; simp only [modelObs, KOp.run, he]⟩
  | yank =>
    obtain ⟨k', o, he, ho, hs⟩ := h.yank
    exact ⟨k', hs, by rw [ho]; simp only [modelObs, he]⟩
  | yankPop =>
    obtain ⟨k', o, he, ho, hs⟩ := h.yankPop
    exact ⟨k', hs, by rw [ho]; simp only [modelObs, he]⟩
  | reset => exact ⟨_, h.reset, rfl⟩
  | onDelete t d => cases hop
  | startKilling => cases hop
  | stopKilling => cases hop

/-- **The model answers like the reference ring**: along any sequence of commands (kills, yanks,
    yank-pops, other commands), every yank and yank-pop of the model returns what the reference ring
    of the property text returns. -/
theorem sim_obs (ops : List KOp) (hall : ops.all (fun op => !op.isListener) = true)
    (k : KillRing) (r : SRing) (h : Sim k r) : modelObs k ops = SRing.obs r ops := by
  induction ops generalizing k r with
  | nil => rfl
  | cons op ops ih =>
    simp only [List.all_cons, Bool.and_eq_true, Bool.not_eq_true'] at hall
    obtain ⟨k', hs, hm⟩ := h.step hall.1 ops
    rw [hm, SRing.obs]
    cases hst : r.step op with
    | mk r' o =>
      rw [hst] at hs
      cases o with
      | none => exact ih hall.2 k' r' hs
      | some o => exact congrArg (o :: ·) (ih hall.2 k' r' hs)
