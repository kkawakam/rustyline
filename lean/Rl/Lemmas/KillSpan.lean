/-
  Kills and copies evaluated from a well-formed state: one lemma per movement gives the byte range covered
  and says that it is the declarative span (`spanOf` of `Rl/Spec/Motion.lean`) — here for the character, word,
  line (within one line) and buffer movements, in `LineSpan`, `CharSearch`, `FirstPrint` for the others —
  and `kill_eval` / `copy_eval` assemble them. C03 (totality), C04 (span) and C01 (cursor) read off these.
-/
import Rl.Lemmas.Motion
import Rl.Lemmas.Span
import Rl.Lemmas.Steps
import Rl.Lemmas.LineSpan
import Rl.Lemmas.CharSearch
import Rl.Lemmas.FirstPrint
namespace Rl
open Rl.Spec

theorem nextPos_zero (S : Segmenter) (lb : LB) (h : WF lb) : LB.nextPos S lb 0 = .ok none := by
  obtain ⟨x, s, hb, hp, _, _, hsf⟩ := h.cut
  unfold LB.nextPos
  split
  · rfl
  · simp [hsf, bind, Except.bind, pure, Except.pure]

theorem prevPos_zero (S : Segmenter) (lb : LB) (h : WF lb) : LB.prevPos S lb 0 = .ok none := by
  obtain ⟨x, s, hb, hp, _, hst, _⟩ := h.cut
  unfold LB.prevPos
  split
  · rfl
  · simp [hst, bind, Except.bind, pure, Except.pure]

theorem nextPos_at_end (S : Segmenter) (lb : LB) (n : Nat) (he : lb.pos = lb.len) : LB.nextPos S lb n = .ok none := by
  unfold LB.nextPos; simp [he]; rfl

theorem prevPos_at_start (S : Segmenter) (lb : LB) (n : Nat) (he : lb.pos = 0) : LB.prevPos S lb n = .ok none := by
  unfold LB.prevPos; simp [he]; rfl

theorem charTargetFwd_at_end (S : Segmenter) (lb : LB) (n : Nat) (h : WF lb) (he : lb.pos = lb.len) :
    charTargetFwd S lb.buf lb.pos n = some lb.pos := by
  obtain ⟨x, s, hb, hp⟩ := h.split
  have hs : s = [] := by
    have : blen s = 0 := by simp [LB.len, hb, hp] at he; omega
    exact blen_eq_zero.mp this
  subst hs
  have hsp : splitAtByte lb.buf lb.pos = some (x, []) := by rw [hb, hp]; exact splitAtByte_append x []
  simp [charTargetFwd, splitAt?, hsp, seg_nil, offOf]

theorem charTargetBwd_at_start (S : Segmenter) (lb : LB) (n : Nat) (he : lb.pos = 0) :
    charTargetBwd S lb.buf lb.pos n = some lb.pos := by
  simp [charTargetBwd, splitAt?, he, splitAtByte, seg_nil, offOf]

/-- what `delete(n)` does, `n ≠ 0`: nothing at the end of the text, else it removes exactly the text up to
    the declarative character target -/
theorem delete_spec (S : Segmenter) (U : UData) (lb lb' : LB) (n : Nat) (r : Option Text) (ns : List Notif)
    (h : WF lb) (hn : n ≠ 0) (hrun : LB.delete S U n lb = .ok (r, lb', ns)) :
    (lb.pos = lb.len ∧ lb' = lb ∧ ns = [] ∧ r = none) ∨
    (∃ t x y z, charTargetFwd S lb.buf lb.pos n = some t ∧ lb.pos < t ∧ lb.buf = x ++ y ++ z ∧
      lb.pos = blen x ∧ t = blen x + blen y ∧ lb' = { lb with buf := x ++ z } ∧
      ns = [.del lb.pos y .forward] ∧ r = some y) := by
  by_cases he : lb.pos = lb.len
  · left
    have := nextPos_at_end S lb n he
    unfold LB.delete at hrun
    simp only [LM.bind_apply, LM.ro, this] at hrun
    cases hrun
    exact ⟨he, rfl, rfl, rfl⟩
  · right
    obtain ⟨t, hnp, hb, hlt⟩ := nextPos_some S lb n h he hn
    have ht := nextPos_eq_target S lb n h he hn
    rw [hnp] at ht
    have ht' : charTargetFwd S lb.buf lb.pos n = some t := (Except.ok.inj ht).symm
    obtain ⟨x, y, z, hd, hbuf, hx, hy⟩ := drain_ok .forward h hb (Nat.le_of_lt hlt)
    unfold LB.delete at hrun
    simp [LM.bind_apply, LM.ro, hnp, LM.get, hd] at hrun
    obtain ⟨rfl, rfl, rfl⟩ := hrun
    exact ⟨t, x, y, z, ht', hlt, hbuf, hx, hy, rfl, rfl, rfl⟩

theorem backspace_spec (S : Segmenter) (U : UData) (lb lb' : LB) (n : Nat) (r : Bool) (ns : List Notif)
    (h : WF lb) (hn : n ≠ 0) (hrun : LB.backspace S U n lb = .ok (r, lb', ns)) :
    (lb.pos = 0 ∧ lb' = lb ∧ ns = [] ∧ r = false) ∨
    (∃ t x y z, charTargetBwd S lb.buf lb.pos n = some t ∧ t < lb.pos ∧ lb.buf = x ++ y ++ z ∧
      t = blen x ∧ lb.pos = blen x + blen y ∧ lb' = { lb with buf := x ++ z, pos := t } ∧
      ns = [.del t y .backward] ∧ r = true) := by
  by_cases he : lb.pos = 0
  · left
    have := prevPos_at_start S lb n he
    unfold LB.backspace at hrun
    simp only [LM.bind_apply, LM.ro, this] at hrun
    cases hrun
    exact ⟨he, rfl, rfl, rfl⟩
  · right
    obtain ⟨t, hnp, hb, hlt⟩ := prevPos_some S lb n h he hn
    have ht := prevPos_eq_target S lb n h he hn
    rw [hnp] at ht
    have ht' : charTargetBwd S lb.buf lb.pos n = some t := (Except.ok.inj ht).symm
    obtain ⟨x, y, z, hd, hbuf, hx, hy⟩ := drain_ok .backward hb h (Nat.le_of_lt hlt)
    unfold LB.backspace at hrun
    simp [LM.bind_apply, LM.ro, hnp, LM.get, hd, LM.setPos] at hrun
    obtain ⟨rfl, rfl, rfl⟩ := hrun
    exact ⟨t, x, y, z, ht', hlt, hbuf, hx, hy, rfl, rfl, rfl⟩

theorem isEmpty_false_of_pos_lt {lb : LB} (h : lb.pos < lb.len) : lb.buf.isEmpty = false := by
  cases hb : lb.buf with
  | nil => simp [LB.len, hb] at h
  | cons c t => rfl

theorem isEmpty_false_of_pos {lb : LB} (hwf : WF lb) (h : 0 < lb.pos) : lb.buf.isEmpty = false := by
  have := hwf.le_len
  cases hb : lb.buf with
  | nil => simp [hb] at this; omega
  | cons c t => rfl

theorem judged_forwardChar {S : Segmenter} (U : UData) {lb : LB} {n : Nat} {q : Option Nat} (h : WF lb)
    (hq : LB.nextPos S lb n = .ok q) (fc : Bool) : Judged S U lb (.forwardChar n) fc (q.map (lb.pos, ·)) := by
  by_cases he : lb.pos = lb.len
  · rw [nextPos_at_end S lb n he] at hq; cases hq
    by_cases hemp : lb.buf.isEmpty = true
    · exact judged_of_isEmpty hemp _ _
    unfold Judged
    rw [spanOf_forwardChar (by simpa using hemp)]
    by_cases hn : n = 0
    · left; simp [hn]
    · right; simp [hn, charTargetFwd_at_end S lb n h he, mkSpan, rangeSpan]
  · unfold Judged
    rw [spanOf_forwardChar (isEmpty_false_of_pos_lt (Nat.lt_of_le_of_ne h.le_len he))]
    by_cases hn : n = 0
    · left; simp [hn]
    have ht := nextPos_eq_target S lb n h he hn
    rw [hq] at ht; cases ht
    simp only [beq_iff_eq, hn, if_false]
    cases charTargetFwd S lb.buf lb.pos n with
    | none => exact Or.inl rfl
    | some t => exact Or.inr rfl

theorem judged_backwardChar {S : Segmenter} (U : UData) {lb : LB} {n : Nat} {q : Option Nat} (h : WF lb)
    (hq : LB.prevPos S lb n = .ok q) (fc : Bool) : Judged S U lb (.backwardChar n) fc (q.map (·, lb.pos)) := by
  by_cases he : lb.pos = 0
  · rw [prevPos_at_start S lb n he] at hq; cases hq
    by_cases hemp : lb.buf.isEmpty = true
    · exact judged_of_isEmpty hemp _ _
    unfold Judged
    rw [spanOf_backwardChar (by simpa using hemp)]
    by_cases hn : n = 0
    · left; simp [hn]
    · right; simp [hn, charTargetBwd_at_start S lb n he, mkSpan, rangeSpan]
  · unfold Judged
    rw [spanOf_backwardChar (isEmpty_false_of_pos h (Nat.pos_of_ne_zero he))]
    by_cases hn : n = 0
    · left; simp [hn]
    have ht := prevPos_eq_target S lb n h he hn
    rw [hq] at ht; cases ht
    simp only [beq_iff_eq, hn, if_false]
    cases charTargetBwd S lb.buf lb.pos n with
    | none => exact Or.inl rfl
    | some t => exact Or.inr rfl

theorem delete_killed (S : Segmenter) (U : UData) (lb : LB) (n : Nat) (h : WF lb) :
    ∃ q v l ns, LB.nextPos S lb n = .ok q ∧ LB.delete S U n lb = .ok (v, l, ns) ∧
      Killed lb l ns (q.map (lb.pos, ·)) := by
  obtain ⟨q, hq, hp⟩ := nextPos_ok S lb n h
  obtain ⟨v, l, ns, hd, hk⟩ := drainTo_eval (f := (LB.nextPos S · n)) some none h hq
    fun p e => ⟨(hp p e).1, Nat.le_of_lt (hp p e).2⟩
  exact ⟨q, v, l, ns, hq, hd, hk⟩

theorem backspace_killed (S : Segmenter) (U : UData) (lb : LB) (n : Nat) (h : WF lb) :
    ∃ q v l ns, LB.prevPos S lb n = .ok q ∧ LB.backspace S U n lb = .ok (v, l, ns) ∧
      Killed lb l ns (q.map (·, lb.pos)) := by
  obtain ⟨q, hq, hp⟩ := prevPos_ok S lb n h
  obtain ⟨v, l, ns, hd, hk⟩ := drainFrom_eval (f := (LB.prevPos S · n)) h hq
    fun p e => ⟨(hp p e).1, Nat.le_of_lt (hp p e).2⟩
  exact ⟨q, v, l, ns, hq, hd, hk⟩

theorem kill_forwardChar_eval (S : Segmenter) (U : UData) (lb : LB) (n : Nat) (h : WF lb) :
    KillsSpan S U True (.forwardChar n) (LB.kill S U (.forwardChar n)) lb := by
  obtain ⟨q, v, l, ns, hq, hd, hk⟩ := delete_killed S U lb n h
  exact ⟨_, v.isSome, l, ns, by simp [LB.kill, LM.bind_apply, hd], hk, fun _ => judged_forwardChar U h hq false⟩

theorem kill_backwardChar_eval (S : Segmenter) (U : UData) (lb : LB) (n : Nat) (h : WF lb) :
    KillsSpan S U True (.backwardChar n) (LB.kill S U (.backwardChar n)) lb := by
  obtain ⟨q, v, l, ns, hq, hd, hk⟩ := backspace_killed S U lb n h
  exact ⟨_, v, l, ns, by simp [LB.kill, LM.bind_apply, hd], hk, fun _ => judged_backwardChar U h hq false⟩

/-! word motions are not judged for a count of 0 and for `At::BeforeEnd` -/

theorem judged_forwardWord {S : Segmenter} (U : UData) {lb : LB} {n : Nat} {a : At} {d : Word} {q : Option Nat}
    (h : WF lb) (hq : LB.nextWordPosR S U lb lb.pos a d n true = .ok q) (fc : Bool) :
    Judged S U lb (.forwardWord n a d) fc (q.map (lb.pos, ·)) := by
  unfold Judged
  by_cases hemp : lb.buf.isEmpty = true
  · obtain ⟨h0, hl0⟩ := pos_eq_len_of_empty h hemp
    have hnone : LB.nextWordPosR S U lb lb.pos a d n true = .ok none := by
      unfold LB.nextWordPosR; simp [h0, hl0]; rfl
    rw [hnone] at hq; cases hq
    exact Or.inr (spanOf_of_isEmpty hemp _ _ _)
  rw [spanOf_forwardWord (by simpa using hemp)]
  by_cases hj : n = 0 ∨ a = .beforeEnd
  · left; rcases hj with rfl | rfl <;> simp
  have hn : n ≠ 0 := fun e => hj (Or.inl e)
  have ha : a ≠ .beforeEnd := fun e => hj (Or.inr e)
  have hab : (a == At.beforeEnd) = false := by cases a <;> simp at ha ⊢
  have hr := nextWordPosR_target S U lb a d n true h ha hn
  simp only [Bool.not_true] at hr
  rw [hq] at hr
  have hn' : (n == 0) = false := by simp [hn]
  right
  simp only [hn', hab, ← Except.ok.inj hr, Bool.or_self, Bool.false_eq_true, if_false]
  cases q <;> rfl

theorem judged_backwardWord {S : Segmenter} (U : UData) {lb : LB} {n : Nat} {d : Word} {q : Option Nat}
    (h : WF lb) (hq : LB.prevWordPos S U lb lb.pos d n = .ok q) (fc : Bool) :
    Judged S U lb (.backwardWord n d) fc (q.map (·, lb.pos)) := by
  unfold Judged
  by_cases hemp : lb.buf.isEmpty = true
  · obtain ⟨h0, hl0⟩ := pos_eq_len_of_empty h hemp
    have hnone : LB.prevWordPos S U lb lb.pos d n = .ok none := by
      unfold LB.prevWordPos; simp [h0]; rfl
    rw [hnone] at hq; cases hq
    exact Or.inr (spanOf_of_isEmpty hemp _ _ _)
  rw [spanOf_backwardWord (by simpa using hemp)]
  by_cases hn : n = 0
  · left; simp [hn]
  have hr := prevWordPos_eq S U lb d n h hn
  rw [hq] at hr
  have hn' : (n == 0) = false := by simp [hn]
  right
  simp only [hn', ← Except.ok.inj hr, Bool.false_eq_true, if_false]
  cases q <;> rfl

theorem deleteWord_eval (S : Segmenter) (U : UData) (a : At) (d : Word) (n : Nat) (lb : LB) (h : WF lb) :
    KillsSpan S U True (.forwardWord n a d) (LB.deleteWord S U a d n) lb := by
  obtain ⟨q, hq, hp⟩ := nextWordPosR_ok_all S U lb a d n true h
  obtain ⟨v, l, ns, hd, hk⟩ :=
    drainTo_eval (f := fun lb => LB.nextWordPosR S U lb lb.pos a d n true) (fun _ => true) false h hq hp
  exact ⟨_, v, l, ns, hd, hk, fun _ => judged_forwardWord U h hq false⟩

theorem deletePrevWord_eval (S : Segmenter) (U : UData) (d : Word) (n : Nat) (lb : LB) (h : WF lb) :
    KillsSpan S U True (.backwardWord n d) (LB.deletePrevWord S U d n) lb := by
  obtain ⟨q, hq, hp⟩ := prevWordPos_ok S U lb d n h
  obtain ⟨v, l, ns, hd, hk⟩ := drainFrom_eval (f := fun lb => LB.prevWordPos S U lb lb.pos d n) h hq hp
  exact ⟨_, v, l, ns, hd, hk, fun _ => judged_backwardWord U h hq false⟩

theorem lineEndOf_spec (lb : LB) (h : WF lb) :
    IsBoundary lb.buf (lineEndOf lb.buf lb.pos) ∧ lb.pos ≤ lineEndOf lb.buf lb.pos := by
  obtain ⟨e, he, hb, hle⟩ := endOfLine_ok lb h
  rw [endOfLine_eq lb h] at he
  cases he; exact ⟨hb, hle⟩

theorem lineStartOf_spec (lb : LB) (h : WF lb) :
    IsBoundary lb.buf (lineStartOf lb.buf lb.pos) ∧ lineStartOf lb.buf lb.pos ≤ lb.pos := by
  obtain ⟨e, he, hb, hle⟩ := startOfLine_ok lb h
  rw [startOfLine_eq lb h] at he
  cases he; exact ⟨hb, hle⟩

/-- `kill_line` covers the declarative `EndOfLine` span: to the end of the line; with nothing left on the
    line, the next cluster -/
theorem killLine_eval (S : Segmenter) (U : UData) (lb : LB) (h : WF lb) :
    KillsSpan S U True .endOfLine (LB.killLine S U) lb := by
  obtain ⟨hleb, hlele⟩ := lineEndOf_spec lb h
  have hel := endOfLine_eq lb h
  unfold KillsSpan LB.killLine
  by_cases hc : (!lb.buf.isEmpty && decide (lb.pos < lb.len)) = true
  · have hc' : ¬lb.buf = [] ∧ lb.pos < lb.len := by simpa using hc
    have hemp : lb.buf.isEmpty = false := by simpa using hc'.1
    have hlt : lb.pos < blen lb.buf := hc'.2
    by_cases hse : lb.pos = lineEndOf lb.buf lb.pos
    · -- the rest of the line is empty: `delete(1)`, whose span is that of `ForwardChar(1)`
      obtain ⟨q, v, l, ns, hq, hd, hk⟩ := delete_killed S U lb 1 h
      refine ⟨_, true, l, ns, by simp [LM.bind_apply, LM.get, hc', LM.ro, hel, ← hse, hd], hk, fun _ => ?_⟩
      have e : spanOf S U lb.buf lb.pos .endOfLine false = spanOf S U lb.buf lb.pos (.forwardChar 1) false := by
        have h1 : ¬ lb.pos < lineEndOf lb.buf lb.pos := by omega
        have h2 : ¬ blen lb.buf ≤ lb.pos := by omega
        rw [spanOf_endOfLine hemp, spanOf_forwardChar hemp]; simp [h1, h2]
      unfold Judged
      rw [e]
      exact judged_forwardChar U h hq false
    · obtain ⟨y, buf', hd, hcut⟩ := drain_cut .forward h hleb hlele
      have hlt2 : lb.pos < lineEndOf lb.buf lb.pos := by omega
      exact ⟨some (lb.pos, lineEndOf lb.buf lb.pos), true, _, _,
        by simp [LM.bind_apply, LM.get, hc', LM.ro, hel, hse, hd], ⟨Nat.le_refl _, hlele, hcut⟩,
        fun _ => Or.inr (by simp [spanOf_endOfLine hemp, hlt2, rangeSpan, mkSpan])⟩
  · refine ⟨none, false, lb, [], by simp only [LM.bind_apply, LM.get, hc]; rfl, rfl, fun _ => Or.inr ?_⟩
    by_cases hemp : lb.buf.isEmpty = true
    · exact spanOf_of_isEmpty hemp _ _ _
    · have hge : blen lb.buf ≤ lb.pos := by
        have : ¬(¬lb.buf = [] ∧ lb.pos < lb.len) := by simpa using hc
        have hne : ¬ lb.buf = [] := by simpa using hemp
        exact Nat.le_of_not_lt (fun hh => this ⟨hne, hh⟩)
      have h1 : ¬ lb.pos < lineEndOf lb.buf lb.pos := by have : _ ≤ blen lb.buf := hleb.le_len; omega
      simp [spanOf_endOfLine (by simpa using hemp), h1, hge, rangeSpan]

/-- `discard_line` covers the declarative `BeginningOfLine` span: to the start of the line; at the line
    start, the preceding cluster -/
theorem discardLine_eval (S : Segmenter) (U : UData) (lb : LB) (h : WF lb) :
    KillsSpan S U True .beginningOfLine (LB.discardLine S U) lb := by
  obtain ⟨hlsb, hlsle⟩ := lineStartOf_spec lb h
  have hsl := startOfLine_eq lb h
  unfold KillsSpan LB.discardLine
  by_cases hc : (decide (lb.pos > 0) && !lb.buf.isEmpty) = true
  · have hc' : 0 < lb.pos ∧ ¬lb.buf = [] := by simpa using hc
    have hemp : lb.buf.isEmpty = false := by simpa using hc'.2
    by_cases hse : lb.pos = lineStartOf lb.buf lb.pos
    · obtain ⟨q, v, l, ns, hq, hd, hk⟩ := backspace_killed S U lb 1 h
      refine ⟨_, v, l, ns, by simp [LM.bind_apply, LM.get, hc', LM.ro, hsl, ← hse, hd], hk, fun _ => ?_⟩
      have e : spanOf S U lb.buf lb.pos .beginningOfLine false =
          spanOf S U lb.buf lb.pos (.backwardChar 1) false := by
        have h1 : ¬ lineStartOf lb.buf lb.pos < lb.pos := by omega
        have h2 : ¬ lb.pos = 0 := by omega
        rw [spanOf_beginningOfLine hemp, spanOf_backwardChar hemp]; simp [h1, h2]
      unfold Judged
      rw [e]
      exact judged_backwardChar U h hq false
    · obtain ⟨y, buf', hd, hcut⟩ := drain_cut .backward hlsb h hlsle
      have hlt2 : lineStartOf lb.buf lb.pos < lb.pos := by omega
      have hse' : ¬ lb.pos = lineStartOf lb.buf lb.pos := hse
      exact ⟨some (lineStartOf lb.buf lb.pos, lb.pos), true, _, _,
        by simp [LM.bind_apply, LM.get, hc', LM.ro, hsl, hse', hd, LM.setPos], ⟨hlsle, Nat.le_refl _, hcut⟩,
        fun _ => Or.inr (by simp [spanOf_beginningOfLine hemp, hlt2, rangeSpan, mkSpan])⟩
  · refine ⟨none, false, lb, [], by simp only [LM.bind_apply, LM.get, hc]; rfl, rfl, fun _ => Or.inr ?_⟩
    by_cases hemp : lb.buf.isEmpty = true
    · exact spanOf_of_isEmpty hemp _ _ _
    · have h0 : lb.pos = 0 := by
        have : ¬(0 < lb.pos ∧ ¬lb.buf = []) := by simpa using hc
        have hne : ¬ lb.buf = [] := by simpa using hemp
        exact Nat.eq_zero_of_not_pos (fun hh => this ⟨hh, hne⟩)
      simp [spanOf_beginningOfLine (by simpa using hemp), h0, rangeSpan]

theorem lineEndOf_lineStartOf (lb : LB) (h : WF lb) :
    lineEndOf lb.buf (lineStartOf lb.buf lb.pos) = lineEndOf lb.buf lb.pos := by
  obtain ⟨x, s, hb, hp, hsp, _, _⟩ := h.cut
  unfold lineStartOf
  simp only [splitAt?, hsp]
  cases hf : rfindChar '\n' x with
  | none =>
    have hnx := rfindChar_eq_none hf
    simp only
    unfold lineEndOf
    simp only [splitAt?, hsp, splitAtByte]
    rw [hb, findChar_append_left s hnx]
    cases findChar '\n' s with
    | none => rfl
    | some i => simp [hp]; omega
  | some k =>
    obtain ⟨u, v, rfl, rfl, hnv⟩ := rfindChar_split hf
    simp only
    have hsp2 : splitAtByte lb.buf (blen u + 1) = some (u ++ ['\n'], v ++ s) := by
      have := splitAtByte_append (u ++ ['\n']) (v ++ s)
      rw [hb]
      simpa [utf8Size_newline] using this
    unfold lineEndOf
    simp only [splitAt?, hsp, hsp2]
    rw [findChar_append_left s hnv]
    cases findChar '\n' s with
    | none => rfl
    | some i => simp [hp, utf8Size_newline]; omega

/-- the line break is a cluster of its own (true of UAX #29 segmentation: GB4/GB5) -/
def Segmenter.NlAlone (S : Segmenter) : Prop := ∀ t : Text, (S.seg ('\n' :: t)).head? = some ['\n']

theorem charSeg_nlAlone : charSeg.NlAlone := by
  intro t
  cases t <;> simp [charSeg, Segmenter.ofGroup, group, groupGo]

/-- the concrete UAX #29 segmenter keeps the line break alone (GB4) as soon as the class table calls it LF -/
theorem uaxSeg_nlAlone (cls : Char → String) (h : gcbBase (cls '\n') = "LF") : (uaxSeg cls).NlAlone := by
  intro t
  cases t with
  | nil => simp [uaxSeg, Segmenter.ofGroup, group, groupGo]
  | cons c t =>
    have hg : uaxGlue cls (uaxInit cls '\n') c = false := by
      simp [uaxGlue, uaxInit, h]
    simp [uaxSeg, Segmenter.ofGroup, group, groupGo, hg]

theorem suffix_at_lineEnd (lb : LB) (h : WF lb) (hlt : lineEndOf lb.buf lb.pos < blen lb.buf) :
    ∃ x b, lb.buf = x ++ '\n' :: b ∧ lineEndOf lb.buf lb.pos = blen x := by
  obtain ⟨x, s, hb, hp, hsp, _, _⟩ := h.cut
  unfold lineEndOf at hlt ⊢
  simp only [splitAt?, hsp] at hlt ⊢
  cases hf : findChar '\n' s with
  | none => rw [hf] at hlt; simp at hlt
  | some i =>
    obtain ⟨a, b, rfl, rfl⟩ := findChar_some hf
    exact ⟨x ++ a, b, by rw [hb]; simp, by simp [hp]⟩

theorem charTargetFwd_one {S : Segmenter} {x s g : Text} (hg : (S.seg s).head? = some g) :
    charTargetFwd S (x ++ s) (blen x) 1 = some (blen x + blen g) := by
  cases hseg : S.seg s with
  | nil => rw [hseg] at hg; cases hg
  | cons g0 gs =>
    rw [hseg] at hg
    cases hg
    simp [charTargetFwd, splitAt?, splitAtByte_append, hseg, offOf]

theorem charTargetBwd_one {S : Segmenter} {x s g : Text} (hg : (S.seg x).getLast? = some g) :
    charTargetBwd S (x ++ s) (blen x) 1 = some (blen x - blen g) := by
  have hne : S.seg x ≠ [] := by intro h0; rw [h0] at hg; cases hg
  have hlen : 0 < (S.seg x).length := List.length_pos_iff.mpr hne
  have hgl : (S.seg x).getLast hne = g := by
    rw [List.getLast?_eq_some_getLast hne] at hg; exact Option.some.inj hg
  have hfl : blen x = blen (S.seg x).dropLast.flatten + blen g := by
    conv => lhs; rw [← S.flatten_eq x, ← List.dropLast_concat_getLast hne, hgl]
    simp
  simp only [charTargetBwd, splitAt?, splitAtByte_append, bind, Option.bind, pure, offOf]
  rw [Nat.min_eq_left hlen, ← List.dropLast_eq_take]
  simp only [Option.some.injEq]
  omega

/-- on an empty line the whole-line kill has the span of `kill_line` run from the line start: the line break -/
theorem spanOf_wholeLine_empty {S : Segmenter} (U : UData) (hnl : S.NlAlone) (lb : LB) (h : WF lb)
    (hse : ¬ lineStartOf lb.buf lb.pos < lineEndOf lb.buf lb.pos) :
    spanOf S U lb.buf lb.pos .wholeLine false =
      spanOf S U lb.buf (lineStartOf lb.buf lb.pos) .endOfLine false := by
  by_cases hemp : lb.buf.isEmpty = true
  · rw [spanOf_of_isEmpty hemp, spanOf_of_isEmpty hemp]
  have hemp' : lb.buf.isEmpty = false := by simpa using hemp
  have hle : lineStartOf lb.buf lb.pos = lineEndOf lb.buf lb.pos := by
    have := (lineStartOf_spec lb h).2; have := (lineEndOf_spec lb h).2; omega
  rw [spanOf_wholeLine hemp', spanOf_endOfLine hemp', lineEndOf_lineStartOf lb h, hle]
  by_cases hlt : lineEndOf lb.buf lb.pos < blen lb.buf
  · obtain ⟨x, b, hb, hx⟩ := suffix_at_lineEnd lb h hlt
    have hge : ¬ blen lb.buf ≤ lineEndOf lb.buf lb.pos := by omega
    simp only [Nat.lt_irrefl, if_false, Bool.false_eq_true, hlt, if_true, Bool.false_or, ge_iff_le, hge, decide_false]
    rw [hx, hb, charTargetFwd_one (hnl b)]
    simp [mkSpan, utf8Size_newline]
  · have hge : blen lb.buf ≤ lineEndOf lb.buf lb.pos := by omega
    simp [hlt, hge]

/-- whole-line kill: the line without its break; an empty line loses its line break (this is where the
    line break must be a cluster of its own: the code removes "one cluster") -/
theorem kill_wholeLine_eval (S : Segmenter) (U : UData) (lb : LB) (h : WF lb) :
    KillsSpan S U S.NlAlone .wholeLine (LB.kill S U .wholeLine) lb := by
  obtain ⟨hlsb, hlsle⟩ := lineStartOf_spec lb h
  obtain ⟨hleb, hlele⟩ := lineEndOf_spec lb h
  have hhome := moveHome_eval S U (startOfLine_eq lb h) hlsle
  by_cases hlt0 : lineStartOf lb.buf lb.pos < lineEndOf lb.buf lb.pos
  · -- a non-empty line: one drain from the line start, reported around the old cursor
    have hel0 := endOfLine_eq _ (show WF { lb with pos := lineStartOf lb.buf lb.pos } from hlsb)
    simp only [lineEndOf_lineStartOf lb h] at hel0
    obtain ⟨y, l, ns, _, hd, hcut⟩ := drainAround_cut S U lb.pos hlsb hleb h (Nat.le_of_lt hlt0)
    have hemp : lb.buf.isEmpty = false := by
      cases hb : lb.buf with
      | nil =>
        have h1 : _ ≤ blen lb.buf := hleb.le_len
        have h2 : blen lb.buf = 0 := by rw [hb]; rfl
        omega
      | cons c t => rfl
    exact ⟨some (_, _), true, l, _,
      by simp [LB.kill, LM.bind_apply, LM.notify, LM.get, hhome, LM.ro, hel0, hlt0, hd],
      Killed.wrap ⟨hlsle, hlele, hcut⟩,
      fun _ => Or.inr (by simp [spanOf_wholeLine hemp, hlt0, rangeSpan, mkSpan])⟩
  · -- an empty line: the cursor is on the line start, where `kill_line` removes the line break
    have hp : lineStartOf lb.buf lb.pos = lb.pos := by omega
    rw [hp] at hhome
    have hhome' : LB.moveHome S U lb = .ok (decide (lb.pos > lb.pos), lb, []) := hhome
    have hge : ¬ lb.pos < lineEndOf lb.buf lb.pos := by omega
    obtain ⟨o, r, l, ns, hk, hK, hj⟩ := killLine_eval S U lb h
    refine ⟨o, r, l, _,
      by simp [LB.kill, LM.bind_apply, LM.notify, LM.get, hhome', LM.ro, endOfLine_eq lb h, hge, hk],
      hK.wrap, fun hnl => ?_⟩
    unfold Judged
    rw [spanOf_wholeLine_empty U hnl lb h hlt0, hp]
    exact hj trivial

theorem killBuffer_eval (S : Segmenter) (U : UData) (lb : LB) (h : WF lb) :
    KillsSpan S U True .endOfBuffer (LB.killBuffer S U) lb := by
  unfold KillsSpan LB.killBuffer
  by_cases hc : (!lb.buf.isEmpty && decide (lb.pos < lb.len)) = true
  · have hc' : ¬lb.buf = [] ∧ lb.pos < lb.len := by simpa using hc
    obtain ⟨y, buf', hd, hcut⟩ := drain_cut .forward h (isBoundary_len lb.buf) h.le_len
    have hd' : LB.drain lb.pos lb.len .forward lb = _ := hd
    exact ⟨some (lb.pos, blen lb.buf), true, _, _, by simp [LM.bind_apply, LM.get, hc', hd'],
      ⟨Nat.le_refl _, h.le_len, hcut⟩, fun _ => Or.inr (spanOf_endOfBuffer (by simpa using hc'.1) _ _)⟩
  · refine ⟨none, false, lb, [], by simp only [LM.bind_apply, LM.get, hc]; rfl, rfl, fun _ => Or.inr ?_⟩
    by_cases hemp : lb.buf.isEmpty = true
    · exact spanOf_of_isEmpty hemp _ _ _
    · have hge : ¬ lb.pos < blen lb.buf := by
        have : ¬(¬lb.buf = [] ∧ lb.pos < lb.len) := by simpa using hc
        have hne : ¬ lb.buf = [] := by simpa using hemp
        exact fun hh => this ⟨hne, hh⟩
      simp [spanOf_endOfBuffer (by simpa using hemp), mkSpan, hge, rangeSpan]

theorem discardBuffer_eval (S : Segmenter) (U : UData) (lb : LB) (h : WF lb) :
    KillsSpan S U True .beginningOfBuffer (LB.discardBuffer S U) lb := by
  unfold KillsSpan LB.discardBuffer
  by_cases hc : (decide (lb.pos > 0) && !lb.buf.isEmpty) = true
  · have hc' : 0 < lb.pos ∧ ¬lb.buf = [] := by simpa using hc
    obtain ⟨y, buf', hd, hcut⟩ := drain_cut .backward (isBoundary_zero lb.buf) h (Nat.zero_le _)
    exact ⟨some (0, lb.pos), true, _, _, by simp [LM.bind_apply, LM.get, hc', hd, LM.setPos],
      ⟨Nat.zero_le _, Nat.le_refl _, hcut⟩, fun _ => Or.inr (spanOf_beginningOfBuffer (by simpa using hc'.2) _ _)⟩
  · refine ⟨none, false, lb, [], by simp only [LM.bind_apply, LM.get, hc]; rfl, rfl, fun _ => Or.inr ?_⟩
    by_cases hemp : lb.buf.isEmpty = true
    · exact spanOf_of_isEmpty hemp _ _ _
    · have h0 : lb.pos = 0 := by
        have : ¬(0 < lb.pos ∧ ¬lb.buf = []) := by simpa using hc
        have hne : ¬ lb.buf = [] := by simpa using hemp
        exact Nat.eq_zero_of_not_pos (fun hh => this ⟨hh, hne⟩)
      simp [spanOf_beginningOfBuffer (by simpa using hemp), mkSpan, h0, rangeSpan]

theorem kill_wholeBuffer_eval (S : Segmenter) (U : UData) (lb : LB) (h : WF lb) :
    KillsSpan S U True .wholeBuffer (LB.kill S U .wholeBuffer) lb := by
  have hstart := moveBufferStart_eval S U lb
  by_cases hemp : lb.buf = []
  · have hp0 := (pos_eq_len_of_empty h (by simp [hemp])).1
    rw [← hp0] at hstart
    have hstart' : LB.moveBufferStart S U lb = .ok (decide (lb.pos > lb.pos), lb, []) := hstart
    exact ⟨none, false, lb, [.startKill, .stopKill],
      by simp [LB.kill, LM.bind_apply, LM.notify, LM.get, hstart', hemp], rfl,
      fun _ => judged_of_isEmpty (by simp [hemp]) _ _⟩
  · obtain ⟨y, l, ns, _, hd, hcut⟩ :=
      drainAround_cut S U lb.pos (isBoundary_zero lb.buf) (isBoundary_len lb.buf) h (Nat.zero_le _)
    exact ⟨some (0, blen lb.buf), true, l, _,
      by simp [LB.kill, LM.bind_apply, LM.notify, LM.get, hstart, hemp, LB.len, hd],
      Killed.wrap ⟨Nat.zero_le _, h.le_len, hcut⟩,
      fun _ => Or.inr (spanOf_wholeBuffer (by simpa using hemp) _ _)⟩

theorem copy_forwardChar_eval (S : Segmenter) (U : UData) (lb : LB) (n : Nat) (h : WF lb) :
    CopiesSpan S U True (.forwardChar n) lb := by
  by_cases hemp : lb.buf.isEmpty = true
  · exact copiesSpan_of_isEmpty hemp
  obtain ⟨q, hq, hp⟩ := nextPos_ok S lb n h
  obtain ⟨r, hr, hc⟩ := lookup_slice_eval (lb := lb) hq (fun _ => lb.pos) (fun p => p)
    fun p e => ⟨h, (hp p e).1, Nat.le_of_lt (hp p e).2⟩
  exact ⟨_, r, by unfold LB.copy; rw [if_neg hemp]; exact hr, hc, fun _ => judged_forwardChar U h hq true⟩

theorem copy_backwardChar_eval (S : Segmenter) (U : UData) (lb : LB) (n : Nat) (h : WF lb) :
    CopiesSpan S U True (.backwardChar n) lb := by
  by_cases hemp : lb.buf.isEmpty = true
  · exact copiesSpan_of_isEmpty hemp
  obtain ⟨q, hq, hp⟩ := prevPos_ok S lb n h
  obtain ⟨r, hr, hc⟩ := lookup_slice_eval (lb := lb) hq (fun p => p) (fun _ => lb.pos)
    fun p e => ⟨(hp p e).1, h, Nat.le_of_lt (hp p e).2⟩
  exact ⟨_, r, by unfold LB.copy; rw [if_neg hemp]; exact hr, hc, fun _ => judged_backwardChar U h hq true⟩

theorem copy_forwardWord_eval (S : Segmenter) (U : UData) (lb : LB) (n : Nat) (a : At) (d : Word) (h : WF lb) :
    CopiesSpan S U True (.forwardWord n a d) lb := by
  by_cases hemp : lb.buf.isEmpty = true
  · exact copiesSpan_of_isEmpty hemp
  obtain ⟨q, hq, hp⟩ := nextWordPosR_ok_all S U lb a d n true h
  obtain ⟨r, hr, hc⟩ := lookup_slice_eval (lb := lb) hq (fun _ => lb.pos) (fun p => p)
    fun p e => ⟨h, (hp p e).1, (hp p e).2⟩
  exact ⟨_, r, by unfold LB.copy; rw [if_neg hemp]; exact hr, hc, fun _ => judged_forwardWord U h hq true⟩

theorem copy_backwardWord_eval (S : Segmenter) (U : UData) (lb : LB) (n : Nat) (d : Word) (h : WF lb) :
    CopiesSpan S U True (.backwardWord n d) lb := by
  by_cases hemp : lb.buf.isEmpty = true
  · exact copiesSpan_of_isEmpty hemp
  obtain ⟨q, hq, hp⟩ := prevWordPos_ok S U lb d n h
  obtain ⟨r, hr, hc⟩ := lookup_slice_eval (lb := lb) hq (fun p => p) (fun _ => lb.pos)
    fun p e => ⟨(hp p e).1, h, (hp p e).2⟩
  exact ⟨_, r, by unfold LB.copy; rw [if_neg hemp]; exact hr, hc, fun _ => judged_backwardWord U h hq true⟩

theorem copy_wholeLine_eval (S : Segmenter) (U : UData) (lb : LB) (h : WF lb) :
    CopiesSpan S U True .wholeLine lb := by
  by_cases hemp : lb.buf.isEmpty = true
  · exact copiesSpan_of_isEmpty hemp
  obtain ⟨hlsb, hlsle⟩ := lineStartOf_spec lb h
  obtain ⟨hleb, hlele⟩ := lineEndOf_spec lb h
  obtain ⟨r, hr, hc⟩ := slice_unless_eval (lineStartOf lb.buf lb.pos == lineEndOf lb.buf lb.pos) hlsb hleb
    (Nat.le_trans hlsle hlele)
  refine ⟨_, r, by unfold LB.copy; rw [if_neg hemp, startOfLine_eq lb h, endOfLine_eq lb h]; exact hr, hc,
    fun _ => Or.inr ?_⟩
  rw [spanOf_wholeLine (by simpa using hemp)]
  by_cases hse : lineStartOf lb.buf lb.pos = lineEndOf lb.buf lb.pos
  · simp [hse, rangeSpan]
  · have h1 : lineStartOf lb.buf lb.pos < lineEndOf lb.buf lb.pos := by omega
    simp [hse, h1, rangeSpan, mkSpan]

theorem copy_beginningOfLine_eval (S : Segmenter) (U : UData) (lb : LB) (h : WF lb) :
    CopiesSpan S U True .beginningOfLine lb := by
  by_cases hemp : lb.buf.isEmpty = true
  · exact copiesSpan_of_isEmpty hemp
  obtain ⟨hlsb, hlsle⟩ := lineStartOf_spec lb h
  obtain ⟨r, hr, hc⟩ := slice_unless_eval (lb.pos == lineStartOf lb.buf lb.pos) hlsb h hlsle
  refine ⟨_, r, by unfold LB.copy; rw [if_neg hemp, startOfLine_eq lb h]; exact hr, hc, fun _ => Or.inr ?_⟩
  rw [spanOf_beginningOfLine (by simpa using hemp)]
  by_cases hse : lb.pos = lineStartOf lb.buf lb.pos
  · simp [← hse, rangeSpan]
  · have h1 : lineStartOf lb.buf lb.pos < lb.pos := by omega
    simp [hse, h1, rangeSpan, mkSpan]

theorem copy_endOfLine_eval (S : Segmenter) (U : UData) (lb : LB) (h : WF lb) :
    CopiesSpan S U True .endOfLine lb := by
  by_cases hemp : lb.buf.isEmpty = true
  · exact copiesSpan_of_isEmpty hemp
  obtain ⟨hleb, hlele⟩ := lineEndOf_spec lb h
  obtain ⟨r, hr, hc⟩ := slice_unless_eval (lb.pos == lineEndOf lb.buf lb.pos) h hleb hlele
  refine ⟨_, r, by unfold LB.copy; rw [if_neg hemp, endOfLine_eq lb h]; exact hr, hc, fun _ => Or.inr ?_⟩
  rw [spanOf_endOfLine (by simpa using hemp)]
  by_cases hse : lb.pos = lineEndOf lb.buf lb.pos
  · simp [← hse, rangeSpan]
  · have h1 : lb.pos < lineEndOf lb.buf lb.pos := by omega
    simp [hse, h1, rangeSpan, mkSpan]

theorem copy_endOfBuffer_eval (S : Segmenter) (U : UData) (lb : LB) (h : WF lb) :
    CopiesSpan S U True .endOfBuffer lb := by
  by_cases hemp : lb.buf.isEmpty = true
  · exact copiesSpan_of_isEmpty hemp
  have hemp' : lb.buf.isEmpty = false := by simpa using hemp
  have hlen : lb.len = blen lb.buf := rfl
  by_cases hse : lb.pos = lb.len
  · exact ⟨none, none, by simp [LB.copy, hemp', hse, pure, Except.pure], rfl,
      fun _ => Or.inr (by simp [spanOf_endOfBuffer hemp', mkSpan, hse, hlen, rangeSpan])⟩
  · obtain ⟨x, s, hbuf, hx, _, _, hsf⟩ := h.cut
    exact ⟨some (lb.pos, blen lb.buf), some s, by simp [LB.copy, hemp', hse, hsf, bind, Except.bind, pure, Except.pure],
      ⟨x, s, [], by simpa using hbuf, hx, by rw [hbuf]; simp, rfl⟩, fun _ => Or.inr (spanOf_endOfBuffer hemp' _ _)⟩

theorem copy_beginningOfBuffer_eval (S : Segmenter) (U : UData) (lb : LB) (h : WF lb) :
    CopiesSpan S U True .beginningOfBuffer lb := by
  by_cases hemp : lb.buf.isEmpty = true
  · exact copiesSpan_of_isEmpty hemp
  have hemp' : lb.buf.isEmpty = false := by simpa using hemp
  by_cases hse : lb.pos = 0
  · exact ⟨none, none, by simp [LB.copy, hemp', hse, pure, Except.pure], rfl,
      fun _ => Or.inr (by simp [spanOf_beginningOfBuffer hemp', mkSpan, hse, rangeSpan])⟩
  · obtain ⟨x, z, hbuf, hx, _, hst, _⟩ := h.cut
    exact ⟨some (0, lb.pos), some x, by simp [LB.copy, hemp', hse, hst, bind, Except.bind, pure, Except.pure],
      ⟨[], x, z, by simpa using hbuf, rfl, by simpa using hx, rfl⟩,
      fun _ => Or.inr (spanOf_beginningOfBuffer hemp' _ _)⟩

theorem copy_wholeBuffer_eval (S : Segmenter) (U : UData) (lb : LB) :
    CopiesSpan S U True .wholeBuffer lb := by
  by_cases hemp : lb.buf.isEmpty = true
  · exact copiesSpan_of_isEmpty hemp
  have hemp' : lb.buf.isEmpty = false := by simpa using hemp
  exact ⟨some (0, blen lb.buf), some lb.buf, by simp [LB.copy, hemp', pure, Except.pure],
    ⟨[], lb.buf, [], by simp, rfl, by simp, rfl⟩, fun _ => Or.inr (spanOf_wholeBuffer hemp' _ _)⟩

/-! ### every movement -/

/-- **every kill**, from a well-formed state: it returns; it has done nothing or cut a range around the
    cursor out, left the cursor on the start of the range and reported the text of the range; and for a
    segmenter that is stable and keeps the line break alone that range is the declarative span -/
theorem kill_eval (S : Segmenter) (U : UData) (mvt : Movement) (lb : LB) (h : WF lb) :
    KillsSpan S U (S.Stable ∧ S.NlAlone) mvt (LB.kill S U mvt) lb := by
  cases mvt with
  | forwardChar n => exact (kill_forwardChar_eval S U lb n h).mono fun _ => trivial
  | backwardChar n => exact (kill_backwardChar_eval S U lb n h).mono fun _ => trivial
  | forwardWord n a d => exact (deleteWord_eval S U a d n lb h).wrap.mono fun _ => trivial
  | backwardWord n d => exact (deletePrevWord_eval S U d n lb h).wrap.mono fun _ => trivial
  | endOfLine => exact (killLine_eval S U lb h).wrap.mono fun _ => trivial
  | beginningOfLine => exact (discardLine_eval S U lb h).wrap.mono fun _ => trivial
  | wholeLine => exact (kill_wholeLine_eval S U lb h).mono fun hh => hh.2
  | endOfBuffer => exact (killBuffer_eval S U lb h).wrap.mono fun _ => trivial
  | beginningOfBuffer => exact (discardBuffer_eval S U lb h).wrap.mono fun _ => trivial
  | wholeBuffer => exact (kill_wholeBuffer_eval S U lb h).mono fun _ => trivial
  | viCharSearch n cs => exact (deleteTo_eval S U lb cs n h).wrap.mono fun hh _ _ => hh.1
  | viFirstPrint => exact (kill_viFirstPrint_eval S U lb h).mono fun _ => trivial
  | lineUp n => exact (kill_lineUp_eval S U lb n h).mono fun _ => trivial
  | lineDown n => exact (kill_lineDown_eval S U lb n h).mono fun _ => trivial

/-- **every copy**, from a well-formed state: it returns nothing or the text of a range, and for a stable
    segmenter that range is the declarative span -/
theorem copy_eval (S : Segmenter) (U : UData) (mvt : Movement) (lb : LB) (h : WF lb) :
    CopiesSpan S U S.Stable mvt lb := by
  cases mvt with
  | forwardChar n => exact (copy_forwardChar_eval S U lb n h).mono fun _ => trivial
  | backwardChar n => exact (copy_backwardChar_eval S U lb n h).mono fun _ => trivial
  | forwardWord n a d => exact (copy_forwardWord_eval S U lb n a d h).mono fun _ => trivial
  | backwardWord n d => exact (copy_backwardWord_eval S U lb n d h).mono fun _ => trivial
  | endOfLine => exact (copy_endOfLine_eval S U lb h).mono fun _ => trivial
  | beginningOfLine => exact (copy_beginningOfLine_eval S U lb h).mono fun _ => trivial
  | wholeLine => exact (copy_wholeLine_eval S U lb h).mono fun _ => trivial
  | endOfBuffer => exact (copy_endOfBuffer_eval S U lb h).mono fun _ => trivial
  | beginningOfBuffer => exact (copy_beginningOfBuffer_eval S U lb h).mono fun _ => trivial
  | wholeBuffer => exact (copy_wholeBuffer_eval S U lb).mono fun _ => trivial
  | viCharSearch n cs => exact (copy_viCharSearch_eval S U lb cs n h).mono fun hh _ _ => hh
  | viFirstPrint => exact (copy_viFirstPrint_eval S U lb h).mono fun _ => trivial
  | lineUp n => exact (copy_lineUp_eval S U lb n h).mono fun _ => trivial
  | lineDown n => exact (copy_lineDown_eval S U lb n h).mono fun _ => trivial

end Rl
