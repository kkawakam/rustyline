/-
  C02: the line-buffer operations the editor calls are *faithful* (`LBFaithful`, `Rl/Lemmas/RenderLogExec.lean`):
  a motion leaves the text alone and answers `false` only if the cursor did not move; an edit that answers
  "nothing changed" (`false` / `None`) changed neither text nor cursor; an Undo that undid nothing left the
  line alone.  Statements about `Rl/LineBuffer.lean` / `Rl/Undo.lean` alone, for every segmenter and every
  Unicode data.

  Method: `NC chg m` ("no change": an answer with `chg r = false` left text and cursor alone) is composed along the
  `do` block of each method from `Hush` (the step touches nothing) and `Ans` (what the step answers) by the walk
  `nc_walk`; `NC.editOK` / `moveOKB_of_nc` turn it into the fields of `LBFaithful` (`lbFaithful`).
-/
import Rl.Lemmas.RenderLogExec
import Rl.Lemmas.LineBuffer
import Rl.Lemmas.LineBufferSafe
import Rl.Lemmas.KillSpan
namespace Rl
open Rl.Spec

/-- a motion that only sets the cursor (`PosOnly`) and leaves it where it stood whenever it answers `false` -/
theorem moveOKB_of_posOnly {op : LM Bool} (hp : PosOnly op)
    (hfalse : ∀ lb lb' ns, op lb = .ok (false, lb', ns) → lb'.pos = lb.pos) : MoveOKB op := by
  intro lb r lb' ns _ h
  refine ⟨(hp.h _ _ _ _ h).1, fun hr => ?_⟩
  subst hr
  exact hfalse _ _ _ h

/-! ### a small calculus for "said nothing changed ⇒ changed nothing" -/

/-- `m` leaves the state alone (it may notify) -/
def Hush {α : Type} (m : LM α) : Prop := ∀ lb a lb' ns, m lb = .ok (a, lb', ns) → lb' = lb

def Ans {α : Type} (P : α → Prop) (m : LM α) : Prop := ∀ lb a lb' ns, m lb = .ok (a, lb', ns) → P a

/-- "no change": an answer `r` with `chg r = false` means text and cursor are as they were (`EditOK` without the
    boundary hypothesis) -/
def NC {α : Type} (chg : α → Bool) (m : LM α) : Prop :=
  ∀ lb r lb' ns, m lb = .ok (r, lb', ns) → chg r = false → lb'.buf = lb.buf ∧ lb'.pos = lb.pos

def HushRet {α : Type} (a : α) (m : LM α) : Prop := Hush m ∧ Ans (· = a) m

theorem NC.editOK {α : Type} {chg : α → Bool} {m : LM α} (h : NC chg m) : EditOK m chg :=
  fun lb r lb' ns _ hr hc => h lb r lb' ns hr hc

namespace Hush
variable {α β : Type}
theorem ro (f : LB → Except Panic α) : Hush (LM.ro f) := by
  intro lb r lb' ns h; unfold LM.ro at h; split at h <;> cases h; rfl
theorem get : Hush LM.get := ro .ok
theorem pure (a : α) : Hush (Pure.pure a : LM α) := ro fun _ => .ok a
theorem panic : Hush (LM.panic : LM α) := ro fun _ => .error .panic
theorem lift (e : Except Panic α) : Hush (LM.lift e) := ro fun _ => e
theorem notify (n : Notif) : Hush (LM.notify n) := by intro lb r lb' ns h; cases h; rfl
theorem bind {m : LM α} {k : α → LM β} (hm : Hush m) (hk : ∀ a, Hush (k a)) : Hush (m >>= k) := by
  intro lb r lb' ns h
  obtain ⟨a, lb1, n1, n2, h1, h2, rfl⟩ := LM.bind_ok h
  rw [hk a _ _ _ _ h2, hm _ _ _ _ h1]
end Hush

namespace Ans
variable {α β : Type}
theorem bind {P : β → Prop} {m : LM α} {k : α → LM β} (hk : ∀ a, Ans P (k a)) : Ans P (m >>= k) := by
  intro lb r lb' ns h
  obtain ⟨a, lb1, n1, n2, h1, h2, rfl⟩ := LM.bind_ok h
  exact hk a _ _ _ _ h2
theorem pure {P : α → Prop} {a : α} (h : P a) : Ans P (Pure.pure a : LM α) := by
  intro lb r lb' ns hr; cases hr; exact h
theorem panic {P : α → Prop} : Ans P (LM.panic : LM α) := by intro lb r lb' ns hr; cases hr
theorem not_false {chg : α → Bool} {m : LM α} (h : Ans (fun a => chg a = true) m) {lb lb' : LB} {r : α}
    {ns : List Notif} (hr : m lb = .ok (r, lb', ns)) (hc : chg r = false) : False := by
  have := h _ _ _ _ hr
  simp only at this
  rw [this] at hc; cases hc
end Ans

namespace HushRet
variable {α β : Type}
theorem pure (a : α) : HushRet a (Pure.pure a : LM α) := ⟨Hush.pure a, Ans.pure rfl⟩
theorem bind_quiet {b : β} {m : LM α} {k : α → LM β} (hm : Hush m)
    (hk : ∀ a, HushRet b (k a)) : HushRet b (m >>= k) :=
  ⟨Hush.bind hm fun a => (hk a).1, Ans.bind fun a => (hk a).2⟩
end HushRet

namespace NC
variable {α β : Type}
theorem of_hushRet {chg : α → Bool} {a : α} {m : LM α} (h : HushRet a m) : NC chg m := by
  intro lb r lb' ns hr _
  rw [h.1 _ _ _ _ hr]; exact ⟨rfl, rfl⟩
theorem pure {chg : α → Bool} (a : α) : NC chg (Pure.pure a : LM α) := of_hushRet (.pure a)
theorem panic {chg : α → Bool} : NC chg (LM.panic : LM α) := by intro lb r lb' ns hr; cases hr
theorem bind_quiet {chg : β → Bool} {m : LM α} {k : α → LM β} (hm : Hush m) (hk : ∀ a, NC chg (k a)) :
    NC chg (m >>= k) := by
  intro lb r lb' ns h hc
  obtain ⟨a, lb1, n1, n2, h1, h2, rfl⟩ := LM.bind_ok h
  have := hm _ _ _ _ h1
  subst this
  exact hk a _ _ _ _ h2 hc
theorem get_bind {chg : β → Bool} {k : LB → LM β} (hk : ∀ a, NC chg (k a)) : NC chg (LM.get >>= k) :=
  bind_quiet Hush.get hk
theorem ro_bind {chg : β → Bool} {f : LB → Except Panic α} {k : α → LM β} (hk : ∀ a, NC chg (k a)) :
    NC chg (LM.ro f >>= k) := bind_quiet (Hush.ro f) hk
theorem lift_bind {chg : β → Bool} {e : Except Panic α} {k : α → LM β} (hk : ∀ a, NC chg (k a)) :
    NC chg (LM.lift e >>= k) := bind_quiet (Hush.lift e) hk
theorem notify_bind {chg : β → Bool} {n : Notif} {k : Unit → LM β} (hk : ∀ a, NC chg (k a)) :
    NC chg (LM.notify n >>= k) := bind_quiet (Hush.notify n) hk
theorem pure_bind {chg : β → Bool} {a : α} {k : α → LM β} (hk : ∀ a, NC chg (k a)) :
    NC chg (Pure.pure a >>= k) := bind_quiet (Hush.pure a) hk
theorem panic_bind {chg : β → Bool} {k : α → LM β} (hk : ∀ a, NC chg (k a)) :
    NC chg ((LM.panic : LM α) >>= k) := bind_quiet Hush.panic hk
/-- whatever the first step does, every path after it answers "changed" -/
theorem bind_ret {chg : β → Bool} {m : LM α} {k : α → LM β} (hk : ∀ a, Ans (fun b => chg b = true) (k a)) :
    NC chg (m >>= k) := fun _ _ _ _ hr hc => ((Ans.bind hk).not_false hr hc).elim
/-- the answer of `m` is handed on unchanged by a quiet tail (`notify StopKill; return killed`) -/
theorem bind_tail {chg : α → Bool} {chg' : β → Bool} {m : LM α} {k : α → LM β} (hm : NC chg m)
    (hk : ∀ a, ∃ b, chg' b = chg a ∧ HushRet b (k a)) : NC chg' (m >>= k) := by
  intro lb r lb' ns h hc
  obtain ⟨a, lb1, n1, n2, h1, h2, rfl⟩ := LM.bind_ok h
  obtain ⟨b, hb, hq⟩ := hk a
  obtain rfl : r = b := hq.2 _ _ _ _ h2
  obtain rfl := hq.1 _ _ _ _ h2
  exact hm _ _ _ _ h1 (by rw [← hb]; exact hc)
end NC

theorem moveOKB_of_nc {op : LM Bool} (hp : PosOnly op) (hn : NC id op) : MoveOKB op := by
  intro lb r lb' ns _ h
  exact ⟨(hp.h _ _ _ _ h).1, fun hr => (hn _ _ _ _ h (by simpa using hr)).2⟩

/-- structural descent through a `do` block for `NC`: past the steps that leave the state alone (and the
    calls given as rules, when they come last); from the first step that may touch the state on, every path
    has to answer "changed" (`NC.bind_ret`, then `Ans`) -/
syntax "nc_walk" "[" term,* "]" : tactic
macro_rules
  | `(tactic| nc_walk [$ts,*]) => `(tactic| repeat' (first
      | with_reducible (first
        | intro _
        | apply Ans.bind | apply Ans.panic
        | apply NC.get_bind | apply NC.ro_bind | apply NC.lift_bind | apply NC.pure | apply NC.panic_bind
        | apply NC.notify_bind | apply NC.pure_bind | apply NC.panic
        $[| apply $ts]*
        | apply NC.bind_ret | apply lm_ite)
      | ((with_reducible apply Ans.pure) <;> exact rfl)
      | dsimp only
      | split))

section
-- kept folded while walking, so that `apply` does not go looking for binders inside them
attribute [local irreducible] NC Ans

/-- the shape of five motions -/
theorem moveOKB_ro (f : LB → Except Panic (Option Nat)) :
    MoveOKB (do match ← LM.ro f with
                | some p => LM.setPos p; return true
                | none => return false) :=
  moveOKB_of_nc (posOnly_prims.lookup f) (by nc_walk [])

theorem faithful_moveBackward (S : Segmenter) (U : UData) (n : Nat) : MoveOKB (LB.moveBackward S U n) :=
  moveOKB_ro _

theorem faithful_moveForward (S : Segmenter) (U : UData) (n : Nat) : MoveOKB (LB.moveForward S U n) :=
  moveOKB_ro _

theorem faithful_moveToPrevWord (S : Segmenter) (U : UData) (w : Word) (n : Nat) :
    MoveOKB (LB.moveToPrevWord S U w n) := moveOKB_ro _

theorem faithful_moveToNextWord (S : Segmenter) (U : UData) (a : At) (w : Word) (n : Nat) :
    MoveOKB (LB.moveToNextWord S U a w n) := moveOKB_ro _

theorem faithful_moveTo (S : Segmenter) (U : UData) (cs : CharSearch) (n : Nat) :
    MoveOKB (LB.moveTo S U cs n) := moveOKB_ro _

theorem faithful_moveBufferStart (S : Segmenter) (U : UData) : MoveOKB (LB.moveBufferStart S U) :=
  moveOKB_of_nc (PosOnly.moveBufferStart S U) (by unfold LB.moveBufferStart; nc_walk [])

theorem faithful_moveBufferEnd (S : Segmenter) (U : UData) : MoveOKB (LB.moveBufferEnd S U) :=
  moveOKB_of_nc (PosOnly.moveBufferEnd S U) (by unfold LB.moveBufferEnd; nc_walk [])

theorem faithful_moveHome (S : Segmenter) (U : UData) : MoveOKB (LB.moveHome S U) :=
  moveOKB_of_nc (PosOnly.moveHome S U) (by unfold LB.moveHome; nc_walk [])

theorem faithful_moveEnd (S : Segmenter) (U : UData) : MoveOKB (LB.moveEnd S U) :=
  moveOKB_of_nc (PosOnly.moveEnd S U) (by unfold LB.moveEnd; nc_walk [])

/-- the answer is computed (`p != pos`, D46): `false` means the cursor was put where it stood -/
theorem faithful_moveToFirstPrint (S : Segmenter) (U : UData) : MoveOKB (LB.moveToFirstPrint S U) := by
  intro lb r lb' ns _ h
  unfold LB.moveToFirstPrint at h
  cases hs : LB.firstPrint S U lb with
  | error e => simp [LM.bind_apply, LM.ro, hs] at h
  | ok p =>
    simp [LM.bind_apply, LM.ro, hs, LM.get, LM.setPos] at h
    obtain ⟨rfl, rfl, _⟩ := h
    exact ⟨rfl, fun hr => by simpa using hr⟩

theorem faithful_moveToLineUp (S : Segmenter) (U : UData) (n pc : Nat) : MoveOKB (LB.moveToLineUp S U n pc) :=
  moveOKB_of_nc (PosOnly.moveToLineUp S U n pc) (by unfold LB.moveToLineUp; nc_walk [])

theorem faithful_moveToLineDown (S : Segmenter) (U : UData) (n pc : Nat) : MoveOKB (LB.moveToLineDown S U n pc) :=
  moveOKB_of_nc (PosOnly.moveToLineDown S U n pc) (by unfold LB.moveToLineDown; nc_walk [])

theorem nc_delete (S : Segmenter) (U : UData) (n : Nat) : NC Option.isSome (LB.delete S U n) := by
  unfold LB.delete; nc_walk []

theorem nc_backspace (S : Segmenter) (U : UData) (n : Nat) : NC id (LB.backspace S U n) := by
  unfold LB.backspace; nc_walk []

theorem nc_killLine (S : Segmenter) (U : UData) : NC id (LB.killLine S U) := by
  unfold LB.killLine; nc_walk []
theorem nc_killBuffer (S : Segmenter) (U : UData) : NC id (LB.killBuffer S U) := by
  unfold LB.killBuffer; nc_walk []
theorem nc_discardLine (S : Segmenter) (U : UData) : NC id (LB.discardLine S U) := by
  unfold LB.discardLine; nc_walk [nc_backspace _ _ _]
theorem nc_discardBuffer (S : Segmenter) (U : UData) : NC id (LB.discardBuffer S U) := by
  unfold LB.discardBuffer; nc_walk []
theorem nc_deletePrevWord (S : Segmenter) (U : UData) (d : Word) (n : Nat) : NC id (LB.deletePrevWord S U d n) := by
  unfold LB.deletePrevWord; nc_walk []
theorem nc_deleteWord (S : Segmenter) (U : UData) (a : At) (d : Word) (n : Nat) : NC id (LB.deleteWord S U a d n) := by
  unfold LB.deleteWord; nc_walk []
theorem nc_deleteTo (S : Segmenter) (U : UData) (cs : CharSearch) (n : Nat) : NC id (LB.deleteTo S U cs n) := by
  unfold LB.deleteTo; nc_walk []
theorem nc_yank (S : Segmenter) (U : UData) (t : Text) (n : Nat) : NC Option.isSome (LB.yank S U t n) := by
  unfold LB.yank; nc_walk []
theorem nc_transposeChars (S : Segmenter) (U : UData) : NC id (LB.transposeChars S U) := by
  unfold LB.transposeChars; nc_walk []
theorem nc_editWord (S : Segmenter) (U : UData) (a : WordAction) : NC id (LB.editWord S U a) := by
  unfold LB.editWord; nc_walk []

/-- every way of choosing the range only reads; the lines are rewritten after that, and the answer is `true` -/
theorem nc_indent (S : Segmenter) (U : UData) (m : Movement) (k : Nat) (d : Bool) : NC id (LB.indent S U m k d) := by
  unfold LB.indent
  refine NC.bind_quiet Hush.get fun lb => ?_
  extract_lets _ tail
  have ht : ∀ pair, NC id (tail pair) := by
    intro pair
    dsimp only [tail]
    nc_walk []
  clear_value tail
  nc_walk [ht _]

/-- `yank_pop` asks whether the replacement fits before it removes anything (D44) -/
theorem nc_yankPop (S : Segmenter) (U : UData) (k : Nat) (t : Text) : NC Option.isSome (LB.yankPop S U k t) := by
  unfold LB.yankPop; nc_walk []

/-- `yank_pop` answers `None` only when the replacement does not fit, and then nothing has been touched -/
theorem faithful_yankPop (S : Segmenter) (U : UData) (k : Nat) (t : Text) :
    EditOK (LB.yankPop S U k t) Option.isSome := (nc_yankPop S U k t).editOK

/-- `kill` for every movement whose "nothing killed" paths touch nothing at all: the answer of the method
    called is handed on past `notify StopKill`; `d^` (D46) answers `false` only when the cursor already is on
    the first non-blank of the line -/
theorem nc_kill (S : Segmenter) (U : UData) (mvt : Movement) (h1 : mvt ≠ .wholeLine) (h2 : mvt ≠ .wholeBuffer) :
    NC id (LB.kill S U mvt) := by
  unfold LB.kill
  extract_lets notif stop core
  have hs : ∀ killed, HushRet killed (stop killed) := by
    intro killed
    dsimp only [stop]
    split
    · exact HushRet.bind_quiet (Hush.notify _) fun _ => HushRet.pure _
    · exact HushRet.pure _
  clear_value stop
  have tl : ∀ {m : LM Bool}, NC id m → NC id (m >>= stop) := fun hm => NC.bind_tail (chg := id) hm fun a => ⟨a, rfl, hs a⟩
  have s1 : NC id (stop false) := NC.of_hushRet (hs false)
  have s2 : Ans (fun b => id b = true) (stop true) := (hs true).2
  have hc : ∀ u, NC id (core u) := by
    intro u
    dsimp only [core]
    simp only [LM.pure_bind]
    cases mvt <;> dsimp only
    case wholeLine => exact absurd rfl h1
    case wholeBuffer => exact absurd rfl h2
    case forwardChar n =>
      exact NC.bind_tail (chg := Option.isSome) (chg' := id) (nc_delete S U n) fun a => ⟨a.isSome, rfl, hs _⟩
    case backwardChar n => exact tl (nc_backspace S U n)
    case endOfLine => exact tl (nc_killLine S U)
    case beginningOfLine => exact tl (nc_discardLine S U)
    case backwardWord n d => exact tl (nc_deletePrevWord S U d n)
    case forwardWord n a d => exact tl (nc_deleteWord S U a d n)
    case viCharSearch n cs => exact tl (nc_deleteTo S U cs n)
    case endOfBuffer => exact tl (nc_killBuffer S U)
    case beginningOfBuffer => exact tl (nc_discardBuffer S U)
    case viFirstPrint =>
      refine NC.ro_bind fun first => NC.get_bind fun lb => ?_
      by_cases hlt : first < lb.pos
      · have : (first != lb.pos) = true := by simp; omega
        simp only [hlt, if_true, this]
        exact NC.bind_ret fun _ => Ans.bind fun _ => s2
      · by_cases hgt : first > lb.pos
        · have : (first != lb.pos) = true := by simp; omega
          simp only [hlt, hgt, if_true, if_false, this]
          exact NC.bind_ret fun _ => s2
        · have : (first != lb.pos) = false := by simp; omega
          simp only [hlt, hgt, if_false, this]
          exact s1
    all_goals nc_walk [s1, s2]
  clear_value core
  split
  · exact NC.notify_bind hc
  · exact hc ()

end

/-! ### `transpose_words`: the cursor wanders and is put back -/

/-- from any state holding the text `b0`, an answer `false` comes with the text `b0` and the cursor on `p0` -/
def Back (b0 : Text) (p0 : Nat) (m : LM Bool) : Prop :=
  ∀ lb r lb' ns, lb.buf = b0 → m lb = .ok (r, lb', ns) → r = false → lb'.buf = b0 ∧ lb'.pos = p0

theorem Back.bind_posOnly {α : Type} {b0 : Text} {p0 : Nat} {m : LM α} {k : α → LM Bool} (hm : PosOnly m)
    (hk : ∀ a, Back b0 p0 (k a)) : Back b0 p0 (m >>= k) := by
  intro lb r lb' ns hb h hr
  obtain ⟨a, lb1, n1, n2, h1, h2, rfl⟩ := LM.bind_ok h
  exact hk a lb1 r lb' n2 (by rw [(hm.h _ _ _ _ h1).1, hb]) h2 hr

theorem Back.of_ret {b0 : Text} {p0 : Nat} {m : LM Bool} (h : Ans (fun a => a = true) m) : Back b0 p0 m :=
  fun _ _ _ _ _ hr hf => (h.not_false (chg := id) hr hf).elim

theorem Back.setPos_false (b0 : Text) (p0 : Nat) :
    Back b0 p0 (LM.setPos p0 >>= fun _ => (Pure.pure false : LM Bool)) := by
  intro lb r lb' ns hb h _
  simp [LM.bind_apply, LM.setPos] at h
  obtain ⟨_, rfl, _⟩ := h
  exact ⟨hb, rfl⟩

theorem nc_transposeWords (S : Segmenter) (U : UData) (n : Nat) : NC id (LB.transposeWords S U n) := by
  intro lb r lb' ns h hr
  unfold LB.transposeWords at h
  obtain ⟨a, lb1, n1, n2, h1, h2, rfl⟩ := LM.bind_ok h
  cases h1
  refine (?_ : Back lb.buf lb.pos _) lb r lb' n2 rfl h2 (by simpa using hr)
  refine Back.bind_posOnly (PosOnly.moveToNextWord S U _ _ _) fun _ => ?_
  refine Back.bind_posOnly PosOnly.get fun _ => ?_
  refine Back.bind_posOnly (PosOnly.moveToPrevWord S U _ _) fun _ => ?_
  refine Back.bind_posOnly PosOnly.get fun _ => ?_
  refine Back.bind_posOnly (PosOnly.moveToPrevWord S U _ _) fun _ => ?_
  refine Back.bind_posOnly PosOnly.get fun _ => ?_
  refine Back.bind_posOnly (PosOnly.moveToNextWord S U _ _ _) fun _ => ?_
  refine Back.bind_posOnly PosOnly.get fun _ => ?_
  dsimp only
  split
  · exact Back.setPos_false _ _
  · refine Back.of_ret ?_
    nc_walk []

/-! ### the two kills that move the cursor before they look -/

theorem editOK_kill_wholeBuffer (S : Segmenter) (U : UData) : EditOK (LB.kill S U .wholeBuffer) id := by
  intro lb r lb' ns hwf h hr
  have hr' : r = false := by simpa using hr
  subst hr'
  have hstart := moveBufferStart_eval S U lb
  by_cases hemp : lb.buf = []
  · have hp : lb.pos = 0 := by
      have := IsBoundary.le_len hwf
      simp [hemp] at this; exact this
    simp [LB.kill, LM.bind_apply, LM.notify, LM.get, hstart, hemp] at h
    obtain ⟨rfl, _⟩ := h
    exact ⟨hemp.symm, hp.symm⟩
  · simp [LB.kill, LM.bind_apply, LM.notify, LM.get, hstart, hemp, LB.len] at h
    cases hd : LB.drainAround 0 (blen lb.buf) lb.pos { lb with pos := 0 } with
    | error e => simp [hd] at h
    | ok v => simp [hd] at h

/-- `kill WholeLine` goes to the start of the line and kills from there.  With `ls` / `le` the start and end of
    the cursor's line: if `ls < le` the range is drained and the answer is `true`; otherwise the line is empty,
    so the cursor stood at `ls` already, and what is left is a `kill_line` from there, which changed nothing
    if it says so (`nc_killLine`) -/
theorem editOK_kill_wholeLine (S : Segmenter) (U : UData) : EditOK (LB.kill S U .wholeLine) id := by
  intro lb r lb' ns hwf h hr
  have hr' : r = false := by simpa using hr
  subst hr'
  have hwf' : WF lb := hwf
  obtain ⟨hlsb, hlsle⟩ := lineStartOf_spec lb hwf'
  obtain ⟨hleb, hlele⟩ := lineEndOf_spec lb hwf'
  have hhome := moveHome_eval S U (startOfLine_eq lb hwf') hlsle
  have hle1 : lineEndOf lb.buf (lineStartOf lb.buf lb.pos) = lineEndOf lb.buf lb.pos := lineEndOf_lineStartOf lb hwf'
  generalize hls : lineStartOf lb.buf lb.pos = ls at *
  have hwf1 : WF { lb with pos := ls } := hlsb
  have hel1 := endOfLine_eq _ hwf1
  simp only [hle1] at hel1
  generalize hle : lineEndOf lb.buf lb.pos = le at *
  by_cases hlt : ls < le
  · simp [LB.kill, LM.bind_apply, LM.notify, LM.get, hhome, LM.ro, hel1, hlt] at h
    cases hd : LB.drainAround ls le lb.pos { lb with pos := ls } with
    | error e => simp [hd] at h
    | ok v => simp [hd] at h
  · have hpe : ls = lb.pos := by omega
    simp [LB.kill, LM.bind_apply, LM.notify, LM.get, hhome, LM.ro, hel1, hlt] at h
    cases hk : LB.killLine S U { lb with pos := ls } with
    | error e => simp [hk] at h
    | ok v =>
      obtain ⟨r1, l2, n2⟩ := v
      simp [hk] at h
      obtain ⟨rfl, rfl, _⟩ := h
      have := nc_killLine S U _ _ _ _ hk rfl
      exact ⟨this.1, by rw [this.2]; exact hpe⟩

theorem faithful_kill (S : Segmenter) (U : UData) (mvt : Movement) : EditOK (LB.kill S U mvt) id := by
  by_cases h1 : mvt = .wholeLine
  · subst h1; exact editOK_kill_wholeLine S U
  · by_cases h2 : mvt = .wholeBuffer
    · subst h2; exact editOK_kill_wholeBuffer S U
    · exact (nc_kill S U mvt h1 h2).editOK

theorem undoStep_false (S : Segmenter) (U : UData) (ch : Change) (lb : LB) (wfb : Int) (undone : Bool) (level : Nat)
    (lb1 : LB) (wfb1 : Int) (undone1 : Bool) (level1 : Nat)
    (hs : (match ch with
          | .begin => if 0 < wfb then Except.ok (lb, wfb - 1, undone, level) else .ok (lb, wfb, undone, level - 1)
          | .end_ => .ok (lb, wfb + 1, undone, level)
          | _ => match ch.undoOn S U lb with
                 | .ok lb' => .ok (lb', wfb, true, level)
                 | .error e => .error e : Except Panic (LB × Int × Bool × Nat)) = .ok (lb1, wfb1, undone1, level1))
    (hu : undone1 = false) : undone = false ∧ lb1 = lb := by
  cases ch with
  | begin =>
    simp only at hs
    split at hs <;> (cases hs; exact ⟨hu, rfl⟩)
  | end_ => simp only at hs; cases hs; exact ⟨hu, rfl⟩
  | _ =>
    simp only at hs
    split at hs
    · cases hs; cases hu
    · cases hs

theorem undoLoop_false (S : Segmenter) (U : UData) (n : Nat) :
    ∀ (us redos : List Change) (lb : LB) (wfb : Int) (count : Nat) (undone : Bool) (level : Nat)
      (us' rs' : List Change) (lb' : LB) (level' : Nat),
      Changeset.undoLoop S U n us redos lb wfb count undone level = .ok (us', rs', lb', false, level') →
      undone = false ∧ lb' = lb := by
  intro us
  induction us with
  | nil =>
    intro redos lb wfb count undone level us' rs' lb' level' h
    simp [Changeset.undoLoop] at h
    obtain ⟨_, _, rfl, rfl, _⟩ := h
    exact ⟨rfl, rfl⟩
  | cons ch rest ih =>
    intro redos lb wfb count undone level us' rs' lb' level' h
    unfold Changeset.undoLoop at h
    simp only [] at h
    split at h
    · cases h
    · rename_i lb1 wfb1 undone1 level1 hstep
      have hk := undoStep_false S U ch lb wfb undone level lb1 wfb1 undone1 level1 hstep
      split at h
      · split at h
        · cases h
          exact hk rfl
        · obtain ⟨hu, hl⟩ := ih _ _ _ _ _ _ _ _ _ _ h
          obtain ⟨h1, h2⟩ := hk hu
          exact ⟨h1, hl.trans h2⟩
      · obtain ⟨hu, hl⟩ := ih _ _ _ _ _ _ _ _ _ _ h
        obtain ⟨h1, h2⟩ := hk hu
        exact ⟨h1, hl.trans h2⟩

theorem faithful_undo (S : Segmenter) (U : UData) (c c' : Changeset) (l l' : LB) (n : Nat)
    (h : c.undo S U l n = .ok (c', l', false)) : l'.buf = l.buf ∧ l'.pos = l.pos := by
  unfold Changeset.undo at h
  split at h
  · rename_i us rs lb' undone level hl
    cases h
    obtain ⟨_, rfl⟩ := undoLoop_false S U n _ _ _ _ _ _ _ _ _ _ _ hl
    exact ⟨rfl, rfl⟩
  · cases h

/-- **The line-buffer operations the editor calls are faithful**, for every segmenter and every Unicode data -/
theorem lbFaithful (S : Segmenter) (U : UData) : LBFaithful S U where
  moveHome := faithful_moveHome S U
  moveEnd := faithful_moveEnd S U
  moveToFirstPrint := faithful_moveToFirstPrint S U
  moveBackward := faithful_moveBackward S U
  moveForward := faithful_moveForward S U
  moveToPrevWord := faithful_moveToPrevWord S U
  moveToNextWord := faithful_moveToNextWord S U
  moveBufferStart := faithful_moveBufferStart S U
  moveBufferEnd := faithful_moveBufferEnd S U
  moveTo := faithful_moveTo S U
  moveToLineUp := faithful_moveToLineUp S U
  moveToLineDown := faithful_moveToLineDown S U
  kill := faithful_kill S U
  transposeChars := (nc_transposeChars S U).editOK
  editWord := fun a => (nc_editWord S U a).editOK
  transposeWords := fun n => (nc_transposeWords S U n).editOK
  indent := fun m k d => (nc_indent S U m k d).editOK
  yank := fun t n => nc_yank S U t n
  yankPop := faithful_yankPop S U
  delete := fun n => (nc_delete S U n).editOK
  undo := fun c c' l l' n _ h => faithful_undo S U c c' l l' n h

end Rl
