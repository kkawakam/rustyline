/-
  C02: the grapheme loop of `calculate_position` simulates the terminal's cursor.  `PlainG`: the graphemes the
  property quantifies over; `Tracks R p t`: the position `p` computed by `calculate_position` is where the terminal
  `t` stands (`col = cols` ⇔ wrap pending); it is kept by one printed character (`tracks_print`), one grapheme
  (`tracks_grapheme`) and the whole loop (`tracks_loop`).
-/
import Rl.Layout
import Rl.Lemmas.Term
namespace Rl

/-- a grapheme of the kind the property quantifies over: a line break, or a printable base character
    followed by zero-width characters, whose cluster width is the width of its base character and
    fits the terminal -/
def PlainG (R : RCfg) (g : Text) : Prop :=
  g = ['\n'] ∨
  ∃ c rest, g = c :: rest ∧ isC0Control c = false ∧ (∀ r ∈ rest, isC0Control r = false ∧ R.cw r = 0) ∧
    R.gw g = R.cw c ∧ R.cw c ≤ R.cols

/-- the loop state `p` of `calculate_position` and the terminal cursor agree
    (`col = cols` ⇔ the wrap is pending on the last column) -/
def Tracks (R : RCfg) (p : Pos) (t : Term) : Prop :=
  t.cols = R.cols ∧ t.ps = .ground ∧ t.cr = p.row ∧
  ((p.col < R.cols ∧ t.cc = p.col ∧ t.pending = false) ∨
   (p.col = R.cols ∧ t.cc = R.cols - 1 ∧ t.pending = true))

theorem attach_frame (t : Term) (ch : Char) :
    (t.attach ch).cols = t.cols ∧ (t.attach ch).ps = t.ps ∧ (t.attach ch).cr = t.cr ∧
    (t.attach ch).cc = t.cc ∧ (t.attach ch).pending = t.pending := by
  unfold Term.attach
  cases t.attachCol <;> simp

theorem tracks_attach {R : RCfg} {p : Pos} {t : Term} (h : Tracks R p t) (ch : Char) :
    Tracks R p (t.attach ch) := by
  obtain ⟨a, b, c, d, e⟩ := attach_frame t ch
  unfold Tracks at *
  rw [a, b, c, d, e]; exact h

theorem tracks_feed_zero {R : RCfg} {p : Pos} (rest : Text)
    (hz : ∀ r ∈ rest, isC0Control r = false ∧ R.cw r = 0) :
    ∀ {t : Term}, Tracks R p t → Tracks R p (t.feed R.cw rest) := by
  induction rest with
  | nil => intro t h; exact h
  | cons r rest ih =>
    intro t h
    rw [Term.feed_cons]
    apply ih (fun x hx => hz x (List.mem_cons_of_mem _ hx))
    have hr := hz r (List.mem_cons_self)
    rw [step_plain _ _ _ h.2.1 hr.1, hr.2, Term.print_zero]
    exact tracks_attach h r

/-- the position after one grapheme of width `w` (the wrap rule of `calculate_position`) -/
def advance (R : RCfg) (p : Pos) (w : Nat) : Pos :=
  if p.col + w > R.cols then { row := p.row + 1, col := w } else { row := p.row, col := p.col + w }

theorem tracks_print {R : RCfg} {p : Pos} {t : Term} (h : Tracks R p t)
    (w : Nat) (hw : w ≤ R.cols) (ch : Char) :
    Tracks R (advance R p w) (t.print w ch) := by
  obtain ⟨hcols, hps, hrow, hcase⟩ := h
  unfold advance
  by_cases hw0 : w = 0
  · subst hw0
    rw [if_neg (by omega)]
    exact tracks_attach ⟨hcols, hps, hrow, hcase⟩ ch
  · have key : ∀ {r c}, t.printCell w = (r, c) → c + w ≤ R.cols →
        Tracks R { row := r, col := c + w } (t.print w ch) := by
      intro r c e hle
      rw [t.print_eq hw0 ch e, hcols]
      refine ⟨rfl, hps, rfl, ?_⟩
      show (c + w < R.cols ∧ _) ∨ (c + w = R.cols ∧ _)
      by_cases hf : c + w ≥ R.cols
      · rw [if_pos hf, decide_eq_true hf]; exact Or.inr ⟨by omega, rfl, rfl⟩
      · rw [if_neg hf, decide_eq_false hf]; exact Or.inl ⟨by omega, rfl, rfl⟩
    rcases t.printCell_cases w with ⟨hwrap, e⟩ | ⟨⟨hp, hfit⟩, e⟩
    · have : p.col + w > R.cols := by
        rcases hcase with ⟨_, h2, h3⟩ | ⟨h1, _, _⟩
        · rw [h3, h2, hcols] at hwrap
          exact hwrap.resolve_left Bool.false_ne_true
        · omega
      rw [if_pos this]
      have := key e (by omega)
      rwa [Nat.zero_add, hrow] at this
    · rcases hcase with ⟨_, h2, _⟩ | ⟨_, _, h3⟩
      · rw [if_neg (by omega)]
        have := key e (by omega)
        rwa [hrow, h2] at this
      · exact absurd (h3.symm.trans hp) Bool.noConfusion

/-- one iteration of the loop on a plain grapheme, skipper idle -/
theorem posStep_plain {R : RCfg} {p : Pos} {g : Text} (c : Char) (rest : Text) (hg : g = c :: rest)
    (hc : isC0Control c = false) (hgw : R.gw g = R.cw c) :
    posStep R (p, 0) g = (advance R p (R.cw c), 0) := by
  have hne : ∀ x : Char, isC0Control x = true → g ≠ [x] := by
    intro x hx h
    rw [hg] at h
    injection h with h1 _
    rw [h1, hx] at hc
    exact absurd hc (by simp)
  have h1 : g ≠ ['\n'] := hne '\n' (by decide)
  have h2 : g ≠ ['\t'] := hne '\t' (by decide)
  have h3 : g ≠ ['\x1b'] := hne '\x1b' (by decide)
  simp only [posStep, widthEsc, h1, h2, h3, advance, hgw, beq_iff_eq, if_false]
  simp
  split <;> rfl

/-- one grapheme of the quantified kind.  `hc` serves the line break only: column 0 must not be the pending-wrap
    column (`0 < cols` would do; the screen theorems of `Rl/Lemmas/Render.lean` assume `2 ≤ cols` throughout) -/
theorem tracks_grapheme {R : RCfg} {p : Pos} {t : Term} (h : Tracks R p t) (hc : 2 ≤ R.cols)
    {g : Text} (hg : PlainG R g) :
    (posStep R (p, 0) g).2 = 0 ∧ Tracks R (posStep R (p, 0) g).1 (t.feed R.cw g) := by
  rcases hg with rfl | ⟨c, rest, rfl, hcc, hrest, hgw, hfit⟩
  · refine ⟨by simp [posStep], ?_⟩
    obtain ⟨hcols, hps, hrow, _⟩ := h
    rw [Term.feed_cons, Term.feed_nil, step_newline _ _ hps]
    simp only [posStep, if_true, beq_self_eq_true]
    exact ⟨hcols, hps, by simp [hrow], Or.inl ⟨by simp; omega, rfl, rfl⟩⟩
  · rw [posStep_plain c rest rfl hcc hgw]
    refine ⟨rfl, ?_⟩
    rw [Term.feed_cons, step_plain _ _ _ h.2.1 hcc]
    exact tracks_feed_zero rest hrest (tracks_print h _ hfit c)

theorem tracks_loop {R : RCfg} (hc : 2 ≤ R.cols) (gs : List Text) (hgs : ∀ g ∈ gs, PlainG R g) :
    ∀ {p : Pos} {t : Term}, Tracks R p t →
      (posLoop R gs (p, 0)).2 = 0 ∧ Tracks R (posLoop R gs (p, 0)).1 (t.feed R.cw gs.flatten) := by
  induction gs with
  | nil => intro p t h; exact ⟨rfl, h⟩
  | cons g gs ih =>
    intro p t h
    obtain ⟨he, ht⟩ := tracks_grapheme h hc (hgs g List.mem_cons_self)
    have := ih (fun x hx => hgs x (List.mem_cons_of_mem _ hx)) ht
    simp only [posLoop, List.foldl_cons, List.flatten_cons, Term.feed_append] at *
    have hst : posStep R (p, 0) g = ((posStep R (p, 0) g).1, 0) := Prod.ext rfl he
    rw [hst]
    exact this

end Rl
