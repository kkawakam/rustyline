/-
  The mutation monad `LM` of the line buffer (C03/C04) and predicates over it that compose: `Replays` (the
  notifications written rebuild the new text from the old one), `PosOnly` (nothing but the cursor changes and
  nothing is notified).

  A predicate `C : LM α → Prop` closed under `pure` and `>>=` holds of a public method as soon as it
  holds of the primitive steps the method is made of.  `PosPrims C` lists the steps of the motions,
  `CutPrims C` adds those of the methods that only remove text, `EditPrims C` those that insert; each
  method is walked through once, for every `C` (`PosPrims.moveHome`, `CutPrims.kill`, `EditPrims.yankPop`,
  … `Op.run_of_prims`).  `Replays`, `PosOnly`, `Grow` (Rl/Lemmas/LineBufferGrow.lean) and `StaysA`
  (Rl/Lemmas/AlphaLM.lean) supply their primitive rules as a record.
-/
import Rl.LineBuffer
import Rl.Spec.LineBuffer
import Rl.Spec.Motion
namespace Rl
open Rl.Spec

theorem replay_append (a b : List Notif) (t : Text) :
    replay (a ++ b) t = (replay a t).bind (replay b) := by
  induction a generalizing t with
  | nil => simp [replay]
  | cons n a ih =>
    simp only [List.cons_append, replay]
    cases replayOne t n with
    | none => simp
    | some t' => simp [ih]

theorem split3_ok {t : Text} {a b : Nat} {x y z : Text} (h : split3 t a b = .ok (x, y, z)) :
    t = x ++ y ++ z ∧ a = blen x ∧ b = blen x + blen y := by
  unfold split3 at h
  split at h
  · split at h
    · rename_i ab c hs
      split at h
      · rename_i x' y' hs'
        cases h
        obtain ⟨h1, h2⟩ := splitAtByte_some hs
        obtain ⟨h3, h4⟩ := splitAtByte_some hs'
        subst h1 h3
        simp at h2
        exact ⟨by simp, h4, by omega⟩
      · cases h
    · cases h
  · cases h

theorem split3_append (x y z : Text) : split3 (x ++ y ++ z) (blen x) (blen x + blen y) = .ok (x, y, z) := by
  unfold split3
  have h1 : splitAtByte (x ++ y ++ z) (blen x + blen y) = some (x ++ y, z) := by
    have := splitAtByte_append (x ++ y) z
    simpa using this
  have h2 : splitAtByte (x ++ y) (blen x) = some (x, y) := splitAtByte_append x y
  rw [h1]
  simp only [h2]
  simp

theorem isPrefixOf_append_self (y z : Text) : y.isPrefixOf (y ++ z) = true := by
  rw [List.isPrefixOf_iff_prefix]; exact List.prefix_append y z

theorem removeAt_mid (x y z : Text) : removeAt (x ++ y ++ z) (blen x) y = some (x ++ z) := by
  unfold removeAt
  have : splitAtByte (x ++ y ++ z) (blen x) = some (x, y ++ z) := by
    have := splitAtByte_append x (y ++ z); simpa using this
  rw [this]
  simp [isPrefixOf_append_self]

theorem insertAt_mid (x z s : Text) : insertAt (x ++ z) (blen x) s = some (x ++ s ++ z) := by
  unfold insertAt
  simp [splitAtByte_append]

namespace LM

@[simp] theorem pure_apply {α : Type} (a : α) (lb : LB) : (pure a : LM α) lb = .ok (a, lb, []) := rfl

theorem bind_apply {α β : Type} (m : LM α) (f : α → LM β) (lb : LB) :
    (m >>= f) lb = match m lb with
      | .error e => .error e
      | .ok (a, lb1, n1) =>
        match f a lb1 with
        | .error e => .error e
        | .ok (b, lb2, n2) => .ok (b, lb2, n1 ++ n2) := rfl

theorem bind_ok {α β : Type} {m : LM α} {f : α → LM β} {lb lb2 : LB} {b : β} {ns : List Notif}
    (h : (m >>= f) lb = .ok (b, lb2, ns)) :
    ∃ a lb1 n1 n2, m lb = .ok (a, lb1, n1) ∧ f a lb1 = .ok (b, lb2, n2) ∧ ns = n1 ++ n2 := by
  rw [bind_apply] at h
  split at h
  · cases h
  · rename_i a lb1 n1 hm
    split at h
    · cases h
    · rename_i b' lb2' n2 hf
      cases h
      exact ⟨a, lb1, n1, n2, hm, hf, rfl⟩

theorem pure_bind {α β : Type} (a : α) (f : α → LM β) : ((pure a : LM α) >>= f) = f a := by
  funext lb
  rw [bind_apply, pure_apply]
  cases h : f a lb with
  | error e => simp [h]
  | ok v => obtain ⟨b, lb2, n2⟩ := v; simp [h]

end LM

theorem lm_ite {α : Type} {C : LM α → Prop} {c : Prop} [Decidable c] {a b : LM α} (ha : c → C a) (hb : ¬c → C b) :
    C (if c then a else b) := by
  split
  · exact ha ‹_›
  · exact hb ‹_›

/-- `C` holds of the steps the motions are made of, and of what `>>=` makes of them; every step that only
    reads is a `LM.ro` (`PosPrims.pure`, `.get`, `.lift`, `.panic`) -/
structure PosPrims (C : ∀ {α : Type}, LM α → Prop) : Prop where
  bind : ∀ {α β : Type} {m : LM α} {f : α → LM β}, C m → (∀ a, C (f a)) → C (m >>= f)
  ro : ∀ {α : Type} (f : LB → Except Panic α), C (LM.ro f)
  setPos : ∀ p, C (LM.setPos p)
  setPosChecked : ∀ S U p, C (LB.setPosChecked S U p)

/-- the steps of the methods that remove text: `drain` and the two kill markers -/
structure CutPrims (C : ∀ {α : Type}, LM α → Prop) : Prop extends PosPrims C where
  startKill : C (LM.notify .startKill)
  stopKill : C (LM.notify .stopKill)
  drain : ∀ a b d, C (LB.drain a b d)

/-- every primitive step of Rl/LineBuffer.lean -/
structure EditPrims (C : ∀ {α : Type}, LM α → Prop) : Prop extends CutPrims C where
  insertStr : ∀ S U i s, C (LB.insertStr S U i s)
  insertCharAtPos : ∀ c, C (LB.insertCharAtPos c)
  replace : ∀ S U a b t, C (LB.replace S U a b t)

/-- structural descent through a `do` block: the given rules first (at reducible transparency, so
    that a rule for one step is never tried by unfolding another), then `if`, `let`, `match` -/
syntax "lm_walk" "[" term,* "]" : tactic
macro_rules
  | `(tactic| lm_walk [$ts,*]) =>
    `(tactic| repeat' (first | intro _ | (with_reducible first $[| apply $ts]*) | (apply lm_ite) | dsimp only | split))

section
variable {C : ∀ {α : Type}, LM α → Prop} (S : Segmenter) (U : UData)

namespace PosPrims
variable (h : PosPrims C)
include h

theorem pure {α : Type} (a : α) : C (Pure.pure a : LM α) := h.ro fun _ => .ok a
theorem get : C LM.get := h.ro .ok
theorem lift {α : Type} (e : Except Panic α) : C (LM.lift e) := h.ro fun _ => e
theorem panic {α : Type} : C (LM.panic : LM α) := h.ro fun _ => .error .panic

theorem lookup (f : LB → Except Panic (Option Nat)) :
    C (do match ← LM.ro f with
          | some p => LM.setPos p; return true
          | none => return false) := by
  lm_walk [h.bind, h.pure, h.ro, h.setPos]

theorem moveBackward (n : Nat) : C (LB.moveBackward S U n) := h.lookup _
theorem moveForward (n : Nat) : C (LB.moveForward S U n) := h.lookup _
theorem moveToPrevWord (d : Word) (n : Nat) : C (LB.moveToPrevWord S U d n) := h.lookup _
theorem moveToNextWord (a : At) (d : Word) (n : Nat) : C (LB.moveToNextWord S U a d n) := h.lookup _
theorem moveTo (cs : CharSearch) (n : Nat) : C (LB.moveTo S U cs n) := h.lookup _

theorem moveBufferStart : C (LB.moveBufferStart S U) := by
  unfold LB.moveBufferStart
  lm_walk [h.bind, h.pure, h.get, h.setPos]

theorem moveBufferEnd : C (LB.moveBufferEnd S U) := by
  unfold LB.moveBufferEnd
  lm_walk [h.bind, h.pure, h.get, h.setPos]

theorem moveHome : C (LB.moveHome S U) := by
  unfold LB.moveHome
  lm_walk [h.bind, h.pure, h.ro, h.get, h.setPos]

theorem moveToFirstPrint : C (LB.moveToFirstPrint S U) := by
  unfold LB.moveToFirstPrint
  lm_walk [h.bind, h.pure, h.ro, h.get, h.setPos]

theorem moveEnd : C (LB.moveEnd S U) := by
  unfold LB.moveEnd
  lm_walk [h.bind, h.pure, h.ro, h.get, h.setPos]

theorem moveToLineUp (n pc : Nat) : C (LB.moveToLineUp S U n pc) := by
  unfold LB.moveToLineUp
  lm_walk [h.bind, h.pure, h.get, h.lift, h.setPos]

theorem moveToLineDown (n pc : Nat) : C (LB.moveToLineDown S U n pc) := by
  unfold LB.moveToLineDown
  lm_walk [h.bind, h.pure, h.get, h.lift, h.setPos]

end PosPrims

namespace CutPrims
variable (h : CutPrims C)
include h

theorem drainAround (a b c : Nat) : C (LB.drainAround a b c) := by
  unfold LB.drainAround
  lm_walk [h.bind, h.pure, h.get, h.lift, h.drain]

theorem delete (n : Nat) : C (LB.delete S U n) := by
  unfold LB.delete
  lm_walk [h.bind, h.pure, h.ro, h.get, h.drain]

theorem backspace (n : Nat) : C (LB.backspace S U n) := by
  unfold LB.backspace
  lm_walk [h.bind, h.pure, h.ro, h.get, h.setPos, h.drain]

theorem killLine : C (LB.killLine S U) := by
  unfold LB.killLine
  lm_walk [h.bind, h.pure, h.ro, h.get, h.drain, h.delete]

theorem killBuffer : C (LB.killBuffer S U) := by
  unfold LB.killBuffer
  lm_walk [h.bind, h.pure, h.get, h.drain]

theorem discardLine : C (LB.discardLine S U) := by
  unfold LB.discardLine
  lm_walk [h.bind, h.pure, h.ro, h.get, h.setPos, h.drain, h.backspace]

theorem discardBuffer : C (LB.discardBuffer S U) := by
  unfold LB.discardBuffer
  lm_walk [h.bind, h.pure, h.get, h.setPos, h.drain]

theorem deletePrevWord (d : Word) (n : Nat) : C (LB.deletePrevWord S U d n) := by
  unfold LB.deletePrevWord
  lm_walk [h.bind, h.pure, h.ro, h.get, h.setPos, h.drain]

theorem deleteWord (a : At) (d : Word) (n : Nat) : C (LB.deleteWord S U a d n) := by
  unfold LB.deleteWord
  lm_walk [h.bind, h.pure, h.ro, h.get, h.drain]

theorem deleteTo (cs : CharSearch) (n : Nat) : C (LB.deleteTo S U cs n) := by
  unfold LB.deleteTo
  lm_walk [h.bind, h.pure, h.ro, h.get, h.setPos, h.drain]

theorem deleteRange (a b : Nat) : C (LB.deleteRange S U a b) := by
  unfold LB.deleteRange
  lm_walk [h.bind, h.pure, h.setPosChecked, h.drain]

theorem kill (m : Movement) : C (LB.kill S U m) := by
  unfold LB.kill
  extract_lets notif stop core
  have hs : ∀ killed, C (stop killed) := by
    intro killed
    dsimp only [stop]
    lm_walk [h.bind, h.pure, h.stopKill]
  clear_value stop
  have hc : ∀ u, C (core u) := by
    intro u
    dsimp only [core]
    lm_walk [h.bind, h.pure, hs, h.get, h.ro, h.lift, h.setPos, h.setPosChecked, h.drain, h.drainAround,
      h.delete, h.backspace, h.killLine, h.discardLine, h.deletePrevWord, h.deleteWord, h.deleteTo,
      h.killBuffer, h.discardBuffer, h.moveHome, h.moveBufferStart]
  clear_value core
  lm_walk [h.bind, h.startKill, hc]

end CutPrims

namespace EditPrims
variable (h : EditPrims C)
include h

theorem indentInserts (index amount fuel off : Nat) : C (LB.indentInserts S U index amount fuel off) := by
  induction fuel generalizing off with
  | zero => exact h.pure _
  | succ k ih =>
    unfold LB.indentInserts
    lm_walk [h.bind, h.pure, h.insertStr, ih]

theorem indentLines (amount : Nat) (ls : List Text) (index : Nat) : C (LB.indentLines S U amount ls index) := by
  induction ls generalizing index with
  | nil => exact h.pure _
  | cons l ls ih =>
    unfold LB.indentLines
    lm_walk [h.bind, h.pure, h.get, h.setPos, h.indentInserts, ih]

theorem dedentLines (ws : Char → Bool) (amount : Nat) (ls : List Text) (index : Nat) :
    C (LB.dedentLines ws amount ls index) := by
  induction ls generalizing index with
  | nil => exact h.pure _
  | cons l ls ih =>
    unfold LB.dedentLines
    lm_walk [h.bind, h.pure, h.get, h.setPos, h.drain, ih]

theorem update (b : Text) (p : Nat) : C (LB.update S U b p) := by
  unfold LB.update
  lm_walk [h.bind, h.pure, h.panic, h.get, h.lift, h.setPos, h.drain, h.insertStr]

theorem insert (c : Char) (n : Nat) : C (LB.insert S U c n) := by
  unfold LB.insert
  lm_walk [h.bind, h.pure, h.get, h.setPos, h.insertStr, h.insertCharAtPos]

theorem yank (t : Text) (n : Nat) : C (LB.yank S U t n) := by
  unfold LB.yank
  lm_walk [h.bind, h.pure, h.get, h.setPos, h.insertStr]

theorem yankPop (k : Nat) (t : Text) : C (LB.yankPop S U k t) := by
  unfold LB.yankPop
  lm_walk [h.bind, h.pure, h.panic, h.get, h.setPos, h.drain, h.yank]

theorem transposeChars : C (LB.transposeChars S U) := by
  unfold LB.transposeChars
  lm_walk [h.bind, h.pure, h.panic, h.get, h.moveBackward, h.moveForward, h.delete, h.yank]

theorem editWord (a : WordAction) : C (LB.editWord S U a) := by
  unfold LB.editWord
  lm_walk [h.bind, h.pure, h.panic, h.ro, h.lift, h.setPos, h.drain, h.insertStr]

theorem transposeWords (n : Nat) : C (LB.transposeWords S U n) := by
  unfold LB.transposeWords
  lm_walk [h.bind, h.pure, h.get, h.lift, h.setPos, h.drain, h.insertStr, h.moveToPrevWord, h.moveToNextWord]

theorem indent (m : Movement) (k : Nat) (d : Bool) : C (LB.indent S U m k d) := by
  unfold LB.indent
  refine h.bind h.get fun lb => ?_
  extract_lets _ tail
  have ht : ∀ pair, C (tail pair) := by
    intro pair
    dsimp only [tail]
    lm_walk [h.bind, h.pure, h.lift, h.dedentLines, h.indentLines]
  clear_value tail
  lm_walk [h.bind, h.pure, h.lift, ht]

end EditPrims

/-- every public method; one that only moves, asks or copies needs the motions' stock alone -/
theorem Op.run_of_prims (hp : PosPrims C) (op : Op) (he : Op.isMotionOrCopy op = false → EditPrims C) :
    C (Op.run S U op) := by
  cases op <;> refine hp.bind ?_ fun _ => hp.pure _
  case moveBackward n => exact hp.moveBackward S U n
  case moveForward n => exact hp.moveForward S U n
  case moveBufferStart => exact hp.moveBufferStart S U
  case moveBufferEnd => exact hp.moveBufferEnd S U
  case moveHome => exact hp.moveHome S U
  case moveToFirstPrint => exact hp.moveToFirstPrint S U
  case moveEnd => exact hp.moveEnd S U
  case isEndOfInput => exact hp.get
  case moveToPrevWord d n => exact hp.moveToPrevWord S U d n
  case moveToNextWord a d n => exact hp.moveToNextWord S U a d n
  case moveToLineUp n pc => exact hp.moveToLineUp S U n pc
  case moveToLineDown n pc => exact hp.moveToLineDown S U n pc
  case moveTo cs n => exact hp.moveTo S U cs n
  case copy m => exact hp.ro _
  case setPos p => exact hp.setPosChecked S U p
  case nextPos n => exact hp.ro _
  all_goals have h := he rfl
  case update b p => exact h.update S U b p
  case insert c n => exact h.insert S U c n
  case yank t n => exact h.yank S U t n
  case yankPop k t => exact h.yankPop S U k t
  case delete n => exact h.delete S U n
  case backspace n => exact h.backspace S U n
  case killLine => exact h.killLine S U
  case killBuffer => exact h.killBuffer S U
  case discardLine => exact h.discardLine S U
  case discardBuffer => exact h.discardBuffer S U
  case transposeChars => exact h.transposeChars S U
  case deletePrevWord d n => exact h.deletePrevWord S U d n
  case deleteWord a d n => exact h.deleteWord S U a d n
  case deleteTo cs n => exact h.deleteTo S U cs n
  case editWord a => exact h.editWord S U a
  case transposeWords n => exact h.transposeWords S U n
  case replace a b t => exact h.replace S U a b t
  case insertStr i t => exact h.insertStr S U i t
  case deleteRange a b => exact h.deleteRange S U a b
  case kill m => exact h.kill S U m
  case indent m k d => exact h.indent S U m k d

end

/-- the notifications written by `m` rebuild the new text from the old one -/
structure Replays {α : Type} (m : LM α) : Prop where
  h : ∀ lb r lb' ns, m lb = .ok (r, lb', ns) → replay ns lb.buf = some lb'.buf

/-- `m` changes nothing but the cursor and notifies nothing -/
structure PosOnly {α : Type} (m : LM α) : Prop where
  h : ∀ lb r lb' ns, m lb = .ok (r, lb', ns) →
    lb'.buf = lb.buf ∧ lb'.cap = lb.cap ∧ lb'.canGrow = lb.canGrow ∧ ns = []

namespace PosOnly
variable {α β : Type}

theorem bind {m : LM α} {f : α → LM β} (hm : PosOnly m) (hf : ∀ a, PosOnly (f a)) : PosOnly (m >>= f) := by
  constructor
  intro lb r lb' ns h
  obtain ⟨a, lb1, n1, n2, h1, h2, rfl⟩ := LM.bind_ok h
  obtain ⟨a1, a2, a3, a4⟩ := hm.h _ _ _ _ h1
  obtain ⟨b1, b2, b3, b4⟩ := (hf a).h _ _ _ _ h2
  exact ⟨by rw [b1, a1], by rw [b2, a2], by rw [b3, a3], by simp [a4, b4]⟩

theorem setPos (p : Nat) : PosOnly (LM.setPos p) := by
  constructor; intro lb r lb' ns h; cases h; exact ⟨rfl, rfl, rfl, rfl⟩

theorem ro (f : LB → Except Panic α) : PosOnly (LM.ro f) := by
  constructor; intro lb r lb' ns h
  unfold LM.ro at h
  split at h
  · cases h; exact ⟨rfl, rfl, rfl, rfl⟩
  · cases h

theorem get : PosOnly LM.get := ro .ok

theorem panic : PosOnly (LM.panic : LM α) := ro fun _ => .error .panic

theorem setPosChecked (S : Segmenter) (U : UData) (p : Nat) : PosOnly (LB.setPosChecked S U p) := by
  constructor; intro lb r lb' ns h
  unfold LB.setPosChecked at h
  split at h
  · cases h; exact ⟨rfl, rfl, rfl, rfl⟩
  · cases h

end PosOnly

theorem PosPrims.of_posOnly {C : ∀ {α : Type}, LM α → Prop}
    (bind : ∀ {α β : Type} {m : LM α} {f : α → LM β}, C m → (∀ a, C (f a)) → C (m >>= f))
    (imp : ∀ {α : Type} {m : LM α}, PosOnly m → C m) : PosPrims C :=
  ⟨bind, fun f => imp (.ro f), fun p => imp (.setPos p), fun S U p => imp (.setPosChecked S U p)⟩

theorem posOnly_prims : PosPrims @PosOnly := .of_posOnly PosOnly.bind id

namespace Replays
variable {α β : Type}

theorem of_posOnly {m : LM α} (hm : PosOnly m) : Replays m := by
  constructor; intro lb r lb' ns h
  obtain ⟨hb, _, _, rfl⟩ := hm.h _ _ _ _ h
  rw [hb]; rfl

theorem bind {m : LM α} {f : α → LM β} (hm : Replays m) (hf : ∀ a, Replays (f a)) : Replays (m >>= f) := by
  constructor
  intro lb r lb' ns h
  obtain ⟨a, lb1, n1, n2, h1, h2, rfl⟩ := LM.bind_ok h
  rw [replay_append, hm.h _ _ _ _ h1]
  simpa using (hf a).h _ _ _ _ h2

theorem setPos (p : Nat) : Replays (LM.setPos p) := of_posOnly (.setPos p)

theorem startKill : Replays (LM.notify .startKill) := by
  constructor; intro lb r lb' ns h; cases h; rfl

theorem stopKill : Replays (LM.notify .stopKill) := by
  constructor; intro lb r lb' ns h; cases h; rfl

theorem drain (a b : Nat) (d : Direction) : Replays (LB.drain a b d) := by
  constructor; intro lb r lb' ns h
  unfold LB.drain at h
  split at h
  · rename_i x y z hs
    cases h
    obtain ⟨ht, ha, _⟩ := split3_ok hs
    simp only [replay, replayOne, ht, ha, removeAt_mid]
  · cases h

theorem insertStr (S : Segmenter) (U : UData) (i : Nat) (s : Text) : Replays (LB.insertStr S U i s) := by
  constructor; intro lb r lb' ns h
  unfold LB.insertStr at h
  split at h
  · rename_i x z hs
    cases h
    obtain ⟨ht, hi⟩ := splitAtByte_some hs
    simp only [replay, replayOne, ht, hi, insertAt_mid]
  · cases h

theorem insertCharAtPos (c : Char) : Replays (LB.insertCharAtPos c) := by
  constructor; intro lb r lb' ns h
  unfold LB.insertCharAtPos at h
  split at h
  · rename_i x z hs
    cases h
    obtain ⟨ht, hi⟩ := splitAtByte_some hs
    simp only [replay, replayOne, ht, hi, insertAt_mid]
  · cases h

theorem replace (S : Segmenter) (U : UData) (a b : Nat) (t : Text) : Replays (LB.replace S U a b t) := by
  constructor; intro lb r lb' ns h
  unfold LB.replace at h
  split at h
  · rename_i x y z hs
    cases h
    obtain ⟨ht, ha, _⟩ := split3_ok hs
    simp only [replay, replayOne, ht, ha, removeAt_mid, insertAt_mid]
  · cases h

end Replays

theorem replays_prims : EditPrims @Replays where
  toPosPrims := .of_posOnly Replays.bind Replays.of_posOnly
  startKill := Replays.startKill
  stopKill := Replays.stopKill
  drain := Replays.drain
  insertStr := Replays.insertStr
  insertCharAtPos := Replays.insertCharAtPos
  replace := Replays.replace

namespace Replays

theorem update (S : Segmenter) (U : UData) (b : _) (p : _) :
    Replays (LB.update S U b p) := replays_prims.update S U b p

theorem insert (S : Segmenter) (U : UData) (c : _) (n : _) :
    Replays (LB.insert S U c n) := replays_prims.insert S U c n

theorem yankPop (S : Segmenter) (U : UData) (k : _) (t : _) :
    Replays (LB.yankPop S U k t) := replays_prims.yankPop S U k t

theorem moveForward (S : Segmenter) (U : UData) (n : _) :
    Replays (LB.moveForward S U n) := replays_prims.moveForward S U n

theorem delete (S : Segmenter) (U : UData) (n : _) :
    Replays (LB.delete S U n) := replays_prims.delete S U n

theorem backspace (S : Segmenter) (U : UData) (n : _) :
    Replays (LB.backspace S U n) := replays_prims.backspace S U n

theorem kill (S : Segmenter) (U : UData) (m : _) :
    Replays (LB.kill S U m) := replays_prims.kill S U m

theorem indent (S : Segmenter) (U : UData) (m : Movement) (k : Nat) (d : Bool) :
    Replays (LB.indent S U m k d) := replays_prims.indent S U m k d

end Replays

/-- C03, clause 3, for every operation: whenever a public method returns, the notifications it sent
    replay the old text into the new text -/
theorem Replays.run (S : Segmenter) (U : UData) (op : Op) : Replays (Op.run S U op) :=
  Op.run_of_prims S U replays_prims.toPosPrims op fun _ => replays_prims

namespace PosOnly

theorem moveBackward (S : Segmenter) (U : UData) (n : _) :
    PosOnly (LB.moveBackward S U n) := posOnly_prims.moveBackward S U n

theorem moveForward (S : Segmenter) (U : UData) (n : _) :
    PosOnly (LB.moveForward S U n) := posOnly_prims.moveForward S U n

theorem moveBufferStart (S : Segmenter) (U : UData) :
    PosOnly (LB.moveBufferStart S U ) := posOnly_prims.moveBufferStart S U

theorem moveBufferEnd (S : Segmenter) (U : UData) :
    PosOnly (LB.moveBufferEnd S U ) := posOnly_prims.moveBufferEnd S U

theorem moveHome (S : Segmenter) (U : UData) :
    PosOnly (LB.moveHome S U ) := posOnly_prims.moveHome S U

theorem moveToFirstPrint (S : Segmenter) (U : UData) :
    PosOnly (LB.moveToFirstPrint S U) := posOnly_prims.moveToFirstPrint S U

theorem moveEnd (S : Segmenter) (U : UData) :
    PosOnly (LB.moveEnd S U ) := posOnly_prims.moveEnd S U

theorem moveToPrevWord (S : Segmenter) (U : UData) (d : _) (n : _) :
    PosOnly (LB.moveToPrevWord S U d n) := posOnly_prims.moveToPrevWord S U d n

theorem moveToNextWord (S : Segmenter) (U : UData) (a : _) (d : _) (n : _) :
    PosOnly (LB.moveToNextWord S U a d n) := posOnly_prims.moveToNextWord S U a d n

theorem moveToLineUp (S : Segmenter) (U : UData) (n : _) (pc : _) :
    PosOnly (LB.moveToLineUp S U n pc) := posOnly_prims.moveToLineUp S U n pc

theorem moveToLineDown (S : Segmenter) (U : UData) (n : _) (pc : _) :
    PosOnly (LB.moveToLineDown S U n pc) := posOnly_prims.moveToLineDown S U n pc

theorem moveTo (S : Segmenter) (U : UData) (cs : _) (n : _) :
    PosOnly (LB.moveTo S U cs n) := posOnly_prims.moveTo S U cs n

end PosOnly

/-- C03, clause 4, for every motion / query / copy: nothing but the cursor changes and the listener
    is not called -/
theorem PosOnly.run (S : Segmenter) (U : UData) (op : Op) (h : Op.isMotionOrCopy op = true) :
    PosOnly (Op.run S U op) :=
  Op.run_of_prims S U posOnly_prims op fun hf => by rw [h] at hf; cases hf

end Rl
