/-
  `Grow m`: the line-buffer operation `m` never changes `canGrow` (the buffer's "may reallocate" flag:
  every method only rewrites text, cursor and capacity).  Same compositional scheme as `Replays` /
  `PosOnly` in Rl/Lemmas/LineBuffer.lean.  Used by C17 (a growable line is what makes
  `LineBuffer::update` restore a text exactly, which the completion loop relies on).
-/
import Rl.Lemmas.LineBuffer
namespace Rl
open LM

structure Grow {α : Type} (m : LM α) : Prop where
  h : ∀ lb r lb' ns, m lb = .ok (r, lb', ns) → lb'.canGrow = lb.canGrow

namespace Grow
variable {α β : Type}

theorem of_posOnly {m : LM α} (hm : PosOnly m) : Grow m :=
  ⟨fun _ _ _ _ h => (hm.h _ _ _ _ h).2.2.1⟩

theorem bind {m : LM α} {f : α → LM β} (hm : Grow m) (hf : ∀ a, Grow (f a)) : Grow (m >>= f) := by
  constructor
  intro lb r lb' ns h
  obtain ⟨a, lb1, n1, n2, h1, h2, rfl⟩ := LM.bind_ok h
  rw [(hf a).h _ _ _ _ h2, hm.h _ _ _ _ h1]

theorem setPos (p : Nat) : Grow (LM.setPos p) := of_posOnly (.setPos p)
theorem notify (n : Notif) : Grow (LM.notify n) := by
  constructor; intro lb r lb' ns h; cases h; rfl
theorem drain (a b : Nat) (d : Direction) : Grow (LB.drain a b d) := by
  constructor; intro lb r lb' ns h
  unfold LB.drain at h
  split at h
  · cases h; rfl
  · cases h
theorem insertStr (S : Segmenter) (U : UData) (i : Nat) (s : Text) : Grow (LB.insertStr S U i s) := by
  constructor; intro lb r lb' ns h
  unfold LB.insertStr at h
  split at h
  · cases h; rfl
  · cases h
theorem insertCharAtPos (c : Char) : Grow (LB.insertCharAtPos c) := by
  constructor; intro lb r lb' ns h
  unfold LB.insertCharAtPos at h
  split at h
  · cases h; rfl
  · cases h
theorem setPosChecked (S : Segmenter) (U : UData) (p : Nat) : Grow (LB.setPosChecked S U p) :=
  of_posOnly (.setPosChecked S U p)
theorem replace (S : Segmenter) (U : UData) (a b : Nat) (t : Text) : Grow (LB.replace S U a b t) := by
  constructor; intro lb r lb' ns h
  unfold LB.replace at h
  split at h
  · cases h; rfl
  · cases h

end Grow

theorem grow_prims : EditPrims @Grow where
  toPosPrims := .of_posOnly Grow.bind Grow.of_posOnly
  startKill := Grow.notify _
  stopKill := Grow.notify _
  drain := Grow.drain
  insertStr := Grow.insertStr
  insertCharAtPos := Grow.insertCharAtPos
  replace := Grow.replace

namespace Grow

theorem update (S : Segmenter) (U : UData) (b : _) (p : _) :
    Grow (LB.update S U b p) := grow_prims.update S U b p

theorem insert (S : Segmenter) (U : UData) (c : _) (n : _) :
    Grow (LB.insert S U c n) := grow_prims.insert S U c n

theorem yankPop (S : Segmenter) (U : UData) (k : _) (t : _) :
    Grow (LB.yankPop S U k t) := grow_prims.yankPop S U k t

theorem moveForward (S : Segmenter) (U : UData) (n : _) :
    Grow (LB.moveForward S U n) := grow_prims.moveForward S U n

theorem moveEnd (S : Segmenter) (U : UData) :
    Grow (LB.moveEnd S U ) := grow_prims.moveEnd S U

theorem delete (S : Segmenter) (U : UData) (n : _) :
    Grow (LB.delete S U n) := grow_prims.delete S U n

theorem backspace (S : Segmenter) (U : UData) (n : _) :
    Grow (LB.backspace S U n) := grow_prims.backspace S U n

theorem deleteRange (S : Segmenter) (U : UData) (a : _) (b : _) :
    Grow (LB.deleteRange S U a b) := grow_prims.deleteRange S U a b

theorem kill (S : Segmenter) (U : UData) (m : _) :
    Grow (LB.kill S U m) := grow_prims.kill S U m

theorem indent (S : Segmenter) (U : UData) (m : Movement) (k : Nat) (d : Bool) :
    Grow (LB.indent S U m k d) := grow_prims.indent S U m k d

end Grow

end Rl
