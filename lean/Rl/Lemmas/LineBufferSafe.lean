/-
  Character boundaries: the well-formed state `WF` (and its Boolean forms), slicing and draining between
  boundaries, cluster offsets and line starts / ends are boundaries.

  Shapes of lemma about a method `m`:
  * `m_ok` — from boundaries, `m` returns and this is the result (`drain_ok`, `insertStr_ok`, `slice_ok`, `nextPos_ok`);
    `m_at` — the same as an equation when the parts of the text are given (`drain_at`, `insertStr_at`);
  * `m_eval` — the closed form of the whole method as one equation (`insert_eval`, `yank_eval`,
    `moveBufferStart_eval`, `moveHome_eval` here; `moveEnd_eval`, the kills in Lemmas/Steps, KillSpan, LineSpan);
  * `Triple P m Q` — the same as a Hoare triple with rules for `bind`/`pure`/`get`/`setPos`/`ro`; the library states
    its results in the shapes above, `Triple` is only the calculus.
-/
import Rl.Lemmas.LineBuffer
namespace Rl
open Rl.Spec

/-- well-formed state: the cursor is on a character boundary of the text -/
def WF (lb : LB) : Prop := IsBoundary lb.buf lb.pos

theorem WF.split {lb : LB} (h : WF lb) : ∃ x s, lb.buf = x ++ s ∧ lb.pos = blen x := by
  obtain ⟨a, b, h1, h2⟩ := h; exact ⟨a, b, h1, h2⟩

theorem isBoundary_zero (t : Text) : IsBoundary t 0 := ⟨[], t, by simp, rfl⟩
theorem isBoundary_len (t : Text) : IsBoundary t (blen t) := ⟨t, [], by simp, rfl⟩
theorem isBoundary_mid (x s : Text) : IsBoundary (x ++ s) (blen x) := ⟨x, s, rfl, rfl⟩

theorem IsBoundary.le_len {t : Text} {p : Nat} (h : IsBoundary t p) : p ≤ blen t := by
  obtain ⟨a, b, rfl, rfl⟩ := h; simp

/-- "`p` is a char boundary of `t`" is written `IsBoundary t p` in statements; the model tests it with
    `isCharBoundary` (`str::is_char_boundary`) and the oracles with `boundaryB` / `wfB` (same body) -/
theorem isCharBoundary_iff {t : Text} {p : Nat} : isCharBoundary t p = true ↔ IsBoundary t p := by
  unfold isCharBoundary
  rw [isBoundary_iff_split]
  cases h : splitAtByte t p with
  | none => simp
  | some ab => obtain ⟨a, b⟩ := ab; simp

theorem boundaryB_iff {t : Text} {p : Nat} : boundaryB t p = true ↔ IsBoundary t p := isCharBoundary_iff

theorem wfB_iff {lb : LB} : wfB lb = true ↔ WF lb := boundaryB_iff

theorem sliceFrom_mid (x s : Text) : sliceFrom (x ++ s) (blen x) = .ok s := by
  unfold sliceFrom; rw [splitAtByte_append]

theorem sliceTo_mid (x s : Text) : sliceTo (x ++ s) (blen x) = .ok x := by
  unfold sliceTo; rw [splitAtByte_append]

theorem slice_mid (x y z : Text) : slice (x ++ y ++ z) (blen x) (blen x + blen y) = .ok y := by
  unfold slice; rw [split3_append]

theorem gidxGo_mem {gs : List Text} {pre : Text} {i : Nat} {g : Text}
    (h : (i, g) ∈ gidxGo (blen pre) gs) :
    ∃ a b, pre ++ gs.flatten = a ++ g ++ b ∧ i = blen a := by
  induction gs generalizing pre with
  | nil => simp [gidxGo] at h
  | cons g0 gs ih =>
    simp only [gidxGo, List.mem_cons] at h
    rcases h with h | h
    · cases h
      exact ⟨pre, gs.flatten, by simp, rfl⟩
    · have h' : (i, g) ∈ gidxGo (blen (pre ++ g0)) gs := by simpa using h
      obtain ⟨a, b, hab, hi⟩ := ih h'
      exact ⟨a, b, by simpa using hab, hi⟩

theorem gidx_mem {S : Segmenter} {s : Text} {i : Nat} {g : Text} (h : (i, g) ∈ gidx S s) :
    ∃ a b, s = a ++ g ++ b ∧ i = blen a := by
  have h' : (i, g) ∈ gidxGo (blen ([] : Text)) (S.seg s) := by simpa [gidx] using h
  obtain ⟨a, b, hab, hi⟩ := gidxGo_mem h'
  rw [S.flatten_eq] at hab
  exact ⟨a, b, by simpa using hab, hi⟩

theorem gidx_mem_ne_nil {S : Segmenter} {s : Text} {i : Nat} {g : Text} (h : (i, g) ∈ gidx S s) : g ≠ [] := by
  have : ∀ (o : Nat) (gs : List Text), (i, g) ∈ gidxGo o gs → g ∈ gs := by
    intro o gs
    induction gs generalizing o with
    | nil => simp [gidxGo]
    | cons g0 gs ih =>
      simp only [gidxGo, List.mem_cons]
      rintro (h | h)
      · cases h; exact Or.inl rfl
      · exact Or.inr (ih _ h)
  exact S.ne_nil s g (this 0 _ (by simpa [gidx] using h))

theorem prefix_of_append_eq {a1 b1 a2 b2 : Text} (h : a1 ++ b1 = a2 ++ b2) (hl : blen a1 ≤ blen a2) :
    ∃ y, a2 = a1 ++ y := by
  induction a1 generalizing a2 with
  | nil => exact ⟨a2, rfl⟩
  | cons c a1 ih =>
    cases a2 with
    | nil =>
      have := Char.utf8Size_pos c
      simp at hl; omega
    | cons c' a2 =>
      simp only [List.cons_append, List.cons.injEq] at h
      obtain ⟨rfl, h⟩ := h
      simp only [blen_cons] at hl
      obtain ⟨y, rfl⟩ := ih h (by omega)
      exact ⟨y, rfl⟩

theorem split3_of_boundaries {t : Text} {a b : Nat} (ha : IsBoundary t a) (hb : IsBoundary t b)
    (hab : a ≤ b) :
    ∃ x y z, split3 t a b = .ok (x, y, z) ∧ t = x ++ y ++ z ∧ a = blen x ∧ b = blen x + blen y := by
  obtain ⟨x, s, ht, rfl⟩ := ha
  obtain ⟨xy, z, ht2, rfl⟩ := hb
  obtain ⟨y, rfl⟩ := prefix_of_append_eq (ht.symm.trans ht2) hab
  subst ht2
  refine ⟨x, y, z, ?_, rfl, rfl, by simp⟩
  have := split3_append x y z
  simpa using this

/-- `drain` / `insert_str` when the parts of the text are known: one equation (`_at`).  From boundaries only,
    `_ok` below gives the parts; `drain_wf`, `drain_cut` (Lemmas/Steps) are `drain_ok` read as "cursor stays on a
    boundary" and as a `Cut`. -/
theorem drain_at (x y z : Text) (d : Direction) (lb : LB) (hb : lb.buf = x ++ y ++ z) :
    LB.drain (blen x) (blen x + blen y) d lb = .ok (y, { lb with buf := x ++ z }, [.del (blen x) y d]) := by
  unfold LB.drain
  rw [hb, split3_append]

theorem insertStr_at (S : Segmenter) (U : UData) (x z s : Text) (lb : LB) (hb : lb.buf = x ++ z) :
    LB.insertStr S U (blen x) s lb =
      .ok (blen x == blen lb.buf, { lb with buf := x ++ s ++ z, cap := growCap lb.cap (blen lb.buf + blen s) },
           [.insStr (blen x) s]) := by
  simp [LB.insertStr, hb, splitAtByte_append]

theorem drain_ok {lb : LB} {a b : Nat} (d : Direction) (ha : IsBoundary lb.buf a) (hb : IsBoundary lb.buf b)
    (hab : a ≤ b) :
    ∃ x y z, LB.drain a b d lb = .ok (y, { lb with buf := x ++ z }, [.del a y d]) ∧
      lb.buf = x ++ y ++ z ∧ a = blen x ∧ b = blen x + blen y := by
  obtain ⟨x, y, z, _, h2, rfl, rfl⟩ := split3_of_boundaries ha hb hab
  exact ⟨x, y, z, drain_at x y z d lb h2, h2, rfl, rfl⟩

theorem insertStr_ok (S : Segmenter) (U : UData) {lb : LB} {i : Nat} (s : Text) (hi : IsBoundary lb.buf i) :
    ∃ x z, LB.insertStr S U i s lb =
        .ok (i == blen lb.buf, { lb with buf := x ++ s ++ z, cap := growCap lb.cap (blen lb.buf + blen s) },
             [.insStr i s]) ∧ lb.buf = x ++ z ∧ i = blen x := by
  obtain ⟨x, z, hb, rfl⟩ := hi
  exact ⟨x, z, insertStr_at S U x z s lb hb, hb, rfl⟩

/-- a text that fits does not make the buffer reallocate -/
theorem growCap_fit {cap n : Nat} (h : n ≤ cap) : growCap cap n = cap := by
  unfold growCap; split <;> omega

theorem blen_replicate (n : Nat) (c : Char) : blen (List.replicate n c) = c.utf8Size * n := by
  induction n with
  | zero => simp
  | succ k ih => simp [List.replicate_succ, ih]; rw [Nat.mul_add]; omega

theorem blen_flatten_replicate (n : Nat) (t : Text) : blen (List.replicate n t).flatten = blen t * n := by
  induction n with
  | zero => simp
  | succ k ih => simp [List.replicate_succ, ih]; rw [Nat.mul_add]; omega

theorem insert_eval (S : Segmenter) (U : UData) (c : Char) (n : Nat) (lb : LB) :
    LB.insert S U c n lb =
      if lb.mustTruncate (lb.len + c.utf8Size * n) = true then .ok (none, lb, [])
      else
        match splitAtByte lb.buf lb.pos with
        | none => .error .panic
        | some (x, z) =>
          .ok (some (lb.pos == lb.len),
               { lb with buf := x ++ List.replicate n c ++ z, pos := lb.pos + c.utf8Size * n,
                         cap := growCap lb.cap (blen lb.buf + c.utf8Size * n) },
               [if n = 1 then .insChar lb.pos c else .insStr lb.pos (List.replicate n c)]) := by
  unfold LB.insert
  by_cases ht : lb.mustTruncate (lb.len + c.utf8Size * n) = true
  · simp [LM.bind_apply, LM.get, ht]
  · by_cases h1 : n = 1
    · subst h1
      simp only [Nat.mul_one] at ht
      cases hs : splitAtByte lb.buf lb.pos with
      | none => simp [LM.bind_apply, LM.get, ht, LB.insertCharAtPos, hs]
      | some xz =>
        obtain ⟨x, z⟩ := xz
        simp [LM.bind_apply, LM.get, ht, LB.insertCharAtPos, LM.setPos, hs]
    · cases hs : splitAtByte lb.buf lb.pos with
      | none => simp [LM.bind_apply, LM.get, ht, LB.insertStr, hs, h1]
      | some xz =>
        obtain ⟨x, z⟩ := xz
        simp [LM.bind_apply, LM.get, ht, LB.insertStr, LM.setPos, hs, h1, blen_replicate]

/-- the text `yank` inserts -/
def yankText (text : Text) (n : Nat) : Text := if n = 1 then text else (List.replicate n text).flatten

theorem blen_yankText (text : Text) (n : Nat) : blen (yankText text n) = blen text * n := by
  unfold yankText
  split
  · rename_i h; subst h; simp
  · exact blen_flatten_replicate n text

theorem yank_eval (S : Segmenter) (U : UData) (text : Text) (n : Nat) (lb : LB) :
    LB.yank S U text n lb =
      if (text.isEmpty || lb.mustTruncate (lb.len + blen text * n)) = true then .ok (none, lb, [])
      else
        match splitAtByte lb.buf lb.pos with
        | none => .error .panic
        | some (x, z) =>
          .ok (some (lb.pos == lb.len),
               { lb with buf := x ++ yankText text n ++ z, pos := lb.pos + blen text * n,
                         cap := growCap lb.cap (blen lb.buf + blen text * n) },
               [.insStr lb.pos (yankText text n)]) := by
  unfold LB.yank
  by_cases ht : (text.isEmpty || lb.mustTruncate (lb.len + blen text * n)) = true
  · simp only [LM.bind_apply, LM.get, ht, if_true]; rfl
  · have ht' : ¬(text = [] ∨ lb.mustTruncate (lb.len + blen text * n) = true) := by simpa using ht
    by_cases h1 : n = 1
    · subst h1
      simp only [Nat.mul_one] at ht'
      cases hs : splitAtByte lb.buf lb.pos with
      | none => simp [LM.bind_apply, LM.get, ht', LB.insertStr, hs]
      | some xz =>
        obtain ⟨x, z⟩ := xz
        simp [LM.bind_apply, LM.get, ht', LB.insertStr, LM.setPos, hs, yankText]
    · cases hs : splitAtByte lb.buf lb.pos with
      | none => simp [LM.bind_apply, LM.get, ht', LB.insertStr, hs, h1]
      | some xz =>
        obtain ⟨x, z⟩ := xz
        simp [LM.bind_apply, LM.get, ht', LB.insertStr, LM.setPos, hs, h1, yankText, blen_flatten_replicate]

/-- `if self.pos > p { self.pos = p; true } else { false }` with `p` at or before the cursor: the cursor is on
    `p` afterwards either way -/
theorem setPos_back_eval (lb : LB) (p : Nat) (hle : p ≤ lb.pos) :
    (if lb.pos > p then (do LM.setPos p; return true) else return false : LM Bool) lb =
      .ok (decide (lb.pos > p), { lb with pos := p }, []) := by
  by_cases hgt : lb.pos > p
  · simp [hgt, LM.bind_apply, LM.setPos]
  · have : lb.pos = p := by omega
    subst this
    simp

theorem moveBufferStart_eval (S : Segmenter) (U : UData) (lb : LB) :
    LB.moveBufferStart S U lb = .ok (decide (lb.pos > 0), { lb with pos := 0 }, []) := by
  have := setPos_back_eval lb 0 (Nat.zero_le _)
  unfold LB.moveBufferStart
  simp only [LM.bind_apply, LM.get, this, List.nil_append]

theorem moveHome_eval (S : Segmenter) (U : UData) {lb : LB} {st : Nat} (hs : LB.startOfLine lb = .ok st)
    (hle : st ≤ lb.pos) : LB.moveHome S U lb = .ok (decide (lb.pos > st), { lb with pos := st }, []) := by
  have := setPos_back_eval lb st hle
  unfold LB.moveHome
  simp only [LM.bind_apply, LM.ro, hs, LM.get, this, List.nil_append]

theorem floorBoundary_spec (t : Text) (m : Nat) : IsBoundary t (floorBoundary t m) ∧ floorBoundary t m ≤ m := by
  induction m with
  | zero => exact ⟨isBoundary_zero t, Nat.le_refl 0⟩
  | succ k ih =>
    unfold floorBoundary
    split
    · rename_i h
      exact ⟨isCharBoundary_iff.mp h, Nat.le_refl _⟩
    · exact ⟨ih.1, Nat.le_succ_of_le ih.2⟩

theorem isBoundary_min {t : Text} {a b : Nat} (ha : IsBoundary t a) (hb : IsBoundary t b) :
    IsBoundary t (min a b) := by
  by_cases h : a ≤ b
  · rw [Nat.min_eq_left h]; exact ha
  · rw [Nat.min_eq_right (by omega)]; exact hb

/-- `drain_around` from a state whose old cursor `c` is on a boundary: one deletion notification for the
    whole span (its direction says where the cursor stood) -/
theorem drainAround_ok {lb : LB} {a b : Nat} (c : Nat) (ha : IsBoundary lb.buf a) (hb : IsBoundary lb.buf b)
    (hc : IsBoundary lb.buf c) (hab : a ≤ b) :
    ∃ x y z d, LB.drainAround a b c lb = .ok (y, { lb with buf := x ++ z }, [.del a y d]) ∧
      lb.buf = x ++ y ++ z ∧ a = blen x ∧ b = blen x + blen y := by
  unfold LB.drainAround
  by_cases hca : c ≤ a
  · obtain ⟨x, y, z, hd, h1, h2, h3⟩ := drain_ok (lb := lb) .forward ha hb hab
    exact ⟨x, y, z, .forward, by simp [hca, hd], h1, h2, h3⟩
  · have hm : IsBoundary lb.buf (min c b) := isBoundary_min hc hb
    obtain ⟨x1, y1, z1, hs1, _, _, _⟩ := split3_of_boundaries ha hm (by omega)
    obtain ⟨x2, y2, z2, hs2, _, _, _⟩ := split3_of_boundaries hm hb (by omega)
    obtain ⟨x, y, z, hd, h1, h2, h3⟩ := drain_ok (lb := lb) (.around (min c b - a)) ha hb hab
    exact ⟨x, y, z, .around (min c b - a),
      by simp [hca, LM.bind_apply, LM.get, LM.lift, slice, hs1, hs2, hd], h1, h2, h3⟩

theorem isBoundary_prefix {x z : Text} {p : Nat} (h : IsBoundary (x ++ z) p) (hp : p ≤ blen x) : IsBoundary x p := by
  obtain ⟨a, b, hab, rfl⟩ := h
  obtain ⟨y, rfl⟩ := prefix_of_append_eq hab.symm hp
  exact ⟨a, y, rfl, rfl⟩

theorem isBoundary_suffix {a b : Text} {p : Nat} (h : IsBoundary (a ++ b) p) (hp : blen a ≤ p) :
    IsBoundary b (p - blen a) := by
  obtain ⟨u, v, huv, rfl⟩ := h
  obtain ⟨y, rfl⟩ := prefix_of_append_eq huv hp
  have : b = y ++ v := by
    rw [List.append_assoc] at huv
    exact List.append_cancel_left huv
  exact ⟨y, v, this, by simp⟩

theorem isBoundary_append_left {x : Text} {p : Nat} (h : IsBoundary x p) (z : Text) : IsBoundary (x ++ z) p := by
  obtain ⟨a, b, rfl, rfl⟩ := h
  exact ⟨a, b ++ z, by simp, rfl⟩

theorem isBoundary_append_right (x : Text) {z : Text} {p : Nat} (h : IsBoundary z p) :
    IsBoundary (x ++ z) (blen x + p) := by
  obtain ⟨a, b, rfl, rfl⟩ := h
  exact ⟨x ++ a, b, by simp, by simp⟩

theorem drain_all (lb : LB) (d : Direction) :
    LB.drain 0 lb.len d lb = .ok (lb.buf, { lb with buf := [] }, [.del 0 lb.buf d]) := by
  have := split3_append [] lb.buf []
  simp at this
  simp [LB.drain, LB.len, this]

theorem insertStr_empty (S : Segmenter) (U : UData) (s : Text) (lb : LB) (h : lb.buf = []) :
    LB.insertStr S U 0 s lb = .ok (true, { lb with buf := s, cap := growCap lb.cap (blen s) }, [.insStr 0 s]) := by
  simp [LB.insertStr, h, splitAtByte]

theorem rfindChar_eq_none {c : Char} {s : Text} (h : rfindChar c s = none) : c ∉ s := by
  induction s with
  | nil => simp
  | cons x t ih =>
    simp only [rfindChar] at h
    split at h
    · cases h
    · rename_i hn
      split at h
      · cases h
      · rename_i hx
        have hxc : ¬ x = c := by simpa using hx
        intro hm
        rcases List.mem_cons.mp hm with rfl | hm
        · exact hxc rfl
        · exact ih hn hm

theorem findChar_split {c : Char} {s : Text} {n : Nat} (h : findChar c s = some n) :
    ∃ a b, s = a ++ c :: b ∧ n = blen a ∧ c ∉ a := by
  induction s generalizing n with
  | nil => simp [findChar] at h
  | cons x t ih =>
    simp only [findChar] at h
    split at h
    · rename_i hx
      have : x = c := by simpa using hx
      subst this
      cases h
      exact ⟨[], t, rfl, rfl, by simp⟩
    · rename_i hx
      have hxc : ¬ x = c := by simpa using hx
      cases hf : findChar c t with
      | none => simp [hf] at h
      | some k =>
        simp [hf] at h
        obtain ⟨a, b, rfl, rfl, hn⟩ := ih hf
        refine ⟨x :: a, b, rfl, by simp [← h]; omega, ?_⟩
        intro hm
        rcases List.mem_cons.mp hm with rfl | hm
        · exact hxc rfl
        · exact hn hm

theorem rfindChar_split {c : Char} {s : Text} {n : Nat} (h : rfindChar c s = some n) :
    ∃ a b, s = a ++ c :: b ∧ n = blen a ∧ c ∉ b := by
  induction s generalizing n with
  | nil => simp [rfindChar] at h
  | cons x t ih =>
    simp only [rfindChar] at h
    split at h
    · rename_i k hk
      cases h
      obtain ⟨a, b, rfl, rfl, hnb⟩ := ih hk
      exact ⟨x :: a, b, rfl, by simp; omega, hnb⟩
    · rename_i hn
      split at h
      · rename_i hx
        have : x = c := by simpa using hx
        subst this
        cases h
        exact ⟨[], t, rfl, rfl, rfindChar_eq_none hn⟩
      · cases h

theorem findChar_some {c : Char} {s : Text} {n : Nat} (h : findChar c s = some n) :
    ∃ a b, s = a ++ c :: b ∧ n = blen a :=
  let ⟨a, b, hs, hn, _⟩ := findChar_split h; ⟨a, b, hs, hn⟩

theorem rfindChar_some {c : Char} {s : Text} {n : Nat} (h : rfindChar c s = some n) :
    ∃ a b, s = a ++ c :: b ∧ n = blen a :=
  let ⟨a, b, hs, hn, _⟩ := rfindChar_split h; ⟨a, b, hs, hn⟩

theorem utf8Size_newline : Char.utf8Size '\n' = 1 := by decide

theorem endOfLine_ok (lb : LB) (h : WF lb) :
    ∃ e, LB.endOfLine lb = .ok e ∧ IsBoundary lb.buf e ∧ lb.pos ≤ e := by
  obtain ⟨x, s, hb, hp⟩ := h.split
  have hsf : sliceFrom lb.buf lb.pos = .ok s := by rw [hb, hp]; exact sliceFrom_mid x s
  unfold LB.endOfLine
  simp only [hsf, bind, Except.bind, pure, Except.pure]
  cases hf : findChar '\n' s with
  | none =>
    refine ⟨lb.len, rfl, isBoundary_len _, ?_⟩
    simp [LB.len, hb, hp]
  | some n =>
    obtain ⟨a, b, rfl, rfl⟩ := findChar_some hf
    refine ⟨_, rfl, ?_, by omega⟩
    rw [hb, hp]
    exact ⟨x ++ a, '\n' :: b, by simp, by simp; omega⟩

theorem startOfLine_ok (lb : LB) (h : WF lb) :
    ∃ e, LB.startOfLine lb = .ok e ∧ IsBoundary lb.buf e ∧ e ≤ lb.pos := by
  obtain ⟨x, s, hb, hp⟩ := h.split
  have hsf : sliceTo lb.buf lb.pos = .ok x := by rw [hb, hp]; exact sliceTo_mid x s
  unfold LB.startOfLine
  simp only [hsf, bind, Except.bind, pure, Except.pure]
  cases hf : rfindChar '\n' x with
  | none => exact ⟨_, rfl, isBoundary_zero _, Nat.zero_le _⟩
  | some n =>
    obtain ⟨a, b, rfl, rfl⟩ := rfindChar_some hf
    refine ⟨_, rfl, ?_, ?_⟩
    · rw [hb]
      exact ⟨a ++ ['\n'], b ++ s, by simp, by simp [utf8Size_newline]⟩
    · rw [hp]; simp [utf8Size_newline]

/-- from every state satisfying `P`, `m` returns (no panic) in a state satisfying `Q` -/
def Triple {α : Type} (P : LB → Prop) (m : LM α) (Q : α → LB → Prop) : Prop :=
  ∀ lb, P lb → ∃ r lb' ns, m lb = .ok (r, lb', ns) ∧ Q r lb'

namespace Triple
variable {α β : Type}

theorem bind {P : LB → Prop} {m : LM α} {Q : α → LB → Prop} {f : α → LM β} {R : β → LB → Prop}
    (hm : Triple P m Q) (hf : ∀ a, Triple (Q a) (f a) R) : Triple P (m >>= f) R := by
  intro lb hp
  obtain ⟨a, lb1, n1, h1, hq⟩ := hm lb hp
  obtain ⟨b, lb2, n2, h2, hr⟩ := hf a lb1 hq
  refine ⟨b, lb2, n1 ++ n2, ?_, hr⟩
  rw [LM.bind_apply, h1]; simp only []; rw [h2]

theorem pure {P : LB → Prop} {Q : α → LB → Prop} (a : α) (h : ∀ lb, P lb → Q a lb) :
    Triple P (pure a : LM α) Q := by
  intro lb hp; exact ⟨a, lb, [], rfl, h lb hp⟩

theorem get {P : LB → Prop} : Triple P LM.get (fun r lb => r = lb ∧ P lb) := by
  intro lb hp; exact ⟨lb, lb, [], rfl, rfl, hp⟩

theorem setPos {P : LB → Prop} {Q : Unit → LB → Prop} (p : Nat)
    (h : ∀ lb, P lb → Q () { lb with pos := p }) : Triple P (LM.setPos p) Q := by
  intro lb hp; exact ⟨(), _, [], rfl, h lb hp⟩

theorem ro {P : LB → Prop} {Q : α → LB → Prop} (f : LB → Except Panic α)
    (h : ∀ lb, P lb → ∃ r, f lb = .ok r ∧ Q r lb) : Triple P (LM.ro f) Q := by
  intro lb hp
  obtain ⟨r, hr, hq⟩ := h lb hp
  exact ⟨r, lb, [], by simp [LM.ro, hr], hq⟩

theorem weaken {P P' : LB → Prop} {m : LM α} {Q Q' : α → LB → Prop}
    (h : Triple P m Q) (hp : ∀ lb, P' lb → P lb) (hq : ∀ r lb, Q r lb → Q' r lb) : Triple P' m Q' := by
  intro lb hp'
  obtain ⟨r, lb', ns, h1, h2⟩ := h lb (hp lb hp')
  exact ⟨r, lb', ns, h1, hq r lb' h2⟩

end Triple

theorem mem_of_getLast? {α : Type} {l : List α} {x : α} (h : l.getLast? = some x) : x ∈ l :=
  List.mem_of_getLast? h

theorem nextPos_ok (S : Segmenter) (lb : LB) (n : Nat) (h : WF lb) :
    ∃ r, LB.nextPos S lb n = .ok r ∧
      ∀ p, r = some p → IsBoundary lb.buf p ∧ lb.pos < p := by
  obtain ⟨x, s, hb, hp⟩ := h.split
  unfold LB.nextPos
  split
  · exact ⟨none, rfl, by simp⟩
  · simp only [hb, hp, sliceFrom_mid, bind, Except.bind, pure, Except.pure]
    refine ⟨_, rfl, ?_⟩
    intro p hp'
    cases hl : ((gidx S s).take n).getLast? with
    | none => simp [hl] at hp'
    | some ig =>
      obtain ⟨i, g⟩ := ig
      simp [hl] at hp'
      have hm : (i, g) ∈ gidx S s := List.mem_of_mem_take (List.mem_of_getLast? hl)
      obtain ⟨a, b, hs, hi⟩ := gidx_mem hm
      have hg := gidx_mem_ne_nil hm
      have hgp := blen_pos_of_ne_nil hg
      subst hs hi hp'
      refine ⟨⟨x ++ a ++ g, b, by simp, by simp; omega⟩, by omega⟩

theorem prevPos_ok (S : Segmenter) (lb : LB) (n : Nat) (h : WF lb) :
    ∃ r, LB.prevPos S lb n = .ok r ∧
      ∀ p, r = some p → IsBoundary lb.buf p ∧ p < lb.pos := by
  obtain ⟨x, s, hb, hp⟩ := h.split
  unfold LB.prevPos
  split
  · exact ⟨none, rfl, by simp⟩
  · simp only [hb, hp, sliceTo_mid, bind, Except.bind, pure, Except.pure]
    refine ⟨_, rfl, ?_⟩
    intro p hp'
    cases hl : ((gidx S x).reverse.take n).getLast? with
    | none => simp [hl] at hp'
    | some ig =>
      obtain ⟨i, g⟩ := ig
      simp [hl] at hp'
      have hm : (i, g) ∈ gidx S x := by
        have := List.mem_of_mem_take (List.mem_of_getLast? hl)
        simpa using this
      obtain ⟨a, b, hs, hi⟩ := gidx_mem hm
      have hg := gidx_mem_ne_nil hm
      have hgp := blen_pos_of_ne_nil hg
      subst hs hi hp'
      refine ⟨⟨a, g ++ b ++ s, by simp, rfl⟩, by simp; omega⟩

theorem slice_ok {t : Text} {a b : Nat} (ha : IsBoundary t a) (hb : IsBoundary t b) (hab : a ≤ b) :
    ∃ y, slice t a b = .ok y := by
  obtain ⟨x, y, z, hs, _⟩ := split3_of_boundaries ha hb hab
  exact ⟨y, by simp [slice, hs]⟩

end Rl
