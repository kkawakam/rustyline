/-
  Sequences of public line-buffer operations (C03): `Op.runAll` runs a list of method calls one after
  another on the state the previous call left and concatenates the notifications; `Op.Admissible` says
  that every call is inside the contract of the explicit-index primitives IN THE STATE IT IS MADE IN.
-/
import Rl.LineBuffer
import Rl.Spec.LineBuffer
import Rl.Lemmas.LineBuffer
import Rl.Lemmas.LineBufferSafe
open Rl Rl.Spec

namespace Rl

/-- run a list of public method calls one after another; the answer is the list of the answers, the
    notifications are concatenated; the first panic aborts -/
def Op.runAll (S : Segmenter) (U : UData) : List Op → LM (List Ret)
  | [] => pure []
  | op :: ops => do
    let r ← Op.run S U op
    let rs ← Op.runAll S U ops
    return r :: rs

/-- every call of the list is made with arguments inside the contract of the explicit-index primitives
    (`Op.argsValid`, evaluated in the state the call is made in), and `insert_str` is not called with an
    index before the cursor (the one hypothesis of `C03_op_total_wf_replay_all_partial`) -/
def Op.Admissible (S : Segmenter) (U : UData) : List Op → LB → Prop
  | [], _ => True
  | op :: ops, lb =>
    Op.argsValid lb op = true ∧ (∀ i t, op = .insertStr i t → lb.pos ≤ i) ∧
      ∀ r lb' ns, Op.run S U op lb = .ok (r, lb', ns) → Op.Admissible S U ops lb'

theorem Op.runAll_nil (S : Segmenter) (U : UData) (lb : LB) : Op.runAll S U [] lb = .ok ([], lb, []) := rfl

theorem Op.runAll_cons_ok {S : Segmenter} {U : UData} {op : Op} {ops : List Op} {lb lb1 lb2 : LB}
    {r : Ret} {rs : List Ret} {n1 n2 : List Notif}
    (h1 : Op.run S U op lb = .ok (r, lb1, n1)) (h2 : Op.runAll S U ops lb1 = .ok (rs, lb2, n2)) :
    Op.runAll S U (op :: ops) lb = .ok (r :: rs, lb2, n1 ++ n2) := by
  show (Op.run S U op >>= fun r => Op.runAll S U ops >>= fun rs => pure (r :: rs)) lb = _
  simp [LM.bind_apply, h1, h2]

theorem Op.runAll_cons_inv {S : Segmenter} {U : UData} {op : Op} {ops : List Op} {lb lb2 : LB}
    {rs : List Ret} {ns : List Notif} (h : Op.runAll S U (op :: ops) lb = .ok (rs, lb2, ns)) :
    ∃ r lb1 n1 rs' n2, Op.run S U op lb = .ok (r, lb1, n1) ∧ Op.runAll S U ops lb1 = .ok (rs', lb2, n2) ∧
      rs = r :: rs' ∧ ns = n1 ++ n2 := by
  have h' : (Op.run S U op >>= fun r => Op.runAll S U ops >>= fun rs => pure (r :: rs)) lb = .ok (rs, lb2, ns) := h
  obtain ⟨r, lb1, n1, n2, hm, hf, rfl⟩ := LM.bind_ok h'
  obtain ⟨rs', lb3, n3, n4, hm2, hf2, rfl⟩ := LM.bind_ok hf
  simp only [LM.pure_apply, Except.ok.injEq, Prod.mk.injEq] at hf2
  obtain ⟨rfl, rfl, rfl⟩ := hf2
  exact ⟨r, lb1, n1, rs', n3, hm, hm2, rfl, by simp⟩

theorem Op.runAll_append_inv {S : Segmenter} {U : UData} : ∀ (a : List Op) {b : List Op} {lb lb2 : LB}
    {rs : List Ret} {ns : List Notif}, Op.runAll S U (a ++ b) lb = .ok (rs, lb2, ns) →
    ∃ ra lb1 na rb nb, Op.runAll S U a lb = .ok (ra, lb1, na) ∧ Op.runAll S U b lb1 = .ok (rb, lb2, nb) ∧
      rs = ra ++ rb ∧ ns = na ++ nb
  | [], b, lb, lb2, rs, ns, h => ⟨[], lb, [], rs, ns, rfl, h, rfl, rfl⟩
  | op :: a, b, lb, lb2, rs, ns, h => by
    obtain ⟨r, lb1, n1, rs', n2, h1, h2, rfl, rfl⟩ := Op.runAll_cons_inv (ops := a ++ b) h
    obtain ⟨ra, lbm, na, rb, nb, h3, h4, rfl, rfl⟩ := Op.runAll_append_inv a h2
    exact ⟨r :: ra, lbm, n1 ++ na, rb, nb, Op.runAll_cons_ok h1 h3, h4, rfl, by simp⟩

theorem Op.Admissible.prefix {S : Segmenter} {U : UData} : ∀ (a : List Op) {b : List Op} {lb : LB},
    Op.Admissible S U (a ++ b) lb → Op.Admissible S U a lb
  | [], _, _, _ => trivial
  | _ :: a, _, _, h => ⟨h.1, h.2.1, fun r lb' ns hr => Op.Admissible.prefix a (h.2.2 r lb' ns hr)⟩

theorem Op.runAll_invariant {S : Segmenter} {U : UData} (I : LB → Prop) (P : Op → Prop)
    (step : ∀ op lb r lb' ns, P op → I lb → Op.run S U op lb = .ok (r, lb', ns) → I lb') :
    ∀ (ops : List Op) (lb lb' : LB) (rs : List Ret) (ns : List Notif), (∀ op ∈ ops, P op) → I lb →
      Op.runAll S U ops lb = .ok (rs, lb', ns) → I lb'
  | [], lb, lb', rs, ns, _, hi, h => by
    rw [Op.runAll_nil] at h; cases h; exact hi
  | op :: ops, lb, lb', rs, ns, hp, hi, h => by
    obtain ⟨r, lb1, n1, rs', n2, h1, h2, _, _⟩ := Op.runAll_cons_inv h
    exact Op.runAll_invariant I P step ops lb1 lb' rs' n2 (fun o ho => hp o (List.mem_cons_of_mem _ ho))
      (step op lb r lb1 n1 (hp op List.mem_cons_self) hi h1) h2

theorem Op.runAll_of_prims {C : ∀ {α : Type}, LM α → Prop} (S : Segmenter) (U : UData) (hp : PosPrims C) :
    ∀ ops : List Op, (∀ op ∈ ops, Op.isMotionOrCopy op = false → EditPrims C) → C (Op.runAll S U ops)
  | [], _ => hp.pure _
  | op :: ops, he =>
    hp.bind (Op.run_of_prims S U hp op (he op List.mem_cons_self)) fun _ =>
      hp.bind (Op.runAll_of_prims S U hp ops fun o ho => he o (List.mem_cons_of_mem _ ho)) fun _ => hp.pure _

theorem Op.runAll_replay {S : Segmenter} {U : UData} (ops : List Op) (lb lb' : LB) (rs : List Ret)
    (ns : List Notif) (h : Op.runAll S U ops lb = .ok (rs, lb', ns)) : replay ns lb.buf = some lb'.buf :=
  (Op.runAll_of_prims S U replays_prims.toPosPrims ops fun _ _ _ => replays_prims).h lb rs lb' ns h

end Rl
