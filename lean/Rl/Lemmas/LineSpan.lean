/-
  C04, multi-line kills and copies (`dk`, `dj`, `yk`, `yj`): the model's line ranges
  (`n_lines_up` / `n_lines_down`) equal the declarative ones (`upStart`, `downEnd`, `linesSpan`).
-/
import Rl.Lemmas.Motion
import Rl.Lemmas.Span
import Rl.Lemmas.Steps
namespace Rl
open Rl.Spec

theorem WF.cutLine {lb : LB} (h : WF lb) : ∃ x s, lb.buf = x ++ s ∧ lb.pos = blen x ∧
    sliceTo lb.buf lb.pos = .ok x ∧ sliceFrom lb.buf lb.pos = .ok s ∧
    lineStartOf lb.buf lb.pos = (match rfindChar '\n' x with | some i => i + 1 | none => 0) ∧
    lineEndOf lb.buf lb.pos = (match findChar '\n' s with | some i => blen x + i | none => blen (x ++ s)) := by
  obtain ⟨x, s, hb, hp, _, hst, hsf⟩ := h.cut
  exact ⟨x, s, hb, hp, hst, hsf, by rw [hb, hp]; exact lineStartOf_mid x s,
    by rw [hb, hp]; exact lineEndOf_mid x s⟩

theorem ls_nluLoop_eq (buf : Text) (k start : Nat) (h : ∃ u v, buf = u ++ '\n' :: v ∧ start = blen u + 1) :
    LB.nluLoop buf k start = .ok (upStart buf k start) := by
  induction k generalizing start with
  | zero => rfl
  | succ k ih =>
    obtain ⟨u, v, hb, hs⟩ := h
    have hne : (start == 0) = false := by simp [hs]
    have hst : sliceTo buf (start - 1) = .ok u := by
      rw [hb, hs]; simp only [Nat.add_sub_cancel]; exact sliceTo_mid u _
    have hls : lineStartOf buf (start - 1) = (match rfindChar '\n' u with | some i => i + 1 | none => 0) := by
      rw [hb, hs]; simp only [Nat.add_sub_cancel]; exact lineStartOf_mid u _
    unfold LB.nluLoop upStart
    simp only [hne, hst, hls, bind, Except.bind, Bool.false_eq_true, if_false]
    cases hf : rfindChar '\n' u with
    | none => simp only [upStart_zero]; rfl
    | some off =>
      obtain ⟨u', v', rfl, rfl⟩ := rfindChar_some hf
      exact ih (blen u' + 1) ⟨u', v' ++ '\n' :: v, by rw [hb]; simp, rfl⟩

/-- `n_lines_up`: the model's range is `[upStart …, one past the current line's break)` -/
theorem ls_nLinesUp_eq (lb : LB) (n : Nat) (h : WF lb) :
    LB.nLinesUp lb n = .ok (
      if lineStartOf lb.buf lb.pos = 0 then none
      else some (upStart lb.buf n (lineStartOf lb.buf lb.pos),
                 if lineEndOf lb.buf lb.pos < blen lb.buf then lineEndOf lb.buf lb.pos + 1 else blen lb.buf)) := by
  obtain ⟨x, s, hb, hp, hst, hsf, hls, hle⟩ := h.cutLine
  unfold LB.nLinesUp
  simp only [hst, hsf, hls, hle, bind, Except.bind, pure, Except.pure]
  cases hf : rfindChar '\n' x with
  | none => simp
  | some off =>
    obtain ⟨u, v, rfl, rfl⟩ := rfindChar_some hf
    have hl := ls_nluLoop_eq lb.buf n (blen u + 1) ⟨u, v ++ s, by rw [hb]; simp, rfl⟩
    simp only [hl]
    cases hg : findChar '\n' s with
    | none => simp [LB.len, hb]
    | some k =>
      obtain ⟨a', b', rfl, rfl⟩ := findChar_some hg
      have : blen (u ++ '\n' :: v) + blen a' < blen lb.buf := by
        rw [hb]; simp [utf8Size_newline]; omega
      simp only [utf8Size_newline, blen_append, blen_cons] at this
      simp [hp, utf8Size_newline]
      omega

theorem ls_lineStart_split (x : Text) :
    ∃ X v, x = X ++ v ∧ v.filter (· == '\n') = [] ∧
      (match rfindChar '\n' x with | some i => i + 1 | none => 0) = blen X := by
  cases hf : rfindChar '\n' x with
  | none => exact ⟨[], x, rfl, filter_beq_eq_nil (rfindChar_eq_none hf), rfl⟩
  | some i =>
    obtain ⟨u, v, rfl, rfl, hn⟩ := rfindChar_split hf
    exact ⟨u ++ ['\n'], v, by simp, filter_beq_eq_nil hn, by simp [utf8Size_newline]⟩

/-- `n_lines_down`, full form: the range as a decomposition of the text, with the number of line
    breaks it holds -/
theorem ls_nLinesDown_full (lb : LB) (n : Nat) (h : WF lb)
    (hlt : lineEndOf lb.buf lb.pos < blen lb.buf) :
    ∃ X mid z, lb.buf = X ++ mid ++ z ∧ lineStartOf lb.buf lb.pos = blen X ∧
      LB.nLinesDown lb n = .ok (some (blen X, blen X + blen mid)) ∧
      (blen X + blen mid =
        if downEnd lb.buf n (lineEndOf lb.buf lb.pos) < blen lb.buf
        then downEnd lb.buf n (lineEndOf lb.buf lb.pos) + 1 else blen lb.buf) ∧
      (if downEnd lb.buf n (lineEndOf lb.buf lb.pos) < blen lb.buf
        then (mid.filter (· == '\n')).length = n + 1 else (mid.filter (· == '\n')).length ≤ n) ∧
      lb.pos < blen X + blen mid := by
  obtain ⟨x, s, hb, hp, hst, hsf, hls, hle⟩ := h.cutLine
  cases hf : findChar '\n' s with
  | none => rw [hle, hf, hb] at hlt; simp at hlt
  | some off =>
    obtain ⟨a, b, rfl, rfl, hna⟩ := findChar_split hf
    replace hna := filter_beq_eq_nil hna
    obtain ⟨X, v, hx, hnv, hX⟩ := ls_lineStart_split x
    have hbuf : lb.buf = (x ++ a) ++ '\n' :: b := by rw [hb]; simp
    obtain ⟨m, z, hbm, h1, h2, h3⟩ := ls_nldLoop_inv lb.buf n (x ++ a) b hbuf
    have hle' : lineEndOf lb.buf lb.pos = blen (x ++ a) := by rw [hle, hf]; simp
    rw [hle']
    have hxl : blen x = blen X + blen v := by rw [hx]; simp
    have hmid : blen X + blen (v ++ a ++ '\n' :: m) = blen (x ++ a) + 1 + blen m := by
      simp [utf8Size_newline, hxl]; omega
    refine ⟨X, v ++ a ++ '\n' :: m, z, ?_, by rw [hls, hX], ?_, ?_, ?_, ?_⟩
    · rw [hb, hx, hbm]; simp
    · unfold LB.nLinesDown
      simp only [hst, hsf, hf, bind, Except.bind, pure, Except.pure]
      have e4 : lb.pos + blen a + 1 = blen (x ++ a) + 1 := by rw [hp]; simp
      rw [e4, h1]
      simp only []
      rw [hmid, ← hX]
      rfl
    · rw [hmid]; exact h2
    · split
      · rename_i hc
        rw [if_pos hc] at h3
        simp [List.filter_append, hnv, hna, h3]
      · rename_i hc
        rw [if_neg hc] at h3
        simp [List.filter_append, hnv, hna]
        omega
    · rw [hmid, hp]; simp; omega

/-- `n_lines_down`: the model's range is `[line start, one past the break `downEnd` names)` -/
theorem ls_nLinesDown_eq (lb : LB) (n : Nat) (h : WF lb) :
    LB.nLinesDown lb n = .ok (
      if lineEndOf lb.buf lb.pos ≥ blen lb.buf then none
      else some (lineStartOf lb.buf lb.pos,
                 if downEnd lb.buf n (lineEndOf lb.buf lb.pos) < blen lb.buf
                 then downEnd lb.buf n (lineEndOf lb.buf lb.pos) + 1 else blen lb.buf)) := by
  by_cases hc : lineEndOf lb.buf lb.pos ≥ blen lb.buf
  · rw [if_pos hc]
    obtain ⟨x, s, hb, hp, _, hsf, _, hle⟩ := h.cutLine
    cases hf : findChar '\n' s with
    | none =>
      unfold LB.nLinesDown
      simp only [hsf, hf, bind, Except.bind, pure, Except.pure]
    | some off =>
      obtain ⟨a, b, rfl, rfl⟩ := findChar_some hf
      rw [hle, hf, hb] at hc
      simp [utf8Size_newline] at hc
      omega
  · rw [if_neg hc]
    obtain ⟨X, mid, z, _, h1, h2, h3, _, _⟩ := ls_nLinesDown_full lb n h (by omega)
    rw [h2, h1, h3]

theorem ls_linesSpan_copy (buf : Text) (s e : Nat) :
    linesSpan buf s e true = (s, if e < blen buf then e + 1 else blen buf) := by
  unfold linesSpan
  split <;> simp

theorem ls_linesSpan_kill (buf : Text) (s e : Nat) :
    linesSpan buf s e false =
      (if e < blen buf then s else s - 1, if e < blen buf then e + 1 else blen buf) := by
  unfold linesSpan
  split
  · simp
  · simp only [Bool.false_eq_true, if_false, Prod.mk.injEq, and_true]
    split <;> omega

theorem ls_spanOf_lineUp (S : Segmenter) (U : UData) (buf : Text) (pos n : Nat) (fc : Bool)
    (hemp : buf.isEmpty = false) (hn : n ≠ 0) (hls : lineStartOf buf pos ≠ 0) :
    spanOf S U buf pos (.lineUp n) fc =
      mkSpan (linesSpan buf (upStart buf n (lineStartOf buf pos)) (lineEndOf buf pos) fc).1
             (linesSpan buf (upStart buf n (lineStartOf buf pos)) (lineEndOf buf pos) fc).2 := by
  rw [spanOf_lineUp hemp]
  simp [hn, hls]

theorem ls_spanOf_lineDown (S : Segmenter) (U : UData) (buf : Text) (pos n : Nat) (fc : Bool)
    (hemp : buf.isEmpty = false) (hn : n ≠ 0) (hle : lineEndOf buf pos < blen buf) :
    spanOf S U buf pos (.lineDown n) fc =
      mkSpan (linesSpan buf (lineStartOf buf pos) (downEnd buf n (lineEndOf buf pos)) fc).1
             (linesSpan buf (lineStartOf buf pos) (downEnd buf n (lineEndOf buf pos)) fc).2 := by
  have : ¬ (blen buf ≤ lineEndOf buf pos) := by omega
  rw [spanOf_lineDown hemp]
  simp [hn, this]

theorem ls_deleteRange_eval (S : Segmenter) (U : UData) (a b : Nat) (lb : LB)
    (ha : IsBoundary lb.buf a) (hb : IsBoundary lb.buf b) (hab : a ≤ b) :
    ∃ x y z, LB.deleteRange S U a b lb = .ok ((), { lb with buf := x ++ z, pos := a }, [.del a y .forward]) ∧
      lb.buf = x ++ y ++ z ∧ a = blen x ∧ b = blen x + blen y := by
  have hle : a ≤ lb.len := ha.le_len
  obtain ⟨x, y, z, hd, hbuf, hx, hy⟩ := drain_ok (lb := { lb with pos := a }) .forward ha hb hab
  refine ⟨x, y, z, ?_, hbuf, hx, hy⟩
  unfold LB.deleteRange
  simp [LM.bind_apply, LB.setPosChecked, hle, hd]

/-- where `dk` / `dj` start to cut: at the line start `a`, or (`c`: the range reaches the end of the text) one
    byte earlier, on the line break in front of it -/
theorem IsLineStart.adj {buf : Text} {a : Nat} (ha : IsLineStart buf a) (c : Prop) [Decidable c] :
    IsBoundary buf (if c ∧ 0 < a then a - 1 else a) ∧ (if c ∧ 0 < a then a - 1 else a) ≤ a := by
  split
  · exact ⟨ha.pred_boundary, Nat.sub_le _ _⟩
  · exact ⟨ha.boundary, Nat.le_refl _⟩

/-- the declarative span of a multi-line kill of the lines `[s, e]`, against the range the model cuts: it
    ends behind the break at `e`, or — `c`: there is none — starts on the break in front of `s` -/
theorem ls_judged_lines {S : Segmenter} {U : UData} {lb : LB} {mvt : Movement} {s e B : Nat}
    (hsp : spanOf S U lb.buf lb.pos mvt false =
      mkSpan (linesSpan lb.buf s e false).1 (linesSpan lb.buf s e false).2)
    (c : Prop) [Decidable c] (hc : c ↔ ¬ e < blen lb.buf)
    (hB : B = if e < blen lb.buf then e + 1 else blen lb.buf) :
    Judged S U lb mvt false (some (if c ∧ 0 < s then s - 1 else s, B)) := by
  refine Or.inr ?_
  rw [hsp, ls_linesSpan_kill, ← hB]
  show mkSpan _ B = mkSpan _ B
  congr 1
  by_cases he : e < blen lb.buf
  · simp [he, mt hc.mp (not_not_intro he)]
  · simp only [he, hc.mpr he, if_false, true_and]
    split <;> omega

theorem ls_isEmpty_false_of_lineStart {lb : LB} (h : WF lb) (hls : lineStartOf lb.buf lb.pos ≠ 0) :
    lb.buf.isEmpty = false := by
  have h1 := ls_lineStartOf_le lb.buf lb.pos
  have h2 : lb.pos ≤ blen lb.buf := h.le_len
  cases hbuf : lb.buf with
  | nil => rw [hbuf] at h2; simp at h2; omega
  | cons c t => rfl

/-- `dk`: the current line and the n lines above, with exactly one adjoining line break -/
theorem kill_lineUp_eval (S : Segmenter) (U : UData) (lb : LB) (n : Nat) (h : WF lb) :
    KillsSpan S U True (.lineUp n) (LB.kill S U (.lineUp n)) lb := by
  have heq := ls_nLinesUp_eq lb n h
  obtain ⟨r0, hr0, hprop⟩ := nLinesUp_ok lb n h
  obtain ⟨x, s, hb, hpos, _, hsf, _, hle⟩ := h.cutLine
  by_cases hls : lineStartOf lb.buf lb.pos = 0
  · rw [if_pos hls] at heq
    refine ⟨none, false, lb, [.startKill, .stopKill],
      by simp [LB.kill, LM.bind_apply, LM.notify, LM.ro, heq], rfl, fun _ => ?_⟩
    by_cases hemp : lb.buf.isEmpty = true
    · exact judged_of_isEmpty hemp _ _
    unfold Judged
    rw [spanOf_lineUp (by simpa using hemp)]
    by_cases hn : n = 0
    · left; simp [hn]
    · right; simp [hn, hls, rangeSpan]
  · rw [if_neg hls] at heq
    rw [heq] at hr0
    cases hr0
    obtain ⟨hA, hB, hle1, hle2⟩ := hprop _ _ rfl
    obtain ⟨ha', hle'⟩ := hA.adj (findChar '\n' s = none)
    obtain ⟨y, l, ns, hsp, hd, hcut⟩ := drainAround_cut S U lb.pos ha' hB h (by omega)
    refine ⟨some (_, _), true, l, _,
      by simp [LB.kill, LM.bind_apply, LM.notify, LM.ro, heq, LM.get, LM.lift, hsf, hsp, hd],
      Killed.wrap ⟨by omega, hle2, hcut⟩, fun _ => ?_⟩
    have hemp' := ls_isEmpty_false_of_lineStart h hls
    by_cases hn : n = 0
    · exact Or.inl (by simp [spanOf_lineUp hemp', hn])
    refine ls_judged_lines (ls_spanOf_lineUp S U _ _ _ _ hemp' hn hls) _ ?_ rfl
    cases hf : findChar '\n' s with
    | none => rw [hle, hf, hb]; simp
    | some i =>
      obtain ⟨a', b', rfl, rfl⟩ := findChar_some hf
      rw [hle, hf, hb]
      simp [utf8Size_newline]

/-- `dj`: the current line and the n lines below, with exactly one adjoining line break -/
theorem kill_lineDown_eval (S : Segmenter) (U : UData) (lb : LB) (n : Nat) (h : WF lb) :
    KillsSpan S U True (.lineDown n) (LB.kill S U (.lineDown n)) lb := by
  obtain ⟨r0, hr0, hprop⟩ := nLinesDown_ok lb n h
  by_cases hle : lineEndOf lb.buf lb.pos ≥ blen lb.buf
  · have heq := ls_nLinesDown_eq lb n h
    rw [if_pos hle] at heq
    refine ⟨none, false, lb, [.startKill, .stopKill],
      by simp [LB.kill, LM.bind_apply, LM.notify, LM.ro, heq], rfl, fun _ => ?_⟩
    by_cases hemp : lb.buf.isEmpty = true
    · exact judged_of_isEmpty hemp _ _
    unfold Judged
    rw [spanOf_lineDown (by simpa using hemp)]
    by_cases hn : n = 0
    · left; simp [hn]
    · right; simp [hn, hle, rangeSpan]
  · have hle' : lineEndOf lb.buf lb.pos < blen lb.buf := by omega
    obtain ⟨X, mid, z0, hbuf0, h1, h2, h3, h4, h5⟩ := ls_nLinesDown_full lb n h hle'
    rw [h2] at hr0
    cases hr0
    obtain ⟨hA, hB, hle1, hle2⟩ := hprop _ _ rfl
    have hsl : slice lb.buf (blen X) (blen X + blen mid) = .ok mid := by
      rw [hbuf0]; exact slice_mid X mid z0
    obtain ⟨ha', hle''⟩ := hA.adj ((mid.filter (· == '\n')).length ≤ n)
    obtain ⟨y, l, ns, hsp, hd, hcut⟩ := drainAround_cut S U lb.pos ha' hB h (by omega)
    refine ⟨some (_, _), true, l, _,
      by simp [LB.kill, LM.bind_apply, LM.notify, LM.ro, h2, LM.get, LM.lift, hsl, hsp, hd],
      Killed.wrap ⟨by omega, hle2, hcut⟩, fun _ => ?_⟩
    have hemp' : lb.buf.isEmpty = false := by
      cases hbuf : lb.buf with
      | nil => rw [hbuf] at hle'; simp at hle'
      | cons c t => rfl
    by_cases hn : n = 0
    · exact Or.inl (by simp [spanOf_lineDown hemp', hn])
    rw [← h1]
    refine ls_judged_lines (ls_spanOf_lineDown S U _ _ _ _ hemp' hn hle') _ ?_ (h1 ▸ h3)
    split at h4 <;> omega

/-- `yk`: the current line and the n lines above, with the line break that ends them -/
theorem copy_lineUp_eval (S : Segmenter) (U : UData) (lb : LB) (n : Nat) (h : WF lb) :
    CopiesSpan S U True (.lineUp n) lb := by
  by_cases hemp : lb.buf.isEmpty = true
  · exact copiesSpan_of_isEmpty hemp
  have hemp' : lb.buf.isEmpty = false := by simpa using hemp
  obtain ⟨q, hq, hprop⟩ := nLinesUp_ok lb n h
  obtain ⟨r, hr, hc⟩ := lookup_range_slice_eval (lb := lb) hq fun a b e =>
    have ⟨hls, hbb, h1, h2⟩ := hprop a b e
    ⟨hls.boundary, hbb, Nat.le_trans h1 h2⟩
  refine ⟨q, r, by unfold LB.copy; rw [if_neg hemp]; exact hr, hc, fun _ => ?_⟩
  by_cases hn : n = 0
  · exact Or.inl (by simp [spanOf_lineUp hemp', hn])
  rw [ls_nLinesUp_eq lb n h] at hq
  cases hq
  refine Or.inr ?_
  by_cases hls : lineStartOf lb.buf lb.pos = 0
  · simp [spanOf_lineUp hemp', hn, hls, rangeSpan]
  · rw [ls_spanOf_lineUp S U _ _ _ _ hemp' hn hls, ls_linesSpan_copy, if_neg hls]; rfl

/-- `yj`: the current line and the n lines below, with the line break that ends them -/
theorem copy_lineDown_eval (S : Segmenter) (U : UData) (lb : LB) (n : Nat) (h : WF lb) :
    CopiesSpan S U True (.lineDown n) lb := by
  by_cases hemp : lb.buf.isEmpty = true
  · exact copiesSpan_of_isEmpty hemp
  have hemp' : lb.buf.isEmpty = false := by simpa using hemp
  obtain ⟨q, hq, hprop⟩ := nLinesDown_ok lb n h
  obtain ⟨r, hr, hc⟩ := lookup_range_slice_eval (lb := lb) hq fun a b e =>
    have ⟨hls, hbb, h1, h2⟩ := hprop a b e
    ⟨hls.boundary, hbb, Nat.le_trans h1 h2⟩
  refine ⟨q, r, by unfold LB.copy; rw [if_neg hemp]; exact hr, hc, fun _ => ?_⟩
  by_cases hn : n = 0
  · exact Or.inl (by simp [spanOf_lineDown hemp', hn])
  rw [ls_nLinesDown_eq lb n h] at hq
  cases hq
  refine Or.inr ?_
  by_cases hle : lineEndOf lb.buf lb.pos ≥ blen lb.buf
  · simp [spanOf_lineDown hemp', hn, hle, rangeSpan]
  · rw [ls_spanOf_lineDown S U _ _ _ _ hemp' hn (by omega), ls_linesSpan_copy, if_neg hle]; rfl

end Rl
