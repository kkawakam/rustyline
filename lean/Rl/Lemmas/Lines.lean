/-
  Searching a text for a character (`findChar` / `rfindChar`) and the declarative line start / end of
  `Rl/Spec/Motion.lean` on a text cut in two.
-/
import Rl.Lemmas.LineBufferSafe
namespace Rl
open Rl.Spec

theorem findChar_eq_none {c : Char} {s : Text} (h : findChar c s = none) : c ∉ s := by
  induction s with
  | nil => simp
  | cons x t ih =>
    simp only [findChar] at h
    split at h
    · cases h
    · rename_i hx
      have hxc : ¬ x = c := by simpa using hx
      cases hf : findChar c t with
      | none =>
        intro hm
        rcases List.mem_cons.mp hm with rfl | hm
        · exact hxc rfl
        · exact ih hf hm
      | some k => simp [hf] at h

/-- the converses of `findChar_eq_none`, `rfindChar_eq_none` -/
theorem vm_findChar_none {c : Char} {s : Text} (h : c ∉ s) : findChar c s = none := by
  induction s with
  | nil => rfl
  | cons x t ih =>
    have hx : ¬ x = c := fun e => h (by simp [e])
    have ht : c ∉ t := fun e => h (by simp [e])
    simp [findChar, hx, ih ht]

theorem vm_rfindChar_none {c : Char} {s : Text} (h : c ∉ s) : rfindChar c s = none := by
  induction s with
  | nil => rfl
  | cons x t ih =>
    have hx : ¬ x = c := fun e => h (by simp [e])
    have ht : c ∉ t := fun e => h (by simp [e])
    simp [rfindChar, hx, ih ht]

theorem vm_rfindChar_append {c : Char} (x : Text) {m : Text} (h : c ∉ m) :
    rfindChar c (x ++ m) = rfindChar c x := by
  induction x with
  | nil => simpa [rfindChar] using vm_rfindChar_none h
  | cons y t ih => simp only [List.cons_append, rfindChar, ih]

theorem vm_rfindChar_snoc (c : Char) (u : Text) : rfindChar c (u ++ [c]) = some (blen u) := by
  induction u with
  | nil => simp [rfindChar]
  | cons y t ih => simp only [List.cons_append, rfindChar, ih, blen_cons]; simp; omega

theorem filter_beq_eq_nil {c : Char} {a : Text} (h : c ∉ a) : a.filter (· == c) = [] := by
  rw [List.filter_eq_nil_iff]
  intro x hx hxc
  exact h (by rw [← beq_iff_eq.mp hxc]; exact hx)

theorem findChar_append_left {c : Char} {v : Text} (s : Text) (h : c ∉ v) :
    findChar c (v ++ s) = (findChar c s).map (· + blen v) := by
  induction v with
  | nil => simp
  | cons x t ih =>
    have hx : ¬ x = c := fun e => h (by simp [e])
    have ht : c ∉ t := fun e => h (List.mem_cons_of_mem _ e)
    have hxb : (x == c) = false := by simpa using hx
    simp only [List.cons_append, findChar, hxb, Bool.false_eq_true, if_false, ih ht]
    cases findChar c s with
    | none => rfl
    | some i => simp; omega

theorem lineStartOf_mid (x s : Text) :
    lineStartOf (x ++ s) (blen x) = (match rfindChar '\n' x with | some i => i + 1 | none => 0) := by
  unfold lineStartOf splitAt?
  rw [splitAtByte_append]
  rfl

theorem lineEndOf_mid (x s : Text) :
    lineEndOf (x ++ s) (blen x) = (match findChar '\n' s with | some i => blen x + i | none => blen (x ++ s)) := by
  unfold lineEndOf splitAt?
  rw [splitAtByte_append]
  rfl

theorem ls_lineStartOf_le (buf : Text) (p : Nat) : lineStartOf buf p ≤ p := by
  unfold lineStartOf splitAt?
  cases hs : splitAtByte buf p with
  | none => exact Nat.zero_le _
  | some ab =>
    obtain ⟨a, b⟩ := ab
    obtain ⟨rfl, rfl⟩ := splitAtByte_some hs
    simp only
    cases hf : rfindChar '\n' a with
    | none => exact Nat.zero_le _
    | some i =>
      obtain ⟨u, v, rfl, rfl⟩ := rfindChar_some hf
      simp [utf8Size_newline]

theorem downEnd_len (buf : Text) (k : Nat) : downEnd buf k (blen buf) = blen buf := by
  cases k <;> simp [downEnd]

theorem downEnd_succ (buf : Text) (k : Nat) {e : Nat} (h : e < blen buf) :
    downEnd buf (k + 1) e = downEnd buf k (lineEndOf buf (e + 1)) := by
  simp [downEnd, Nat.not_le.mpr h]

theorem upStart_zero (buf : Text) (k : Nat) : upStart buf k 0 = 0 := by
  cases k <;> simp [upStart]

end Rl
