/-
  The read-only position functions of `LineBuffer` (`next_pos`, `prev_pos`, `next_word_pos`,
  `prev_word_pos`, `search_char_pos`, the line loops, `first_print`, `skip_whitespace`) from a
  well-formed state: they return, their results are character boundaries on the right side of the
  cursor, and for a non-zero count they are the declarative targets of `Rl/Spec/Motion.lean`.
  At the end, `move_to_next_word` / `move_to_prev_word` as "look a position up, go there" (`LM.goto_run`).
-/
import Rl.Lemmas.Lines
import Rl.Spec.Motion
namespace Rl
open Rl.Spec

theorem WF.cut {lb : LB} (h : WF lb) : ∃ x s, lb.buf = x ++ s ∧ lb.pos = blen x ∧
    splitAtByte lb.buf lb.pos = some (x, s) ∧ sliceTo lb.buf lb.pos = .ok x ∧ sliceFrom lb.buf lb.pos = .ok s := by
  obtain ⟨x, s, hb, hp⟩ := h.split
  rw [hb, hp]
  exact ⟨x, s, rfl, rfl, splitAtByte_append x s, sliceTo_mid x s, sliceFrom_mid x s⟩

theorem seg_nil (S : Segmenter) : S.seg [] = [] := by
  cases h : S.seg [] with
  | nil => rfl
  | cons g gs =>
    have hf := S.flatten_eq []
    rw [h, List.flatten_cons, List.append_eq_nil_iff] at hf
    exact absurd hf.1 (S.ne_nil [] g (by rw [h]; exact List.mem_cons_self))

theorem seg_ne_nil (S : Segmenter) {s : Text} (h : s ≠ []) : S.seg s ≠ [] := by
  intro h0
  have := S.flatten_eq s
  rw [h0] at this
  exact h (by simpa using this.symm)

theorem seg_head (S : Segmenter) {s : Text} (hs : s ≠ []) :
    ∃ g r, (S.seg s).head? = some g ∧ s = g ++ r ∧ g ≠ [] := by
  have hne := seg_ne_nil S hs
  cases hseg : S.seg s with
  | nil => exact absurd hseg hne
  | cons g gs =>
    refine ⟨g, gs.flatten, rfl, ?_, S.ne_nil s g (by rw [hseg]; simp)⟩
    have := S.flatten_eq s
    rw [hseg] at this
    simpa using this.symm

theorem seg_last (S : Segmenter) {s : Text} (hs : s ≠ []) :
    ∃ g r, (S.seg s).getLast? = some g ∧ s = r ++ g ∧ g ≠ [] := by
  have hne := seg_ne_nil S hs
  have hl := List.getLast?_eq_some_getLast hne
  refine ⟨_, (S.seg s).dropLast.flatten, hl, ?_, S.ne_nil s _ (List.getLast_mem hne)⟩
  have := S.flatten_eq s
  conv => lhs; rw [← this]
  conv => lhs; rw [← List.dropLast_concat_getLast hne]
  simp

theorem cs_append_inj_blen {a1 b1 a2 b2 : Text} (h : a1 ++ b1 = a2 ++ b2) (hl : blen a1 = blen a2) :
    a1 = a2 ∧ b1 = b2 := by
  obtain ⟨y, rfl⟩ := prefix_of_append_eq h (Nat.le_of_eq hl)
  have hy : y = [] := by
    apply blen_eq_zero.mp
    simp at hl; omega
  subst hy
  simp at h ⊢
  exact h

theorem cs_take_drop_flatten (gs : List Text) (k : Nat) :
    (gs.take k).flatten ++ (gs.drop k).flatten = gs.flatten := by
  rw [← List.flatten_append, List.take_append_drop]

theorem offOf_zero (gs : List Text) : offOf gs 0 = 0 := rfl

theorem offOf_cons_succ (x : Text) (t : List Text) (m : Nat) : offOf (x :: t) (m + 1) = blen x + offOf t m := by
  simp [offOf]

theorem offOf_succ (gs : List Text) (k : Nat) (hk : k < gs.length) :
    offOf gs (k + 1) = offOf gs k + blen gs[k] := by
  unfold offOf
  rw [List.take_add_one, List.getElem?_eq_getElem hk]
  simp only [Option.toList, List.flatten_append, blen_append, List.flatten_cons, List.flatten_nil,
    List.append_nil]

theorem offOf_min (gs : List Text) (n : Nat) : offOf gs (min n gs.length) = offOf gs n := by
  unfold offOf
  by_cases h : n ≤ gs.length
  · rw [Nat.min_eq_left h]
  · rw [Nat.min_eq_right (by omega)]
    simp only [List.take_length]
    rw [List.take_of_length_le (by omega)]

theorem offOf_pos {gs : List Text} (hne : ∀ g ∈ gs, g ≠ []) {j : Nat} (hj : 1 ≤ j) (hgs : gs ≠ []) :
    0 < offOf gs j := by
  cases gs with
  | nil => exact absurd rfl hgs
  | cons x t =>
    obtain ⟨m, rfl⟩ : ∃ m, j = m + 1 := ⟨j - 1, by omega⟩
    rw [offOf_cons_succ]
    have := blen_pos_of_ne_nil (hne x (by simp))
    omega

theorem offOf_boundary (x : Text) (gs : List Text) (k : Nat) :
    IsBoundary (x ++ gs.flatten) (blen x + offOf gs k) := by
  refine ⟨x ++ (gs.take k).flatten, (gs.drop k).flatten, ?_, by simp [offOf]⟩
  rw [List.append_assoc, ← List.flatten_append, List.take_append_drop]

theorem gidxGo_getElem? (o k : Nat) (gs : List Text) :
    (gidxGo o gs)[k]? = gs[k]?.map (fun g => (o + offOf gs k, g)) := by
  induction gs generalizing o k with
  | nil => rfl
  | cons g gs ih =>
    cases k with
    | zero => rfl
    | succ k =>
      rw [gidxGo, List.getElem?_cons_succ, List.getElem?_cons_succ, ih, offOf_cons_succ, Nat.add_assoc]

theorem gidxGo_length (o : Nat) (gs : List Text) : (gidxGo o gs).length = gs.length := by
  induction gs generalizing o with
  | nil => rfl
  | cons g gs ih => simp [gidxGo, ih]

theorem gidxGo_head? (o : Nat) (gs : List Text) : (gidxGo o gs).head?.map (·.1) = gs.head?.map (fun _ => o) := by
  cases gs <;> simp [gidxGo]

theorem gidxGo_getLast? (o : Nat) (gs : List Text) :
    (gidxGo o gs).getLast? = gs.getLast?.map (fun g => (o + offOf gs (gs.length - 1), g)) := by
  rw [List.getLast?_eq_getElem?, gidxGo_length, gidxGo_getElem?, List.getLast?_eq_getElem?]

theorem gidxGo_drop (o k : Nat) (gs : List Text) :
    (gidxGo o gs).drop k = gidxGo (o + offOf gs k) (gs.drop k) := by
  induction gs generalizing o k with
  | nil => simp [gidxGo, offOf]
  | cons g gs ih =>
    cases k with
    | zero => simp [offOf]
    | succ k =>
      simp only [gidxGo, List.drop_succ_cons, ih]
      congr 1
      simp [offOf]; omega

/-- where the last of the first `n` clusters ends -/
theorem gidxGo_take_last (o n : Nat) (gs : List Text) :
    (((gidxGo o gs).take n).getLast?).map (fun ig => ig.1 + blen ig.2) =
      if n = 0 ∨ gs = [] then none else some (o + blen (gs.take n).flatten) := by
  induction gs generalizing o n with
  | nil => simp [gidxGo]
  | cons g gs ih =>
    cases n with
    | zero => simp
    | succ k =>
      simp only [gidxGo, List.take_succ_cons]
      have := ih (o + blen g) k
      by_cases hk : k = 0 ∨ gs = []
      · have hnil : (gidxGo (o + blen g) gs).take k = [] := by
          rcases hk with rfl | rfl
          · simp
          · simp [gidxGo]
        rw [hnil]
        rcases hk with rfl | rfl <;> simp
      · rw [if_neg hk] at this
        cases hl : ((gidxGo (o + blen g) gs).take k).getLast? with
        | none => simp [hl] at this
        | some ig =>
          simp [hl] at this
          have hne : (gidxGo (o + blen g) gs).take k ≠ [] := by
            intro h0; simp [h0] at hl
          rw [List.getLast?_cons_of_ne_nil hne] at *
          simp [hl, this]; omega

/-! The loops of `next_word_pos` and `prev_word_pos` pick the n-th element of the list of adjacent cluster pairs
    that pass the word test (`pairOffs` forward, `pairOffsR` on the reversed list). -/

/-- offsets of the clusters `y` with `P x y` for adjacent clusters `x y` -/
def pairOffs (P : Text → Text → Bool) : List (Nat × Text) → List Nat
  | [] => []
  | [_] => []
  | (_, x) :: (j, y) :: r => if P x y then j :: pairOffs P ((j, y) :: r) else pairOffs P ((j, y) :: r)

/-- the test the inner loop of `next_word_pos` applies to adjacent clusters for `At::Start` and `At::AfterEnd`;
    for these two anchors it answers the offset of the pair's second cluster and keeps the list from there on -/
def fwdP (U : UData) (a : At) (d : Word) : Text → Text → Bool :=
  match a with
  | .start => isStartOfWord U d
  | _ => isEndOfWord U d

theorem nwInner_cons (U : UData) {a : At} (d : Word) (ha : a ≠ .beforeEnd) (i : Nat) (x : Text) (j : Nat)
    (y : Text) (rest : List (Nat × Text)) :
    LB.nwInner U a d (i, x) ((j, y) :: rest) =
      if fwdP U a d x y then .found j (i, x) ((j, y) :: rest) else LB.nwInner U a d (j, y) rest := by
  cases a with
  | beforeEnd => exact absurd rfl ha
  | start => simp only [LB.nwInner, fwdP]; rfl
  | afterEnd => simp [LB.nwInner, fwdP]; rfl

theorem nwInner_fwd (U : UData) {a : At} (d : Word) (ha : a ≠ .beforeEnd) (g : Nat × Text) (L : List (Nat × Text)) :
    match pairOffs (fwdP U a d) (g :: L) with
    | [] => LB.nwInner U a d g L = .out ((g :: L).getLast (by simp))
    | j :: js => ∃ gi rest, LB.nwInner U a d g L = .found j gi rest ∧
        pairOffs (fwdP U a d) rest = js ∧ rest.getLast? = (g :: L).getLast? := by
  induction L generalizing g with
  | nil => simp [pairOffs, LB.nwInner]
  | cons h r ih =>
    obtain ⟨i, x⟩ := g
    obtain ⟨j, y⟩ := h
    rw [nwInner_cons U d ha]
    by_cases hp : fwdP U a d x y = true
    · simp only [pairOffs, hp, if_true]
      exact ⟨(i, x), (j, y) :: r, rfl, rfl, by simp⟩
    · have hp' : fwdP U a d x y = false := by simpa using hp
      simpa only [pairOffs, hp', Bool.false_eq_true, if_false, List.getLast_cons_cons,
        List.getLast?_cons_cons] using ih (j, y)

theorem nwOuter_fwd (U : UData) {a : At} (d : Word) (ha : a ≠ .beforeEnd) (n wp0 : Nat)
    (gi0 : Option (Nat × Text)) (L : List (Nat × Text)) (hn : n ≠ 0) :
    match (pairOffs (fwdP U a d) L)[n - 1]? with
    | some j => (LB.nwOuter U a d n wp0 gi0 L).1 = j
    | none => LB.nwOuter U a d n wp0 gi0 L = (0, L.getLast?) := by
  induction n generalizing wp0 gi0 L with
  | zero => exact absurd rfl hn
  | succ k ih =>
    cases L with
    | nil => simp [pairOffs, LB.nwOuter]
    | cons g rest =>
      have hin := nwInner_fwd U d ha g rest
      cases hq : pairOffs (fwdP U a d) (g :: rest) with
      | nil =>
        rw [hq] at hin
        simp [LB.nwOuter, hin, List.getLast?_eq_some_getLast]
      | cons j js =>
        rw [hq] at hin
        obtain ⟨gi, rest', h1, h2, h3⟩ := hin
        simp only [LB.nwOuter, h1, Nat.add_sub_cancel]
        cases k with
        | zero => simp [LB.nwOuter]
        | succ k' =>
          simpa only [Nat.add_sub_cancel, h2, h3, List.getElem?_cons_succ] using ih j (some gi) rest' (by omega)

theorem pairIdx_ge (P : Text → Text → Bool) (k : Nat) (gs : List Text) : ∀ j ∈ pairIdx P k gs, k + 1 ≤ j := by
  induction gs generalizing k with
  | nil => simp [pairIdx]
  | cons x t ih =>
    cases t with
    | nil => simp [pairIdx]
    | cons y r =>
      intro j hj
      simp only [pairIdx] at hj
      split at hj
      · simp only [List.mem_cons] at hj
        rcases hj with rfl | hj
        · omega
        · have := ih (k + 1) j hj; omega
      · have := ih (k + 1) j hj; omega

/-- the pairs `pairOffs` finds in the cluster list laid out from byte offset `o` are those of the oracle's
    `pairIdx` (cluster indices, counted from `k`), each turned into the byte offset of its cluster -/
theorem pairOffs_gidxGo (P : Text → Text → Bool) (o k : Nat) (gs : List Text) :
    pairOffs P (gidxGo o gs) = (pairIdx P k gs).map (fun j => o + offOf gs (j - k)) := by
  induction gs generalizing o k with
  | nil => simp [pairIdx, gidxGo, pairOffs]
  | cons x t ih =>
    cases t with
    | nil => simp [pairIdx, gidxGo, pairOffs]
    | cons y r =>
      have hih := ih (o + blen x) (k + 1)
      have hmap : (pairIdx P (k + 1) (y :: r)).map (fun j => o + blen x + offOf (y :: r) (j - (k + 1))) =
          (pairIdx P (k + 1) (y :: r)).map (fun j => o + offOf (x :: y :: r) (j - k)) := by
        apply List.map_congr_left
        intro j hj
        have := pairIdx_ge P (k + 1) (y :: r) j hj
        have he : j - k = (j - (k + 1)) + 1 := by omega
        rw [he, offOf_cons_succ]; omega
      simp only [gidxGo] at hih ⊢
      simp only [pairOffs, pairIdx]
      split
      · simp only [List.map_cons, hih, hmap]
        congr 1
        have : k + 1 - k = 0 + 1 := by omega
        rw [this, offOf_cons_succ]; simp [offOf]
      · rw [hih, hmap]

/-- `pairOffs` on the Reversed cluster list: offsets of the clusters `y` whose predecessor `x` (the next list
    element) satisfies `P x y` -/
def pairOffsR (P : Text → Text → Bool) : List (Nat × Text) → List Nat
  | [] => []
  | [_] => []
  | (j, y) :: (i, x) :: r => if P x y then j :: pairOffsR P ((i, x) :: r) else pairOffsR P ((i, x) :: r)

theorem pwInner_spec (U : UData) (d : Word) (g : Nat × Text) (L : List (Nat × Text)) :
    match pairOffsR (isStartOfWord U d) (g :: L) with
    | [] => LB.pwInner U d g L = none
    | j :: js => ∃ rest, LB.pwInner U d g L = some (j, rest) ∧ pairOffsR (isStartOfWord U d) rest = js := by
  induction L generalizing g with
  | nil => simp [pairOffsR, LB.pwInner]
  | cons h r ih =>
    obtain ⟨j, y⟩ := g
    obtain ⟨i, x⟩ := h
    by_cases hp : isStartOfWord U d x y = true
    · simp only [pairOffsR, hp, if_true]
      exact ⟨(i, x) :: r, by simp [LB.pwInner, hp], rfl⟩
    · have hp' : isStartOfWord U d x y = false := by simpa using hp
      simpa only [pairOffsR, LB.pwInner, hp', Bool.false_eq_true, if_false] using ih (i, x)

theorem pwOuter_spec (U : UData) (d : Word) (n sow : Nat) (L : List (Nat × Text)) (hn : n ≠ 0) :
    LB.pwOuter U d n sow L = ((pairOffsR (isStartOfWord U d) L)[n - 1]?).getD 0 := by
  induction n generalizing sow L with
  | zero => exact absurd rfl hn
  | succ k ih =>
    cases L with
    | nil => simp [pairOffsR, LB.pwOuter]
    | cons g rest =>
      have hin := pwInner_spec U d g rest
      cases hq : pairOffsR (isStartOfWord U d) (g :: rest) with
      | nil =>
        rw [hq] at hin
        simp [LB.pwOuter, hin]
      | cons j js =>
        rw [hq] at hin
        obtain ⟨rest', h1, h2⟩ := hin
        simp only [LB.pwOuter, h1, Nat.add_sub_cancel]
        cases k with
        | zero => simp [LB.pwOuter]
        | succ k' =>
          rw [ih j rest' (by omega), h2]
          simp

theorem pairOffsR_snoc (P : Text → Text → Bool) (M : List (Nat × Text)) (b a : Nat × Text) :
    pairOffsR P (M ++ [b, a]) = pairOffsR P (M ++ [b]) ++ (if P a.2 b.2 then [b.1] else []) := by
  induction M with
  | nil =>
    obtain ⟨j, y⟩ := b; obtain ⟨i, x⟩ := a
    simp only [List.nil_append, pairOffsR]
  | cons c M ih =>
    cases M with
    | nil =>
      obtain ⟨k, z⟩ := c; obtain ⟨j, y⟩ := b; obtain ⟨i, x⟩ := a
      simp only [List.cons_append, List.nil_append, pairOffsR]
      split <;> split <;> simp
    | cons c' M' =>
      obtain ⟨k, z⟩ := c; obtain ⟨k', z'⟩ := c'
      simp only [List.cons_append] at ih ⊢
      simp only [pairOffsR, ih]
      split <;> simp

theorem pairOffsR_reverse (P : Text → Text → Bool) (L : List (Nat × Text)) :
    pairOffsR P L.reverse = (pairOffs P L).reverse := by
  induction L with
  | nil => simp [pairOffsR, pairOffs]
  | cons a t ih =>
    cases t with
    | nil => simp [pairOffsR, pairOffs]
    | cons b r =>
      obtain ⟨i, x⟩ := a; obtain ⟨j, y⟩ := b
      have h1 : ((i, x) :: (j, y) :: r).reverse = r.reverse ++ [(j, y), (i, x)] := by simp
      have h2 : ((j, y) :: r).reverse = r.reverse ++ [(j, y)] := by simp
      rw [h1, pairOffsR_snoc, ← h2, ih]
      simp only [pairOffs]
      split <;> simp

/-- `next_word_pos_` for `At::Start` / `At::AfterEnd`: the n-th pair of `fwdP`; with fewer than `n` pairs the text
    end, or for a plain vi motion the start of the last cluster -/
theorem nextWordPosR_fwd (S : Segmenter) (U : UData) {lb : LB} {x s : Text} {a : At} (d : Word) (n : Nat)
    (range : Bool) (ha : a ≠ .beforeEnd) (hn : n ≠ 0) (hb : lb.buf = x ++ s) (hp : lb.pos = blen x) :
    LB.nextWordPosR S U lb lb.pos a d n range = .ok (
      if s.isEmpty then none
      else match ((pairIdx (fwdP U a d) 0 (S.seg s)).map (offOf (S.seg s)))[n - 1]? with
        | some o => some (lb.pos + o)
        | none =>
          if range || d == .emacs || a == .afterEnd then some (blen lb.buf)
          else if (S.seg s).length ≥ 2 then some (lb.pos + offOf (S.seg s) ((S.seg s).length - 1)) else none) := by
  have hsf : sliceFrom lb.buf lb.pos = .ok s := by rw [hb, hp]; exact sliceFrom_mid x s
  unfold LB.nextWordPosR
  by_cases hs : s = []
  · have hlen : (lb.pos == lb.len) = true := by simp [LB.len, hb, hp, hs]
    simp [hlen, hs]
    rfl
  · have hne : (lb.pos == lb.len) = false := by
      have := blen_pos_of_ne_nil hs
      simp [LB.len, hb, hp]; omega
    have hgs : S.seg s ≠ [] := seg_ne_nil S hs
    have hgne : ∀ g ∈ S.seg s, g ≠ [] := S.ne_nil s
    have hC := pairOffs_gidxGo (fwdP U a d) 0 0 (S.seg s)
    have hB := nwOuter_fwd U d ha n 0 none (gidxGo 0 (S.seg s)) hn
    rw [hC] at hB
    simp only [Nat.zero_add, Nat.sub_zero] at hB
    have hse : s.isEmpty = false := by simpa using hs
    have e1 : (a == At.beforeEnd) = false := by cases a <;> first | rfl | exact absurd rfl ha
    simp only [hne, hsf, hse, e1, bind, Except.bind, pure, Except.pure, Bool.false_eq_true, if_false, gidx]
    cases hc : (List.map (offOf (S.seg s)) (pairIdx (fwdP U a d) 0 (S.seg s)))[n - 1]? with
    | some o =>
      rw [hc] at hB; simp only at hB
      have ho : 0 < o := by
        obtain ⟨j, hj, rfl⟩ := List.mem_map.mp (List.mem_of_getElem? hc)
        exact offOf_pos hgne (pairIdx_ge _ 0 _ j hj) hgs
      cases hres : LB.nwOuter U a d n 0 none (gidxGo 0 (S.seg s)) with
      | mk wp gi =>
        rw [hres] at hB
        simp only at hB
        subst hB
        have : (wp == 0) = false := by simp; omega
        simp [this, Nat.add_comm]
    | none =>
      rw [hc] at hB; simp only at hB
      rw [hB, gidxGo_getLast?, List.getLast?_eq_some_getLast hgs]
      simp only [beq_self_eq_true, if_true, Option.map_some]
      by_cases hr : (range || d == Word.emacs || a == At.afterEnd) = true
      · simp only [hr, if_true]; rfl
      · simp only [hr, Bool.false_eq_true, if_false]
        by_cases hm : (S.seg s).length ≥ 2
        · have : 0 < offOf (S.seg s) ((S.seg s).length - 1) := offOf_pos hgne (by omega) hgs
          simp [hm, Nat.add_comm]
          omega
        · have h1 : (S.seg s).length = 1 := by
            have : (S.seg s).length ≠ 0 := by simpa using hgs
            omega
          simp [h1, offOf]

theorem nextWordPosR_target (S : Segmenter) (U : UData) (lb : LB) (a : At) (d : Word) (n : Nat) (range : Bool)
    (h : WF lb) (ha : a ≠ .beforeEnd) (hn : n ≠ 0) :
    LB.nextWordPosR S U lb lb.pos a d n range = .ok (wordTargetFwd S U lb.buf lb.pos a d n (!range)) := by
  obtain ⟨x, s, hb, hp, hsp, -⟩ := h.cut
  rw [nextWordPosR_fwd S U d n range ha hn hb hp]
  unfold wordTargetFwd splitAt?
  simp only [hsp, Bool.not_not]
  cases a <;> first | rfl | exact absurd rfl ha

theorem nextWordPosR_start (S : Segmenter) (U : UData) (lb : LB) (d : Word) (n : Nat) (range : Bool)
    (h : WF lb) (hn : n ≠ 0) :
    LB.nextWordPosR S U lb lb.pos .start d n range =
      .ok (wordTargetFwd S U lb.buf lb.pos .start d n (!range)) :=
  nextWordPosR_target S U lb .start d n range h (by decide) hn

theorem nextWordPosR_afterEnd (S : Segmenter) (U : UData) (lb : LB) (d : Word) (n : Nat) (range : Bool)
    (h : WF lb) (hn : n ≠ 0) :
    LB.nextWordPosR S U lb lb.pos .afterEnd d n range =
      .ok (wordTargetFwd S U lb.buf lb.pos .afterEnd d n (!range)) :=
  nextWordPosR_target S U lb .afterEnd d n range h (by decide) hn

theorem prevWordPos_eq (S : Segmenter) (U : UData) (lb : LB) (d : Word) (n : Nat) (h : WF lb) (hn : n ≠ 0) :
    LB.prevWordPos S U lb lb.pos d n = .ok (wordTargetBwd S U lb.buf lb.pos d n) := by
  obtain ⟨x, s, hb, hp, hsp, hst⟩ := h.cut
  unfold LB.prevWordPos wordTargetBwd splitAt?
  by_cases hx : x = []
  · have h0 : lb.pos = 0 := by simp [hp, hx]
    have hsp' : splitAtByte lb.buf 0 = some ([], s) := by rw [← h0, ← hx]; exact hsp
    simp [h0, hsp']
    rfl
  · have hne : (lb.pos == 0) = false := by
      have : lb.pos ≠ 0 := by
        intro he; apply hx
        exact blen_eq_zero.mp (by omega)
      simpa using this
    have hxe : x.isEmpty = false := by simpa using hx
    simp only [hne, hst, hsp, hxe, bind, Except.bind, pure, Except.pure, Bool.false_eq_true, if_false]
    rw [pwOuter_spec U d n 0 _ hn]
    simp only [gidx, pairOffsR_reverse]
    rw [pairOffs_gidxGo (isStartOfWord U d) 0 0 (S.seg x)]
    simp only [Nat.zero_add, Nat.sub_zero]
    cases ((pairIdx (isStartOfWord U d) 0 (S.seg x)).map (offOf (S.seg x))).reverse[n - 1]? <;> rfl

theorem wordTargetFwd_boundary (S : Segmenter) (U : UData) (lb : LB) (a : At) (d : Word) (n : Nat)
    (motion : Bool) (h : WF lb) (t : Nat) (ht : wordTargetFwd S U lb.buf lb.pos a d n motion = some t) :
    IsBoundary lb.buf t ∧ lb.pos ≤ t := by
  obtain ⟨x, s, hb, hp, hsp⟩ := h.cut
  have hfl : lb.buf = x ++ (S.seg s).flatten := by rw [S.flatten_eq]; exact hb
  have hoff : ∀ k, IsBoundary lb.buf (lb.pos + offOf (S.seg s) k) ∧ lb.pos ≤ lb.pos + offOf (S.seg s) k :=
    fun k => ⟨by rw [hfl, hp]; exact offOf_boundary x _ k, Nat.le_add_right _ _⟩
  unfold wordTargetFwd splitAt? at ht
  simp only [hsp] at ht
  split at ht
  · cases ht
  · split at ht
    · rename_i o ho
      cases ht
      -- whatever the anchor, a candidate is the offset of some cluster
      have : ∃ k, o = offOf (S.seg s) k := by
        cases a <;> simp only at ho <;> obtain ⟨j, _, rfl⟩ := List.mem_map.mp (List.mem_of_getElem? ho) <;>
          exact ⟨_, rfl⟩
      obtain ⟨k, rfl⟩ := this
      exact hoff k
    · split at ht
      · cases ht
        exact ⟨isBoundary_len _, h.le_len⟩
      · split at ht
        · cases ht
          exact hoff _
        · cases ht

theorem wordTargetBwd_boundary (S : Segmenter) (U : UData) (lb : LB) (d : Word) (n : Nat)
    (h : WF lb) (t : Nat) (ht : wordTargetBwd S U lb.buf lb.pos d n = some t) :
    IsBoundary lb.buf t ∧ t ≤ lb.pos := by
  obtain ⟨x, s, hb, hp, hsp⟩ := h.cut
  unfold wordTargetBwd splitAt? at ht
  simp only [hsp] at ht
  split at ht
  · cases ht
  · split at ht
    · rename_i o ho
      cases ht
      have hmem := List.mem_of_getElem? ho
      rw [List.mem_reverse] at hmem
      obtain ⟨j, _, rfl⟩ := List.mem_map.mp hmem
      have hbx := offOf_boundary [] (S.seg x) j
      rw [S.flatten_eq] at hbx
      simp only [List.nil_append, blen_nil, Nat.zero_add] at hbx
      obtain ⟨a, b, hab, hoa⟩ := hbx
      refine ⟨⟨a, b ++ s, by rw [hb, hab]; simp, hoa⟩, ?_⟩
      rw [hp, hoa]
      have : blen x = blen a + blen b := by rw [hab]; simp
      omega
    · cases ht
      exact ⟨isBoundary_zero _, Nat.zero_le _⟩

theorem nwInner_mem (U : UData) (a : At) (d : Word) {Q : Nat × Text → Prop} (g : Nat × Text)
    (L : List (Nat × Text)) (hQ : ∀ e ∈ g :: L, Q e) :
    match LB.nwInner U a d g L with
    | .found wp gi rest => (∃ t, Q (wp, t)) ∧ Q gi ∧ (∀ e ∈ rest, Q e)
    | .out gi => Q gi := by
  induction L generalizing g with
  | nil => exact hQ g List.mem_cons_self
  | cons h r ih =>
    obtain ⟨i, x⟩ := g
    obtain ⟨j, y⟩ := h
    have hx : Q (i, x) := hQ _ List.mem_cons_self
    have hr : ∀ e ∈ (j, y) :: r, Q e := fun e he => hQ e (List.mem_cons_of_mem _ he)
    have hy : Q (j, y) := hr _ List.mem_cons_self
    by_cases h1 : (a == At.start && isStartOfWord U d x y) = true
    · simp only [LB.nwInner, h1]
      exact ⟨⟨y, hy⟩, hx, hr⟩
    · by_cases h2 : (a != At.start && isEndOfWord U d x y) = true
      · simp only [LB.nwInner, h1, h2, if_true]
        refine ⟨?_, hx, ?_⟩
        · split
          · exact ⟨y, hy⟩
          · exact ⟨x, hx⟩
        · split
          · exact hr
          · exact fun e he => hr e (List.mem_cons_of_mem _ he)
      · simp only [LB.nwInner, h1, h2]
        exact ih (j, y) hr

/-- whatever `Q` holds of every indexed cluster handed to the outer loop of `next_word_pos_` holds of what it
    returns: the position is 0 or the offset of a `Q` cluster, the carried cluster is a `Q` cluster -/
theorem nwOuter_mem (U : UData) (a : At) (d : Word) {Q : Nat × Text → Prop} (n wp0 : Nat)
    (gi0 : Option (Nat × Text)) (L : List (Nat × Text)) (hL : ∀ e ∈ L, Q e) (hgi : ∀ e, gi0 = some e → Q e)
    (hwp : wp0 = 0 ∨ ∃ t, Q (wp0, t)) :
    ((LB.nwOuter U a d n wp0 gi0 L).1 = 0 ∨ ∃ t, Q ((LB.nwOuter U a d n wp0 gi0 L).1, t)) ∧
      ∀ e, (LB.nwOuter U a d n wp0 gi0 L).2 = some e → Q e := by
  induction n generalizing wp0 gi0 L with
  | zero => exact ⟨hwp, hgi⟩
  | succ k ih =>
    cases L with
    | nil => exact ⟨Or.inl rfl, fun e he => by cases he⟩
    | cons g rest =>
      have hin := nwInner_mem U a d g rest hL
      unfold LB.nwOuter
      split
      · rename_i gi hres
        rw [hres] at hin
        exact ⟨Or.inl rfl, fun e he => by cases he; exact hin⟩
      · rename_i wp gi rest' hres
        rw [hres] at hin
        exact ih wp (some gi) rest' hin.2.2 (fun e he => by cases he; exact hin.2.1) (Or.inr hin.1)

/-- `next_word_pos_` for EVERY anchor, word definition and count: no panic, result on a boundary at or
    after the cursor -/
theorem nextWordPosR_ok_all (S : Segmenter) (U : UData) (lb : LB) (a : At) (d : Word) (n : Nat) (range : Bool)
    (h : WF lb) :
    ∃ r, LB.nextWordPosR S U lb lb.pos a d n range = .ok r ∧
      ∀ t, r = some t → IsBoundary lb.buf t ∧ lb.pos ≤ t := by
  obtain ⟨x, s, hb, hp, -, -, hsf⟩ := h.cut
  have hoff : ∀ e ∈ gidx S s, IsBoundary lb.buf (e.1 + lb.pos) ∧ lb.pos ≤ e.1 + lb.pos := by
    intro ⟨i, t⟩ hm
    obtain ⟨a', b', rfl, rfl⟩ := gidx_mem hm
    exact ⟨⟨x ++ a', t ++ b', by rw [hb]; simp, by rw [hp]; simp; omega⟩, by omega⟩
  unfold LB.nextWordPosR
  by_cases he : (lb.pos == lb.len) = true
  · exact ⟨none, by simp [he]; rfl, by simp⟩
  · simp only [he, hsf, bind, Except.bind, pure, Except.pure, Bool.false_eq_true, if_false]
    -- the list handed to the outer loop is a part of `gidx S s`, the carried cluster one of its elements
    obtain ⟨hw, hg⟩ := nwOuter_mem U a d n 0
      (if (a == At.beforeEnd) = true then ((gidx S s).head?, (gidx S s).drop 1) else (none, gidx S s)).1
      (if (a == At.beforeEnd) = true then ((gidx S s).head?, (gidx S s).drop 1) else (none, gidx S s)).2
      (fun e he' => by
        split at he'
        · exact hoff e (List.mem_of_mem_drop he')
        · exact hoff e he')
      (fun e he' => by
        split at he'
        · exact hoff e (List.mem_of_mem_head? he')
        · cases he')
      (Or.inl rfl)
    generalize LB.nwOuter U a d n 0 _ _ = res at hw hg ⊢
    obtain ⟨wp, gi⟩ := res
    simp only at hw hg ⊢
    split
    · split
      · exact ⟨_, rfl, fun t ht => by cases ht; exact ⟨isBoundary_len _, h.le_len⟩⟩
      · cases gi with
        | none => exact ⟨none, rfl, by simp⟩
        | some ig =>
          obtain ⟨i, g⟩ := ig
          simp only
          split
          · exact ⟨_, rfl, fun t ht => by cases ht; exact hg _ rfl⟩
          · exact ⟨none, rfl, by simp⟩
    · rename_i hwp
      refine ⟨_, rfl, fun t ht => ?_⟩
      cases ht
      rcases hw with hw | ⟨t', ht'⟩
      · exact absurd (by simp [hw]) hwp
      · exact ht'

set_option linter.unusedVariables false in -- `ha` is not needed
theorem nextWordPosR_ok (S : Segmenter) (U : UData) (lb : LB) (a : At) (d : Word) (n : Nat) (range : Bool)
    (h : WF lb) (ha : a ≠ .beforeEnd) :
    ∃ r, LB.nextWordPosR S U lb lb.pos a d n range = .ok r ∧
      ∀ t, r = some t → IsBoundary lb.buf t ∧ lb.pos ≤ t :=
  nextWordPosR_ok_all S U lb a d n range h

theorem prevWordPos_ok (S : Segmenter) (U : UData) (lb : LB) (d : Word) (n : Nat) (h : WF lb) :
    ∃ r, LB.prevWordPos S U lb lb.pos d n = .ok r ∧
      ∀ t, r = some t → IsBoundary lb.buf t ∧ t ≤ lb.pos := by
  by_cases hn : n = 0
  · subst hn
    obtain ⟨x, s, hb, hp, -, hst⟩ := h.cut
    unfold LB.prevWordPos
    by_cases he : (lb.pos == 0) = true
    · exact ⟨none, by simp [he]; rfl, by simp⟩
    · simp only [he, hst, LB.pwOuter, bind, Except.bind, pure, Except.pure, Bool.false_eq_true, if_false]
      exact ⟨_, rfl, fun t ht => by cases ht; exact ⟨isBoundary_zero _, Nat.zero_le _⟩⟩
  · refine ⟨_, prevWordPos_eq S U lb d n h hn, fun t ht => ?_⟩
    exact wordTargetBwd_boundary S U lb d n h t ht

theorem occGo_mem {c : Char} {t : Text} {o k : Nat} (h : k ∈ occGo c o t) :
    ∃ a b, t = a ++ c :: b ∧ k = o + blen a := by
  induction t generalizing o with
  | nil => simp [occGo] at h
  | cons x t ih =>
    simp only [occGo] at h
    split at h
    · rename_i hx
      have hxc : x = c := by simpa using hx
      simp only [List.mem_cons] at h
      rcases h with rfl | h
      · exact ⟨[], t, by simp [hxc], by simp⟩
      · obtain ⟨a, b, rfl, rfl⟩ := ih h
        exact ⟨x :: a, b, rfl, by simp; omega⟩
    · obtain ⟨a, b, rfl, rfl⟩ := ih h
      exact ⟨x :: a, b, rfl, by simp; omega⟩

theorem occ_mem {c : Char} {t : Text} {k : Nat} (h : k ∈ occ c t) : ∃ a b, t = a ++ c :: b ∧ k = blen a := by
  obtain ⟨a, b, h1, h2⟩ := occGo_mem (o := 0) h
  exact ⟨a, b, h1, by omega⟩

/-! What `search_char_pos` computes, by kind of search (`CharSearch::Backward` = vi `F`, `BackwardAfter` = `T`,
    `Forward` = `f`, `ForwardBefore` = `t`), in terms of the text before the cursor (`F`, `T`) or of the cut
    `buf = x ++ g ++ r` with `g` the cluster under the cursor (`f`, `t`). -/

theorem searchCharPos_backward_eval (S : Segmenter) {lb : LB} {x : Text} (c : Char) (n : Nat)
    (hst : sliceTo lb.buf lb.pos = .ok x) :
    LB.searchCharPos S lb (.backward c) n = .ok (((occ c x).reverse.take n).getLast?) := by
  simp only [LB.searchCharPos, hst, bind, Except.bind, pure, Except.pure]

theorem searchCharPos_backwardAfter_none (S : Segmenter) {lb : LB} {x : Text} (c : Char) (n : Nat)
    (hst : sliceTo lb.buf lb.pos = .ok x) (hr : ((occ c x).reverse.take n).getLast? = none) :
    LB.searchCharPos S lb (.backwardAfter c) n = .ok none := by
  simp only [LB.searchCharPos, hst, hr, bind, Except.bind, pure, Except.pure]

theorem searchCharPos_backwardAfter_some (S : Segmenter) {lb : LB} {x m g : Text} {p : Nat} (c : Char) (n : Nat)
    (hst : sliceTo lb.buf lb.pos = .ok x) (hr : ((occ c x).reverse.take n).getLast? = some p)
    (hmid : slice lb.buf p lb.pos = .ok m) (hg : (S.seg m).head? = some g) :
    LB.searchCharPos S lb (.backwardAfter c) n = .ok (some (p + blen g)) := by
  simp only [LB.searchCharPos, hst, hr, hmid, hg, bind, Except.bind, pure, Except.pure]

theorem searchCharPos_fwd_end (S : Segmenter) {lb : LB} (c : Char) (n : Nat) (he : lb.pos = lb.len) :
    LB.searchCharPos S lb (.forward c) n = .ok none ∧ LB.searchCharPos S lb (.forwardBefore c) n = .ok none := by
  have he' : (lb.pos == lb.len) = true := by rw [he]; exact beq_self_eq_true _
  constructor <;>
    simp only [LB.searchCharPos, LB.graphemeAtCursor, he', bind, Except.bind, pure, Except.pure, if_true]

/-- the part `f` and `t` share: the cluster under the cursor is skipped, the rest is searched -/
theorem searchCharPos_fwd_cut (S : Segmenter) {lb : LB} {x g r : Text} (hb : lb.buf = x ++ g ++ r)
    (hp : lb.pos = blen x) (hg : (S.seg (g ++ r)).head? = some g) (hgne : g ≠ []) :
    LB.graphemeAtCursor S lb = .ok (some g) ∧ sliceFrom lb.buf (lb.pos + blen g) = .ok r ∧
      (¬ lb.pos + blen g < lb.len → r = []) := by
  have hgp := blen_pos_of_ne_nil hgne
  have hsf : sliceFrom lb.buf lb.pos = .ok (g ++ r) := by
    rw [hb, hp, List.append_assoc]; exact sliceFrom_mid x (g ++ r)
  have he : (lb.pos == lb.len) = false := by simp [LB.len, hb, hp]; omega
  refine ⟨by simp only [LB.graphemeAtCursor, he, hsf, hg, bind, Except.bind, pure, Except.pure]; rfl, ?_, ?_⟩
  · rw [hb, hp, ← blen_append]; exact sliceFrom_mid (x ++ g) r
  · intro hlt
    apply blen_eq_zero.mp
    simp [LB.len, hb, hp] at hlt ⊢; omega

theorem searchCharPos_forward_eval (S : Segmenter) {lb : LB} {x g r : Text} (c : Char) (n : Nat)
    (hb : lb.buf = x ++ g ++ r) (hp : lb.pos = blen x) (hg : (S.seg (g ++ r)).head? = some g) (hgne : g ≠ []) :
    LB.searchCharPos S lb (.forward c) n = .ok (((occ c r).take n).getLast?.map (lb.pos + blen g + ·)) := by
  obtain ⟨hgc, hsh, hend⟩ := searchCharPos_fwd_cut S hb hp hg hgne
  by_cases hlt : lb.pos + blen g < lb.len
  · cases hr : ((occ c r).take n).getLast? <;>
      simp [LB.searchCharPos, hgc, hlt, hsh, hr, bind, Except.bind, pure, Except.pure]
  · rw [hend hlt]
    simp [LB.searchCharPos, hgc, hlt, occ, occGo, bind, Except.bind, pure, Except.pure]

theorem searchCharPos_forwardBefore_none (S : Segmenter) {lb : LB} {x g r : Text} (c : Char) (n : Nat)
    (hb : lb.buf = x ++ g ++ r) (hp : lb.pos = blen x) (hg : (S.seg (g ++ r)).head? = some g) (hgne : g ≠ [])
    (hr : ((occ c r).take n).getLast? = none) :
    LB.searchCharPos S lb (.forwardBefore c) n = .ok none := by
  obtain ⟨hgc, hsh, -⟩ := searchCharPos_fwd_cut S hb hp hg hgne
  by_cases hlt : lb.pos + blen g < lb.len <;>
    simp [LB.searchCharPos, hgc, hlt, hsh, hr, bind, Except.bind, pure, Except.pure]

theorem searchCharPos_forwardBefore_some (S : Segmenter) {lb : LB} {x g r m l : Text} {p : Nat} (c : Char) (n : Nat)
    (hb : lb.buf = x ++ g ++ r) (hp : lb.pos = blen x) (hg : (S.seg (g ++ r)).head? = some g) (hgne : g ≠ [])
    (hr : ((occ c r).take n).getLast? = some p) (hmid : slice lb.buf lb.pos (lb.pos + blen g + p) = .ok m)
    (hl : (S.seg m).getLast? = some l) (hll : blen l ≤ lb.pos + blen g + p) :
    LB.searchCharPos S lb (.forwardBefore c) n = .ok (some (lb.pos + blen g + p - blen l)) := by
  obtain ⟨hgc, hsh, hend⟩ := searchCharPos_fwd_cut S hb hp hg hgne
  have hlt : lb.pos + blen g < lb.len := by
    apply Classical.byContradiction
    intro hlt
    rw [hend hlt] at hr
    simp [occ, occGo] at hr
  simp [LB.searchCharPos, hgc, hlt, hsh, hr, hmid, hl, hll, bind, Except.bind, pure, Except.pure]

theorem searchCharPos_ok (S : Segmenter) (lb : LB) (cs : CharSearch) (n : Nat) (h : WF lb) :
    ∃ r, LB.searchCharPos S lb cs n = .ok r ∧ ∀ p, r = some p → IsBoundary lb.buf p ∧
      (match cs with
       | .forward c => lb.pos ≤ p ∧ IsBoundary lb.buf (p + c.utf8Size)
       | .forwardBefore _ => lb.pos ≤ p
       | _ => p ≤ lb.pos) := by
  obtain ⟨x, s, hb, hp, -, hst, -⟩ := h.cut
  cases cs with
  | backward c =>
    refine ⟨_, searchCharPos_backward_eval S c n hst, ?_⟩
    intro p hpe
    have hm : p ∈ occ c x := List.mem_reverse.mp (List.mem_of_mem_take (List.mem_of_getLast? hpe))
    obtain ⟨a, b, rfl, rfl⟩ := occ_mem hm
    exact ⟨⟨a, c :: b ++ s, by rw [hb]; simp, rfl⟩, by rw [hp]; simp⟩
  | backwardAfter c =>
    cases hr : (((occ c x).reverse).take n).getLast? with
    | none => exact ⟨none, searchCharPos_backwardAfter_none S c n hst hr, by simp⟩
    | some p =>
      have hm : p ∈ occ c x := List.mem_reverse.mp (List.mem_of_mem_take (List.mem_of_getLast? hr))
      obtain ⟨a, b, rfl, rfl⟩ := occ_mem hm
      have hmid : slice lb.buf (blen a) lb.pos = .ok (c :: b) := by
        rw [hb, hp]
        have := slice_mid a (c :: b) s
        simpa using this
      obtain ⟨g, r, hg, hgr, _⟩ := seg_head S (s := c :: b) (by simp)
      refine ⟨_, searchCharPos_backwardAfter_some S c n hst hr hmid hg, ?_⟩
      intro q hq
      cases hq
      have hle : blen g ≤ blen (c :: b) := by rw [hgr]; simp
      refine ⟨⟨a ++ g, r ++ s, by rw [hb]; show a ++ (c :: b) ++ s = _; rw [hgr]; simp, by simp⟩, ?_⟩
      rw [hp]; simp at hle ⊢; omega
  | forward c =>
    by_cases hs : s = []
    · exact ⟨none, (searchCharPos_fwd_end S c n (by simp [LB.len, hb, hp, hs])).1, by simp⟩
    · obtain ⟨g, r, hg, hgr, hgne⟩ := seg_head S hs
      refine ⟨_, searchCharPos_forward_eval S c n (by rw [hb, hgr, List.append_assoc]) hp (hgr ▸ hg) hgne, ?_⟩
      intro q hq
      cases hr : ((occ c r).take n).getLast? with
      | none => rw [hr] at hq; cases hq
      | some p =>
        rw [hr, Option.map_some, Option.some.injEq] at hq
        subst hq
        obtain ⟨a, b, rfl, rfl⟩ := occ_mem (List.mem_of_mem_take (List.mem_of_getLast? hr))
        exact ⟨⟨x ++ g ++ a, c :: b, by rw [hb, hgr]; simp, by rw [hp]; simp; omega⟩, by omega,
          ⟨x ++ g ++ a ++ [c], b, by rw [hb, hgr]; simp, by rw [hp]; simp; omega⟩⟩
  | forwardBefore c =>
    by_cases hs : s = []
    · exact ⟨none, (searchCharPos_fwd_end S c n (by simp [LB.len, hb, hp, hs])).2, by simp⟩
    · obtain ⟨g, r, hg, hgr, hgne⟩ := seg_head S hs
      have hb2 : lb.buf = x ++ g ++ r := by rw [hb, hgr, List.append_assoc]
      cases hr : ((occ c r).take n).getLast? with
      | none => exact ⟨none, searchCharPos_forwardBefore_none S c n hb2 hp (hgr ▸ hg) hgne hr, by simp⟩
      | some p =>
        obtain ⟨a, b, rfl, rfl⟩ := occ_mem (List.mem_of_mem_take (List.mem_of_getLast? hr))
        have hmid : slice lb.buf lb.pos (lb.pos + blen g + blen a) = .ok (g ++ a) := by
          have : x ++ g ++ (a ++ c :: b) = x ++ (g ++ a) ++ c :: b := by simp
          rw [hb2, hp, Nat.add_assoc, ← blen_append, this]
          exact slice_mid x (g ++ a) (c :: b)
        obtain ⟨l, pre, hl, hpl, -⟩ := seg_last S (s := g ++ a) (by simp [hgne])
        have hga : blen g + blen a = blen pre + blen l := by rw [← blen_append, hpl, blen_append]
        refine ⟨_, searchCharPos_forwardBefore_some S c n hb2 hp (hgr ▸ hg) hgne hr hmid hl (by omega), ?_⟩
        intro q hq
        cases hq
        refine ⟨⟨x ++ pre, l ++ c :: b, ?_, by rw [hp]; simp; omega⟩, by omega⟩
        have : g ++ (a ++ c :: b) = pre ++ (l ++ c :: b) := by
          rw [← List.append_assoc, hpl, List.append_assoc]
        rw [hb, hgr]; simp [this]

/-- `a` is 0 or one past a line break.  (`IsLineStart` / `IsLineEnd` speak of one end of a line; `vm_Line` in
    Lemmas/Vertical names a whole line with its text, `LinesAt` in Lemmas/Indent a run of consecutive lines.) -/
def IsLineStart (buf : Text) (a : Nat) : Prop := a = 0 ∨ ∃ u v, buf = u ++ '\n' :: v ∧ a = blen u + 1

theorem IsLineStart.boundary {buf : Text} {a : Nat} (h : IsLineStart buf a) : IsBoundary buf a := by
  rcases h with rfl | ⟨u, v, rfl, rfl⟩
  · exact isBoundary_zero _
  · exact ⟨u ++ ['\n'], v, by simp, by simp [utf8Size_newline]⟩

theorem IsLineStart.pred_boundary {buf : Text} {a : Nat} (h : IsLineStart buf a) : IsBoundary buf (a - 1) := by
  rcases h with rfl | ⟨u, v, rfl, rfl⟩
  · exact isBoundary_zero _
  · exact ⟨u, '\n' :: v, rfl, by simp⟩

theorem lineStart_of_prefix {buf u rest : Text} (hb : buf = u ++ rest) :
    IsLineStart buf (match rfindChar '\n' u with | some k => k + 1 | none => 0) ∧
      (match rfindChar '\n' u with | some k => k + 1 | none => 0) ≤ blen u := by
  cases hf : rfindChar '\n' u with
  | none => exact ⟨Or.inl rfl, Nat.zero_le _⟩
  | some k =>
    obtain ⟨a, b, rfl, rfl⟩ := rfindChar_some hf
    exact ⟨Or.inr ⟨a, b ++ rest, by rw [hb]; simp, rfl⟩, by simp [utf8Size_newline]⟩

theorem nluLoop_ok (buf : Text) (k start : Nat) (h : ∃ u v, buf = u ++ '\n' :: v ∧ start = blen u + 1) :
    ∃ s', LB.nluLoop buf k start = .ok s' ∧ IsLineStart buf s' ∧ s' ≤ start := by
  induction k generalizing start with
  | zero => exact ⟨start, rfl, Or.inr h, Nat.le_refl _⟩
  | succ k ih =>
    obtain ⟨u, v, hb, hs⟩ := h
    have hne : (start == 0) = false := by simp [hs]
    have hst : sliceTo buf (start - 1) = .ok u := by
      rw [hb, hs]; simp only [Nat.add_sub_cancel]; exact sliceTo_mid u _
    unfold LB.nluLoop
    simp only [hne, hst, bind, Except.bind, Bool.false_eq_true, if_false]
    cases hf : rfindChar '\n' u with
    | none => exact ⟨0, rfl, Or.inl rfl, Nat.zero_le _⟩
    | some off =>
      obtain ⟨u', v', rfl, rfl⟩ := rfindChar_some hf
      obtain ⟨s', h1, h2, h3⟩ := ih (blen u' + 1) ⟨u', v' ++ '\n' :: v, by rw [hb]; simp, rfl⟩
      exact ⟨s', h1, h2, by rw [hs]; simp; omega⟩

/-- loop invariant of `n_lines_down`: started one past the break at `blen p`, the loop returns one past
    the break `downEnd` names (the buffer end when there is none); the text walked over holds exactly
    `k` breaks in the first case and fewer in the second -/
theorem ls_nldLoop_inv (buf : Text) (k : Nat) (p q : Text) (hb : buf = p ++ '\n' :: q) :
    ∃ m z, q = m ++ z ∧
      LB.nldLoop buf k (blen p + 1) = .ok (blen p + 1 + blen m) ∧
      (blen p + 1 + blen m =
        if downEnd buf k (blen p) < blen buf then downEnd buf k (blen p) + 1 else blen buf) ∧
      (if downEnd buf k (blen p) < blen buf then (m.filter (· == '\n')).length = k
       else (m.filter (· == '\n')).length < k) := by
  induction k generalizing p q with
  | zero =>
    have hlt : blen p < blen buf := by rw [hb]; simp [utf8Size_newline]; omega
    refine ⟨[], q, rfl, rfl, ?_, ?_⟩
    · simp [downEnd, hlt]
    · simp [downEnd, hlt]
  | succ k ih =>
    have hlt : blen p < blen buf := by rw [hb]; simp [utf8Size_newline]; omega
    have hsf : sliceFrom buf (blen p + 1) = .ok q := by
      rw [hb]
      have := sliceFrom_mid (p ++ ['\n']) q
      simpa [utf8Size_newline] using this
    have hle : lineEndOf buf (blen p + 1) =
        (match findChar '\n' q with | some i => blen p + 1 + i | none => blen buf) := by
      have := lineEndOf_mid (p ++ ['\n']) q
      have e1 : p ++ ['\n'] ++ q = buf := by rw [hb]; simp
      have e2 : blen (p ++ ['\n']) = blen p + 1 := by simp [utf8Size_newline]
      rw [e1, e2] at this
      exact this
    unfold LB.nldLoop
    simp only [hsf, bind, Except.bind]
    rw [downEnd_succ buf k hlt, hle]
    cases hf : findChar '\n' q with
    | none =>
      have hq : blen p + 1 + blen q = blen buf := by rw [hb]; simp [utf8Size_newline]; omega
      have hn := filter_beq_eq_nil (findChar_eq_none hf)
      refine ⟨q, [], by simp, by simp only [hq]; rfl, ?_, ?_⟩
      · simp [downEnd_len buf k, hq]
      · simp [downEnd_len buf k, hn]
    | some off =>
      obtain ⟨a, b, rfl, rfl, hn⟩ := findChar_split hf
      replace hn := filter_beq_eq_nil hn
      obtain ⟨m', z', hb', h1, h2, h3⟩ := ih (p ++ '\n' :: a) b (by rw [hb]; simp)
      have e3 : blen (p ++ '\n' :: a) = blen p + 1 + blen a := by simp [utf8Size_newline]; omega
      rw [e3] at h1 h2 h3
      refine ⟨a ++ '\n' :: m', z', by rw [hb']; simp, ?_, ?_, ?_⟩
      · simp only
        rw [h1]
        simp [utf8Size_newline]; omega
      · simp only
        rw [← h2]
        simp [utf8Size_newline]; omega
      · simp only
        split
        · rename_i hc
          rw [if_pos hc] at h3
          simp [List.filter_append, hn, h3]
        · rename_i hc
          rw [if_neg hc] at h3
          simp [List.filter_append, hn]
          omega

theorem nLinesUp_ok (lb : LB) (n : Nat) (h : WF lb) :
    ∃ r, LB.nLinesUp lb n = .ok r ∧ ∀ a b, r = some (a, b) →
      IsLineStart lb.buf a ∧ IsBoundary lb.buf b ∧ a ≤ lb.pos ∧ lb.pos ≤ b := by
  obtain ⟨x, s, hb, hp, -, hst, hsf⟩ := h.cut
  unfold LB.nLinesUp
  simp only [hst, hsf, bind, Except.bind, pure, Except.pure]
  cases hf : rfindChar '\n' x with
  | none => exact ⟨none, rfl, by simp⟩
  | some off =>
    obtain ⟨u, v, rfl, rfl⟩ := rfindChar_some hf
    obtain ⟨s', h1, h2, h3⟩ := nluLoop_ok lb.buf n (blen u + 1) ⟨u, v ++ s, by rw [hb]; simp, rfl⟩
    simp only [h1]
    refine ⟨_, rfl, ?_⟩
    intro a b hab
    cases hab
    have hle : s' ≤ lb.pos := by rw [hp]; simp [utf8Size_newline]; omega
    cases hg : findChar '\n' s with
    | none => exact ⟨h2, isBoundary_len _, hle, h.le_len⟩
    | some k =>
      obtain ⟨a', b', rfl, rfl⟩ := findChar_some hg
      exact ⟨h2, ⟨u ++ '\n' :: v ++ a' ++ ['\n'], b', by rw [hb]; simp, by rw [hp]; simp [utf8Size_newline]; omega⟩,
        hle, by simp only; omega⟩

theorem nLinesDown_ok (lb : LB) (n : Nat) (h : WF lb) :
    ∃ r, LB.nLinesDown lb n = .ok r ∧ ∀ a b, r = some (a, b) →
      IsLineStart lb.buf a ∧ IsBoundary lb.buf b ∧ a ≤ lb.pos ∧ lb.pos ≤ b := by
  obtain ⟨x, s, hb, hp, -, hst, hsf⟩ := h.cut
  unfold LB.nLinesDown
  simp only [hst, hsf, bind, Except.bind, pure, Except.pure]
  cases hf : findChar '\n' s with
  | none => exact ⟨none, rfl, by simp⟩
  | some off =>
    obtain ⟨a', b', rfl, rfl⟩ := findChar_some hf
    obtain ⟨m, z, rfl, h1, -, -⟩ := ls_nldLoop_inv lb.buf n (x ++ a') b' (by rw [hb]; simp)
    rw [blen_append, ← hp] at h1
    obtain ⟨hs1, hs2⟩ := lineStart_of_prefix hb
    simp only [h1]
    refine ⟨_, rfl, ?_⟩
    intro a b hab
    cases hab
    exact ⟨hs1, ⟨x ++ a' ++ '\n' :: m, z, by rw [hb]; simp, by rw [hp]; simp [utf8Size_newline]; omega⟩, hp ▸ hs2, by omega⟩

theorem lineStart_cases {buf u rest : Text} (hb : buf = u ++ rest) :
    ∃ ds0, ((rfindChar '\n' u = none ∧ ds0 = 0) ∨ (∃ k, rfindChar '\n' u = some k ∧ ds0 = k + 1)) ∧
      IsLineStart buf ds0 ∧ ds0 ≤ blen u := by
  have := lineStart_of_prefix (buf := buf) (u := u) (rest := rest) hb
  cases hf : rfindChar '\n' u with
  | none => rw [hf] at this; exact ⟨0, Or.inl ⟨rfl, rfl⟩, this.1, this.2⟩
  | some k => rw [hf] at this; exact ⟨k + 1, Or.inr ⟨k, rfl, rfl⟩, this.1, this.2⟩

/-- `e` is the end of the text or the offset of a line break -/
def IsLineEnd (buf : Text) (e : Nat) : Prop := e = blen buf ∨ ∃ p q, buf = p ++ '\n' :: q ∧ e = blen p

theorem IsLineEnd.boundary {buf : Text} {e : Nat} (h : IsLineEnd buf e) : IsBoundary buf e := by
  rcases h with rfl | ⟨p, q, rfl, rfl⟩
  · exact isBoundary_len _
  · exact isBoundary_mid p _

theorem lineEnd_of_suffix {buf x s : Text} (hb : buf = x ++ s) :
    IsLineEnd buf (match findChar '\n' s with | some v => blen x + v | none => blen buf) ∧
      blen x ≤ (match findChar '\n' s with | some v => blen x + v | none => blen buf) := by
  cases hf : findChar '\n' s with
  | none => exact ⟨Or.inl rfl, by rw [hb]; simp⟩
  | some v =>
    obtain ⟨a, b, rfl, rfl⟩ := findChar_some hf
    exact ⟨Or.inr ⟨x ++ a, b, by rw [hb]; simp, by simp⟩, by simp⟩

theorem lineEnd_cases {buf x s : Text} (hb : buf = x ++ s) :
    ∃ de0, ((findChar '\n' s = none ∧ de0 = blen buf) ∨ (∃ v, findChar '\n' s = some v ∧ de0 = blen x + v)) ∧
      IsLineEnd buf de0 ∧ blen x ≤ de0 := by
  have := lineEnd_of_suffix (buf := buf) (x := x) (s := s) hb
  cases hf : findChar '\n' s with
  | none => rw [hf] at this; exact ⟨_, Or.inl ⟨rfl, rfl⟩, this.1, this.2⟩
  | some v => rw [hf] at this; exact ⟨_, Or.inr ⟨v, rfl, rfl⟩, this.1, this.2⟩

theorem gidx_slice_boundary (S : Segmenter) {buf line : Text} {a b : Nat}
    (hs : slice buf a b = .ok line) {i : Nat} {g : Text} (hm : (i, g) ∈ gidx S line) :
    IsBoundary buf (a + i) := by
  unfold slice at hs
  cases h3 : split3 buf a b with
  | error e => simp [h3] at hs
  | ok xyz =>
    obtain ⟨x, y, z⟩ := xyz
    simp [h3] at hs
    subst hs
    obtain ⟨hb, ha, _⟩ := split3_ok h3
    obtain ⟨p, q, rfl, rfl⟩ := gidx_mem hm
    exact ⟨x ++ p, g ++ q ++ z, by rw [hb]; simp, by rw [ha]; simp⟩

theorem firstPrint_ok (S : Segmenter) (U : UData) (lb : LB) (h : WF lb) :
    ∃ p, LB.firstPrint S U lb = .ok p ∧ IsBoundary lb.buf p := by
  obtain ⟨st, hst, hsb, hsle⟩ := startOfLine_ok lb h
  obtain ⟨e, he, heb, hele⟩ := endOfLine_ok lb h
  obtain ⟨line, hline⟩ := slice_ok hsb heb (by omega)
  unfold LB.firstPrint
  simp only [hst, he, hline, bind, Except.bind]
  cases hf : (gidx S line).find? (fun x => !x.2.any U.ws) with
  | none => exact ⟨e, by simp [pure, Except.pure], heb⟩
  | some ig =>
    obtain ⟨i, g⟩ := ig
    exact ⟨st + i, by simp [pure, Except.pure],
      gidx_slice_boundary S hline (List.mem_of_find?_eq_some hf)⟩

theorem skipWhitespace_ok (S : Segmenter) (U : UData) (lb : LB) (h : WF lb) :
    ∃ r, LB.skipWhitespace S U lb = .ok r ∧ ∀ st, r = some st → IsBoundary lb.buf st ∧ lb.pos ≤ st := by
  obtain ⟨x, s, hb, hp, -, -, hsf⟩ := h.cut
  unfold LB.skipWhitespace
  by_cases he : (lb.pos == lb.len) = true
  · exact ⟨none, by simp [he]; rfl, by simp⟩
  · simp only [he, hsf, bind, Except.bind, pure, Except.pure, Bool.false_eq_true, if_false]
    refine ⟨_, rfl, ?_⟩
    intro st hst
    cases hf : (gidx S s).find? (fun x => x.2.all U.alnum) with
    | none => simp [hf] at hst
    | some ig =>
      obtain ⟨i, g⟩ := ig
      simp [hf] at hst
      subst hst
      obtain ⟨a, b, rfl, rfl⟩ := gidx_mem (List.mem_of_find?_eq_some hf)
      exact ⟨⟨x ++ a, g ++ b, by rw [hb]; simp, by rw [hp]; simp; omega⟩, by omega⟩

theorem nextPos_eq_target (S : Segmenter) (lb : LB) (n : Nat) (h : WF lb) (hne : lb.pos ≠ lb.len)
    (hn : n ≠ 0) : LB.nextPos S lb n = .ok (charTargetFwd S lb.buf lb.pos n) := by
  obtain ⟨x, s, hb, hp, hsp, -, hsf⟩ := h.cut
  have hsne : s ≠ [] := by
    intro h0; apply hne; simp [LB.len, hb, hp, h0]
  unfold LB.nextPos charTargetFwd splitAt?
  have hne' : (lb.pos == lb.len) = false := by simpa using hne
  simp only [hne', hsf, hsp, bind, Except.bind, pure, Except.pure, Option.bind]
  have hl := gidxGo_take_last 0 n (S.seg s)
  rw [if_neg (by simp [hn, seg_ne_nil S hsne])] at hl
  rw [offOf_min]
  cases hg : ((gidxGo 0 (S.seg s)).take n).getLast? with
  | none => simp [hg] at hl
  | some ig =>
    obtain ⟨i, g⟩ := ig
    simp [hg] at hl
    simp [gidx, hg, offOf, ← hl]; omega

theorem prevPos_eq_target (S : Segmenter) (lb : LB) (n : Nat) (h : WF lb) (hne : lb.pos ≠ 0)
    (hn : n ≠ 0) : LB.prevPos S lb n = .ok (charTargetBwd S lb.buf lb.pos n) := by
  obtain ⟨x, s, hb, hp, hsp, hst⟩ := h.cut
  have hxne : x ≠ [] := by
    intro h0; apply hne; simp [hp, h0]
  unfold LB.prevPos charTargetBwd splitAt?
  have hne' : (lb.pos == 0) = false := by simpa using hne
  simp only [hne', hst, hsp, bind, Except.bind, pure, Except.pure, Option.bind, Bool.false_eq_true, if_false]
  have hgs := seg_ne_nil S hxne
  have hlen : 0 < (S.seg x).length := List.length_pos_iff.mpr hgs
  simp only [gidx, List.take_reverse, List.getLast?_reverse, gidxGo_length, gidxGo_drop, Nat.zero_add]
  have hk : (S.seg x).length - n < (S.seg x).length := by omega
  have hd : List.drop ((S.seg x).length - n) (S.seg x) ≠ [] := by
    intro h0
    have := congrArg List.length h0
    simp at this; omega
  have hm : (S.seg x).length - min n (S.seg x).length = (S.seg x).length - n := by omega
  rw [hm]
  cases hdd : List.drop ((S.seg x).length - n) (S.seg x) with
  | nil => exact absurd hdd hd
  | cons g r => simp [gidxGo]

theorem nextPos_some (S : Segmenter) (lb : LB) (n : Nat) (h : WF lb) (hne : lb.pos ≠ lb.len) (hn : n ≠ 0) :
    ∃ p, LB.nextPos S lb n = .ok (some p) ∧ IsBoundary lb.buf p ∧ lb.pos < p := by
  obtain ⟨r, hr, hp⟩ := nextPos_ok S lb n h
  have ht := nextPos_eq_target S lb n h hne hn
  obtain ⟨x, s, hb, hpos⟩ := h.split
  have : ∃ p, charTargetFwd S lb.buf lb.pos n = some p := by
    simp [charTargetFwd, splitAt?, hb, hpos, splitAtByte_append]
  obtain ⟨p, hpp⟩ := this
  rw [hpp] at ht
  rw [ht] at hr
  cases hr
  exact ⟨p, ht, hp p rfl⟩

theorem prevPos_some (S : Segmenter) (lb : LB) (n : Nat) (h : WF lb) (hne : lb.pos ≠ 0) (hn : n ≠ 0) :
    ∃ p, LB.prevPos S lb n = .ok (some p) ∧ IsBoundary lb.buf p ∧ p < lb.pos := by
  obtain ⟨r, hr, hp⟩ := prevPos_ok S lb n h
  have ht := prevPos_eq_target S lb n h hne hn
  obtain ⟨x, s, hb, hpos⟩ := h.split
  have : ∃ p, charTargetBwd S lb.buf lb.pos n = some p := by
    simp [charTargetBwd, splitAt?, hb, hpos, splitAtByte_append]
  obtain ⟨p, hpp⟩ := this
  rw [hpp] at ht
  rw [ht] at hr
  cases hr
  exact ⟨p, ht, hp p rfl⟩

/-- the shape of `move_to_next_word`, `move_to_prev_word`: look a position up, go there -/
theorem LM.goto_run {f : LB → Except Panic (Option Nat)} {lb : LB} {Q : Nat → Prop}
    (hf : ∃ r, f lb = .ok r ∧ ∀ p, r = some p → IsBoundary lb.buf p ∧ Q p) (h : WF lb) (hQ : Q lb.pos) :
    ∃ b p, (do match ← LM.ro f with
               | some p => LM.setPos p; return true
               | none => return false : LM Bool) lb = .ok (b, { lb with pos := p }, []) ∧
      IsBoundary lb.buf p ∧ Q p := by
  obtain ⟨r, hr, hp⟩ := hf
  simp only [LM.bind_apply, LM.ro, hr]
  cases r with
  | none => exact ⟨false, lb.pos, rfl, h, hQ⟩
  | some p => exact ⟨true, p, rfl, hp p rfl⟩

theorem moveToNextWord_run (S : Segmenter) (U : UData) (a : At) (d : Word) (n : Nat) (lb : LB) (h : WF lb) :
    ∃ r p, LB.moveToNextWord S U a d n lb = .ok (r, { lb with pos := p }, []) ∧ IsBoundary lb.buf p ∧ lb.pos ≤ p :=
  LM.goto_run (Q := (lb.pos ≤ ·)) (nextWordPosR_ok_all S U lb a d n false h) h (Nat.le_refl _)

theorem moveToPrevWord_run (S : Segmenter) (U : UData) (d : Word) (n : Nat) (lb : LB) (h : WF lb) :
    ∃ r p, LB.moveToPrevWord S U d n lb = .ok (r, { lb with pos := p }, []) ∧ IsBoundary lb.buf p ∧ p ≤ lb.pos :=
  LM.goto_run (Q := (· ≤ lb.pos)) (prevWordPos_ok S U lb d n h) h (Nat.le_refl _)

end Rl
