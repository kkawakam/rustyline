/-
  C02: the hypotheses `YankPopWF` and `UndoWF` of `Rl/Lemmas/RenderLogBdExec.lean` about `yank_pop` and the undo
  log, discharged — whenever they return, the cursor of the line is on a character boundary.
  `yank_pop` removes the last yank by slicing (`drain` → `split3`, which panics off a boundary) and pastes with `yank`;
  `Changeset::undo` replays recorded edits with the slicing primitives (`undoLoop_wf_grow`).
-/
import Rl.Props.C03
import Rl.Lemmas.RenderLogBdExec
import Rl.Lemmas.EditorUndoSafe
namespace Rl

section
variable {S : Segmenter} {U : UData}

theorem split3_boundary {t : Text} {a b : Nat} {x y z : Text} (h : split3 t a b = .ok (x, y, z)) :
    IsBoundary t a := by
  obtain ⟨h1, h2, _⟩ := split3_ok h
  exact ⟨x, y ++ z, by rw [h1, List.append_assoc], h2⟩

theorem yankPopWF : YankPopWF S U := by
  intro k t lb r lb' ns hw h
  by_cases hk : k ≤ lb.pos
  · by_cases hb : IsBoundary lb.buf (lb.pos - k)
    · obtain ⟨r', l', ns', h1, h2⟩ := C03_yankPop_total_wf S U k t lb hw hk hb
      rw [h] at h1
      injection h1 with h1
      simp only [Prod.mk.injEq] at h1
      obtain ⟨_, rfl, _⟩ := h1
      exact h2
    · -- the drain would slice off a boundary: either the paste is refused first, or it panics
      have hng : ¬ k > lb.pos := by omega
      have hng2 : ¬ k > lb.len := by have := hw.le_len; have : lb.len = blen lb.buf := rfl; omega
      unfold LB.yankPop at h
      by_cases ht : lb.mustTruncate (lb.len - k + blen t) = true
      · simp [LM.bind_apply, LM.get, hng, hng2, ht, LM.pure_apply] at h
        obtain ⟨_, rfl, _⟩ := h
        exact hw
      · exfalso
        cases hs : split3 lb.buf (lb.pos - k) lb.pos with
        | ok xyz =>
          obtain ⟨x, y, z⟩ := xyz
          exact hb (split3_boundary hs)
        | error e =>
          simp [LM.bind_apply, LM.get, hng, hng2, ht, LB.drain, hs] at h
  · exfalso
    have hng : k > lb.pos := by omega
    unfold LB.yankPop at h
    simp [LM.bind_apply, LM.get, hng, LM.panic] at h

theorem undoWF : UndoWF S U := by
  intro c c' l l' n u hw h
  unfold Changeset.undo at h
  split at h
  · rename_i us rs lb1 undone level hl
    cases h
    rcases (undoLoop_wf_grow (S := S) (U := U) n _ _ _ _ _ _ _ _ hl).1 with h1 | h1
    · simp only [] at h1; rw [h1]; exact hw
    · exact h1
  · cases h

end
end Rl
