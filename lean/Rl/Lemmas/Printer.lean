/- The external-printer protocol (Rl/Printer.lean): `step` as a relation, what the classes of labels
   leave alone, runs, and the two inductive invariants with their preservation by every atomic step. -/
import Rl.Printer
namespace Rl.Printer

@[simp] theorem setPr_pr (s : Sys) (t : Nat) (p : Printer) (i : Nat) :
    (s.setPr t p).pr i = if i = t then p else s.pr i := rfl
@[simp] theorem setPr_raw (s : Sys) (t : Nat) (p : Printer) : (s.setPr t p).raw = s.raw := rfl
@[simp] theorem setPr_chan (s : Sys) (t : Nat) (p : Printer) : (s.setPr t p).chan = s.chan := rfl
@[simp] theorem setPr_pipe (s : Sys) (t : Nat) (p : Printer) : (s.setPr t p).pipe = s.pipe := rfl
@[simp] theorem setPr_wlock (s : Sys) (t : Nat) (p : Printer) : (s.setPr t p).wlock = s.wlock := rfl
@[simp] theorem setPr_out (s : Sys) (t : Nat) (p : Printer) : (s.setPr t p).out = s.out := rfl
@[simp] theorem setPr_epc (s : Sys) (t : Nat) (p : Printer) : (s.setPr t p).epc = s.epc := rfl
@[simp] theorem setPr_keys (s : Sys) (t : Nat) (p : Printer) : (s.setPr t p).keys = s.keys := rfl
@[simp] theorem setPr_line (s : Sys) (t : Nat) (p : Printer) : (s.setPr t p).line = s.line := rfl

/-- `step` as a relation: one rule per enabled case, with the guard as hypotheses -/
inductive Step (s : Sys) : Label → Sys → Prop
  | issue (t id : Nat) : Step s (.issue t id) (s.setPr t { s.pr t with queue := (s.pr t).queue ++ [id] })
  | cmdRead : Step s .cmdRead { s with reads := s.reads + 1 }
  | keyWrite (k : Key) (h : s.typing = none) : Step s (.keyWrite k) { s with typing := some k }
  | keyArrive (k : Key) (h : s.typing = some k) : Step s .keyArrive { s with typing := none, keys := s.keys ++ [k] }
  | pLoad (t id : Nat) (q : List Nat) (hpc : (s.pr t).pc = .idle) (hq : (s.pr t).queue = id :: q) :
      Step s (.pLoad t) (s.setPr t { pc := if s.raw then .rawSeen id else .cooked id, queue := q,
                                     hist := (s.pr t).hist ++ [id] })
  | pDirect (t id : Nat) (hpc : (s.pr t).pc = .cooked id) :
      Step s (.pDirect t) (({ s with out := s.out ++ [Ev.direct ⟨t, id⟩] } : Sys).setPr t { s.pr t with pc := .idle })
  | pLock (t id : Nat) (hpc : (s.pr t).pc = .rawSeen id) (hl : s.wlock = none) :
      Step s (.pLock t) (({ s with wlock := some t } : Sys).setPr t { s.pr t with pc := .locked id })
  | pSend (t id : Nat) (hpc : (s.pr t).pc = .locked id) (hc : s.chan = none) :
      Step s (.pSend t) (({ s with chan := some ⟨t, id⟩ } : Sys).setPr t { s.pr t with pc := .sent })
  | pByte (t : Nat) (hpc : (s.pr t).pc = .sent) :
      Step s (.pByte t) (({ s with pipe := s.pipe + 1 } : Sys).setPr t { s.pr t with pc := .wrote })
  | pUnlock (t : Nat) (hpc : (s.pr t).pc = .wrote) :
      Step s (.pUnlock t) (({ s with wlock := none } : Sys).setPr t { s.pr t with pc := .idle })
  | eStoreTrue (r : Nat) (he : s.epc = .outside) (hr : s.reads = r + 1) :
      Step s .eStoreTrue { s with epc := .enabling, raw := true, reads := r }
  | eMarkOn (he : s.epc = .enabling) : Step s .eMarkOn { s with epc := .drawing, out := s.out ++ [.rawOn] }
  | ePrompt (he : s.epc = .drawing) : Step s .ePrompt { s with epc := .waiting, out := s.out ++ [.prompt] }
  | eKeyMain (k : Key) (ks : List Key) (he : s.epc = .waiting) (hk : s.keys = k :: ks) : Step s .eKey (keyMain s k ks)
  | eKeySub (k : Key) (ks : List Key) (he : s.epc = .sub) (hk : s.keys = k :: ks) : Step s .eKey (keySub s k ks)
  | eWake (p : Nat) (he : s.epc = .waiting) (hk : s.keys = []) (hp : s.pipe = p + 1) : Step s .eWake { s with epc := .woken }
  | eReadByte (p : Nat) (he : s.epc = .woken) (hp : s.pipe = p + 1) : Step s .eReadByte { s with epc := .gotByte, pipe := p }
  | eRecv (m : Msg) (he : s.epc = .gotByte) (hc : s.chan = some m) : Step s .eRecv { s with epc := .showing m, chan := none }
  | eRecvNone (he : s.epc = .gotByte) (hc : s.chan = none) : Step s .eRecv { s with epc := .waiting }
  | eShow (m : Msg) (he : s.epc = .showing m) : Step s .eShow { s with epc := .waiting, out := s.out ++ [.shown m] }
  | eMarkOff (he : s.epc = .finishing) : Step s .eMarkOff { s with epc := .disabling, out := s.out ++ [.rawOff] }
  | eStoreFalse (he : s.epc = .disabling) : Step s .eStoreFalse { s with epc := .outside, raw := false }

theorem step_iff {s s' : Sys} {l : Label} : step s l = some s' ↔ Step s l s' := by
  constructor
  · intro h
    cases l <;> simp only [step] at h <;> (try split at h) <;> cases h <;> constructor <;> assumption
  · intro h
    cases h <;> simp only [step, *]

theorem Step.enabled {s s' : Sys} {l : Label} (h : Step s l s') : (step s l).isSome = true := by
  rw [step_iff.2 h]; rfl

theorem blocked_iff (s : Sys) : s.blocked = true ↔ s.epc = .waiting ∧ s.keys = [] ∧ s.pipe = 0 := by
  simp only [Sys.blocked, Bool.and_eq_true, beq_iff_eq, List.isEmpty_iff, and_assoc]

/-- the printer thread a label belongs to -/
def Label.thread : Label → Option Nat
  | .issue t _ | .pLoad t | .pDirect t | .pLock t | .pSend t | .pByte t | .pUnlock t => some t
  | _ => none

theorem step_text {s s' : Sys} {l : Label} (hk : l ≠ .eKey) (h : step s l = some s') :
    s'.line = s.line ∧ s'.results = s.results ∧ (l ≠ .keyArrive → s'.keys = s.keys) := by
  cases step_iff.1 h <;> first | exact ⟨rfl, rfl, fun _ => rfl⟩ | exact absurd rfl hk | exact ⟨rfl, rfl, fun h => absurd rfl h⟩

theorem step_pr_other {s s' : Sys} {l : Label} {t : Nat} (ht : l.thread ≠ some t) (h : step s l = some s') :
    s'.pr t = s.pr t := by
  have hne : ∀ {u : Nat} (p : Printer) (s : Sys), some u ≠ some t → (s.setPr u p).pr t = s.pr t :=
    fun p s hu => if_neg fun e => hu (congrArg some e.symm)
  cases step_iff.1 h
  case eKeyMain k _ _ _ => cases k <;> rfl
  case eKeySub k _ _ _ => cases k <;> rfl
  all_goals first | rfl | exact hne _ _ ht

theorem out_step {s s' : Sys} {l : Label} (h : step s l = some s') : ∃ ev, s'.out = s.out ++ ev := by
  cases step_iff.1 h
  case eKeyMain k _ _ _ => cases k <;> exact ⟨[], (List.append_nil _).symm⟩
  case eKeySub k _ _ _ => cases k <;> exact ⟨[], (List.append_nil _).symm⟩
  all_goals first | exact ⟨[], (List.append_nil _).symm⟩ | exact ⟨_, rfl⟩

theorem run_cons {s s' : Sys} {l : Label} {ls : List Label} :
    run s (l :: ls) = some s' ↔ ∃ s1, step s l = some s1 ∧ run s1 ls = some s' := by
  simp only [run, Option.bind_eq_some_iff]

theorem run_rel {R : Sys → Sys → Prop} {P : Label → Prop} (refl : ∀ s, R s s)
    (trans : ∀ {a b c}, R a b → R b c → R a c) (hstep : ∀ {s l s'}, P l → step s l = some s' → R s s') :
    ∀ (ls : List Label) {s s' : Sys}, (∀ l ∈ ls, P l) → run s ls = some s' → R s s'
  | [], s, s', _, h => by cases h; exact refl s
  | l :: ls, s, s', hP, h => by
    obtain ⟨s1, h1, h2⟩ := run_cons.1 h
    exact trans (hstep (hP l (List.mem_cons_self ..)) h1)
      (run_rel refl trans hstep ls (fun l hl => hP l (List.mem_cons_of_mem _ hl)) h2)

/-- the printer thread is between `lock` and `unlock` of the writer mutex -/
def holds (p : Printer) : Bool :=
  match p.pc with
  | .locked _ | .sent | .wrote => true
  | _ => false

/-- 1 while the holder of the mutex has sent its message and not yet written the wake-up byte -/
def sentFlag (s : Sys) : Nat :=
  match s.wlock with
  | some t => if (s.pr t).pc = .sent then 1 else 0
  | none => 0
/-- 1 while the editing thread has read the byte and not yet received the message -/
def gotFlag (s : Sys) : Nat := if s.epc = .gotByte then 1 else 0
/-- 1 while a message is in the channel (capacity 1) -/
def chanFlag (s : Sys) : Nat := if s.chan.isSome then 1 else 0

/-- the counting invariant: the mutex is held by exactly the thread that says so; a message in the
    channel is matched by exactly one wake-up byte — in the pipe, about to be written, or just
    read — and there is no byte without a message; a woken reader finds a byte -/
structure Inv2 (s : Sys) : Prop where
  lock : ∀ t, holds (s.pr t) = true ↔ s.wlock = some t
  count : s.pipe + sentFlag s + gotFlag s = chanFlag s
  woken : s.epc = .woken → 1 ≤ s.pipe

theorem inv2_init : Inv2 init := by
  constructor <;> simp [init, holds, sentFlag, gotFlag, chanFlag]

theorem sentFlag_setPr (s : Sys) (t : Nat) (p : Printer) (h : p.pc = .sent ↔ (s.pr t).pc = .sent) :
    sentFlag (s.setPr t p) = sentFlag s := by
  unfold sentFlag
  simp only [setPr_wlock, setPr_pr]
  split
  · rename_i u _
    by_cases hu : u = t
    · subst hu; simp [h]
    · simp [hu]
  · rfl

@[simp] theorem gotFlag_setPr (s : Sys) (t : Nat) (p : Printer) : gotFlag (s.setPr t p) = gotFlag s := rfl
@[simp] theorem chanFlag_setPr (s : Sys) (t : Nat) (p : Printer) : chanFlag (s.setPr t p) = chanFlag s := rfl

theorem inv2_frame {s s' : Sys} (hi : Inv2 s) (h1 : s'.pr = s.pr) (h2 : s'.wlock = s.wlock)
    (h3 : s'.pipe + gotFlag s' + chanFlag s = s.pipe + gotFlag s + chanFlag s')
    (h4 : s'.epc = .woken → 1 ≤ s'.pipe) : Inv2 s' := by
  obtain ⟨hl, hc, hw⟩ := hi
  have hs : sentFlag s' = sentFlag s := by unfold sentFlag; rw [h1, h2]
  refine ⟨?_, ?_, h4⟩
  · intro t; rw [h1, h2]; exact hl t
  · omega

theorem inv2_frame_epc {s s' : Sys} (hi : Inv2 s) (h1 : s'.pr = s.pr) (h2 : s'.wlock = s.wlock)
    (hp : s'.pipe = s.pipe) (hc : s'.chan = s.chan) (hg : s.epc ≠ .gotByte) (hg' : s'.epc ≠ .gotByte)
    (h4 : s'.epc = .woken → 1 ≤ s'.pipe) : Inv2 s' :=
  inv2_frame hi h1 h2 (by simp only [gotFlag, chanFlag, hp, hc, hg, hg', if_false]) h4

theorem count_setPr {s : Sys} (hc : s.pipe + sentFlag s + gotFlag s = chanFlag s) (t : Nat) (p : Printer)
    (h : p.pc = .sent ↔ (s.pr t).pc = .sent) :
    (s.setPr t p).pipe + sentFlag (s.setPr t p) + gotFlag (s.setPr t p) = chanFlag (s.setPr t p) := by
  rw [sentFlag_setPr _ _ _ h]; exact hc

/-- the three ways a step of printer `t` can treat the mutex: leave it, take it, release it -/
theorem lock_setPr {s : Sys} (hl : ∀ u, holds (s.pr u) = true ↔ s.wlock = some u) (t : Nat) (p : Printer)
    (w : Option Nat)
    (h : (holds p = holds (s.pr t) ∧ w = s.wlock) ∨ (holds p = true ∧ s.wlock = none ∧ w = some t) ∨
      (holds p = false ∧ s.wlock = some t ∧ w = none)) :
    ∀ u, holds ((s.setPr t p).pr u) = true ↔ w = some u := by
  intro u
  rw [setPr_pr]
  by_cases hu : u = t
  · subst hu
    rw [if_pos rfl]
    rcases h with ⟨hp, rfl⟩ | ⟨hp, _, rfl⟩ | ⟨hp, _, rfl⟩
    · rw [hp]; exact hl u
    · exact ⟨fun _ => rfl, fun _ => hp⟩
    · rw [hp]; exact ⟨nofun, nofun⟩
  · rw [if_neg hu]
    rcases h with ⟨_, rfl⟩ | ⟨_, hn, rfl⟩ | ⟨_, hs, rfl⟩
    · exact hl u
    · rw [hl u, hn]; exact ⟨nofun, fun e => absurd (Option.some.inj e).symm hu⟩
    · rw [hl u, hs]; exact ⟨fun e => absurd (Option.some.inj e).symm hu, nofun⟩

/-- Every atomic step keeps `Inv2`.  By cases on the step: a printer step changes one printer
    record (`lock_setPr`, `count_setPr` say what that does to the two clauses), an editor or
    environment step changes no printer record (`inv2_frame`); only `pSend`, `pByte`, `eReadByte`,
    `eRecv` move a unit between the summands of `count`. -/
theorem inv2_step {s s' : Sys} (l : Label) (hi : Inv2 s) (h : step s l = some s') : Inv2 s' := by
  obtain ⟨hl, hc, hw⟩ := hi
  have hold : ∀ {t : Nat}, holds (s.pr t) = true → s.wlock = some t := fun h => (hl _).1 h
  have hs := step_iff.1 h
  clear h
  cases hs with
  | issue t id =>
    exact ⟨lock_setPr hl t _ _ (.inl ⟨rfl, rfl⟩), count_setPr hc t _ Iff.rfl, hw⟩
  | pLoad t id q hpc hq =>
    have hp : holds { pc := if s.raw then .rawSeen id else .cooked id, queue := q, hist := (s.pr t).hist ++ [id] } = false := by
      cases s.raw <;> rfl
    refine ⟨lock_setPr hl t _ _ (.inl ⟨?_, rfl⟩), ?_, hw⟩
    · rw [hp, holds, hpc]
    · exact count_setPr hc t _ (by cases s.raw <;> simp [hpc])
  | pDirect t id hpc =>
    refine ⟨lock_setPr hl t _ _ (.inl ⟨?_, rfl⟩), ?_, hw⟩
    · simp only [holds, hpc]
    · exact count_setPr (s := { s with out := s.out ++ [Ev.direct ⟨t, id⟩] }) hc t _ (by simp [hpc])
  | pLock t id hpc hlk =>
    refine ⟨lock_setPr hl t _ _ (.inr (.inl ⟨rfl, hlk, rfl⟩)), ?_, hw⟩
    simp only [sentFlag, hlk] at hc
    simp only [sentFlag, setPr_wlock, setPr_pr, if_pos, reduceCtorEq, if_false]
    exact hc
  | pSend t id hpc hch =>
    have hlt := hold (t := t) (by simp only [holds, hpc])
    refine ⟨lock_setPr hl t _ _ (.inl ⟨by simp only [holds, hpc], rfl⟩), ?_, hw⟩
    simp only [sentFlag, gotFlag, chanFlag, hlt, hpc, hch, reduceCtorEq, if_false, Option.isSome_none,
      Bool.false_eq_true] at hc
    simp only [sentFlag, gotFlag, chanFlag, setPr_wlock, setPr_pr, setPr_chan, setPr_pipe, setPr_epc, hlt, if_pos,
      Option.isSome_some]
    omega
  | pByte t hpc =>
    have hlt := hold (t := t) (by simp only [holds, hpc])
    refine ⟨lock_setPr hl t _ _ (.inl ⟨by simp only [holds, hpc], rfl⟩), ?_, fun _ => Nat.le_add_left 1 s.pipe⟩
    simp only [sentFlag, hlt, hpc, if_pos] at hc
    simp only [sentFlag, setPr_wlock, setPr_pr, hlt, if_pos, reduceCtorEq, if_false]
    exact hc
  | pUnlock t hpc =>
    have hlt := hold (t := t) (by simp only [holds, hpc])
    refine ⟨lock_setPr hl t _ _ (.inr (.inr ⟨rfl, hlt, rfl⟩)), ?_, hw⟩
    simp only [sentFlag, hlt, hpc, reduceCtorEq, if_false] at hc
    exact hc
  | eRecvNone he hch => simp [gotFlag, chanFlag, he, hch] at hc
  | eKeyMain k ks he hk =>
    cases k <;> exact inv2_frame_epc ⟨hl, hc, hw⟩ rfl rfl rfl rfl (by simp [he]) (by simp [keyMain, he]) (by simp [keyMain, he])
  | eKeySub k ks he hk =>
    cases k <;> exact inv2_frame_epc ⟨hl, hc, hw⟩ rfl rfl rfl rfl (by simp [he]) (by simp [keySub, he]) (by simp [keySub, he])
  | eReadByte p he hp =>
    refine inv2_frame ⟨hl, hc, hw⟩ rfl rfl ?_ nofun
    show p + 1 + chanFlag s = s.pipe + gotFlag s + chanFlag s
    simp only [gotFlag, he, hp, reduceCtorEq, if_false, Nat.add_zero]
  | eRecv m he hch =>
    refine inv2_frame ⟨hl, hc, hw⟩ rfl rfl ?_ nofun
    show s.pipe + 0 + chanFlag s = s.pipe + gotFlag s + 0
    simp only [gotFlag, chanFlag, he, hch, Option.isSome_some, if_true]
  | eWake p he hk hp =>
    exact inv2_frame_epc ⟨hl, hc, hw⟩ rfl rfl rfl rfl (by simp [he]) nofun (fun _ => by rw [hp]; exact Nat.le_add_left 1 p)
  | cmdRead | keyWrite _ _ | keyArrive _ _ => exact inv2_frame ⟨hl, hc, hw⟩ rfl rfl rfl hw
  | eStoreTrue _ he _ | eMarkOn he | ePrompt he | eShow _ he | eMarkOff he | eStoreFalse he =>
    exact inv2_frame_epc ⟨hl, hc, hw⟩ rfl rfl rfl rfl (by simp [he]) nofun nofun

/- Where a message of thread `t` can be, as lists of message ids: on the terminal (shown by the
   editor / written directly), in the channel, in the editor's hand (`showing`), in the printer's
   hand on the raw route (`rawSeen`, `locked`) or on the direct route (`cooked`). -/
def shownOf (t : Nat) (out : List Ev) : List Nat :=
  out.filterMap (fun e => match e with
    | .shown m => if m.tid = t then some m.id else none
    | _ => none)
def directOf (t : Nat) (out : List Ev) : List Nat :=
  out.filterMap (fun e => match e with
    | .direct m => if m.tid = t then some m.id else none
    | _ => none)
def chanOf (t : Nat) (s : Sys) : List Nat :=
  match s.chan with
  | some m => if m.tid = t then [m.id] else []
  | none => []
def edHandOf (t : Nat) (s : Sys) : List Nat :=
  match s.epc with
  | .showing m => if m.tid = t then [m.id] else []
  | _ => []
def rawHandOf (p : Printer) : List Nat :=
  match p.pc with
  | .rawSeen id | .locked id => [id]
  | _ => []
def cookedHandOf (p : Printer) : List Nat :=
  match p.pc with
  | .cooked id => [id]
  | _ => []
/-- thread `t`'s messages on the channel route, in the order they move: shown, in the editor's
    hand, in the channel, in the printer's hand -/
def chanSeq (t : Nat) (s : Sys) : List Nat :=
  shownOf t s.out ++ edHandOf t s ++ chanOf t s ++ rawHandOf (s.pr t)
/-- thread `t`'s messages on the direct route: written, in the printer's hand -/
def directSeq (t : Nat) (s : Sys) : List Nat :=
  directOf t s.out ++ cookedHandOf (s.pr t)

theorem shownOf_append (t : Nat) (a b : List Ev) : shownOf t (a ++ b) = shownOf t a ++ shownOf t b := by
  simp [shownOf, List.filterMap_append]
theorem directOf_append (t : Nat) (a b : List Ev) : directOf t (a ++ b) = directOf t a ++ directOf t b := by
  simp [directOf, List.filterMap_append]

/-- what one step does to the sequences of thread `t`: nothing, or the thread started a new `print`
    (the message enters the end of one of the two routes and of `hist`) -/
inductive Effect (t : Nat) (s s' : Sys) : Prop
  | same : chanSeq t s' = chanSeq t s → directSeq t s' = directSeq t s → (s'.pr t).hist = (s.pr t).hist → Effect t s s'
  | viaChan (id : Nat) : chanSeq t s' = chanSeq t s ++ [id] → directSeq t s' = directSeq t s →
      (s'.pr t).hist = (s.pr t).hist ++ [id] → Effect t s s'
  | viaDirect (id : Nat) : chanSeq t s' = chanSeq t s → directSeq t s' = directSeq t s ++ [id] →
      (s'.pr t).hist = (s.pr t).hist ++ [id] → Effect t s s'

theorem Effect.frame {t : Nat} {s s' : Sys} (hpr : s'.pr t = s.pr t)
    (hs : shownOf t s'.out ++ edHandOf t s' ++ chanOf t s' = shownOf t s.out ++ edHandOf t s ++ chanOf t s)
    (hd : directOf t s'.out = directOf t s.out) : Effect t s s' :=
  .same (by simp only [chanSeq, hs, hpr]) (by simp only [directSeq, hd, hpr]) (by rw [hpr])

attribute [local simp] chanSeq directSeq edHandOf chanOf rawHandOf cookedHandOf in
theorem effect_step {s s' : Sys} (l : Label) (h : step s l = some s') (t' : Nat) : Effect t' s s' := by
  by_cases ht : l.thread = some t'
  · -- a step of thread `t'` itself: its hands are read off its program counter
    have hist : ∀ (s : Sys) (p : Printer), ((s.setPr t' p).pr t').hist = p.hist := fun _ _ => by rw [setPr_pr, if_pos rfl]
    cases step_iff.1 h with
    | pLoad t id q hpc hq =>
      cases ht
      cases hr : s.raw
      · exact .viaDirect id (by simp [hpc]) (by simp [hpc]) (hist ..)
      · exact .viaChan id (by simp [hpc]) (by simp [hpc]) (hist ..)
    | pDirect t id hpc =>
      cases ht; exact .same (by simp [shownOf, hpc]) (by simp [directOf, hpc]) (hist ..)
    | pSend t id hpc hch => cases ht; exact .same (by simp [hpc, hch]) (by simp [hpc]) (hist ..)
    | issue t id => cases ht; exact .same (by simp) (by simp) (hist ..)
    | pLock t _ hpc | pByte t hpc | pUnlock t hpc =>
      cases ht; exact .same (by simp [hpc]) (by simp [hpc]) (hist ..)
    | _ => cases ht
  · have hpr := step_pr_other ht h
    cases step_iff.1 h with
    | pDirect t id hpc =>
      have ht2 : ¬ t = t' := fun e => ht (congrArg some e)
      exact .frame hpr (by simp [shownOf]) (by simp [directOf, ht2])
    | pSend t id hpc hch =>
      have ht2 : ¬ t = t' := fun e => ht (congrArg some e)
      exact .frame hpr (by simp [ht2, hch]) rfl
    | eKeyMain k ks he hk => cases k <;> exact .frame hpr (by simp [keyMain, he]) rfl
    | eKeySub k ks he hk => cases k <;> exact .frame hpr (by simp [keySub, he]) rfl
    | eRecv m he hch => exact .frame hpr (by simp [he, hch]) rfl
    | eShow m he =>
      refine .frame hpr ?_ (by simp [directOf])
      by_cases hm : m.tid = t' <;> simp [shownOf, he, hm]
    | issue | pLoad | pLock | pByte | pUnlock | cmdRead | keyWrite | keyArrive => exact .frame hpr rfl rfl
    | eStoreTrue _ he _ | eWake _ he _ _ | eReadByte _ he _ | eRecvNone he _ | eStoreFalse he =>
      exact .frame hpr (by simp [he]) rfl
    | eMarkOn he | ePrompt he | eMarkOff he => exact .frame hpr (by simp [he, shownOf]) (by simp [directOf])

/-- the sequence invariant: per thread, both routes are sub-sequences of the call history, and
    together they contain every started message exactly as often as it was started -/
structure Inv1 (s : Sys) : Prop where
  chanSub : ∀ t, (chanSeq t s).Sublist (s.pr t).hist
  directSub : ∀ t, (directSeq t s).Sublist (s.pr t).hist
  count : ∀ t a, (chanSeq t s).count a + (directSeq t s).count a = ((s.pr t).hist).count a

theorem inv1_init : Inv1 init := ⟨fun _ => .slnil, fun _ => .slnil, fun _ _ => rfl⟩

theorem inv1_step {s s' : Sys} (l : Label) (hi : Inv1 s) (h : step s l = some s') : Inv1 s' := by
  have keep : ∀ t, (chanSeq t s').Sublist (s'.pr t).hist ∧ (directSeq t s').Sublist (s'.pr t).hist ∧
      ∀ a, (chanSeq t s').count a + (directSeq t s').count a = ((s'.pr t).hist).count a := by
    intro t
    have h3 := hi.count t
    cases effect_step l h t with
    | same e1 e2 e3 => rw [e1, e2, e3]; exact ⟨hi.chanSub t, hi.directSub t, h3⟩
    | viaChan id e1 e2 e3 =>
      rw [e1, e2, e3]
      exact ⟨(hi.chanSub t).append (.refl _), (hi.directSub t).trans (List.sublist_append_left ..),
        fun a => by have := h3 a; simp only [List.count_append]; omega⟩
    | viaDirect id e1 e2 e3 =>
      rw [e1, e2, e3]
      exact ⟨(hi.chanSub t).trans (List.sublist_append_left ..), (hi.directSub t).append (.refl _),
        fun a => by have := h3 a; simp only [List.count_append]; omega⟩
  exact ⟨fun t => (keep t).1, fun t => (keep t).2.1, fun t => (keep t).2.2⟩

theorem reach_inv {s : Sys} (h : Reach s) : Inv1 s ∧ Inv2 s := by
  induction h with
  | init => exact ⟨inv1_init, inv2_init⟩
  | step l _ hs ih => exact ⟨inv1_step l ih.1 hs, inv2_step l ih.2 hs⟩

theorem reach_run_from {s : Sys} (hs : Reach s) (ls : List Label) (s' : Sys) (h : run s ls = some s') : Reach s' :=
  run_rel (R := fun a b => Reach a → Reach b) (P := fun _ => True) (fun _ => id) (fun f g => g ∘ f)
    (fun _ h r => Reach.step _ r h) ls (fun _ _ => trivial) h hs

/-- a witness state read off an evaluated run -/
theorem reach_of_run_map {α : Type} {ls : List Label} {f : Sys → α} {v : α}
    (h : (run init ls).map f = some v) : ∃ s, Reach s ∧ f s = v := by
  obtain ⟨s, hr, hv⟩ := Option.map_eq_some_iff.1 h
  exact ⟨s, reach_run_from .init ls s hr, hv⟩

end Rl.Printer
