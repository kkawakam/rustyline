/- The raw-mode flag tracks the editing thread's program counter; what the steps of the other threads
   leave to the editing thread; the delivery phase of a message in the channel. -/
import Rl.Printer
import Rl.Lemmas.Printer
namespace Rl.Printer

/-- the shared flag is `true` exactly while the editing thread is between the two flag stores -/
def RawInv (s : Sys) : Prop := s.raw = true ↔ s.epc ≠ .outside

theorem rawInv_init : RawInv init := by simp [RawInv, init]

/-- the labels of the editing thread, as a list (the same set as `Label.isEd`: `mem_edLabels`) -/
def edLabels : List Label :=
  [.eStoreTrue, .eMarkOn, .ePrompt, .eKey, .eWake, .eReadByte, .eRecv, .eShow, .eMarkOff, .eStoreFalse]

/-- the labels of the environment (application and keyboard) -/
def Label.isEnv : Label → Bool
  | .issue _ _ | .cmdRead | .keyWrite _ | .keyArrive => true
  | _ => false

/-- the labels of the editing thread -/
def Label.isEd : Label → Bool
  | .eStoreTrue | .eMarkOn | .ePrompt | .eKey | .eWake | .eReadByte | .eRecv | .eShow | .eMarkOff
  | .eStoreFalse => true
  | _ => false

theorem mem_edLabels (l : Label) : l ∈ edLabels ↔ l.isEd = true := by
  cases l <;> simp [edLabels, Label.isEd]

theorem step_notEd {s s' : Sys} {l : Label} (hl : l.isEd = false) (h : step s l = some s') :
    s'.epc = s.epc ∧ s'.raw = s.raw ∧ s.pipe ≤ s'.pipe ∧ (s.chan.isSome = true → s'.chan = s.chan) := by
  cases step_iff.1 h
  case pSend _ _ _ hc => exact ⟨rfl, rfl, Nat.le_refl _, fun hs => by rw [hc] at hs; cases hs⟩
  case pByte => exact ⟨rfl, rfl, Nat.le_succ _, fun _ => rfl⟩
  all_goals first | exact ⟨rfl, rfl, Nat.le_refl _, fun _ => rfl⟩ | cases hl

theorem rawInv_step {s s' : Sys} (l : Label) (hi : RawInv s) (h : step s l = some s') : RawInv s' := by
  unfold RawInv at hi ⊢
  by_cases hl : l.isEd = false
  · obtain ⟨he, hr, _⟩ := step_notEd hl h
    rw [he, hr]; exact hi
  · -- between the stores the flag is not written and the program counter stays inside the read
    have hin : ∀ {e : EPc}, s.epc = e → e ≠ .outside → s.raw = true := fun he hne => hi.2 (he ▸ hne)
    cases step_iff.1 h with
    | eStoreTrue => exact ⟨fun _ => nofun, fun _ => rfl⟩
    | eStoreFalse => exact ⟨nofun, fun h => absurd rfl h⟩
    | eKeyMain k _ he => cases k <;> exact ⟨fun _ => by simp [keyMain, he], fun _ => hin he nofun⟩
    | eKeySub k _ he => cases k <;> exact ⟨fun _ => by simp [keySub, he], fun _ => hin he nofun⟩
    | eMarkOn he | ePrompt he | eWake _ he | eReadByte _ he | eRecv _ he | eRecvNone he | eShow _ he | eMarkOff he =>
      exact ⟨fun _ => nofun, fun _ => hin he nofun⟩
    | _ => exact absurd rfl hl

theorem reach_rawInv {s : Sys} (h : Reach s) : RawInv s := by
  induction h with
  | init => exact rawInv_init
  | step l _ hs ih => exact rawInv_step l ih hs

/-- the delivery phase of message `m`: the reader is in the main loop with no key pending, the
    message is in the channel with its wake-up byte in the pipe, or the reader is already on its way
    (`select` returned / byte read / message in hand) -/
def Deliv (m : Msg) (s : Sys) : Prop :=
  (s.epc = .waiting ∧ s.keys = [] ∧ 1 ≤ s.pipe ∧ s.chan = some m) ∨
  (s.epc = .woken ∧ 1 ≤ s.pipe ∧ s.chan = some m) ∨
  (s.epc = .gotByte ∧ s.chan = some m) ∨
  s.epc = .showing m

/-- editor steps still needed before `m` is on the terminal -/
def dphase (s : Sys) : Nat :=
  match s.epc with
  | .waiting => 4 | .woken => 3 | .gotByte => 2 | .showing _ => 1 | _ => 0

theorem dphase_le (s : Sys) : dphase s ≤ 4 := by unfold dphase; split <;> omega

theorem Deliv.at {m : Msg} {s : Sys} (hd : Deliv m s) :
    match s.epc with
    | .waiting => s.keys = [] ∧ 1 ≤ s.pipe ∧ s.chan = some m
    | .woken => 1 ≤ s.pipe ∧ s.chan = some m
    | .gotByte => s.chan = some m
    | .showing m' => m' = m
    | _ => False := by
  rcases hd with ⟨he, h⟩ | ⟨he, h⟩ | ⟨he, h⟩ | he <;> rw [he] <;> first | exact h | rfl

theorem out_run (ls : List Label) (s s' : Sys) (h : run s ls = some s') : ∃ ev, s'.out = s.out ++ ev :=
  run_rel (R := fun a b => ∃ ev, b.out = a.out ++ ev) (P := fun _ => True)
    (fun _ => ⟨[], (List.append_nil _).symm⟩)
    (fun ⟨e1, h1⟩ ⟨e2, h2⟩ => ⟨e1 ++ e2, by rw [h2, h1, List.append_assoc]⟩)
    (fun _ h => out_step h) ls (fun _ _ => trivial) h

/-- one step in the delivery phase: the phase persists (an editor step moves it one stage on), or
    the step is `eShow` and puts `m` on the terminal -/
theorem deliv_step {m : Msg} {s s' : Sys} (l : Label) (hd : Deliv m s) (hk : l ≠ .keyArrive)
    (h : step s l = some s') :
    (Deliv m s' ∧ dphase s' + (if l.isEd then 1 else 0) = dphase s) ∨
    (l = .eShow ∧ s'.out = s.out ++ [.shown m] ∧ s'.epc = .waiting ∧ s'.chan = s.chan ∧ s'.line = s.line) := by
  by_cases hl : l.isEd = false
  · -- another thread: the reader stays where it is, pipe and channel are not emptied
    obtain ⟨he, _, hp, hc⟩ := step_notEd hl h
    have hks := (step_text (fun e => by rw [e] at hl; cases hl) h).2.2 hk
    have hc' : s.chan = some m → s'.chan = some m := fun hm => (hc (by rw [hm]; rfl)).trans hm
    refine .inl ⟨?_, by simp only [dphase, he, hl, Bool.false_eq_true, if_false, Nat.add_zero]⟩
    rcases hd with ⟨h1, h2, h3, h4⟩ | ⟨h1, h3, h4⟩ | ⟨h1, h4⟩ | h1
    · exact .inl ⟨he.trans h1, hks.trans h2, Nat.le_trans h3 hp, hc' h4⟩
    · exact .inr (.inl ⟨he.trans h1, Nat.le_trans h3 hp, hc' h4⟩)
    · exact .inr (.inr (.inl ⟨he.trans h1, hc' h4⟩))
    · exact .inr (.inr (.inr (he.trans h1)))
  · -- the editing thread: exactly the next delivery step is enabled
    have hat := hd.at
    cases step_iff.1 h with
    | eWake p he _ hp =>
      rw [he] at hat
      exact .inl ⟨.inr (.inl ⟨rfl, hp ▸ Nat.le_add_left 1 p, hat.2.2⟩), by simp [dphase, he, Label.isEd]⟩
    | eReadByte p he hp =>
      rw [he] at hat
      exact .inl ⟨.inr (.inr (.inl ⟨rfl, hat.2⟩)), by simp [dphase, he, Label.isEd]⟩
    | eRecv m' he hc =>
      rw [he] at hat
      cases hc.symm.trans hat
      exact .inl ⟨.inr (.inr (.inr rfl)), by simp [dphase, he, Label.isEd]⟩
    | eRecvNone he hc => rw [he] at hat; cases hc.symm.trans hat
    | eShow m' he => rw [he] at hat; cases hat; exact .inr ⟨rfl, rfl, rfl, rfl, rfl⟩
    | eKeyMain _ _ he hk' => rw [he] at hat; cases hk'.symm.trans hat.1
    | eKeySub _ _ he | eStoreTrue _ he | eMarkOn he | ePrompt he | eMarkOff he | eStoreFalse he =>
      rw [he] at hat; exact hat.elim
    | _ => exact absurd rfl hl

theorem deliv_run {m : Msg} : ∀ (ls : List Label) (s s' : Sys), Deliv m s → Label.keyArrive ∉ ls →
    run s ls = some s' →
    (Deliv m s' ∧ dphase s' + (ls.filter Label.isEd).length = dphase s) ∨
      Ev.shown m ∈ s'.out.drop s.out.length
  | [], s, s', hd, _, h => by cases h; exact .inl ⟨hd, rfl⟩
  | l :: ls, s, s', hd, hk, h => by
    obtain ⟨s1, hl, h⟩ := run_cons.1 h
    rcases deliv_step l hd (fun e => hk (e ▸ List.mem_cons_self ..)) hl with ⟨hd1, hph⟩ | ⟨_, ho, _⟩
    · rcases deliv_run ls s1 s' hd1 (fun e => hk (List.mem_cons_of_mem _ e)) h with ⟨hd2, hph2⟩ | hsh
      · refine .inl ⟨hd2, ?_⟩
        rw [← hph, ← hph2, List.filter_cons]
        cases l.isEd <;> simp only [if_true, Bool.false_eq_true, if_false, List.length_cons] <;> omega
      · obtain ⟨e1, he1⟩ := out_step hl
        rw [he1, List.length_append, ← List.drop_drop] at hsh
        exact .inr (List.mem_of_mem_drop hsh)
    · obtain ⟨e2, he2⟩ := out_run ls s1 s' h
      rw [he2, ho, List.append_assoc, List.drop_left]
      exact .inr (List.mem_append_left _ (List.mem_cons_self ..))

theorem deliv_enabled {m : Msg} {s : Sys} (hd : Deliv m s) :
    ∃ e, e.isEd = true ∧ (step s e).isSome = true := by
  rcases hd with ⟨he, hk, hp, hc⟩ | ⟨he, hp, hc⟩ | ⟨he, hc⟩ | he
  · obtain ⟨p, hp⟩ := Nat.exists_eq_add_one.2 hp
    exact ⟨.eWake, rfl, (Step.eWake p he hk hp).enabled⟩
  · obtain ⟨p, hp⟩ := Nat.exists_eq_add_one.2 hp
    exact ⟨.eReadByte, rfl, (Step.eReadByte p he hp).enabled⟩
  · exact ⟨.eRecv, rfl, (Step.eRecv m he hc).enabled⟩
  · exact ⟨.eShow, rfl, (Step.eShow m he).enabled⟩

/-- the editing thread has a step unless it sleeps: in `select` with nothing to read, in a sub-loop's
    `read` with no key, or outside a read that nobody has requested (`hw`: `select` reported the pipe
    readable only when it was) -/
theorem ed_enabled_or (s : Sys) (hw : s.epc = .woken → 1 ≤ s.pipe) :
    (∃ e, e.isEd = true ∧ (step s e).isSome = true) ∨ s.blocked = true ∨
      (s.epc = .sub ∧ s.keys = []) ∨ (s.epc = .outside ∧ s.reads = 0) := by
  have en : ∀ {e : Label} {s' : Sys}, Step s e s' → e.isEd = true →
      ∃ e, e.isEd = true ∧ (step s e).isSome = true :=
    fun hs he => ⟨_, he, hs.enabled⟩
  cases he : s.epc with
  | outside =>
    cases hr : s.reads with
    | zero => exact .inr (.inr (.inr ⟨rfl, rfl⟩))
    | succ r => exact .inl (en (.eStoreTrue r he hr) rfl)
  | enabling => exact .inl (en (.eMarkOn he) rfl)
  | drawing => exact .inl (en (.ePrompt he) rfl)
  | woken =>
    obtain ⟨p, hp⟩ := Nat.exists_eq_add_one.2 (hw he)
    exact .inl (en (.eReadByte p he hp) rfl)
  | gotByte =>
    cases hc : s.chan with
    | none => exact .inl (en (.eRecvNone he hc) rfl)
    | some m => exact .inl (en (.eRecv m he hc) rfl)
  | showing m => exact .inl (en (.eShow m he) rfl)
  | finishing => exact .inl (en (.eMarkOff he) rfl)
  | disabling => exact .inl (en (.eStoreFalse he) rfl)
  | sub =>
    cases hk : s.keys with
    | nil => exact .inr (.inr (.inl ⟨rfl, rfl⟩))
    | cons k ks => exact .inl (en (.eKeySub k ks he hk) rfl)
  | waiting =>
    cases hk : s.keys with
    | cons k ks => exact .inl (en (.eKeyMain k ks he hk) rfl)
    | nil =>
      cases hp : s.pipe with
      | succ p => exact .inl (en (.eWake p he hk hp) rfl)
      | zero => exact .inr (.inl ((blocked_iff s).2 ⟨he, hk, hp⟩))

end Rl.Printer
