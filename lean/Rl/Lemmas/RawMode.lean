/- Helper lemmas for C16: closed forms of `enableRaw` / `disableRaw` on a connected terminal and the
   effect of one suspend/resume round trip. -/
import Rl.RawMode
namespace Rl.RawMode

/-- is bracketed paste actually switched on by `enableRaw` -/
def Cfg.paste (cfg : Cfg) : Bool := cfg.bracketedPaste && cfg.writeOk

theorem Cfg.paste_iff (cfg : Cfg) : cfg.paste = true ↔ cfg.bracketedPaste = true ∧ cfg.writeOk = true :=
  Bool.and_eq_true_iff

/-- the settings in force while the read waits for a key -/
def duringOf (cfg : Cfg) (t : Termios) : Termios := (rawOf cfg.enableSignals (NixTermios.ofLibc t)).getLibc

/-- the terminal after a successful `enableRaw`: raw settings installed, bracketed paste on if
    configured and writable -/
def afterEnable (cfg : Cfg) (t : Term) : Term :=
  { termios := duringOf cfg t.termios,
    log := t.log ++ Eff.setattr (duringOf cfg t.termios) :: (if cfg.paste then [Eff.pasteOn] else []),
    rawFlag := true, connected := true }

/-- the `PosixMode` a successful `enableRaw` returns -/
def modeOf (cfg : Cfg) (t : Term) : Mode := { termios := NixTermios.ofLibc t.termios, ttyOut := cfg.paste }

theorem enableRaw_eq (cfg : Cfg) (t : Term) (hc : t.connected = true) :
    enableRaw cfg t = (some (modeOf cfg t), afterEnable cfg t) := by
  obtain ⟨tm, lg, rf, cn⟩ := t
  obtain ⟨es, bp, wo, ah, hf⟩ := cfg
  cases hc
  cases bp
  · rfl
  · cases wo
    · rfl
    -- the paste-on is appended after the `setattr`
    · exact congrArg (fun l => (some _, Term.mk _ l true true)) (List.append_assoc ..)

theorem enableRaw_disconnected (cfg : Cfg) (t : Term) (hc : t.connected = false) :
    enableRaw cfg t = (none, t) := by
  simp [enableRaw, hc]

theorem enableRaw_some {cfg : Cfg} {t t1 : Term} {m : Mode} (h : enableRaw cfg t = (some m, t1)) :
    t.connected = true ∧ m = modeOf cfg t ∧ t1 = afterEnable cfg t := by
  cases hc : t.connected
  · rw [enableRaw_disconnected cfg t hc] at h
    cases h
  · rw [enableRaw_eq cfg t hc] at h
    cases h
    exact ⟨rfl, rfl, rfl⟩

theorem enableRaw_none (cfg : Cfg) (t t1 : Term) (h : enableRaw cfg t = (none, t1)) : t1 = t := by
  cases hc : t.connected
  · rw [enableRaw_disconnected cfg t hc] at h
    cases h
    rfl
  · rw [enableRaw_eq cfg t hc] at h
    cases h

/-- The body `disableRaw` (`v` = the settings as read, `inner`) and `disableRawTyped` (`v` = the typed
    copies) share: install `v`, then write paste-off if paste-on had been written (`out`). -/
def restoreTo (v : Termios) (out w : Bool) (t : Term) : Bool × Term :=
  match t.setattr v with
  | (false, t) => (false, t)
  | (true, t) =>
    if out then
      match t.write w .pasteOff with
      | (false, t) => (false, t)
      | (true, t) => (true, { t with rawFlag := false })
    else (true, { t with rawFlag := false })

theorem restoreTo_termios (v : Termios) (out w : Bool) (t : Term) (hc : t.connected = true) :
    (restoreTo v out w t).2.termios = v ∧ (restoreTo v out w t).2.connected = true := by
  obtain ⟨tm, lg, rf, cn⟩ := t
  simp only at hc
  subst hc
  cases out <;> cases w <;> exact ⟨rfl, rfl⟩

theorem restoreTo_eq (v : Termios) (out w : Bool) (t : Term) (hc : t.connected = true)
    (hw : out = true → w = true) :
    restoreTo v out w t =
      (true,
       { termios := v, log := t.log ++ Eff.setattr v :: (if out then [Eff.pasteOff] else []),
         rawFlag := false, connected := true }) := by
  obtain ⟨tm, lg, rf, cn⟩ := t
  simp only at hc
  subst hc
  cases out
  · rfl
  · cases hw rfl
    simp [restoreTo, Term.setattr, Term.write]

theorem disableRaw_eq (m : Mode) (w : Bool) (t : Term) (hc : t.connected = true)
    (hw : m.ttyOut = true → w = true) :
    disableRaw m w t =
      (true,
       { termios := m.termios.inner,
         log := t.log ++ Eff.setattr m.termios.inner :: (if m.ttyOut then [Eff.pasteOff] else []),
         rawFlag := false, connected := true }) :=
  restoreTo_eq _ _ w t hc hw

/-- `disableRaw` as the read calls it: with the configuration's `writeOk`, on a mode whose `ttyOut`
    records whether paste-on was written under the same configuration (`modeOf cfg _` is one). -/
theorem disableRaw_paste {cfg : Cfg} {m : Mode} (hm : m.ttyOut = cfg.paste) {t : Term} (hc : t.connected = true) :
    disableRaw m cfg.writeOk t =
      (true,
       { termios := m.termios.inner,
         log := t.log ++ Eff.setattr m.termios.inner :: (if cfg.paste then [Eff.pasteOff] else []),
         rawFlag := false, connected := true }) :=
  hm ▸ disableRaw_eq m _ t hc fun h => ((Cfg.paste_iff cfg).mp (hm ▸ h)).2

theorem disableRaw_termios (m : Mode) (w : Bool) (t : Term) (hc : t.connected = true) :
    (disableRaw m w t).2.termios = m.termios.inner ∧ (disableRaw m w t).2.connected = true :=
  restoreTo_termios _ _ w t hc

theorem disableRawTyped_termios (m : Mode) (w : Bool) (t : Term) (hc : t.connected = true) :
    (disableRawTyped m w t).2.termios = m.termios.getLibc ∧ (disableRawTyped m w t).2.connected = true :=
  restoreTo_termios _ _ w t hc

theorem switches_append (a b : List Eff) : switches (a ++ b) = switches a ++ switches b :=
  List.filter_append ..

/-- the paste switches one suspend/resume writes (`p`: bracketed paste is on) -/
def roundTrip (p : Bool) : List Eff := if p then [Eff.pasteOff, Eff.pasteOn] else []

theorem suspendResume_eq (cfg : Cfg) {m : Mode} (hm : m.ttyOut = cfg.paste) (s : Suspend) (t : Term)
    (hc : t.connected = true) :
    ∃ t', suspendResume cfg m s t = (some (), t') ∧
      t'.connected = true ∧ ∃ X, t'.log = t.log ++ X ∧ switches X = roundTrip cfg.paste := by
  unfold suspendResume
  rw [disableRaw_paste hm hc]
  cases s.env <;>
  · simp only [if_true]
    rw [enableRaw_eq _ _ rfl]
    refine ⟨_, rfl, rfl, _, List.append_assoc .., ?_⟩
    cases cfg.paste <;> rfl

theorem bv_or_and (a b k : BitVec 32) : (a ||| b) &&& k = (a &&& k) ||| (b &&& k) := by
  ext i; simp [Bool.and_or_distrib_right]

theorem masked_or_and (x m s k : BitVec 32) (h : m &&& k = 0) : ((x &&& m) ||| s) &&& k = s &&& k := by
  rw [bv_or_and, BitVec.and_assoc, h]; simp

theorem masked_and (x m k : BitVec 32) (h : m &&& k = 0) : (x &&& m) &&& k = 0 := by
  rw [BitVec.and_assoc, h]; simp

theorem and_and_not (x k m : BitVec 32) : (x &&& k) &&& ~~~m = x &&& ~~~(m ||| ~~~k) := by
  rw [BitVec.not_or, BitVec.not_not, BitVec.and_assoc, BitVec.and_comm k]

end Rl.RawMode
