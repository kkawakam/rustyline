/- Helper definitions and lemmas for C16: whole sessions (several reads on one editor, the application
   changing the terminal settings and the editor's configuration between them), and what the suspend
   loop of `readlineEdit` does to the terminal. -/
import Rl.RawMode
import Rl.Lemmas.RawMode
namespace Rl.RawMode

/-- one step of an application's session with one editor -/
structure Step where
  /-- settings the application (or a program it ran) installs with `tcsetattr` before this read -/
  app : Option Termios := none
  /-- the editor's configuration during this read (`Editor::set_*` between reads) -/
  cfg : Cfg
  sc : Script
deriving DecidableEq, Repr

/-- the application's own `tcsetattr` between two reads -/
def appSet (v : Option Termios) (t : Term) : Term :=
  match v with
  | none => t
  | some v => (t.setattr v).2

/-- A session: for every read the pair (settings in force when the read starts, settings in force
    when it has ended), and the terminal at the end. -/
def session : List Step → Term → List (Termios × Termios) × Term
  | [], t => ([], t)
  | s :: rest, t =>
    let t0 := appSet s.app t
    let t1 := (readlineWith s.cfg s.sc t0).2
    let r := session rest t1
    ((t0.termios, t1.termios) :: r.1, r.2)

/-- the settings the application installed last (those found, if it never installed any) -/
def lastSet : List Step → Termios → Termios
  | [], cur => cur
  | s :: rest, cur => lastSet rest (s.app.getD cur)

/-- the paste switches one read writes -/
def pasteBlock (s : Step) : List Eff :=
  if s.cfg.paste then
    Eff.pasteOn :: (List.replicate s.sc.suspends.length [Eff.pasteOff, Eff.pasteOn]).flatten ++ [Eff.pasteOff]
  else []

theorem appSet_connected (v : Option Termios) (t : Term) (hc : t.connected = true) :
    (appSet v t).connected = true ∧ (appSet v t).termios = v.getD t.termios ∧
    ∃ A, (appSet v t).log = t.log ++ A ∧ switches A = [] := by
  cases v with
  | none => exact ⟨hc, rfl, [], by simp [appSet], rfl⟩
  | some v =>
    refine ⟨?_, ?_, [Eff.setattr v], ?_, rfl⟩ <;> simp [appSet, Term.setattr, hc]

theorem pasteBlock_balanced (s : Step) :
    (pasteBlock s).count Eff.pasteOn = (pasteBlock s).count Eff.pasteOff := by
  unfold pasteBlock
  cases s.cfg.paste
  · rfl
  · simp only [if_true, List.count_cons, List.count_append, List.count_flatten, List.map_replicate,
      List.sum_replicate_nat, List.count_nil]
    rfl

theorem blocks_balanced (steps : List Step) :
    ((steps.map pasteBlock).flatten).count Eff.pasteOn
      = ((steps.map pasteBlock).flatten).count Eff.pasteOff := by
  induction steps with
  | nil => rfl
  | cons s rest ih =>
    simp only [List.map_cons, List.flatten_cons, List.count_append, ih, pasteBlock_balanced]

theorem pasteBlock_last (s : Step) :
    pasteBlock s = [] ∨ (pasteBlock s).getLast? = some Eff.pasteOff := by
  unfold pasteBlock
  cases s.cfg.paste
  · left; rfl
  · right; exact List.getLast?_concat

theorem blocks_last (steps : List Step) :
    (steps.map pasteBlock).flatten = [] ∨
      ((steps.map pasteBlock).flatten).getLast? = some Eff.pasteOff := by
  induction steps with
  | nil => left; rfl
  | cons s rest ih =>
    simp only [List.map_cons, List.flatten_cons]
    rcases ih with h | h
    · rw [h, List.append_nil]
      exact pasteBlock_last s
    · right
      rw [List.getLast?_append, h]; rfl

/-- how `readline_edit` leaves for each exit kind -/
def exitFlow : Exit → Flow
  | .line => .ret .line
  | .eof => .ret .eof
  | .interrupt => .ret .interrupted
  | .invalidInput => .ret .invalidData
  | .ioError => .ret .io
  | .helperError => .ret .helperErr
  | .helperPanic _ => .unwind
  | .hangup => .ret .io

theorem readlineEdit_nil (cfg : Cfg) (m : Mode) (exit : Exit) (t : Term) :
    readlineEdit cfg m [] exit t =
      (exitFlow exit, if exit = .hangup then { t with connected := false } else t) := by
  cases exit <;> rfl

/-- The suspends only move the terminal along: a read with suspends ends as the same read without
    them would from a later state, still connected, each round trip having written `roundTrip`. -/
theorem readlineEdit_suspends (cfg : Cfg) {m : Mode} (hm : m.ttyOut = cfg.paste) (ss : List Suspend)
    (exit : Exit) :
    ∀ t : Term, t.connected = true →
      ∃ t', readlineEdit cfg m ss exit t = readlineEdit cfg m [] exit t' ∧ t'.connected = true ∧
        ∃ X, t'.log = t.log ++ X ∧
          switches X = (List.replicate ss.length (roundTrip cfg.paste)).flatten := by
  induction ss with
  | nil => exact fun t hc => ⟨t, rfl, hc, [], (List.append_nil _).symm, rfl⟩
  | cons s rest ih =>
    intro t hc
    obtain ⟨t1, h1, hc1, X, hX, hsw⟩ := suspendResume_eq cfg hm s t hc
    obtain ⟨t', he, hc', Y, hY, hswY⟩ := ih t1 hc1
    refine ⟨t', ?_, hc', X ++ Y, ?_, ?_⟩
    · rw [readlineEdit, h1]
      exact he
    · rw [hY, hX, List.append_assoc]
    · rw [switches_append, hsw, hswY]
      rfl

/-- `readlineWith` once the enable has succeeded: the outcome of `readlineEdit` (but for the `?` after
    `add_history_entry`), and the guard's drop applied to the state `readlineEdit` ended in. -/
theorem readlineWith_some {cfg : Cfg} {t t1 : Term} {mode : Mode} (he : enableRaw cfg t = (some mode, t1))
    (sc : Script) :
    readlineWith cfg sc t =
      (match (readlineEdit cfg mode sc.suspends sc.exit t1).1 with
        | .unwind => .unwind
        | .ret u =>
          if cfg.autoAddHistory && u == .line && cfg.historyAddFails then .ret .historyErr else .ret u,
       dropGuard cfg mode (readlineEdit cfg mode sc.suspends sc.exit t1).2) := by
  unfold readlineWith
  rw [he]
  simp only
  generalize readlineEdit cfg mode sc.suspends sc.exit t1 = r
  obtain ⟨f, t2⟩ := r
  cases f with
  | unwind => rfl
  | ret u => simp only; split <;> rfl

end Rl.RawMode
