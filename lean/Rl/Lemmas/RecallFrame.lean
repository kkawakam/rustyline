/-
  Frame facts used by the C07 recall theorems: `backup` changes nothing but the saved line, a cursor
  motion run through `editMove` (the common body of the `edit_move_*` functions) changes nothing but
  the edit line (the saved line and the history index stay), and the two whole-buffer motions never
  fail, keep the text and leave the cursor inside it.
-/
import Rl.Editor
import Rl.Lemmas.EditorM
import Rl.Lemmas.EditorOps
namespace Rl
open EM

theorem returns_of_wp {m : EM Unit} {s : Ed} {Q : Unit → Ed → Prop}
    (h : wp m Q (fun _ _ => False) s) : ∃ s', m s = .ok ((), s') ∧ Q () s' := by
  obtain ⟨a, s', h1, h2⟩ := returns_iff_wp.mpr h
  exact ⟨s', h1, h2⟩

section
variable (S : Segmenter) (U : UData) (cfg : EdCfg)

theorem wp_backup_any {s : Ed} {Q : Unit → Ed → Prop} {E : Outcome → Ed → Prop}
    (hq : ∀ sv, Q () { s with saved := sv }) (he : E .panic s) : wp (backup S U) Q E s := by
  unfold wp backup
  cases h : LB.update S U s.line.buf s.line.pos s.saved with
  | error e => exact he
  | ok r => obtain ⟨_, sv, _⟩ := r; exact hq sv

theorem editMove_frame {op : LM Bool} {s : Ed} {r : Bool} {l : LB} {ns : List Notif}
    (h : op s.line = .ok (r, l, ns)) :
    ∃ s', editMove S U cfg op s = .ok ((), s') ∧ s'.line = l ∧ s'.saved = s.saved ∧ s'.histIdx = s.histIdx := by
  have hw : wp (editMove S U cfg op)
      (fun _ s' => s'.line = l ∧ s'.saved = s.saved ∧ s'.histIdx = s.histIdx) (fun _ _ => False) s := by
    unfold editMove
    rw [wp_bind]
    refine wp_lbQuiet h ?_
    split
    · refine wp_moveCursor S U cfg fun s' hc => ?_
      obtain ⟨c1, c2, _, _, c5, _, _⟩ := Ed.core_eq hc
      exact ⟨c1, c2, c5⟩
    · exact ⟨rfl, rfl, rfl⟩
  exact returns_of_wp hw

/-- `op` is total on lines with the cursor inside the text, keeps text and `canGrow`, and leaves the
    cursor inside the text.  `PosOnly` (Lemmas/LineBuffer) says what a motion keeps IF it returns;
    this one adds that it returns and where the cursor can be, which is what a recall needs of the
    motion that follows it. -/
def MotionOK (op : LM Bool) : Prop :=
  ∀ l : LB, l.pos ≤ blen l.buf →
    ∃ r l' ns, op l = .ok (r, l', ns) ∧ l'.buf = l.buf ∧ l'.canGrow = l.canGrow ∧ l'.pos ≤ blen l'.buf

theorem motionOK_moveBufferStart : MotionOK (LB.moveBufferStart S U) := by
  intro l hl
  by_cases hp : 0 < l.pos
  · refine ⟨true, { l with pos := 0 }, [], ?_, rfl, rfl, Nat.zero_le _⟩
    simp [LB.moveBufferStart, hp, bind, LM.bind', LM.get, LM.setPos, pure, LM.pure']
  · refine ⟨false, l, [], ?_, rfl, rfl, hl⟩
    simp [LB.moveBufferStart, hp, bind, LM.bind', LM.get, pure, LM.pure']

theorem motionOK_moveBufferEnd : MotionOK (LB.moveBufferEnd S U) := by
  intro l hl
  by_cases hp : l.pos = blen l.buf
  · refine ⟨false, l, [], ?_, rfl, rfl, hl⟩
    simp [LB.moveBufferEnd, hp, bind, LM.bind', LM.get, pure, LM.pure', LB.len]
  · refine ⟨true, { l with pos := blen l.buf }, [], ?_, rfl, rfl, Nat.le_refl _⟩
    simp [LB.moveBufferEnd, hp, bind, LM.bind', LM.get, LM.setPos, pure, LM.pure', LB.len]

end
end Rl
