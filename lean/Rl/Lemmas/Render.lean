/-
  Lemmas about the byte strings of the renderer (`Rl/Render.lean`) interpreted by the terminal
  (`Rl/Term.lean`): the cursor-motion sequences, `clear_old_rows`, and the composition
  "clear old rows, print prompt ++ line ++ hint from the origin, own newline iff wrap pending, move up,
  CR, move right = the ideal screen with the cursor on the insertion point".
-/
import Rl.Render
import Rl.Lemmas.Term
import Rl.Lemmas.Layout
import Rl.Spec.Screen
namespace Rl

theorem natText_eq (n : Nat) : natText n = Nat.toDigits 10 n := by
  simp [natText]

theorem feed_csiOpen (cw : Char → Nat) (t : Term) (s : Text) (h : t.ps = .ground) :
    t.feed cw ('\x1b' :: '[' :: s) = ({ t with ps := .csi false [] none } : Term).feed cw s := by
  have e1 : t.step cw '\x1b' = { t with ps := .esc } := by
    simp [Term.step, h, isC0Control, Term.control]
  rw [Term.feed_cons, e1]
  rfl

theorem step_final (cw : Char → Nat) (t : Term) (cur : Option Nat) (f : Char)
    (hf : f ≠ '?' ∧ ('0' ≤ f && f ≤ '9') = false ∧ f ≠ ';') :
    ({ t with ps := .csi false [] cur } : Term).step cw f = t.csiFinal false (Term.param [] cur) f := by
  obtain ⟨f1, f2, f3⟩ := hf
  simp only [Term.step, f2]
  simp only [beq_iff_eq, f1, f3, if_false]
  rfl

/-- **`ESC [ <decimal n> f` is the control function `f` with parameter `n`.** -/
theorem feed_csiN (cw : Char → Nat) (t : Term) (n : Nat) (f : Char) (h : t.ps = .ground)
    (hf : f ≠ '?' ∧ ('0' ≤ f && f ≤ '9') = false ∧ f ≠ ';') :
    t.feed cw (csiN n f) = t.csiFinal false [n] f := by
  have hdig : ∀ c ∈ Nat.toDigits 10 n, c.isDigit = true :=
    fun c hc => Nat.isDigit_of_mem_toDigits (by decide) (by decide) hc
  have hval : Nat.ofDigitChars 10 (Nat.toDigits 10 n) 0 = n := Nat.ofDigitChars_ten_toDigits
  rw [csiN, natText_eq]
  cases hds : Nat.toDigits 10 n with
  | nil => exact absurd hds Nat.toDigits_ne_nil
  | cons d ds =>
    rw [hds] at hdig hval
    rw [Nat.ofDigitChars_cons, Nat.mul_comm 10 0] at hval
    show t.feed cw ('\x1b' :: '[' :: d :: (ds ++ [f])) = _
    rw [feed_csiOpen cw t _ h, Term.feed_cons, step_digit cw t false [] none d (hdig d List.mem_cons_self),
      Term.feed_append, feed_digits cw ds (fun c hc => hdig c (List.mem_cons_of_mem _ hc))]
    rw [Option.getD_none, hval, Term.feed_cons, Term.feed_nil]
    exact step_final cw t (some n) f hf

theorem feed_csi0 (cw : Char → Nat) (t : Term) (f : Char) (h : t.ps = .ground)
    (hf : f ≠ '?' ∧ ('0' ≤ f && f ≤ '9') = false ∧ f ≠ ';') :
    t.feed cw ['\x1b', '[', f] = t.csiFinal false [] f := by
  rw [feed_csiOpen cw t _ h]
  exact step_final cw t none f hf

/-- `h1`: the count of `f` defaults to one -/
theorem feed_csi1 (cw : Char → Nat) (t : Term) (n : Nat) (f : Char) (h : t.ps = .ground)
    (hf : f ≠ '?' ∧ ('0' ≤ f && f ≤ '9') = false ∧ f ≠ ';')
    (h1 : t.csiFinal false [] f = t.csiFinal false [1] f) :
    t.feed cw (csi1 n f) = t.csiFinal false [n] f := by
  unfold csi1
  by_cases hn : n = 1
  · subst hn
    rw [if_pos (by decide), feed_csi0 cw t f h hf, h1]
  · rw [if_neg (by simpa using hn)]; exact feed_csiN cw t n f h hf

theorem csiFinal_move (t : Term) (n : Nat) (h : t.ps = .ground) (hn : 0 < n) :
    t.csiFinal false [n] 'A' = { t with cr := t.cr - n, pending := false } ∧
    t.csiFinal false [n] 'B' = { t with cr := t.cr + n, pending := false } ∧
    t.csiFinal false [n] 'C' = { t with cc := min (t.cols - 1) (t.cc + n), pending := false } ∧
    t.csiFinal false [n] 'D' = { t with cc := t.cc - n, pending := false } := by
  cases t; simp at h; subst h
  have : ¬ n = 0 := by omega
  simp [Term.csiFinal, Term.count, this]

theorem feed_clearRow (cw : Char → Nat) (t : Term) (h : t.ps = .ground) :
    t.feed cw clearRow = { t with cc := 0, pending := false, grid := t.grid.eraseLineFrom t.cr 0 } := by
  show (t.step cw '\r').feed cw ['\x1b', '[', 'K'] = _
  rw [step_cr cw t h]
  cases t; simp at h; subst h
  rw [feed_csi0 cw _ 'K' rfl (by decide)]
  simp [Term.csiFinal]

theorem feed_clearRowUp (cw : Char → Nat) (t : Term) (h : t.ps = .ground) :
    t.feed cw clearRowUp =
      { t with cc := 0, pending := false, cr := t.cr - 1, grid := t.grid.eraseLineFrom t.cr 0 } := by
  have : clearRowUp = clearRow ++ ['\x1b', '[', 'A'] := rfl
  rw [this, Term.feed_append, feed_clearRow cw t h]
  cases t; simp at h; subst h
  rw [feed_csi0 cw _ 'A' rfl (by decide)]
  simp [Term.csiFinal, Term.count]

/-- cursor-only facts about a terminal after some bytes: where the cursor is, nothing pending -/
structure CurAt (t : Term) (cols r c : Nat) (bad : Bool) : Prop where
  cols : t.cols = cols
  ps : t.ps = .ground
  cr : t.cr = r
  cc : t.cc = c
  pending : t.pending = false
  bad : t.bad = bad

theorem feed_clearRows (cw : Char → Nat) : ∀ (k : Nat) (t : Term), t.ps = .ground → t.cr = k →
    CurAt (t.feed cw ((List.replicate k clearRowUp).flatten ++ clearRow)) t.cols 0 0 t.bad ∧
    ∀ r c, (t.feed cw ((List.replicate k clearRowUp).flatten ++ clearRow)).grid.get r c =
      if r ≤ k then {} else t.grid.get r c := by
  intro k
  induction k with
  | zero =>
    intro t hps hcr
    simp only [List.replicate_zero, List.flatten_nil, List.nil_append]
    rw [feed_clearRow cw t hps]
    refine ⟨⟨rfl, hps, hcr, rfl, rfl, rfl⟩, ?_⟩
    intro r c
    simp only [Grid.get_eraseLineFrom, hcr]
    by_cases hr : r = 0 <;> simp [hr]
  | succ k ih =>
    intro t hps hcr
    simp only [List.replicate_succ, List.flatten_cons, List.append_assoc]
    rw [Term.feed_append, feed_clearRowUp cw t hps]
    obtain ⟨hat, hcells⟩ := ih
      { t with cc := 0, pending := false, cr := t.cr - 1, grid := t.grid.eraseLineFrom t.cr 0 }
      hps (by simp [hcr])
    refine ⟨hat, ?_⟩
    intro r c
    rw [hcells r c]
    simp only [Grid.get_eraseLineFrom, hcr]
    by_cases h1 : r ≤ k
    · simp [h1, Nat.le_succ_of_le h1]
    · by_cases h2 : r = k + 1
      · simp [h2]
      · have : ¬ r ≤ k + 1 := by omega
        simp [h1, h2, this]

theorem feed_clearOldRows (R : RCfg) (l : Layout) (t : Term) (hps : t.ps = .ground)
    (hcr : t.cr = (onScreen R l.cursor).row)
    (hle : (onScreen R l.cursor).row ≤ (onScreen R l.end_).row) :
    CurAt (t.feed R.cw (clearOldRows R l)) t.cols 0 0 t.bad ∧
    ∀ r c, (t.feed R.cw (clearOldRows R l)).grid.get r c =
      if r ≤ (onScreen R l.end_).row then {} else t.grid.get r c := by
  unfold clearOldRows
  simp only []
  rw [List.append_assoc, Term.feed_append]
  by_cases hm : (onScreen R l.end_).row - (onScreen R l.cursor).row > 0
  · rw [if_pos hm, feed_csiN R.cw t _ 'B' hps (by decide), (csiFinal_move t _ hps hm).2.1]
    exact feed_clearRows R.cw _
      { t with cr := t.cr + ((onScreen R l.end_).row - (onScreen R l.cursor).row), pending := false }
      hps (by simp only []; omega)
  · rw [if_neg hm, Term.feed_nil]
    exact feed_clearRows R.cw _ t hps (by omega)

/-- the bytes `b` take the cursor from `(r, c)`, no wrap pending, to `(r', c')` and change nothing else -/
def Moves (cw : Char → Nat) (cols : Nat) (b : Text) (r c r' c' : Nat) : Prop :=
  ∀ {t : Term} {bad : Bool}, CurAt t cols r c bad →
    CurAt (t.feed cw b) cols r' c' bad ∧ (t.feed cw b).grid = t.grid

section Moves
variable {cw : Char → Nat} {cols r c r' c' : Nat}

theorem Moves.nil (hr : r' = r) (hc : c' = c) : Moves cw cols [] r c r' c' := by
  subst hr hc
  exact fun h => ⟨h, rfl⟩

theorem Moves.append {b1 b2 : Text} {r1 c1 : Nat} (h1 : Moves cw cols b1 r c r1 c1)
    (h2 : Moves cw cols b2 r1 c1 r' c') : Moves cw cols (b1 ++ b2) r c r' c' := by
  intro t bad h
  obtain ⟨a1, g1⟩ := h1 h
  obtain ⟨a2, g2⟩ := h2 a1
  rw [Term.feed_append]
  exact ⟨a2, g2.trans g1⟩

theorem Moves.ite {p : Prop} [Decidable p] {b1 b2 : Text} (h1 : p → Moves cw cols b1 r c r' c')
    (h2 : ¬ p → Moves cw cols b2 r c r' c') : Moves cw cols (if p then b1 else b2) r c r' c' := by
  split
  · exact h1 ‹_›
  · exact h2 ‹_›

theorem moves_cr : Moves cw cols ['\r'] r c r 0 := by
  intro t bad h
  rw [Term.feed_cons, Term.feed_nil, step_cr cw t h.ps]
  exact ⟨⟨h.cols, h.ps, h.cr, rfl, rfl, h.bad⟩, rfl⟩

/- the four motions, for either spelling `b` of the sequence (`csiN n f`, `csi1 n f`) -/
variable {b : Text} {n : Nat}

theorem moves_up (hb : ∀ t : Term, t.ps = .ground → t.feed cw b = t.csiFinal false [n] 'A') (hn : 0 < n)
    (hr : r' = r - n) : Moves cw cols b r c r' c := by
  intro t bad h
  rw [hb t h.ps, (csiFinal_move t n h.ps hn).1]
  exact ⟨⟨h.cols, h.ps, by rw [hr, ← h.cr], h.cc, rfl, h.bad⟩, rfl⟩

theorem moves_down (hb : ∀ t : Term, t.ps = .ground → t.feed cw b = t.csiFinal false [n] 'B') (hn : 0 < n)
    (hr : r' = r + n) : Moves cw cols b r c r' c := by
  intro t bad h
  rw [hb t h.ps, (csiFinal_move t n h.ps hn).2.1]
  exact ⟨⟨h.cols, h.ps, by rw [hr, ← h.cr], h.cc, rfl, h.bad⟩, rfl⟩

theorem moves_right (hb : ∀ t : Term, t.ps = .ground → t.feed cw b = t.csiFinal false [n] 'C') (hn : 0 < n)
    (hc : c' = c + n) (hlt : c' < cols) : Moves cw cols b r c r c' := by
  intro t bad h
  rw [hb t h.ps, (csiFinal_move t n h.ps hn).2.2.1]
  refine ⟨⟨h.cols, h.ps, h.cr, ?_, rfl, h.bad⟩, rfl⟩
  show min (t.cols - 1) (t.cc + n) = c'
  rw [h.cols, h.cc]; omega

theorem moves_left (hb : ∀ t : Term, t.ps = .ground → t.feed cw b = t.csiFinal false [n] 'D') (hn : 0 < n)
    (hc : c' = c - n) : Moves cw cols b r c r c' := by
  intro t bad h
  rw [hb t h.ps, (csiFinal_move t n h.ps hn).2.2.2]
  exact ⟨⟨h.cols, h.ps, h.cr, by rw [hc, ← h.cc], rfl, h.bad⟩, rfl⟩

end Moves

/-! ### the tail of `refresh_line`: own newline, up, CR, right -/

def refreshTail (R : RCfg) (E C : Pos) : Text :=
  (if E.col ≥ R.cols then ['\n'] else []) ++
  (if (onScreen R E).row - (onScreen R C).row > 0 then csiN ((onScreen R E).row - (onScreen R C).row) 'A' else []) ++
  ['\r'] ++
  (if (onScreen R C).col > 0 then csiN (onScreen R C).col 'C' else [])

theorem onScreen_col_lt (R : RCfg) (p : Pos) (hc : 0 < R.cols) : (onScreen R p).col < R.cols := by
  unfold onScreen; split
  · exact hc
  · omega

theorem feed_refreshTail (R : RCfg) (hc : 2 ≤ R.cols) (t : Term) (E C : Pos) (ht : Tracks R E t)
    (hle : (onScreen R C).row ≤ (onScreen R E).row) :
    CurAt (t.feed R.cw (refreshTail R E C)) R.cols (onScreen R C).row (onScreen R C).col t.bad ∧
    (t.feed R.cw (refreshTail R E C)).grid = t.grid := by
  obtain ⟨hcols, hps, hrow, hcase⟩ := ht
  unfold refreshTail
  rw [List.append_assoc, List.append_assoc, Term.feed_append]
  -- own newline: afterwards the cursor is on the cell of `E`, no wrap pending
  have hA : CurAt (t.feed R.cw (if E.col ≥ R.cols then ['\n'] else [])) R.cols (onScreen R E).row
      (onScreen R E).col t.bad ∧ (t.feed R.cw (if E.col ≥ R.cols then ['\n'] else [])).grid = t.grid := by
    by_cases hE : E.col ≥ R.cols
    · rw [if_pos hE]
      have e : t.feed R.cw ['\n'] = { t with cr := t.cr + 1, cc := 0, pending := false } :=
        step_newline R.cw t hps
      have ho : onScreen R E = { col := 0, row := E.row + 1 } := by simp [onScreen, hE]
      rw [e, ho]
      exact ⟨⟨hcols, hps, by simp [hrow], rfl, rfl, rfl⟩, rfl⟩
    · rw [if_neg hE, Term.feed_nil]
      have ho : onScreen R E = E := by simp [onScreen, hE]
      rw [ho]
      rcases hcase with ⟨_, h2, h3⟩ | ⟨h1, _, _⟩
      · exact ⟨⟨hcols, hps, hrow, h2, h3, rfl⟩, rfl⟩
      · omega
  have hlt := onScreen_col_lt R C (by omega)
  rw [← hA.2]
  exact Moves.append (r1 := (onScreen R C).row) (c1 := (onScreen R E).col)
    (Moves.ite (fun hu => moves_up (fun t h => feed_csiN R.cw t _ 'A' h (by decide)) hu (by omega))
      fun _ => Moves.nil (by omega) rfl)
    (Moves.append moves_cr
      (Moves.ite (fun hr => moves_right (fun t h => feed_csiN R.cw t _ 'C' h (by decide)) hr (by omega) hlt)
        fun _ => Moves.nil rfl (by omega))) hA.1

theorem blank_tracks (R : RCfg) (hc : 2 ≤ R.cols) : Tracks R {} (Term.blank R.cols) :=
  ⟨rfl, rfl, rfl, Or.inl ⟨by show 0 < R.cols; omega, rfl, rfl⟩⟩

theorem tracks_unique {R : RCfg} {p q : Pos} {t : Term} (hp : Tracks R p t) (hq : Tracks R q t) : p = q := by
  obtain ⟨_, _, r1, c1⟩ := hp
  obtain ⟨_, _, r2, c2⟩ := hq
  cases p; cases q
  simp only [Pos.mk.injEq] at *
  rcases c1 with ⟨a1, a2, a3⟩ | ⟨a1, a2, a3⟩ <;> rcases c2 with ⟨b1, b2, b3⟩ | ⟨b1, b2, b3⟩
  · omega
  · rw [a3] at b3; cases b3
  · rw [a3] at b3; cases b3
  · omega

theorem Tracks.not_pending {R : RCfg} {p : Pos} {t : Term} (h : Tracks R p t) (hlt : p.col < R.cols) :
    t.pending = false := by
  rcases h.2.2.2 with ⟨_, _, x⟩ | ⟨x, _, _⟩
  · exact x
  · omega

/-- the on-screen cell of a tracked position is the terminal's insertion point -/
theorem tracks_onScreen {R : RCfg} {p : Pos} {t : Term} (h : Tracks R p t) :
    onScreen R p = if t.pending then { col := 0, row := t.cr + 1 } else { col := t.cc, row := t.cr } := by
  obtain ⟨_, _, hrow, hcase⟩ := h
  unfold onScreen
  rcases hcase with ⟨h1, h2, h3⟩ | ⟨h1, h2, h3⟩
  · rw [if_neg (by omega), h3, if_neg Bool.false_ne_true, h2, hrow]
  · rw [if_pos (by omega), h3, if_pos rfl, hrow]

theorem tracks_orow {R : RCfg} {p : Pos} {t : Term} (h : Tracks R p t) : t.orow = (onScreen R p).row := by
  unfold Term.orow
  rw [tracks_onScreen h]
  split <;> rfl

theorem tracks_insertionPoint {R : RCfg} {p : Pos} {s : Text}
    (h : Tracks R p ((Term.blank R.cols).feed R.cw s)) :
    Spec.insertionPoint R.cw R.cols s = ((onScreen R p).row, (onScreen R p).col) := by
  unfold Spec.insertionPoint
  simp only []
  rw [tracks_onScreen h]
  generalize (Term.blank R.cols).feed R.cw s = t
  cases t.pending <;> rfl

theorem tracks_of_rel {R : RCfg} {p : Pos} {t1 t2 : Term} (h : Rel t1 t2) (ht : Tracks R p t2) :
    Tracks R p t1 := by
  obtain ⟨a, b, c, d⟩ := ht
  exact ⟨h.cols.trans a, h.ps1, h.cr.trans c, by rw [h.cc, h.pending]; exact d⟩

theorem plainT_of_plainG {R : RCfg} {g : Text} (h : PlainG R g) : PlainT g := by
  rcases h with rfl | ⟨c, rest, rfl, hc, hrest, _, _⟩
  · intro x hx; simp at hx; exact Or.inl hx
  · intro x hx
    rcases List.mem_cons.1 hx with rfl | hx
    · exact Or.inr hc
    · exact Or.inr (hrest x hx).1

theorem plainT_of_seg (S : Segmenter) (R : RCfg) (s : Text) (h : ∀ g ∈ S.seg s, PlainG R g) : PlainT s := by
  intro c hc
  rw [← S.flatten_eq s] at hc
  obtain ⟨g, hg, hcg⟩ := List.mem_flatten.1 hc
  exact plainT_of_plainG (h g hg) c hcg

theorem plainT_append {a b : Text} (ha : PlainT a) (hb : PlainT b) : PlainT (a ++ b) := by
  intro c hc
  rcases List.mem_append.1 hc with h | h
  · exact ha c h
  · exact hb c h

/-- the renderer's belief `l` is true of the terminal `t`, which displays `text` (= prompt ++ line ++ hint)
    with the cursor after its prefix `before` (= prompt ++ line[..pos]).  `cursor`: where the terminal's cursor is;
    `cur` / `end_`: the believed positions `l.cursor` / `l.end_` are those a terminal reaches by printing `before` /
    `text` from the origin. -/
structure Synced (R : RCfg) (t : Term) (l : Layout) (text before : Text) : Prop where
  cols : t.cols = R.cols
  canon : t.grid.canon = ((Term.blank R.cols).feed R.cw text).grid.canon
  cursor : (t.cr, t.cc) = Spec.insertionPoint R.cw R.cols before
  pending : t.pending = false
  ps : t.ps = .ground
  cur : Tracks R l.cursor ((Term.blank R.cols).feed R.cw before)
  end_ : Tracks R l.end_ ((Term.blank R.cols).feed R.cw text)
  plain : PlainT text
  pre : ∃ rest, text = before ++ rest

theorem Synced.cr_cc {R : RCfg} {t : Term} {l : Layout} {text before : Text} (h : Synced R t l text before) :
    t.cr = (onScreen R l.cursor).row ∧ t.cc = (onScreen R l.cursor).col := by
  have := h.cursor
  rw [tracks_insertionPoint h.cur] at this
  exact ⟨(Prod.mk.inj this).1, (Prod.mk.inj this).2⟩

theorem rows_le {R : RCfg} {c e : Pos} {text before : Text}
    (hcur : Tracks R c ((Term.blank R.cols).feed R.cw before))
    (hend : Tracks R e ((Term.blank R.cols).feed R.cw text))
    (hplain : PlainT text) (hpre : ∃ rest, text = before ++ rest) :
    (onScreen R c).row ≤ (onScreen R e).row := by
  obtain ⟨rest, rfl⟩ := hpre
  have hb : PlainT before := fun x hx => hplain x (List.mem_append_left _ hx)
  have hr : PlainT rest := fun x hx => hplain x (List.mem_append_right _ hx)
  have i1 := plainInv_feed R.cw before hb (Term.blank R.cols) rfl (belowBlank_blank _)
  have i2 := plainInv_feed R.cw rest hr _ i1.ps i1.below
  rw [← Term.feed_append] at i2
  rw [← tracks_orow hcur, ← tracks_orow hend]
  exact i2.orow

/-- **Full repaint.** From a terminal that shows `text` as the renderer believes, the bytes
    `clear_old_rows ++ text' ++ tail` lead to a terminal that shows `text'` with the cursor after `before'`. -/
theorem synced_refresh {R : RCfg} (hc : 2 ≤ R.cols) {t : Term} {old new : Layout} {text before text' before' : Text}
    (h : Synced R t old text before)
    (hplain : PlainT text') (hpre : ∃ rest, text' = before' ++ rest)
    (hcur : Tracks R new.cursor ((Term.blank R.cols).feed R.cw before'))
    (hend : Tracks R new.end_ ((Term.blank R.cols).feed R.cw text')) :
    Synced R (t.feed R.cw (clearOldRows R old ++ text' ++ refreshTail R new.end_ new.cursor)) new text' before' := by
  obtain ⟨hcr, _⟩ := h.cr_cc
  have hle := rows_le h.cur h.end_ h.plain h.pre
  have hle' := rows_le hcur hend hplain hpre
  obtain ⟨hat, hcells⟩ := feed_clearOldRows R old t h.ps hcr hle
  rw [Term.feed_append, Term.feed_append]
  generalize t.feed R.cw (clearOldRows R old) = t1 at hat hcells
  have hblank : ∀ r c, vcell (t1.grid.get r c) = ([], false) := by
    intro r c
    rw [hcells r c]
    by_cases hr : r ≤ (onScreen R old.end_).row
    · rw [if_pos hr]; rfl
    · rw [if_neg hr]
      have hv := (canon_eq_iff _ _).1 h.canon r c
      have inv := plainInv_feed R.cw text h.plain (Term.blank R.cols) rfl (belowBlank_blank _)
      have ho := tracks_orow h.end_
      have hcr : ((Term.blank R.cols).feed R.cw text).cr ≤ ((Term.blank R.cols).feed R.cw text).orow :=
        Nat.le_add_right _ _
      rw [hv, inv.below r c (by omega)]; rfl
  have hrel : Rel t1 (Term.blank R.cols) := by
    refine ⟨hat.cols.trans h.cols, hat.cr, hat.cc, hat.pending, hat.ps, rfl, ?_⟩
    intro r c
    right
    refine ⟨hblank r c, rfl, ?_⟩
    rintro ⟨_, hlt⟩
    simp [Term.lim, hat.cc, hat.pending] at hlt
  have hrel2 := rel_feed R.cw text' hplain hrel
  have htr := tracks_of_rel hrel2 hend
  obtain ⟨hat3, hg3⟩ := feed_refreshTail R hc _ new.end_ new.cursor htr hle'
  refine ⟨hat3.cols, ?_, ?_, hat3.pending, hat3.ps, hcur, hend, hplain, hpre⟩
  · rw [hg3]; exact hrel2.canon
  · rw [tracks_insertionPoint hcur, hat3.cr, hat3.cc]

theorem ok_of_ite {α : Type} {c : Prop} [Decidable c] {v new : α}
    (h : (if c then (.error .panic : Except Panic α) else .ok v) = .ok new) : new = v := by
  split at h
  · cases h
  · injection h with h; exact h.symm

theorem ite_append_right {c : Prop} [Decidable c] (a b : Text) :
    (if c then a ++ b else a) = a ++ if c then b else [] := by
  split
  · rfl
  · rw [List.append_nil]

theorem refreshLineBytes_ok {R : RCfg} {prompt line : Text} {hint : Option Text} {old new : Layout}
    {bytes : Text} (h : refreshLineBytes R prompt line hint old new = .ok bytes) :
    bytes = clearOldRows R old ++ (prompt ++ line ++ hint.getD []) ++ refreshTail R new.end_ new.cursor := by
  unfold refreshLineBytes at h
  rw [ok_of_ite h]
  unfold refreshTail
  simp only [ite_append_right]
  simp only [List.append_assoc]

theorem tracks_calc (S : Segmenter) (R : RCfg) (hc : 2 ≤ R.cols) (s : Text) (p : Pos) (t : Term)
    (hs : ∀ g ∈ S.seg s, PlainG R g) (h : Tracks R p t) :
    Tracks R (calculatePosition S R s p) (t.feed R.cw s) := by
  have := (tracks_loop hc (S.seg s) hs h).2
  rw [S.flatten_eq] at this
  exact this

theorem layout_tracks (S : Segmenter) (R : RCfg) (hc : 2 ≤ R.cols) (prompt b a : Text) (info : Option Text)
    (psize : Pos) (dflt : Bool) (new : Layout)
    (hp : Tracks R psize ((Term.blank R.cols).feed R.cw prompt))
    (hb : ∀ g ∈ S.seg b, PlainG R g) (ha : ∀ g ∈ S.seg a, PlainG R g)
    (hi : ∀ g ∈ S.seg (info.getD []), PlainG R g)
    (h : computeLayout S R psize dflt (b ++ a) (blen b) info = .ok new) :
    new.promptSize = psize ∧
    Tracks R new.cursor ((Term.blank R.cols).feed R.cw (prompt ++ b)) ∧
    Tracks R new.end_ ((Term.blank R.cols).feed R.cw (prompt ++ (b ++ a) ++ info.getD [])) := by
  unfold computeLayout at h
  rw [splitAtByte_append] at h
  have t1 : Tracks R (calculatePosition S R b psize) ((Term.blank R.cols).feed R.cw (prompt ++ b)) := by
    rw [Term.feed_append]; exact tracks_calc S R hc b _ _ hb hp
  have t2 : Tracks R (if (blen b == blen (b ++ a)) = true then calculatePosition S R b psize
        else calculatePosition S R a (calculatePosition S R b psize))
      ((Term.blank R.cols).feed R.cw (prompt ++ (b ++ a))) := by
    split
    next he =>
      have : a = [] := by
        simp at he
        exact blen_eq_zero.1 (by omega)
      subst this
      simpa using t1
    next =>
      rw [← List.append_assoc, Term.feed_append]
      exact tracks_calc S R hc a _ _ ha t1
  cases info with
  | none =>
    simp only [] at h
    have := ok_of_ite h
    subst this
    exact ⟨rfl, t1, by simpa using t2⟩
  | some i =>
    simp only [] at h
    have := ok_of_ite h
    subst this
    refine ⟨rfl, t1, ?_⟩
    simp only [Option.getD_some]
    rw [Term.feed_append]
    exact tracks_calc S R hc i _ _ hi t2

theorem feed_moveCursor (R : RCfg) (hc : 0 < R.cols) (t : Term) (a b : Pos)
    (hcols : t.cols = R.cols) (hps : t.ps = .ground) (hpend : t.pending = false)
    (hcr : t.cr = (onScreen R a).row) (hcc : t.cc = (onScreen R a).col) :
    CurAt (t.feed R.cw (moveCursorBytes R a b)) R.cols (onScreen R b).row (onScreen R b).col t.bad ∧
    (t.feed R.cw (moveCursorBytes R a b)).grid = t.grid := by
  unfold moveCursorBytes
  simp only []
  have hlt := onScreen_col_lt R b hc
  refine Moves.append (r1 := (onScreen R b).row) (c1 := (onScreen R a).col) ?_ ?_
    ⟨hcols, hps, hcr, hcc, hpend, rfl⟩
  · apply Moves.ite
    · intro h1
      exact moves_down (fun t h => feed_csi1 R.cw t _ 'B' h (by decide) rfl) (by omega) (by omega)
    · intro h1
      apply Moves.ite
      · intro h2
        exact moves_up (fun t h => feed_csi1 R.cw t _ 'A' h (by decide) rfl) (by omega) (by omega)
      · intro h2
        exact Moves.nil (by omega) rfl
  · apply Moves.ite
    · intro h1
      exact moves_right (fun t h => feed_csi1 R.cw t _ 'C' h (by decide) rfl) (by omega) (by omega) hlt
    · intro h1
      apply Moves.ite
      · intro h2
        exact moves_left (fun t h => feed_csi1 R.cw t _ 'D' h (by decide) rfl) (by omega) (by omega)
      · intro h2
        exact Moves.nil rfl (by omega)

/-- **Cursor-only move**: the text stays, the cursor goes to the cell of `p` -/
theorem synced_move {R : RCfg} (hc : 2 ≤ R.cols) {t : Term} {l : Layout} {text before : Text}
    (h : Synced R t l text before) (before' : Text) (p : Pos)
    (hcur : Tracks R p ((Term.blank R.cols).feed R.cw before')) (hpre : ∃ rest, text = before' ++ rest) :
    Synced R (t.feed R.cw (moveCursorBytes R l.cursor p)) { l with cursor := p } text before' := by
  obtain ⟨hcr, hcc⟩ := h.cr_cc
  obtain ⟨hat, hg⟩ := feed_moveCursor R (by omega) t l.cursor p h.cols h.ps h.pending hcr hcc
  refine ⟨hat.cols, by rw [hg]; exact h.canon, ?_, hat.pending, hat.ps, hcur, h.end_, h.plain, hpre⟩
  rw [tracks_insertionPoint hcur, hat.cr, hat.cc]

/-- the cursor is believed to be where it is: only the logical cursor changes -/
theorem synced_same {R : RCfg} {t : Term} {l : Layout} {text before : Text}
    (h : Synced R t l text before) (before' : Text)
    (hcur : Tracks R l.cursor ((Term.blank R.cols).feed R.cw before')) (hpre : ∃ rest, text = before' ++ rest) :
    Synced R t l text before' := by
  refine ⟨h.cols, h.canon, ?_, h.pending, h.ps, hcur, h.end_, h.plain, hpre⟩
  rw [tracks_insertionPoint hcur, ← tracks_insertionPoint h.cur]
  exact h.cursor

/-! ### the fast path of `edit_insert` -/

/-- the cursor part of the fast path of `edit_insert` -/
theorem tracks_fast {R : RCfg} {p : Pos} {t : Term} (h : Tracks R p t) (ch : Char)
    (hch : isC0Control ch = false) (hlt : p.col + R.cw ch < R.cols) :
    Tracks R { p with col := p.col + R.cw ch } (t.feed R.cw [ch]) := by
  have ht := tracks_print h (R.cw ch) (by omega) ch
  unfold advance at ht
  rw [if_neg (by omega)] at ht
  rw [Term.feed_cons, Term.feed_nil, step_plain _ _ _ h.2.1 hch]
  exact ht

theorem synced_vrel {R : RCfg} {t : Term} {l : Layout} {text : Text} (h : Synced R t l text text)
    (hlt : l.cursor.col < R.cols) : VRel t ((Term.blank R.cols).feed R.cw text) := by
  obtain ⟨c1, c2, _, _⟩ := h.cur
  have hnp := h.cur.not_pending hlt
  have := h.cursor
  unfold Spec.insertionPoint at this
  simp only [hnp, Bool.false_eq_true, if_false] at this
  exact ⟨h.cols.trans c1.symm, (Prod.mk.inj this).1, (Prod.mk.inj this).2, h.pending.trans hnp.symm,
    h.ps, c2, (canon_eq_iff _ _).1 h.canon⟩

theorem synced_fast {R : RCfg} {t : Term} {l : Layout} {text : Text} (ch : Char)
    (h : Synced R t l text text) (hch : isC0Control ch = false) (hw : R.cw ch ≠ 0)
    (hlt : l.cursor.col + R.cw ch < R.cols) :
    Synced R (t.feed R.cw [ch])
      { l with cursor := { l.cursor with col := l.cursor.col + R.cw ch },
               end_ := { l.end_ with col := l.end_.col + R.cw ch } } (text ++ [ch]) (text ++ [ch]) := by
  have hv := vrel_step R.cw (synced_vrel h (by omega)) ch (Or.inr ⟨hch, hw⟩)
  have hend : l.end_ = l.cursor := tracks_unique h.end_ h.cur
  have htr : Tracks R { l.cursor with col := l.cursor.col + R.cw ch }
      ((Term.blank R.cols).feed R.cw (text ++ [ch])) := by
    rw [Term.feed_append]; exact tracks_fast h.cur ch hch hlt
  have hnp := htr.not_pending hlt
  have hv' : VRel (t.feed R.cw [ch]) ((Term.blank R.cols).feed R.cw (text ++ [ch])) := by
    rw [Term.feed_append]; exact hv
  refine ⟨hv'.cols.trans htr.1, hv'.canon, ?_, hv'.pending.trans hnp, hv'.ps1, htr, by rw [hend]; exact htr,
    plainT_append h.plain (by intro x hx; simp at hx; subst hx; exact Or.inr hch), ⟨[], by simp⟩⟩
  unfold Spec.insertionPoint
  simp only [hnp, Bool.false_eq_true, if_false]
  rw [hv'.cr, hv'.cc]

/-! ### the final newline, `clear_screen`, the renderer state `RS` -/

/-- the `writeln` after the read: from a screen that `Shows` the state, a line break leaves the cursor in column 0 of a
    row below the insertion point, no wrap pending -/
theorem shows_newline {cw : Char → Nat} {t : Term} {p b a hint : Text} (h : Spec.Shows cw t p b a hint) :
    (t.feed cw ['\n']).cc = 0 ∧ (t.feed cw ['\n']).pending = false ∧
    (t.feed cw ['\n']).cr > ((Term.blank t.cols).feed cw (p ++ b)).cr := by
  obtain ⟨_, hcur, _, hps⟩ := h
  have hstep : t.feed cw ['\n'] = { t with cr := t.cr + 1, cc := 0, pending := false } := step_newline cw t hps
  rw [hstep]
  refine ⟨rfl, rfl, ?_⟩
  have hcr := congrArg Prod.fst hcur
  unfold Spec.insertionPoint at hcr
  simp only [] at hcr
  show t.cr + 1 > _
  split at hcr <;> omega

theorem synced_clear {R : RCfg} (hc : 2 ≤ R.cols) (t : Term) (l : Layout) (hcols : t.cols = R.cols)
    (hps : t.ps = .ground) :
    Synced R (t.feed R.cw clearScreenBytes) { l with cursor := {}, end_ := {} } [] [] := by
  have e : clearScreenBytes = ['\x1b', '[', 'H'] ++ ['\x1b', '[', 'J'] := rfl
  rw [e, Term.feed_append, feed_csi0 R.cw t 'H' hps (by decide)]
  have h1 : t.csiFinal false [] 'H' = { t with cr := 0, cc := 0, pending := false } := by
    cases t; simp at hps; subst hps
    simp [Term.csiFinal]
  rw [h1, feed_csi0 R.cw ({ t with cr := 0, cc := 0, pending := false } : Term) 'J' hps (by decide)]
  have h2 : ({ t with cr := 0, cc := 0, pending := false } : Term).csiFinal false [] 'J' =
      { t with cr := 0, cc := 0, pending := false, grid := t.grid.eraseBelow 0 0 } := by
    cases t; simp at hps; subst hps
    simp [Term.csiFinal]
  rw [h2]
  have hb : Tracks R {} ((Term.blank R.cols).feed R.cw []) := blank_tracks R hc
  refine ⟨hcols, ?_, rfl, rfl, hps, hb, hb, (by intro x hx; cases hx), ⟨[], rfl⟩⟩
  rw [canon_eq_iff]
  intro r c
  simp only [Grid.get_eraseBelow]
  have : 0 < r ∨ r = 0 ∧ 0 ≤ c := by omega
  rw [if_pos this]
  simp [Term.feed, Term.blank, Grid.get]

theorem Synced.congr {R : RCfg} {t : Term} {l l' : Layout} {text before : Text}
    (h : Synced R t l text before) (hc : l'.cursor = l.cursor) (he : l'.end_ = l.end_) :
    Synced R t l' text before :=
  ⟨h.cols, h.canon, h.cursor, h.pending, h.ps, by rw [hc]; exact h.cur, by rw [he]; exact h.end_, h.plain, h.pre⟩

/-- everything written so far -/
def RS.all (s : RS) : Text := s.segs.reverse.flatten ++ s.out

theorem RS.all_emit (s : RS) (b : Text) : (s.emit b).all = s.all ++ b := by
  simp [RS.all, RS.emit, List.append_assoc]

theorem refresh_ok {S : Segmenter} {R : RCfg} {s s' : RS} {p : Text} {psize : Pos} {dflt : Bool}
    {line : Text} {pos : Nat} {info : Option Text}
    (h : s.refresh S R p psize dflt line pos info = .ok s') :
    ∃ nl bytes b a, splitAtByte line pos = some (b, a) ∧
      computeLayout S R psize dflt line pos info = .ok nl ∧
      refreshLineBytes R p line info s.layout nl = .ok bytes ∧
      s'.layout = nl ∧ s'.all = s.all ++ bytes ∧ s'.promptSize = s.promptSize := by
  unfold RS.refresh at h
  cases hl : computeLayout S R psize dflt line pos info with
  | error e => rw [hl] at h; cases h
  | ok nl =>
    rw [hl] at h
    simp only [bind, Except.bind] at h
    cases hb : refreshLineBytes R p line info s.layout nl with
    | error e => rw [hb] at h; cases h
    | ok bytes =>
      rw [hb] at h
      injection h with h
      subst h
      cases hs : splitAtByte line pos with
      | none => unfold computeLayout at hl; rw [hs] at hl; cases hl
      | some ba =>
        obtain ⟨b, a⟩ := ba
        exact ⟨nl, bytes, b, a, rfl, rfl, hb, rfl, RS.all_emit s bytes, rfl⟩

end Rl
