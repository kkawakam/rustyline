/-
  C02, composition over histories: the ghost state that runs next to the replay of a render log, the
  coherence predicate, and the invariant step (used by the lemmas about the editor model's log,
  `Rl/Lemmas/RenderLog.lean`, and by the property theorems in `Props/C02.lean`).  The definitions `C02_Plain`,
  `C02_Synced`, `C02_Shown`, `C02_next`, `C02_StepOK`, `C02_Coherent`, `C02_Inv` that the statements of `Props/C02.lean`
  mention are here, so that the lemma files can use them.
-/
import Rl.Lemmas.Render
open Rl Rl.Spec

/-- every grapheme of `s` is of the quantified kind -/
def C02_Plain (S : Segmenter) (R : RCfg) (s : Text) : Prop := ∀ g ∈ S.seg s, PlainG R g

/-- the invariant of the screen theorems, in the vocabulary of the terminal only (`Rl.Synced`; `C02_Consistent`
    in `Props/C02.lean` says the same in the vocabulary of `calculate_position`): `t` shows the text, the
    believed cursor / end positions are where a terminal stands after printing `prompt ++ before` /
    the whole text from the origin (`col = cols` ⇔ wrap pending), and the text is made of line breaks and
    non-control characters.  This is the invariant the theorems below preserve; it needs no hypothesis on
    how the old text is segmented. -/
def C02_Synced (R : RCfg) (t : Term) (l : Layout) (prompt before after hint : Text) : Prop :=
  Synced R t l (prompt ++ (before ++ after) ++ hint) (prompt ++ before)

/-- the full repaint (`C02_full_refresh`, `Props/C02.lean`, says what it stands for): the believed cursor and end
    track the terminal because each piece is measured piecewise and is of the quantified kind (`layout_tracks`);
    the rest is `synced_refresh` -/
theorem Rl.full_refresh_synced (S : Segmenter) (R : RCfg) (t : Term) (old new : Layout)
    (prompt b a h prompt' b' a' : Text) (h' : Option Text) (dflt : Bool) (bytes : Text)
    (hc : 2 ≤ R.cols) (hs : C02_Synced R t old prompt b a h)
    (hp' : C02_Plain S R prompt') (hb' : C02_Plain S R b') (ha' : C02_Plain S R a')
    (hh' : C02_Plain S R (h'.getD []))
    (hl : computeLayout S R (calculatePosition S R prompt' {}) dflt (b' ++ a') (blen b') h' = .ok new)
    (hbytes : refreshLineBytes R prompt' (b' ++ a') h' old new = .ok bytes) :
    C02_Synced R (t.feed R.cw bytes) new prompt' b' a' (h'.getD []) := by
  have hps := tracks_calc S R hc prompt' _ _ hp' (Rl.blank_tracks R hc)
  obtain ⟨_, hcur, hend⟩ := layout_tracks S R hc prompt' b' a' h' _ dflt new hps hb' ha' hh' hl
  rw [refreshLineBytes_ok hbytes]
  have hplain : PlainT (prompt' ++ (b' ++ a') ++ h'.getD []) :=
    plainT_append (plainT_append (plainT_of_seg S R _ hp')
      (plainT_append (plainT_of_seg S R _ hb') (plainT_of_seg S R _ ha'))) (plainT_of_seg S R _ hh')
  exact synced_refresh hc hs hplain ⟨a' ++ h'.getD [], by simp [List.append_assoc]⟩ hcur hend

/-- the fast path of `edit_insert` (`C02_fast_path`, `Props/C02.lean`): the guard gives what `synced_fast` asks -/
theorem Rl.fast_path_synced (R : RCfg) (t : Term) (l : Layout) (prompt b : Text) (ch : Char) (n : Nat)
    (hint : Option Text) (nph hl : Bool)
    (hs : C02_Synced R t l prompt b [] [])
    (hguard : fastPathGuard R l ch n hint nph hl = true) (hch : isC0Control ch = false) :
    C02_Synced R (t.feed R.cw [ch])
      { l with cursor := { l.cursor with col := l.cursor.col + R.cw ch },
               end_ := { l.end_ with col := l.end_.col + R.cw ch } } prompt (b ++ [ch]) [] [] := by
  unfold fastPathGuard at hguard
  simp only [Bool.and_eq_true, decide_eq_true_eq, bne_iff_ne, ne_eq] at hguard
  obtain ⟨⟨⟨⟨_, hw⟩, hlt⟩, _⟩, _⟩ := hguard
  unfold C02_Synced at *
  simp only [List.append_nil] at hs ⊢
  rw [← List.append_assoc]
  exact synced_fast ch hs hch hw hlt

/-- the ghost state run next to the replay of a render log: what the screen is meant to show (prompt on display,
    line before / after the cursor, hint or message) -/
structure C02_Shown where
  prompt : Text := []
  before : Text := []
  after : Text := []
  hint : Text := []

/-- what is meant to be shown after `op`, issued when the renderer is in `s` and `g` is shown -/
def C02_next (S : Segmenter) (R : RCfg) (prompt : Text) (s : RS) (g : C02_Shown) : RenderOp → C02_Shown
  | .refresh p line pos info =>
    match splitAtByte line pos with
    | some (b, a) => ⟨p.getD prompt, b, a, info.getD []⟩
    | none => g
  | .moveCursor line pos hl =>
    match splitAtByte line pos with
    | some (b, a) =>
      if s.layout.cursor == calculatePosition S R b s.promptSize then { g with before := b, after := a }
      else if hl then ⟨prompt, b, a, []⟩ else { g with before := b, after := a }
    | none => g
  | .insert ch n push line pos hint nph hl =>
    if push && fastPathGuard R s.layout ch n hint nph hl then ⟨g.prompt, g.before ++ [ch], [], []⟩
    else match splitAtByte line pos with
      | some (b, a) => ⟨prompt, b, a, hint.getD []⟩
      | none => g
  | .clearScreen => ⟨[], [], [], []⟩
  | .moveToEnd => ⟨g.prompt, g.before ++ g.after ++ g.hint, [], []⟩
  | .sync _ _ _ => g
  | .writeln => g

/-- the prompt of an incremental search: `(reverse-i-search)`text': ` or `(failed reverse-i-search)`text': ` -/
def C02_searchPrompt (buf : Text) (ok : Bool) : Text :=
  (if ok then "(reverse-i-search)`" else "(failed reverse-i-search)`").toList ++ buf ++ "': ".toList

/-- `p` is a prompt of the incremental search -/
def C02_IsSearchPrompt (p : Text) : Prop := ∃ buf ok, p = C02_searchPrompt buf ok

/-- the two halves of `line` at byte `pos` and the hint / message are of the quantified kind (they are measured
    piecewise by `compute_layout`) -/
def C02_PlainSplit (S : Segmenter) (R : RCfg) (line : Text) (pos : Nat) (info : Option Text) : Prop :=
  ∀ b a, splitAtByte line pos = some (b, a) →
    C02_Plain S R b ∧ C02_Plain S R a ∧ C02_Plain S R (info.getD [])

/-- what the composition needs of each operation: texts of the quantified kind, and that the operation is issued
    in the situation the editor issues it in.  `moveCursor`: for the line on display under the read's own prompt
    (`State::move_cursor` measures from `self.prompt_size`, the size of the read's own prompt, whatever prompt is
    on display).  Fast path of `insert`: only at the end of a line without hint.  `sync` (a callback sees the state):
    what is shown is the state handed over, under the own or a search prompt.  `writeln`: `False`, nothing is
    written after the final newline — the log of a read is taken without it. -/
def C02_StepOK (S : Segmenter) (R : RCfg) (prompt : Text) (s : RS) (g : C02_Shown) : RenderOp → Prop
  | .refresh p line pos info => C02_Plain S R (p.getD prompt) ∧ C02_PlainSplit S R line pos info
  | .moveCursor line pos _ =>
    g.prompt = prompt ∧ g.before ++ g.after = line ∧ C02_PlainSplit S R line pos none
  | .insert ch n push line pos hint nph hl =>
    ((push && fastPathGuard R s.layout ch n hint nph hl) = true →
      g.after = [] ∧ g.hint = [] ∧ isC0Control ch = false) ∧ C02_PlainSplit S R line pos hint
  | .clearScreen => True
  | .moveToEnd => True
  | .sync line pos hint =>
    (g.prompt = prompt ∨ C02_IsSearchPrompt g.prompt) ∧
    splitAtByte line pos = some (g.before, g.after) ∧ (g.hint = hint.getD [] ∨ g.hint = [])
  | .writeln => False

/-- every operation of the log is issued in a situation the theorem covers -/
def C02_Coherent (S : Segmenter) (R : RCfg) (prompt : Text) : RS → C02_Shown → List RenderOp → Prop
  | _, _, [] => True
  | s, g, op :: rest =>
    C02_StepOK S R prompt s g op ∧
    match s.apply S R prompt op with
    | .ok s' => C02_Coherent S R prompt s' (C02_next S R prompt s g op) rest
    | .error _ => True

/-- the invariant of the composition: the terminal that has interpreted everything written so far shows the
    ghost state as the renderer believes -/
structure C02_Inv (S : Segmenter) (R : RCfg) (prompt : Text) (s : RS) (g : C02_Shown) : Prop where
  synced : C02_Synced R ((Term.blank R.cols).feed R.cw s.all) s.layout g.prompt g.before g.after g.hint
  psize : s.promptSize = calculatePosition S R prompt {}

theorem Rl.inv_emit {S : Segmenter} {R : RCfg} {prompt : Text} {s : RS} {g g' : C02_Shown} {bytes : Text}
    {l' : Layout} (hinv : C02_Inv S R prompt s g)
    (h : C02_Synced R (((Term.blank R.cols).feed R.cw s.all).feed R.cw bytes) l'
      g'.prompt g'.before g'.after g'.hint) :
    C02_Inv S R prompt { (s.emit bytes) with layout := l' } g' := by
  refine ⟨?_, hinv.psize⟩
  show C02_Synced R ((Term.blank R.cols).feed R.cw (RS.all (s.emit bytes))) _ _ _ _ _
  rw [RS.all_emit, Term.feed_append]
  exact h

theorem Rl.inv_refresh (S : Segmenter) (R : RCfg) (prompt : Text) (hc : 2 ≤ R.cols) (s s' : RS) (g : C02_Shown)
    (hinv : C02_Inv S R prompt s g) (p : Text) (dflt : Bool) (line : Text) (pos : Nat) (info : Option Text)
    (hp : C02_Plain S R p) (hsplit : C02_PlainSplit S R line pos info)
    (h : s.refresh S R p (calculatePosition S R p {}) dflt line pos info = .ok s') :
    ∃ b a, splitAtByte line pos = some (b, a) ∧ C02_Inv S R prompt s' ⟨p, b, a, info.getD []⟩ := by
  obtain ⟨nl, bytes, b, a, hs, hl, hb, e1, e2, e3⟩ := refresh_ok h
  obtain ⟨hp1, hp2, hp3⟩ := hsplit b a hs
  obtain ⟨rfl, rfl⟩ := splitAtByte_some hs
  refine ⟨b, a, hs, ⟨?_, e3.trans hinv.psize⟩⟩
  rw [e2, Term.feed_append, e1]
  exact Rl.full_refresh_synced S R _ s.layout nl g.prompt g.before g.after g.hint p b a info dflt bytes hc
    hinv.synced hp hp1 hp2 hp3 hl hb

/-- one step of the replay keeps `C02_Inv`.  One case per operation, each reduced to a screen theorem: every
    operation that repaints (`refresh`, the slow paths of `moveCursor` and `insert`) to the full repaint
    (`inv_refresh`); the cursor-only moves (`moveCursor`, `moveToEnd`) to `synced_same` when the believed cursor
    is already there and to `synced_move` otherwise; the fast path of `insert` to `fast_path_synced`; `clearScreen` to
    `synced_clear`; `sync` writes nothing. -/
theorem Rl.inv_step (S : Segmenter) (R : RCfg) (prompt : Text) (hc : 2 ≤ R.cols)
    (hprompt : C02_Plain S R prompt) (s s' : RS) (g : C02_Shown) (op : RenderOp)
    (hinv : C02_Inv S R prompt s g) (hok : C02_StepOK S R prompt s g op)
    (happ : s.apply S R prompt op = .ok s') :
    C02_Inv S R prompt s' (C02_next S R prompt s g op) := by
  have hpt : Tracks R s.promptSize ((Term.blank R.cols).feed R.cw prompt) := by
    rw [hinv.psize]; exact tracks_calc S R hc _ _ _ hprompt (Rl.blank_tracks R hc)
  cases op with
  | refresh p line pos info =>
    obtain ⟨hp, hsplit⟩ := hok
    cases p with
    | none =>
      simp only [RS.apply] at happ
      rw [hinv.psize] at happ
      obtain ⟨b, a, hs, hi⟩ := Rl.inv_refresh S R prompt hc s s' g hinv prompt true line pos info hp hsplit happ
      simp only [C02_next, hs, Option.getD_none]
      exact hi
    | some p =>
      simp only [RS.apply] at happ
      obtain ⟨b, a, hs, hi⟩ := Rl.inv_refresh S R prompt hc s s' g hinv p false line pos info hp hsplit happ
      simp only [C02_next, hs, Option.getD_some]
      exact hi
  | moveCursor line pos hl =>
    obtain ⟨hgp, hline, hsplit⟩ := hok
    simp only [RS.apply, RS.moveCursor] at happ
    cases hs : splitAtByte line pos with
    | none => rw [hs] at happ; cases happ
    | some ba =>
      obtain ⟨b, a⟩ := ba
      rw [hs] at happ
      simp only [] at happ
      obtain ⟨hp1, hp2, _⟩ := hsplit b a hs
      obtain ⟨hla, _⟩ := splitAtByte_some hs
      have htr : Tracks R (calculatePosition S R b s.promptSize)
          ((Term.blank R.cols).feed R.cw (g.prompt ++ b)) := by
        rw [hgp, Term.feed_append]; exact tracks_calc S R hc _ _ _ hp1 hpt
      have htext : g.prompt ++ (g.before ++ g.after) ++ g.hint = g.prompt ++ (b ++ a) ++ g.hint := by
        rw [hline, hla]
      have hsy := hinv.synced
      unfold C02_Synced at hsy
      rw [htext] at hsy
      simp only [C02_next, hs]
      by_cases hbeq : (s.layout.cursor == calculatePosition S R b s.promptSize) = true
      · have hsame := eq_of_beq hbeq
        rw [if_pos hbeq] at happ
        injection happ with happ
        subst happ
        rw [if_pos hbeq]
        refine ⟨?_, hinv.psize⟩
        exact synced_same hsy _ (by rw [hsame]; exact htr) ⟨a ++ g.hint, by simp [List.append_assoc]⟩
      · rw [if_neg hbeq] at happ
        rw [if_neg hbeq]
        cases hl with
        | true =>
          simp only [if_true] at happ ⊢
          rw [hinv.psize] at happ
          obtain ⟨b', a', hs', hi⟩ := Rl.inv_refresh S R prompt hc s s' g hinv prompt true line pos none
            hprompt hsplit happ
          rw [hs] at hs'
          cases hs'
          exact hi
        | false =>
          simp only [Bool.false_eq_true, if_false] at happ ⊢
          split at happ
          · cases happ
          · injection happ with happ
            subst happ
            exact Rl.inv_emit hinv
              ((synced_move hc hsy _ _ htr ⟨a ++ g.hint, by simp [List.append_assoc]⟩).congr rfl rfl)
  | insert ch n push line pos hint nph hl =>
    obtain ⟨hfast, hsplit⟩ := hok
    simp only [RS.apply, RS.insert] at happ
    by_cases hg : (push && fastPathGuard R s.layout ch n hint nph hl) = true
    · obtain ⟨ga, gh, hch⟩ := hfast hg
      rw [if_pos hg] at happ
      simp only [C02_next, hg, if_true]
      split at happ
      · cases happ
      · injection happ with happ
        subst happ
        have hguard : fastPathGuard R s.layout ch n hint nph hl = true := by
          simp only [Bool.and_eq_true] at hg; exact hg.2
        have hsy := hinv.synced
        rw [ga, gh] at hsy
        exact Rl.inv_emit hinv
          (Rl.fast_path_synced R _ s.layout g.prompt g.before ch n hint nph hl hsy hguard hch)
    · rw [if_neg hg] at happ
      rw [hinv.psize] at happ
      obtain ⟨b, a, hs, hi⟩ := Rl.inv_refresh S R prompt hc s s' g hinv prompt true line pos hint
        hprompt hsplit happ
      simp only [C02_next, hg, hs]
      exact hi
  | clearScreen =>
    simp only [RS.apply] at happ
    injection happ with happ
    subst happ
    exact Rl.inv_emit hinv (synced_clear hc _ s.layout hinv.synced.cols hinv.synced.ps)
  | moveToEnd =>
    simp only [RS.apply] at happ
    have hsy := hinv.synced
    unfold C02_Synced at hsy
    have htext : g.prompt ++ (g.before ++ g.after ++ g.hint ++ []) ++ [] =
        g.prompt ++ (g.before ++ g.after) ++ g.hint := by simp [List.append_assoc]
    have hbef : g.prompt ++ (g.before ++ g.after ++ g.hint) =
        g.prompt ++ (g.before ++ g.after) ++ g.hint := by simp [List.append_assoc]
    simp only [C02_next]
    by_cases hbeq : (s.layout.cursor == s.layout.end_) = true
    · have hsame := eq_of_beq hbeq
      rw [if_pos hbeq] at happ
      injection happ with happ
      subst happ
      refine ⟨?_, hinv.psize⟩
      unfold C02_Synced
      rw [htext, hbef]
      exact synced_same hsy _ (by rw [hsame]; exact hsy.end_) ⟨[], by simp⟩
    · rw [if_neg hbeq] at happ
      injection happ with happ
      subst happ
      apply Rl.inv_emit hinv
      unfold C02_Synced
      rw [htext, hbef]
      exact synced_move hc hsy _ _ hsy.end_ ⟨[], by simp⟩
  | sync line pos hint =>
    simp only [RS.apply] at happ
    injection happ with happ
    subst happ
    refine ⟨?_, hinv.psize⟩
    have : RS.all { s with out := [], segs := s.out :: s.segs } = s.all := by
      simp [RS.all]
    simp only [C02_next]
    rw [this]
    exact hinv.synced
  | writeln => exact absurd hok (by simp [C02_StepOK])

