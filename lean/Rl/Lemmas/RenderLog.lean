/-
  C02, the renderer side: replaying a render log.
  Needs: the ghost state `C02_Shown` ("what the screen shows"), the obligations `C02_StepOK` and the one-step lemma
  `inv_step` of `Rl/Lemmas/RenderGhost.lean`.
  Provides: positions only grow (`calcPos_le`), so `State::refresh` never panics on a cursor that is on a character
  boundary (`rs_refresh_total`).  `RepFrom` / `Rep`: the replay of a log, operation by operation, next to the ghost
  state; `Rep` gives `C02_Coherent`, a replay without panic and the screen invariant `C02_Inv`.  The vocabulary of
  the later files: `OpPlain` / `LogPlain` (logged texts are of the quantified kind), `OpBd` / `LogBd` (`Bd` =
  boundary: logged cursors are on character boundaries), `OpFine` / `LogFine` (both); for a log `log` and the cursor
  `lc` the caller believes the renderer to be at, `DirtyP` (the log replays, nothing said of the text), `TextShownP`
  (the read's own prompt and the text are shown), `ShownP` (… and the cursor), `ShownA` (the same under any prompt:
  own or search).  Then one lemma per logged operation: from a replayed log to the log extended by the operation.
-/
import Rl.Lemmas.RenderGhost
namespace Rl

theorem Pos.le_refl (a : Pos) : a.le a = true := by simp [Pos.le]

theorem Pos.le_trans {a b c : Pos} (h1 : a.le b = true) (h2 : b.le c = true) : a.le c = true := by
  simp only [Pos.le, Bool.or_eq_true, decide_eq_true_eq, Bool.and_eq_true, beq_iff_eq] at *
  omega

theorem posStep_le (R : RCfg) (st : Pos × Nat) (g : Text) : st.1.le (posStep R st g).1 = true := by
  unfold posStep
  split
  · simp [Pos.le]
  · simp only []
    generalize (if (g == ['\t']) = true then (R.tabStop - st.1.col % R.tabStop, st.2)
      else widthEsc R.gw g st.2) = we
    split
    · simp [Pos.le]
    · simp [Pos.le]

theorem posLoop_le (R : RCfg) (gs : List Text) : ∀ st : Pos × Nat, st.1.le (posLoop R gs st).1 = true := by
  induction gs with
  | nil => intro st; exact Pos.le_refl _
  | cons g gs ih =>
    intro st
    exact Pos.le_trans (posStep_le R st g) (ih (posStep R st g))

theorem calcPos_le (S : Segmenter) (R : RCfg) (s : Text) (p : Pos) :
    p.le (calculatePosition S R s p) = true :=
  posLoop_le R (S.seg s) (p, 0)

theorem onScreen_row_le (R : RCfg) {a b : Pos} (h : a.le b = true) : (onScreen R a).row ≤ (onScreen R b).row := by
  simp only [Pos.le, Bool.or_eq_true, decide_eq_true_eq, Bool.and_eq_true, beq_iff_eq] at h
  unfold onScreen
  split <;> split <;> (try dsimp only) <;> omega

section
variable (S : Segmenter) (R : RCfg)

theorem computeLayout_total (psize : Pos) (dflt : Bool) (b a : Text) (info : Option Text) :
    ∃ e, computeLayout S R psize dflt (b ++ a) (blen b) info =
        .ok { promptSize := psize, defaultPrompt := dflt, cursor := calculatePosition S R b psize, end_ := e } ∧
      (calculatePosition S R b psize).le e = true := by
  unfold computeLayout
  rw [splitAtByte_append]
  have h1 := calcPos_le S R b psize
  have h2 : (calculatePosition S R b psize).le
      (if (blen b == blen (b ++ a)) = true then calculatePosition S R b psize
       else calculatePosition S R a (calculatePosition S R b psize)) = true := by
    split
    · exact Pos.le_refl _
    · exact calcPos_le S R a _
  simp only []
  generalize (if (blen b == blen (b ++ a)) = true then calculatePosition S R b psize
       else calculatePosition S R a (calculatePosition S R b psize)) = e0 at h2 ⊢
  cases info with
  | none =>
    simp only []
    split
    next h => rw [h1, h2] at h; simp at h
    next => exact ⟨_, rfl, h2⟩
  | some i =>
    simp only []
    have h3 := Pos.le_trans h2 (calcPos_le S R i _)
    split
    next h => rw [h1, h3] at h; simp at h
    next => exact ⟨_, rfl, h3⟩

theorem refreshLineBytes_total (p line : Text) (info : Option Text) (old new : Layout)
    (h : new.cursor.le new.end_ = true) : ∃ bytes, refreshLineBytes R p line info old new = .ok bytes := by
  unfold refreshLineBytes
  simp only []
  have := onScreen_row_le R h
  rw [if_neg (by omega)]
  exact ⟨_, rfl⟩

theorem rs_refresh_total (rs : RS) (p : Text) (psize : Pos) (dflt : Bool) (b a : Text) (info : Option Text) :
    ∃ rs', rs.refresh S R p psize dflt (b ++ a) (blen b) info = .ok rs' ∧
      rs'.layout.cursor = calculatePosition S R b psize ∧ rs'.layout.promptSize = psize ∧
      rs'.layout.promptSize.le rs'.layout.cursor = true ∧ rs'.layout.cursor.le rs'.layout.end_ = true ∧
      rs'.promptSize = rs.promptSize := by
  obtain ⟨e, hl, hle⟩ := computeLayout_total S R psize dflt b a info
  obtain ⟨bytes, hb⟩ := refreshLineBytes_total R p (b ++ a) info rs.layout
    { promptSize := psize, defaultPrompt := dflt, cursor := calculatePosition S R b psize, end_ := e } hle
  let nl : Layout :=
    { promptSize := psize, defaultPrompt := dflt, cursor := calculatePosition S R b psize, end_ := e }
  refine ⟨{ (rs.emit bytes) with layout := nl }, ?_, rfl, rfl, calcPos_le S R b psize, hle, rfl⟩
  unfold RS.refresh
  rw [hl]
  simp only [bind, Except.bind]
  rw [hb]
  rfl

end

section
variable (S : Segmenter) (R : RCfg) (prompt : Text)

/-- the replay of `ops` (oldest first) from `(s0, g0)` runs without panic, every operation is issued in a
    situation `C02_StepOK` covers, and it ends in `(rs, g)` -/
inductive RepFrom : RS → C02_Shown → List RenderOp → RS → C02_Shown → Prop
  | nil (s0 : RS) (g0 : C02_Shown) : RepFrom s0 g0 [] s0 g0
  | cons {s0 s1 rs : RS} {g0 g : C02_Shown} {op : RenderOp} {rest : List RenderOp}
      (hok : C02_StepOK S R prompt s0 g0 op) (happ : s0.apply S R prompt op = .ok s1)
      (hrest : RepFrom s1 (C02_next S R prompt s0 g0 op) rest rs g) : RepFrom s0 g0 (op :: rest) rs g

variable {S R prompt}

theorem RepFrom.snoc {s0 rs rs' : RS} {g0 g : C02_Shown} {ops : List RenderOp} {op : RenderOp}
    (h : RepFrom S R prompt s0 g0 ops rs g) (hok : C02_StepOK S R prompt rs g op)
    (happ : rs.apply S R prompt op = .ok rs') :
    RepFrom S R prompt s0 g0 (ops ++ [op]) rs' (C02_next S R prompt rs g op) := by
  induction h with
  | nil s0 g0 => exact RepFrom.cons hok happ (RepFrom.nil _ _)
  | cons hok' happ' _ ih => exact RepFrom.cons hok' happ' (ih hok happ)

theorem RepFrom.coherent {s0 rs : RS} {g0 g : C02_Shown} {ops : List RenderOp}
    (h : RepFrom S R prompt s0 g0 ops rs g) :
    C02_Coherent S R prompt s0 g0 ops ∧ RS.run S R prompt s0 ops = (rs, false) := by
  induction h with
  | nil s0 g0 => exact ⟨trivial, rfl⟩
  | cons hok happ _ ih =>
    refine ⟨⟨hok, ?_⟩, ?_⟩
    · rw [happ]; exact ih.1
    · simp only [RS.run, happ]; exact ih.2

theorem RepFrom.inv (hc : 2 ≤ R.cols) (hprompt : C02_Plain S R prompt) {s0 rs : RS} {g0 g : C02_Shown}
    {ops : List RenderOp} (h : RepFrom S R prompt s0 g0 ops rs g) (h0 : C02_Inv S R prompt s0 g0) :
    C02_Inv S R prompt rs g := by
  induction h with
  | nil s0 g0 => exact h0
  | cons hok happ _ ih => exact ih (inv_step S R prompt hc hprompt _ _ _ _ h0 hok happ)

/-- prefixes of a coherent log are coherent and replay without panic -/
theorem RepFrom.prefix {s0 rs : RS} {g0 g : C02_Shown} {a b : List RenderOp}
    (h : RepFrom S R prompt s0 g0 (a ++ b) rs g) : ∃ rs1 g1, RepFrom S R prompt s0 g0 a rs1 g1 := by
  induction a generalizing s0 g0 with
  | nil => exact ⟨_, _, RepFrom.nil _ _⟩
  | cons op a ih =>
    cases h with
    | cons hok happ hrest =>
      obtain ⟨rs1, g1, h1⟩ := ih hrest
      exact ⟨rs1, g1, RepFrom.cons hok happ h1⟩

variable (S R prompt)

/-- the replay of a log kept most recent first (as `Ed.render` is), from the start of the read -/
def Rep (log : List RenderOp) (rs : RS) (g : C02_Shown) : Prop :=
  RepFrom S R prompt (RS.init S R prompt) {} log.reverse rs g

variable {S R prompt}

theorem Rep.nil : Rep S R prompt [] (RS.init S R prompt) {} := RepFrom.nil _ _

theorem Rep.cons {log : List RenderOp} {rs rs' : RS} {g : C02_Shown} {op : RenderOp}
    (h : Rep S R prompt log rs g) (hok : C02_StepOK S R prompt rs g op)
    (happ : rs.apply S R prompt op = .ok rs') :
    Rep S R prompt (op :: log) rs' (C02_next S R prompt rs g op) := by
  unfold Rep
  rw [List.reverse_cons]
  exact RepFrom.snoc h hok happ

theorem Rep.cons_refresh {log : List RenderOp} {rs : RS} {g g' : C02_Shown} {op : RenderOp}
    (h : Rep S R prompt log rs g) (hok : C02_StepOK S R prompt rs g op) (p : Text) (psize : Pos) (dflt : Bool)
    (b a : Text) (info : Option Text)
    (happ : rs.apply S R prompt op = rs.refresh S R p psize dflt (b ++ a) (blen b) info)
    (hnext : C02_next S R prompt rs g op = g') :
    ∃ rs', Rep S R prompt (op :: log) rs' g' ∧ rs'.layout.cursor = calculatePosition S R b psize ∧
      rs'.layout.promptSize.le rs'.layout.cursor = true ∧ rs'.layout.cursor.le rs'.layout.end_ = true := by
  obtain ⟨rs', hr, h1, _, h3, h4, _⟩ := rs_refresh_total S R rs p psize dflt b a info
  exact ⟨rs', hnext ▸ h.cons hok (happ.trans hr), h1, h3, h4⟩

theorem init_inv (hc : 2 ≤ R.cols) : C02_Inv S R prompt (RS.init S R prompt) {} :=
  have hb := blank_tracks R hc
  ⟨⟨rfl, rfl, rfl, rfl, rfl, hb, hb, (by intro x hx; cases hx), ⟨[], rfl⟩⟩, rfl⟩

theorem Rep.inv (hc : 2 ≤ R.cols) (hprompt : C02_Plain S R prompt) {log : List RenderOp} {rs : RS}
    {g : C02_Shown} (h : Rep S R prompt log rs g) : C02_Inv S R prompt rs g :=
  RepFrom.inv hc hprompt h (init_inv hc)

end
section
variable (S : Segmenter) (R : RCfg) (prompt : Text)

/-- the texts of a logged operation are of the quantified kind and its cursor is on a character boundary
    (the latter is the line-buffer invariant of C03 / C17) -/
def OpFine : RenderOp → Prop
  | .refresh p line pos info =>
    C02_Plain S R (p.getD prompt) ∧ (∃ b a, splitAtByte line pos = some (b, a)) ∧ C02_PlainSplit S R line pos info
  | .moveCursor line pos _ => (∃ b a, splitAtByte line pos = some (b, a)) ∧ C02_PlainSplit S R line pos none
  | .insert _ _ _ line pos hint _ _ =>
    (∃ b a, splitAtByte line pos = some (b, a)) ∧ C02_PlainSplit S R line pos hint
  | _ => True

def LogFine (log : List RenderOp) : Prop := ∀ op ∈ log, OpFine S R prompt op

/-- the text half of `OpFine`: the logged texts are of the quantified kind (an input restriction) -/
def OpPlain : RenderOp → Prop
  | .refresh p line pos info => C02_Plain S R (p.getD prompt) ∧ C02_PlainSplit S R line pos info
  | .moveCursor line pos _ => C02_PlainSplit S R line pos none
  | .insert _ _ _ line pos hint _ _ => C02_PlainSplit S R line pos hint
  | _ => True

/-- the cursor half of `OpFine`: the logged cursor is on a character boundary of the logged line (what the
    line-buffer invariant of C03 / C17, `WF s.line`, says of the state in which the renderer was called) -/
def OpBd : RenderOp → Prop
  | .refresh _ line pos _ => IsBoundary line pos
  | .moveCursor line pos _ => IsBoundary line pos
  | .insert _ _ _ line pos _ _ _ => IsBoundary line pos
  | _ => True

def LogPlain (log : List RenderOp) : Prop := ∀ op ∈ log, OpPlain S R prompt op
def LogBd (log : List RenderOp) : Prop := ∀ op ∈ log, OpBd op

theorem opFine_iff (op : RenderOp) : OpFine S R prompt op ↔ OpPlain S R prompt op ∧ OpBd op := by
  cases op <;> simp only [OpFine, OpPlain, OpBd, isBoundary_iff_split, and_true] <;> constructor <;>
    (intro h; first | exact ⟨⟨h.1, h.2.2⟩, h.2.1⟩ | exact ⟨h.1.1, h.2, h.1.2⟩ | exact ⟨h.2, h.1⟩ | exact h)

theorem logFine_iff (log : List RenderOp) :
    LogFine S R prompt log ↔ LogPlain S R prompt log ∧ LogBd log := by
  constructor
  · intro h
    exact ⟨fun op ho => ((opFine_iff S R prompt op).1 (h op ho)).1, fun op ho => ((opFine_iff S R prompt op).1 (h op ho)).2⟩
  · intro h op ho
    exact (opFine_iff S R prompt op).2 ⟨h.1 op ho, h.2 op ho⟩

/-- between a change of the line and the repaint: the log replays, the believed cursor is known -/
def DirtyP (log : List RenderOp) (lc : Pos) : Prop :=
  ∃ rs g, Rep S R prompt log rs g ∧ rs.layout.cursor = lc ∧ C02_Plain S R g.hint

/-- the screen shows the read's own prompt and the text `buf` (with `hint` or no hint) -/
structure ShownCore (log : List RenderOp) (lc : Pos) (buf : Text) (hint : Option Text) (rs : RS) (g : C02_Shown) :
    Prop where
  rep : Rep S R prompt log rs g
  cur : rs.layout.cursor = lc
  hplain : C02_Plain S R g.hint
  own : g.prompt = prompt
  text : g.before ++ g.after = buf
  hint : g.hint = hint.getD [] ∨ g.hint = []
  le1 : rs.layout.promptSize.le rs.layout.cursor = true
  le2 : rs.layout.cursor.le rs.layout.end_ = true

def TextShownP (log : List RenderOp) (lc : Pos) (buf : Text) (hint : Option Text) : Prop :=
  ∃ rs g, ShownCore S R prompt log lc buf hint rs g

/-- … and the cursor is shown at byte `pos` -/
def ShownP (log : List RenderOp) (lc : Pos) (buf : Text) (pos : Nat) (hint : Option Text) : Prop :=
  ∃ rs g, ShownCore S R prompt log lc buf hint rs g ∧ splitAtByte buf pos = some (g.before, g.after)

/-- some prompt — the read's own, or that of an incremental search —, the line and the cursor are shown -/
def ShownA (log : List RenderOp) (lc : Pos) (buf : Text) (pos : Nat) (hint : Option Text) : Prop :=
  ∃ rs g, Rep S R prompt log rs g ∧ rs.layout.cursor = lc ∧ C02_Plain S R g.hint ∧
    (g.prompt = prompt ∨ C02_IsSearchPrompt g.prompt) ∧
    splitAtByte buf pos = some (g.before, g.after) ∧ (g.hint = hint.getD [] ∨ g.hint = [])

variable {S R prompt}

theorem ShownP.any {log : List RenderOp} {lc : Pos} {buf : Text} {pos : Nat} {hint : Option Text}
    (h : ShownP S R prompt log lc buf pos hint) : ShownA S R prompt log lc buf pos hint := by
  obtain ⟨rs, g, hc, hs⟩ := h
  exact ⟨rs, g, hc.rep, hc.cur, hc.hplain, Or.inl hc.own, hs, hc.hint⟩

theorem ShownA.dirty {log : List RenderOp} {lc : Pos} {buf : Text} {pos : Nat} {hint : Option Text}
    (h : ShownA S R prompt log lc buf pos hint) : DirtyP S R prompt log lc := by
  obtain ⟨rs, g, hr, hc, hp, _⟩ := h; exact ⟨rs, g, hr, hc, hp⟩

theorem ShownP.text {log : List RenderOp} {lc : Pos} {buf : Text} {pos : Nat} {hint : Option Text}
    (h : ShownP S R prompt log lc buf pos hint) : TextShownP S R prompt log lc buf hint := by
  obtain ⟨rs, g, hc, _⟩ := h; exact ⟨rs, g, hc⟩

theorem TextShownP.dirty {log : List RenderOp} {lc : Pos} {buf : Text} {hint : Option Text}
    (h : TextShownP S R prompt log lc buf hint) : DirtyP S R prompt log lc := by
  obtain ⟨rs, g, hc⟩ := h; exact ⟨rs, g, hc.rep, hc.cur, hc.hplain⟩

theorem plain_nil : C02_Plain S R [] := by
  intro g hg
  have hf := S.flatten_eq []
  cases hs : S.seg [] with
  | nil => rw [hs] at hg; cases hg
  | cons x xs =>
    rw [hs] at hf
    simp at hf
    exact absurd hf.1 (S.ne_nil [] x (by rw [hs]; simp))

set_option linter.unusedSectionVars false
variable (hc : 2 ≤ R.cols) (hprompt : C02_Plain S R prompt)
include hc hprompt

theorem dirty_refresh_own {log : List RenderOp} {lc : Pos} (h : DirtyP S R prompt log lc) (b a : Text)
    (info : Option Text) (hfine : OpFine S R prompt (.refresh none (b ++ a) (blen b) info)) :
    ShownP S R prompt (.refresh none (b ++ a) (blen b) info :: log)
      (calculatePosition S R b (calculatePosition S R prompt {})) (b ++ a) (blen b) info := by
  obtain ⟨rs, g, hrep, _, _⟩ := h
  obtain ⟨hp, _, hsplit⟩ := hfine
  obtain ⟨rs', hrep', h1, h3, h4⟩ := hrep.cons_refresh (op := .refresh none (b ++ a) (blen b) info) ⟨hp, hsplit⟩
    prompt rs.promptSize true b a info rfl (g' := ⟨prompt, b, a, info.getD []⟩) (by simp [C02_next, splitAtByte_append])
  exact ⟨rs', _, ⟨hrep', by rw [h1, (hrep.inv hc hprompt).psize], (hsplit b a (splitAtByte_append b a)).2.2, rfl, rfl,
    Or.inl rfl, h3, h4⟩, splitAtByte_append b a⟩

theorem dirty_refresh_dyn {log : List RenderOp} {lc : Pos} (h : DirtyP S R prompt log lc) (p b a : Text)
    (info : Option Text) (hfine : OpFine S R prompt (.refresh (some p) (b ++ a) (blen b) info)) :
    ∃ rs g, Rep S R prompt (.refresh (some p) (b ++ a) (blen b) info :: log) rs g ∧
      rs.layout.cursor = calculatePosition S R b (calculatePosition S R p {}) ∧ C02_Plain S R g.hint ∧
      g.prompt = p ∧ splitAtByte (b ++ a) (blen b) = some (g.before, g.after) ∧ g.hint = info.getD [] := by
  obtain ⟨rs, g, hrep, _, _⟩ := h
  obtain ⟨hp, _, hsplit⟩ := hfine
  obtain ⟨rs', hrep', h1, _⟩ := hrep.cons_refresh (op := .refresh (some p) (b ++ a) (blen b) info) ⟨hp, hsplit⟩
    p (calculatePosition S R p {}) false b a info rfl (g' := ⟨p, b, a, info.getD []⟩) (by simp [C02_next, splitAtByte_append])
  exact ⟨rs', _, hrep', h1, (hsplit b a (splitAtByte_append b a)).2.2, rfl, splitAtByte_append b a, rfl⟩

theorem any_sync {log : List RenderOp} {lc : Pos} {buf : Text} {pos : Nat} {hint : Option Text}
    (h : ShownA S R prompt log lc buf pos hint) :
    ShownA S R prompt (.sync buf pos hint :: log) lc buf pos hint := by
  obtain ⟨rs, g, hrep, hcur, hpl, hpr, hs, hh⟩ := h
  have hok : C02_StepOK S R prompt rs g (.sync buf pos hint) := ⟨hpr, hs, hh⟩
  have happ : rs.apply S R prompt (.sync buf pos hint) = .ok { rs with out := [], segs := rs.out :: rs.segs } := rfl
  exact ⟨_, _, hrep.cons hok happ, hcur, hpl, hpr, hs, hh⟩

/-- the new cursor of a cursor-only move is not beyond the believed end -/
theorem cursor_le_end {rs : RS} {g : C02_Shown} (hinv : C02_Inv S R prompt rs g) (hown : g.prompt = prompt)
    (b a : Text) (htext : g.before ++ g.after = b ++ a) (hb : C02_Plain S R b) (ha : C02_Plain S R a)
    (hh : C02_Plain S R g.hint) :
    (calculatePosition S R b rs.promptSize).le rs.layout.end_ = true := by
  have hps := tracks_calc S R hc prompt _ _ hprompt (blank_tracks R hc)
  have t1 := tracks_calc S R hc b _ _ hb hps
  have t2 := tracks_calc S R hc a _ _ ha t1
  have t3 := tracks_calc S R hc g.hint _ _ hh t2
  have hend := hinv.synced.end_
  rw [hown, htext] at hend
  rw [← Term.feed_append, ← Term.feed_append, ← Term.feed_append] at t3
  have e : prompt ++ (b ++ (a ++ g.hint)) = prompt ++ (b ++ a) ++ g.hint := by simp [List.append_assoc]
  rw [e] at t3
  have := tracks_unique hend t3
  rw [this, hinv.psize]
  exact Pos.le_trans (calcPos_le S R a _) (calcPos_le S R g.hint _)

/-- `move_cursor`, whichever of its three ways it goes -/
theorem shown_moveCursor {log : List RenderOp} {lc : Pos} {hint : Option Text} (b a : Text)
    (h : TextShownP S R prompt log lc (b ++ a) hint) (hl : Bool)
    (hfine : OpFine S R prompt (.moveCursor (b ++ a) (blen b) hl)) :
    ShownP S R prompt (.moveCursor (b ++ a) (blen b) hl :: log)
      (calculatePosition S R b (calculatePosition S R prompt {})) (b ++ a) (blen b) hint := by
  obtain ⟨rs, g, hcore⟩ := h
  have hinv := hcore.rep.inv hc hprompt
  obtain ⟨_, hsplit⟩ := hfine
  obtain ⟨hpb, hpa, _⟩ := hsplit b a (splitAtByte_append b a)
  have hok : C02_StepOK S R prompt rs g (.moveCursor (b ++ a) (blen b) hl) := ⟨hcore.own, hcore.text, hsplit⟩
  have hps := hinv.psize
  by_cases hsame : rs.layout.cursor = calculatePosition S R b rs.promptSize
  · -- nothing is written
    have hbeq : (rs.layout.cursor == calculatePosition S R b rs.promptSize) = true := by simpa using hsame
    have happ : rs.apply S R prompt (.moveCursor (b ++ a) (blen b) hl) = .ok rs := by
      simp only [RS.apply, RS.moveCursor, splitAtByte_append, hbeq, if_true]
    have hrep' := hcore.rep.cons hok happ
    have hnext : C02_next S R prompt rs g (.moveCursor (b ++ a) (blen b) hl) = { g with before := b, after := a } := by
      simp only [C02_next, splitAtByte_append, hbeq, if_true]
    rw [hnext] at hrep'
    exact ⟨rs, _, ⟨hrep', by rw [hsame, hps], hcore.hplain, hcore.own, rfl, hcore.hint, hcore.le1, hcore.le2⟩,
      splitAtByte_append b a⟩
  · have hbeq : ¬ (rs.layout.cursor == calculatePosition S R b rs.promptSize) = true := by simpa using hsame
    cases hl with
    | true =>
      obtain ⟨rs', hrep', h1, h3, h4⟩ := hcore.rep.cons_refresh hok prompt rs.promptSize true b a none
        (by simp only [RS.apply, RS.moveCursor, splitAtByte_append, hbeq, Bool.false_eq_true, if_false, if_true])
        (g' := ⟨prompt, b, a, []⟩)
        (by simp only [C02_next, splitAtByte_append, hbeq, if_false, if_true, Bool.false_eq_true])
      exact ⟨rs', _, ⟨hrep', by rw [h1, hps], plain_nil, rfl, rfl, Or.inr rfl, h3, h4⟩, splitAtByte_append b a⟩
    | false =>
      have hle2 := cursor_le_end hc hprompt hinv hcore.own b a hcore.text hpb hpa hcore.hplain
      have hle1 : rs.promptSize.le (calculatePosition S R b rs.promptSize) = true := calcPos_le S R b _
      have happ : rs.apply S R prompt (.moveCursor (b ++ a) (blen b) false) = .ok
          { (rs.emit (moveCursorBytes R rs.layout.cursor (calculatePosition S R b rs.promptSize))) with
            layout := { rs.layout with promptSize := rs.promptSize, cursor := calculatePosition S R b rs.promptSize } } := by
        simp only [RS.apply, RS.moveCursor, splitAtByte_append, hbeq, if_false, Bool.false_eq_true]
        rw [if_neg (by simp [hle1, hle2])]
      have hrep' := hcore.rep.cons hok happ
      have hnext : C02_next S R prompt rs g (.moveCursor (b ++ a) (blen b) false) = { g with before := b, after := a } := by
        simp only [C02_next, splitAtByte_append, hbeq, if_false, Bool.false_eq_true]
      rw [hnext] at hrep'
      exact ⟨_, _, ⟨hrep', by simp only []; rw [hps], hcore.hplain, hcore.own, rfl, hcore.hint, hle1, hle2⟩,
        splitAtByte_append b a⟩

theorem shown_sync {log : List RenderOp} {lc : Pos} {buf : Text} {pos : Nat} {hint : Option Text}
    (h : ShownP S R prompt log lc buf pos hint) :
    ShownP S R prompt (.sync buf pos hint :: log) lc buf pos hint := by
  obtain ⟨rs, g, hcore, hs⟩ := h
  have hok : C02_StepOK S R prompt rs g (.sync buf pos hint) := ⟨Or.inl hcore.own, hs, hcore.hint⟩
  have happ : rs.apply S R prompt (.sync buf pos hint) = .ok { rs with out := [], segs := rs.out :: rs.segs } := rfl
  have hrep' := hcore.rep.cons hok happ
  exact ⟨_, _, ⟨hrep', hcore.cur, hcore.hplain, hcore.own, hcore.text, hcore.hint, hcore.le1, hcore.le2⟩, hs⟩

theorem dirty_clearScreen {log : List RenderOp} {lc : Pos} (h : DirtyP S R prompt log lc) :
    DirtyP S R prompt (.clearScreen :: log) {} := by
  obtain ⟨rs, g, hrep, _, _⟩ := h
  have happ : rs.apply S R prompt .clearScreen =
      .ok { (rs.emit clearScreenBytes) with layout := { rs.layout with cursor := {}, end_ := {} } } := rfl
  exact ⟨_, _, hrep.cons (op := .clearScreen) trivial happ, rfl, plain_nil⟩

theorem dirty_moveToEnd {log : List RenderOp} {lc : Pos} (h : DirtyP S R prompt log lc) :
    ∃ rs g, Rep S R prompt (.moveToEnd :: log) rs g := by
  obtain ⟨rs, g, hrep, _, _⟩ := h
  by_cases hsame : (rs.layout.cursor == rs.layout.end_) = true
  · have happ : rs.apply S R prompt .moveToEnd = .ok rs := by simp only [RS.apply, hsame, if_true]
    exact ⟨_, _, hrep.cons (op := .moveToEnd) trivial happ⟩
  · have happ : rs.apply S R prompt .moveToEnd =
        .ok { (rs.emit (moveCursorBytes R rs.layout.cursor rs.layout.end_)) with
              layout := { rs.layout with cursor := rs.layout.end_ } } := by
      simp only [RS.apply, hsame, Bool.false_eq_true, if_false]
    exact ⟨_, _, hrep.cons (op := .moveToEnd) trivial happ⟩

/-- `edit_insert` when the renderer repaints (`push = false`, a guard that fails, or a highlight change) -/
theorem dirty_insert_slow {log : List RenderOp} {lc : Pos} (h : DirtyP S R prompt log lc) (ch : Char) (n : Nat)
    (push : Bool) (b a : Text) (hint : Option Text) (nph hl : Bool)
    (hslow : (push && (n == 1 && R.cw ch != 0 && decide (lc.col + R.cw ch < R.cols) && (hint.isNone && nph) && !hl)) = false)
    (hfine : OpFine S R prompt (.insert ch n push (b ++ a) (blen b) hint nph hl)) :
    ShownP S R prompt (.insert ch n push (b ++ a) (blen b) hint nph hl :: log)
      (calculatePosition S R b (calculatePosition S R prompt {})) (b ++ a) (blen b) hint := by
  obtain ⟨rs, g, hrep, hcur, _⟩ := h
  obtain ⟨_, hsplit⟩ := hfine
  have hg : (push && fastPathGuard R rs.layout ch n hint nph hl) = false := by
    unfold fastPathGuard; rw [hcur]; exact hslow
  obtain ⟨rs', hrep', h1, h3, h4⟩ := hrep.cons_refresh (op := .insert ch n push (b ++ a) (blen b) hint nph hl)
    ⟨fun h => (by rw [hg] at h; cases h), hsplit⟩ prompt rs.promptSize true b a hint
    (by simp only [RS.apply, RS.insert, hg, Bool.false_eq_true, if_false]) (g' := ⟨prompt, b, a, hint.getD []⟩)
    (by simp only [C02_next, hg, Bool.false_eq_true, if_false, splitAtByte_append])
  refine ⟨rs', _, ⟨hrep', by rw [h1, (hrep.inv hc hprompt).psize], (hsplit b a (splitAtByte_append b a)).2.2, rfl, rfl,
    Or.inl rfl, h3, h4⟩, splitAtByte_append b a⟩

/-- the fast path of `edit_insert`: one character appended at the end of a hint-less line -/
theorem shown_insert_fast {log : List RenderOp} {lc : Pos} {buf : Text}
    (h : ShownP S R prompt log lc buf (blen buf) none) (ch : Char) (hch : isC0Control ch = false)
    (hguard : (R.cw ch != 0 && decide (lc.col + R.cw ch < R.cols)) = true)
    (hfine : OpFine S R prompt (.insert ch 1 true (buf ++ [ch]) (blen (buf ++ [ch])) none true false)) :
    ShownP S R prompt (.insert ch 1 true (buf ++ [ch]) (blen (buf ++ [ch])) none true false :: log)
      { lc with col := lc.col + R.cw ch } (buf ++ [ch]) (blen (buf ++ [ch])) none := by
  obtain ⟨rs, g, hcore, hs⟩ := h
  obtain ⟨_, hsplit⟩ := hfine
  -- the cursor is at the end: nothing after it on the screen
  obtain ⟨hbef, haft⟩ : g.before = buf ∧ g.after = [] := by
    have := splitAtByte_append buf []
    rw [List.append_nil, hs] at this
    simpa using this
  have hhint : g.hint = [] := by rcases hcore.hint with h | h <;> simpa using h
  have hg : (true && fastPathGuard R rs.layout ch 1 none true false) = true := by
    unfold fastPathGuard; rw [hcore.cur]; simpa using hguard
  have hok : C02_StepOK S R prompt rs g (.insert ch 1 true (buf ++ [ch]) (blen (buf ++ [ch])) none true false) :=
    ⟨fun _ => ⟨haft, hhint, hch⟩, hsplit⟩
  have hle1 := hcore.le1
  have hle2 := hcore.le2
  have e1 : rs.layout.promptSize.le { rs.layout.cursor with col := rs.layout.cursor.col + R.cw ch } = true := by
    simp only [Pos.le, Bool.or_eq_true, decide_eq_true_eq, Bool.and_eq_true, beq_iff_eq] at hle1 ⊢; omega
  have e2 : ({ rs.layout.cursor with col := rs.layout.cursor.col + R.cw ch } : Pos).le
      { rs.layout.end_ with col := rs.layout.end_.col + R.cw ch } = true := by
    simp only [Pos.le, Bool.or_eq_true, decide_eq_true_eq, Bool.and_eq_true, beq_iff_eq] at hle2 ⊢; omega
  have happ : rs.apply S R prompt (.insert ch 1 true (buf ++ [ch]) (blen (buf ++ [ch])) none true false) = .ok
      { (rs.emit [ch]) with layout :=
        { rs.layout with cursor := { rs.layout.cursor with col := rs.layout.cursor.col + R.cw ch },
                         end_ := { rs.layout.end_ with col := rs.layout.end_.col + R.cw ch } } } := by
    simp only [RS.apply, RS.insert, hg, if_true]
    rw [if_neg (by simp [e1, e2])]
  have hrep' := hcore.rep.cons hok happ
  have hnext : C02_next S R prompt rs g (.insert ch 1 true (buf ++ [ch]) (blen (buf ++ [ch])) none true false) =
      ⟨g.prompt, g.before ++ [ch], [], []⟩ := by
    simp only [C02_next, hg, if_true]
  rw [hnext, hbef] at hrep'
  refine ⟨_, _, ⟨hrep', by simp only []; rw [hcore.cur], plain_nil, hcore.own, by simp, Or.inr rfl, e1, e2⟩, ?_⟩
  · have := splitAtByte_append (buf ++ [ch]) []
    simpa using this

end

/-- the `writeln` after `readline_edit` appends one newline to what a non-panicking replay wrote -/
theorem RS.run_snoc_writeln (S : Segmenter) (R : RCfg) (prompt : Text) (ops : List RenderOp) :
    ∀ (s rs : RS), RS.run S R prompt s ops = (rs, false) →
      RS.run S R prompt s (ops ++ [.writeln]) = (rs.emit ['\n'], false) := by
  induction ops with
  | nil => intro s rs h; simp only [RS.run] at h; injection h with h1 _; subst h1; rfl
  | cons op ops ih =>
    intro s rs h
    simp only [List.cons_append, RS.run] at h ⊢
    cases happ : s.apply S R prompt op with
    | error e => rw [happ] at h; simp at h
    | ok s' => rw [happ] at h; exact ih s' rs h

end Rl
