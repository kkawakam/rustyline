/-
  C02, the text half of `LogFine` from an alphabet (`Alpha` = alphabet, a set of characters `A : Char → Bool`).
  Needs: `LogPlain` (every logged text consists of `PlainG` clusters; `Rl/Lemmas/RenderLog.lean`).
  Provides: `LogPlain` reduced to a character-level predicate on the log: for an alphabet `A` over which every text
  segments into `PlainG` clusters (`AlphaPlain S R A`, a hypothesis on segmenter, width table and alphabet), it is
  enough that every logged prompt, line and hint is written over `A` (`LogAlpha`; `logPlain_of_alpha`).  `LogAlpha`
  does not mention the segmenter: it is a statement about which characters reach the screen.
-/
import Rl.Lemmas.RenderLog
namespace Rl

def OverA (A : Char → Bool) (t : Text) : Prop := ∀ c ∈ t, A c = true

theorem OverA.nil (A : Char → Bool) : OverA A [] := fun _ h => by cases h

theorem OverA.append_left {A : Char → Bool} {a b : Text} (h : OverA A (a ++ b)) : OverA A a :=
  fun c hc => h c (List.mem_append_left _ hc)

theorem OverA.append_right {A : Char → Bool} {a b : Text} (h : OverA A (a ++ b)) : OverA A b :=
  fun c hc => h c (List.mem_append_right _ hc)

/-- the alphabet is one over which the cell arithmetic is right: every text over it segments into clusters of the
    quantified kind (line breaks, or a printable base character with zero-width followers whose cluster width is the
    width of the base character and fits the terminal).  True of the ASCII printable characters, East Asian wide
    characters and combining marks with `unicode-width` and UAX #29; false of regional indicators, Hangul jamo and
    emoji ZWJ sequences. -/
def AlphaPlain (S : Segmenter) (R : RCfg) (A : Char → Bool) : Prop := ∀ t, OverA A t → C02_Plain S R t

def OpAlpha (A : Char → Bool) (prompt : Text) : RenderOp → Prop
  | .refresh p line _ info => OverA A (p.getD prompt) ∧ OverA A line ∧ OverA A (info.getD [])
  | .moveCursor line _ _ => OverA A line
  | .insert _ _ _ line _ hint _ _ => OverA A line ∧ OverA A (hint.getD [])
  | _ => True

def LogAlpha (A : Char → Bool) (prompt : Text) (log : List RenderOp) : Prop := ∀ op ∈ log, OpAlpha A prompt op

section
variable {S : Segmenter} {R : RCfg} {A : Char → Bool} {prompt : Text}

theorem plainSplit_of_alpha (hA : AlphaPlain S R A) {line : Text} {pos : Nat} {info : Option Text}
    (hl : OverA A line) (hi : OverA A (info.getD [])) : C02_PlainSplit S R line pos info := by
  intro b a hs
  obtain ⟨e, _⟩ := splitAtByte_some hs
  rw [e] at hl
  exact ⟨hA _ hl.append_left, hA _ hl.append_right, hA _ hi⟩

theorem opPlain_of_alpha (hA : AlphaPlain S R A) {op : RenderOp} (h : OpAlpha A prompt op) :
    OpPlain S R prompt op := by
  cases op with
  | refresh p line pos info => exact ⟨hA _ h.1, plainSplit_of_alpha hA h.2.1 h.2.2⟩
  | moveCursor line pos hl => exact plainSplit_of_alpha hA h (OverA.nil A)
  | insert ch n push line pos hint nph hl => exact plainSplit_of_alpha hA h.1 h.2
  | clearScreen => trivial
  | moveToEnd => trivial
  | sync line pos hint => trivial
  | writeln => trivial

/-- **character level is enough**: a log written over `A` is a log of texts of the quantified kind -/
theorem logPlain_of_alpha (hA : AlphaPlain S R A) {log : List RenderOp} (h : LogAlpha A prompt log) :
    LogPlain S R prompt log :=
  fun op ho => opPlain_of_alpha hA (h op ho)

end
end Rl
