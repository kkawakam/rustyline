/-
  C02, the invariant "cursors on boundaries" (`Bd` = character boundary; `BdI` = that invariant; `PresB m` = `m`
  keeps `BdI`; lemmas `bdp_*` : `PresB …`) through the rendering primitives and the key maps.
  Needs: `LogBd`, the cursor half of `LogFine` (`Rl/Lemmas/RenderLog.lean`); the frame facts `bk_*` : `Keeps Ed.bk`
  and the walk `nextCmd_of_prims` (`Rl/Lemmas/RenderLogLift.lean`, `Rl/Lemmas/KeymapWalk.lean`).
  Provides: `LogBd` (every logged cursor is on a character boundary of the logged line) derived from the
  line-buffer invariant instead of assumed of the produced log.  `BdI s`: the cursors of line and saved line are
  on boundaries (`WF`) and every operation logged so far is `OpBd`.  It is a genuine step invariant (unlike `Sh` it
  is not broken between an edit and its repaint), kept by every rendering primitive — they log the line they are
  called with — and by reading and decoding a command (`next_cmd`, both key maps, the `(arg: n)` loops, the
  callback): `bdp_nextCmd`.
-/
import Rl.Lemmas.RenderLogLift
namespace Rl
open EM

/-- the cursors of the line and of the saved line (`backup` / `restore` of history recall) are on character
    boundaries, and so is every cursor logged so far -/
def BdI (s : Ed) : Prop := WF s.line ∧ WF s.saved ∧ LogBd s.render

theorem BdI.of_bk {s s' : Ed} (h : BdI s) (hk : s'.bk = s.bk) : BdI s' := by
  simp only [Ed.bk, Ed.sk, Prod.mk.injEq] at hk
  unfold BdI WF at *
  rw [hk.1.1, hk.1.2.2.1, hk.1.2.2.2.1, hk.2]; exact h

theorem logBd_cons {op : RenderOp} {log : List RenderOp} (h1 : OpBd op) (h2 : LogBd log) : LogBd (op :: log) := by
  intro o ho
  rcases List.mem_cons.1 ho with rfl | ho
  · exact h1
  · exact h2 o ho

/-- `BdI` is an invariant of `m`, early exits included.  The rules are those of `Pres` (`Rl/Lemmas/RenderLogLift.lean`)
    with `BdI` both as the invariant and as what is left at an exit. -/
structure PresB {α : Type} (m : EM α) : Prop where
  h : ∀ s, BdI s → wp m (fun _ s' => BdI s') (fun _ s' => BdI s') s

namespace PresB
variable {α β : Type}

theorem pure (a : α) : PresB (pure a : EM α) := ⟨fun _ h => h⟩

theorem bind {m : EM α} {g : α → EM β} (hm : PresB m) (hg : ∀ a, PresB (g a)) : PresB (m >>= g) :=
  ⟨fun s h => wp_seq (hm.h s h) fun a => (hg a).h⟩

/-- `bind` for an `m` written as a bare function on states (see `Pres.bind'`) -/
theorem bind' {m : Ed → Except (Outcome × Ed) (α × Ed)} {g : α → EM β}
    (hm : PresB (m : EM α)) (hg : ∀ a, PresB (g a)) : PresB (@Bind.bind EM _ α β m g) :=
  PresB.bind hm hg

theorem of_keeps {m : EM α} (hk : Keeps Ed.bk m) : PresB m := by
  constructor
  intro s h
  exact wp_mono (hk.wp s) (fun _ s' e => h.of_bk e) (fun _ s' e => h.of_bk e)

theorem exit (o : Outcome) : PresB (EM.exit o : EM α) := ⟨fun _ h => h⟩

theorem read (g : Ed → α) : PresB (fun s => .ok (g s, s) : EM α) := of_keeps (Keeps.read g)

theorem bindFact {m : EM α} {g : α → EM β} {P : α → Prop} (hm : PresB m)
    (hP : ∀ s a s', m s = .ok (a, s') → P a) (hg : ∀ a, P a → PresB (g a)) : PresB (m >>= g) :=
  ⟨fun s h => wp_bind_fact hP (wp_mono (hm.h s h) (fun a s1 h1 hp => (hg a hp).h s1 h1) (fun _ _ h' => h'))⟩

end PresB

section
variable {S : Segmenter} {U : UData} {cfg : EdCfg}

theorem PresB.modify {f : Ed → Ed}
    (h : ∀ s, (f s).render = s.render ∧ (f s).line = s.line ∧ (f s).saved = s.saved) : PresB (EM.modify f) := by
  constructor
  intro s hb
  show BdI (f s)
  obtain ⟨h1, h2, h3⟩ := h s
  unfold BdI at *
  rw [h1, h2, h3]; exact hb

theorem bdp_updateHint : PresB (updateHint cfg) := by
  constructor
  intro s h
  rcases updateHint_cases (cfg := cfg) s with ⟨h1, n1, e1⟩ | ⟨n1, e1⟩
  · exact wp_of_eq_ok e1 h
  · unfold wp; rw [e1]; exact h

theorem bdp_highlightCharStep : PresB (highlightCharStep cfg) := by
  constructor
  intro s h
  obtain ⟨b, hc', e2⟩ := highlightCharStep_cases (cfg := cfg) s
  exact wp_of_eq_ok e2 h

theorem bdp_setRefreshLayout (p : Text) (d : Bool) : PresB (setRefreshLayout S U cfg p d) :=
  PresB.modify fun _ => ⟨rfl, rfl, rfl⟩

/-- a logged operation that carries the current line (or no line) -/
theorem bdp_logRender (f : Ed → RenderOp) (hf : ∀ s, WF s.line → OpBd (f s)) : PresB (logRender f) := by
  constructor
  intro s h
  show BdI { s with render := f s :: s.render }
  exact ⟨h.1, h.2.1, logBd_cons (hf s h.1) h.2.2⟩

end

section
variable {S : Segmenter} {U : UData} {cfg : EdCfg}

theorem bdp_refreshLine : PresB (refreshLine S U cfg) := by
  have l1 := bdp_logRender (fun s => .refresh none s.line.buf s.line.pos s.hint) fun _ hw => hw
  unfold refreshLine
  em_walk [PresB.bind, bdp_updateHint, bdp_highlightCharStep, bdp_setRefreshLayout, l1]

theorem bdp_refreshLineWithMsg (msg : Option Text) : PresB (refreshLineWithMsg S U cfg msg) := by
  have l1 := bdp_logRender (fun s => .refresh none s.line.buf s.line.pos msg) fun _ hw => hw
  have m1 : PresB (EM.modify fun s => { s with hint := none }) := PresB.modify fun _ => ⟨rfl, rfl, rfl⟩
  unfold refreshLineWithMsg
  em_walk [PresB.bind, bdp_highlightCharStep, bdp_setRefreshLayout, l1, m1]

theorem bdp_refreshPromptAndLine (p : Text) : PresB (refreshPromptAndLine S U cfg p) := by
  have l1 := bdp_logRender (fun s => .refresh (some p) s.line.buf s.line.pos s.hint) fun _ hw => hw
  unfold refreshPromptAndLine
  em_walk [PresB.bind, bdp_updateHint, bdp_highlightCharStep, bdp_setRefreshLayout, l1]

theorem bdp_moveCursor : PresB (moveCursor S U cfg) := by
  have l1 := fun hl => bdp_logRender (fun s => .moveCursor s.line.buf s.line.pos hl) fun _ hw => hw
  have m1 : ∀ cursor : Pos, PresB (EM.modify fun s =>
      { s with layoutPromptCol := promptColOf S U cfg cfg.prompt, layoutCursor := cursor }) :=
    fun _ => PresB.modify fun _ => ⟨rfl, rfl, rfl⟩
  unfold moveCursor
  em_walk [PresB.bind, PresB.of_keeps Keeps.get, bdp_highlightCharStep, bdp_setRefreshLayout, l1, m1]

theorem bdp_customBinding (keys : List KeyEvent) (n : Nat) (p : Bool) : PresB (customBinding cfg keys n p) := by
  constructor
  intro s h
  rcases customBinding_cases (cfg := cfg) keys n p s with ⟨c, e⟩ | e
  · exact wp_of_eq_ok e h
  · exact wp_of_eq_ok e ⟨h.1, h.2.1, logBd_cons trivial h.2.2⟩

theorem presB_argPrims : ArgPrims S U cfg (fun m => PresB m) where
  toKeyPrims := KeyPrims.ofBk PresB.pure PresB.bind
    (fun keys n p _ hf => PresB.bindFact (bdp_customBinding keys n p) (customBinding_inBinds cfg keys n p) hf)
    PresB.of_keeps
  exitFuel := PresB.exit _
  refreshLine := bdp_refreshLine
  refreshPromptAndLine := bdp_refreshPromptAndLine
  viSetArg := fun _ => PresB.of_keeps (Keeps.modify fun _ => rfl)
  viDigitStep := fun _ => PresB.of_keeps (Keeps.modify fun _ => rfl)

theorem presB_viPrims : ViPrims S U cfg (fun m => PresB m) :=
  ViPrims.ofBk PresB.pure PresB.bind
    (fun keys n p _ hf => PresB.bindFact (bdp_customBinding keys n p) (customBinding_inBinds cfg keys n p) hf)
    PresB.of_keeps presB_argPrims.viArgDigit

/-- reading and decoding the next command (both key maps, the `(arg: n)` loops, the callback) leaves the
    cursors of line and saved line, and every cursor it logs, on character boundaries -/
theorem bdp_nextCmd (fuel : Nat) (sea iep : Bool) : PresB (nextCmd S U cfg fuel sea iep) :=
  nextCmd_of_prims (fun _ => presB_argPrims.toEmacsPrims fun _ => PresB.of_keeps (Keeps.modify fun _ => rfl))
    (fun _ => presB_viPrims)
    (PresB.of_keeps bk_changesBegin) fuel sea iep

end
end Rl
