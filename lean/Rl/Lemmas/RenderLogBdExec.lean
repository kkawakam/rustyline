/-
  C02, "cursors on boundaries" (`BdI`) through the edit functions and `execute`.
  Needs: `BdI` / `PresB` (`Rl/Lemmas/RenderLogBd.lean`); for every `lb` / `lbQuiet` / `lbKill` step "the operation
  keeps the cursor on a character boundary" (`LMSafe`): C03's totality theorems and the `lmsafe_*` lemmas of
  `Rl/Lemmas/EditorSafe*.lean`; the walk `ExecUnits.execute` (`Rl/Lemmas/ExecWalk.lean`).
  Provides: `bdi_lb*` (one run keeps `BdI`, `wp` form) and `bdp_lb*` (`PresB` form) for the three runners, one
  `bdp_*` lemma per edit function, and `bdp_execute`, under `cfg.indentSize ≤ 255` (it is a `u8` in rustyline)
  and the two hypotheses `YankPopWF`, `UndoWF` on `yank_pop` and on the replay of the undo log (proved in
  `Rl/Lemmas/PopUndoWF.lean`).
-/
import Rl.Lemmas.RenderLogBd
import Rl.Lemmas.EditorSafe2
import Rl.Lemmas.LBFaithful
import Rl.Props.C09
namespace Rl
open EM

section
variable {S : Segmenter} {U : UData} {cfg : EdCfg}

/-- a run of `op` that, if it returns, leaves the cursor on a boundary keeps `BdI` — under each of the three
    runners (totality is not asked for: a panic exits with the state as it was) -/
theorem bdi_lb {α : Type} {op : LM α} {s : Ed} (h : BdI s) (hw : ∀ a l ns, op s.line = .ok (a, l, ns) → WF l) :
    wp (lb S U op) (fun _ s' => BdI s') (fun _ s' => BdI s') s :=
  wp_lb_any S U (fun a l ns hs => ⟨hw a l ns hs, h.2.1, h.2.2⟩) h

theorem bdi_lbQuiet {α : Type} {op : LM α} {s : Ed} (h : BdI s) (hw : ∀ a l ns, op s.line = .ok (a, l, ns) → WF l) :
    wp (lbQuiet op) (fun _ s' => BdI s') (fun _ s' => BdI s') s := by
  cases hs : op s.line with
  | error e => rw [wp, lbQuiet_error hs]; exact h
  | ok r =>
    obtain ⟨a, l, ns⟩ := r
    exact wp_lbQuiet hs ⟨hw a l ns hs, h.2.1, h.2.2⟩

theorem bdi_lbKill {α : Type} {op : LM α} {s : Ed} (h : BdI s) (hw : ∀ a l ns, op s.line = .ok (a, l, ns) → WF l) :
    wp (lbKill S U op) (fun _ s' => BdI s') (fun _ s' => BdI s') s := by
  unfold wp lbKill
  cases hs : op s.line with
  | error e => exact h
  | ok r =>
    obtain ⟨a, l, ns⟩ := r
    simp only []
    cases lbKill.go ns s.ring with
    | error e => exact h
    | ok k => exact ⟨hw a l ns hs, h.2.1, h.2.2⟩

theorem wf_of_total {α : Type} {x : Except Panic (α × LB × List Notif)} {a : α} {l : LB} {ns : List Notif}
    (h : ∃ r lb' ns', x = .ok (r, lb', ns') ∧ WF lb') (e : x = .ok (a, l, ns)) : WF l := by
  obtain ⟨r', l', ns', h1, h2⟩ := h
  rw [e] at h1
  injection h1 with h1
  simp only [Prod.mk.injEq] at h1
  obtain ⟨_, rfl, _⟩ := h1
  exact h2

theorem bdp_lb {α : Type} {op : LM α} (hop : LMSafe op) : PresB (lb S U op) :=
  ⟨fun s h => bdi_lb h fun _ _ _ => wf_of_total (hop s.line h.1)⟩

theorem bdp_lbQuiet {α : Type} {op : LM α} (hop : LMSafe op) : PresB (lbQuiet op) :=
  ⟨fun s h => bdi_lbQuiet h fun _ _ _ => wf_of_total (hop s.line h.1)⟩

theorem bdp_lbKill {α : Type} {op : LM α} (hop : LMSafe op) : PresB (lbKill S U op) :=
  ⟨fun s h => bdi_lbKill h fun _ _ _ => wf_of_total (hop s.line h.1)⟩

theorem bdp_lb_at {α : Type} {op : LB → LM α}
    (hop : ∀ lb, WF lb → ∃ r lb' ns, op lb lb = .ok (r, lb', ns) ∧ WF lb') :
    PresB (do let l ← getLine; lb S U (op l)) := by
  constructor
  intro s h
  rw [wp_bind]
  exact bdi_lb (op := op s.line) h fun _ _ _ => wf_of_total (hop s.line h.1)

theorem lmsafe_insert (c : Char) (n : Nat) : LMSafe (LB.insert S U c n) :=
  fun lb h => C03_insert_total_wf S U c n lb h

theorem lmsafe_delete (n : Nat) : LMSafe (LB.delete S U n) := fun lb h =>
  let ⟨r, lb', ns, h1, h2, _⟩ := C03_delete_total_wf S U lb n h; ⟨r, lb', ns, h1, h2⟩

theorem lmsafe_indent (m : Movement) (k : Nat) (d : Bool) (hk : k ≤ 255) : LMSafe (LB.indent S U m k d) :=
  fun lb h => C03_indent_total_wf S U m k d lb h hk

theorem lmsafe_update {b : Text} {p : Nat} (hp : IsBoundary b p) : LMSafe (LB.update S U b p) := fun lb _ =>
  let ⟨lb', ns, h1, h2, _⟩ := C03_update_total_wf_capacity S U b p lb hp; ⟨(), lb', ns, h1, h2⟩

theorem isBoundary_blen (t : Text) : IsBoundary t (blen t) := ⟨t, [], by simp, rfl⟩

theorem bdp_editMove {op : LM Bool} (hop : LMSafe op) : PresB (editMove S U cfg op) := by
  unfold editMove
  em_walk [PresB.pure, PresB.bind, bdp_lbQuiet hop, bdp_moveCursor]

theorem bdp_editKill (mvt : Movement) : PresB (editKill S U cfg mvt) := by
  unfold editKill
  em_walk [PresB.pure, PresB.bind, bdp_lbKill (lmsafe_kill S U mvt), bdp_refreshLine]

theorem bdp_grouped {op : LM Bool} (hop : LMSafe op) : PresB (grouped S U cfg op) := by
  unfold grouped
  em_walk [PresB.pure, PresB.bind, PresB.of_keeps bk_changesBegin, PresB.of_keeps bk_changesEnd, bdp_lb hop,
    bdp_refreshLine]

theorem bdp_editInsert (c : Char) (n : Nat) : PresB (editInsert S U cfg c n) := by
  have l1 : ∀ push nph hl, PresB (logRender fun s => .insert c n push s.line.buf s.line.pos s.hint nph hl) :=
    fun _ _ _ => bdp_logRender _ fun _ hw => hw
  have m1 : ∀ w : Nat, PresB (EM.modify fun s =>
      { s with layoutCursor := { s.layoutCursor with col := s.layoutCursor.col + w } }) :=
    fun _ => PresB.modify fun _ => ⟨rfl, rfl, rfl⟩
  unfold editInsert
  em_walk [PresB.pure, PresB.bind, PresB.of_keeps Keeps.get, bdp_lb (lmsafe_insert c n), bdp_updateHint,
    bdp_highlightCharStep, bdp_setRefreshLayout, l1, m1]

theorem bdp_editReplaceChar (c : Char) (n : Nat) : PresB (editReplaceChar S U cfg c n) := by
  unfold editReplaceChar
  em_walk [PresB.pure, PresB.bind, PresB.exit, PresB.of_keeps bk_changesBegin, PresB.of_keeps bk_changesEnd,
    bdp_lb (lmsafe_delete n), bdp_lb (lmsafe_insert c _), bdp_lbQuiet (lmsafe_moveBackward S U 1), bdp_refreshLine]

theorem bdp_completeHintLine : PresB (completeHintLine S U cfg) := by
  unfold completeHintLine
  em_walk [PresB.pure, PresB.bind, PresB.bind', PresB.read, bdp_lbQuiet (lmsafe_moveEnd S U),
    bdp_lb (lmsafe_yank S U _ 1), bdp_refreshLine]

theorem bdp_validate : PresB (validate S U cfg) := by
  have m1 : ∀ l : LB, PresB (EM.modify fun s => { s with validatorCalls := l.buf :: s.validatorCalls }) :=
    fun _ => PresB.of_keeps (Keeps.modify fun _ => rfl)
  unfold validate
  em_walk [PresB.pure, PresB.bind, PresB.exit, PresB.of_keeps bk_changesBegin, PresB.of_keeps bk_changesEnd,
    PresB.of_keeps bk_getLine, PresB.of_keeps bk_hasHint, m1, bdp_refreshLineWithMsg none]

theorem bdp_execAccept (aim : Bool) : PresB (execAccept S U cfg aim) := by
  unfold execAccept
  em_walk [PresB.pure, PresB.bind, PresB.of_keeps bk_getLine, bdp_validate, bdp_editInsert]

/-- `backup`: the saved line becomes a copy of the line -/
theorem bdp_backup : PresB (backup S U) := by
  constructor
  intro s h
  unfold wp backup
  obtain ⟨r', l', ns', h1, h2⟩ := lmsafe_update (S := S) (U := U) (show IsBoundary s.line.buf s.line.pos from h.1)
    s.saved h.2.1
  rw [h1]
  exact ⟨h.1, h2, h.2.2⟩

/-- `restore`: the line becomes a copy of the saved line -/
theorem bdp_restore : PresB (restore S U) := by
  constructor
  intro s h
  unfold restore
  rw [wp_bind', wp_read]
  exact (bdp_lb (S := S) (U := U) (lmsafe_update (S := S) (U := U)
    (show IsBoundary s.saved.buf s.saved.pos from h.2.1))).h s h

theorem bdp_showEntry {b : Text} {p : Nat} (hp : IsBoundary b p) : PresB (showEntry S U b p) := by
  unfold showEntry
  em_walk [PresB.pure, PresB.bind, PresB.of_keeps bk_changesBegin, PresB.of_keeps bk_changesEnd,
    bdp_lb (lmsafe_update hp)]

theorem bdp_editInsertText (t : Text) : PresB (editInsertText S U cfg t) := by
  constructor
  intro s h
  unfold editInsertText
  split
  · exact h
  · rw [wp_bind, wp_getLine, wp_bind]
    exact wp_mono
      (bdi_lb h fun _ _ _ => wf_of_total (C03_insertStr_total_wf S U s.line.pos t s.line h.1 h.1 (Nat.le_refl _)))
      (fun _ s' h' => bdp_refreshLine.h s' h') (fun _ _ h' => h')

theorem bdp_editOverwriteChar (c : Char) : PresB (editOverwriteChar S U cfg c) := by
  constructor
  intro s h
  unfold editOverwriteChar
  simp only [wp_bind, wp_getLine]
  obtain ⟨r, hr, hp⟩ := nextPos_ok S s.line 1 h.1
  refine wp_liftP_ok hr ?_
  cases r with
  | none => exact h
  | some e =>
    obtain ⟨hb, hlt⟩ := hp e rfl
    obtain ⟨l, ns, hrep, hw⟩ := C03_replace_total_wf S U s.line.pos e [c] s.line h.1 hb (Nat.le_of_lt hlt)
    simp only [wp_bind]
    refine wp_lb S U hrep ?_
    exact (bdp_refreshLine (S := S) (U := U) (cfg := cfg)).h _ ⟨hw, h.2.1, h.2.2⟩

theorem bdp_editHistorySearch (dir : Dir) : PresB (editHistorySearch S U cfg dir) := by
  constructor
  intro s h
  unfold editHistorySearch
  simp only [wp_bind, wp_ite, wp_pure, wp_getHistIdx, wp_setHistIdx, wp_getLine]
  split
  · exact h
  · split
    · exact h
    · obtain ⟨x, z, hb, hp⟩ := WF.split h.1
      have hs : sliceTo s.line.buf s.line.pos = .ok x := by rw [hb, hp]; exact sliceTo_mid x z
      refine wp_liftP_ok hs ?_
      cases hst : (memHist cfg).startsWith x (if (dir == Dir.reverse) = true then s.histIdx - 1 else s.histIdx + 1) dir with
      | none => exact h
      | some r =>
        obtain ⟨idx, entry, pos⟩ := r
        obtain ⟨_, hpre, hoff, _⟩ := C09_starts_with_sound _ _ _ _ _ _ _ hst
        simp only [wp_bind, wp_setHistIdx]
        have hbd : IsBoundary entry pos := by
          obtain ⟨rest, hr⟩ := hpre
          exact ⟨x, rest, hr.symm, hoff⟩
        have := (PresB.bind (bdp_showEntry (S := S) (U := U) hbd) fun _ =>
          bdp_refreshLine (S := S) (U := U) (cfg := cfg)).h { s with histIdx := idx } ⟨h.1, h.2.1, h.2.2⟩
        rw [wp_bind] at this
        exact this

/-- what is asked of `yank_pop` and of the undo log: whenever they return, the cursor is on a boundary
    (`yank_pop` removes `yankSize` bytes before the cursor by slicing, `Changeset::undo` replays recorded edits by
    slicing: an answer other than a panic means the slices were on boundaries) -/
def YankPopWF (S : Segmenter) (U : UData) : Prop :=
  ∀ k t lb r lb' ns, WF lb → LB.yankPop S U k t lb = .ok (r, lb', ns) → WF lb'

def UndoWF (S : Segmenter) (U : UData) : Prop :=
  ∀ (c c' : Changeset) (l l' : LB) (n : Nat) (u : Bool), WF l → c.undo S U l n = .ok (c', l', u) → WF l'

theorem bdp_editYankPop (hpop : YankPopWF S U) (k : Nat) (t : Text) : PresB (editYankPop S U cfg k t) := by
  have h2 := bdp_refreshLine (S := S) (U := U) (cfg := cfg)
  have h1 : PresB (lb S U (LB.yankPop S U k t)) := ⟨fun s h => bdi_lb h fun _ _ _ hs => hpop _ _ _ _ _ _ h.1 hs⟩
  unfold editYankPop
  em_walk [PresB.pure, PresB.bind, PresB.of_keeps bk_changesBegin, PresB.of_keeps bk_changesEnd, h1, h2]

theorem bdp_editYank (text : Text) (anchor : Anchor) (n : Nat) : PresB (editYank S U cfg text anchor n) := by
  have hsome : PresB (do
      if cfg.vi then do let _ ← lbQuiet (LB.moveBackward S U 1); Pure.pure ()
      refreshLine S U cfg : EM Unit) := by
    em_walk [PresB.pure, PresB.bind, bdp_lbQuiet (lmsafe_moveBackward S U 1), bdp_refreshLine]
  constructor
  intro s h
  -- the rest of the command, from any state with the same text
  have tail : ∀ s1 : Ed, BdI s1 → s1.line.buf = s.line.buf →
      wp (do
        match ← lb S U (LB.yank S U text n) with
        | some _ => do
          if cfg.vi then do let _ ← lbQuiet (LB.moveBackward S U 1); Pure.pure ()
          refreshLine S U cfg
        | none => lbQuiet (LB.setPosChecked S U s.line.pos) : EM Unit)
        (fun _ s' => BdI s') (fun _ s' => BdI s') s1 := by
    intro s1 h1 hb1
    rw [wp_bind]
    refine wp_lb_any S U (fun a l2 ns2 hs2 => ?_) h1
    have hw2 : WF l2 := wf_of_total (lmsafe_yank S U text n s1.line h1.1) hs2
    cases a with
    | some x => exact hsome.h _ ⟨hw2, h1.2.1, h1.2.2⟩
    | none =>
      simp only []
      -- nothing was pasted: the text is the one the command started with
      obtain ⟨hb2, _⟩ := (lbFaithful S U).yank text n _ _ _ _ hs2 rfl
      have hbd : IsBoundary l2.buf s.line.pos := by rw [hb2, hb1]; exact h.1
      obtain ⟨l3, hset, hw3, _⟩ := C03_setPos_total_wf S U s.line.pos l2 hbd
      refine wp_lbQuiet (s := { s1 with line := l2, changes := s1.changes.onNotifs S U.alnum ns2 }) hset ?_
      exact ⟨hw3, h1.2.1, h1.2.2⟩
  unfold editYank
  simp only [wp_bind, wp_get]
  by_cases ha : (anchor == Anchor.after) = true
  · simp only [ha, if_true, wp_bind]
    cases hs1 : LB.moveForward S U 1 s.line with
    | error e => rw [wp, lbQuiet_error hs1]; exact h
    | ok r =>
      obtain ⟨r1, l1, ns1⟩ := r
      refine wp_lbQuiet hs1 ?_
      have hw1 : WF l1 := wf_of_total (lmsafe_moveForward S U 1 s.line h.1) hs1
      obtain ⟨hb1, _⟩ := (lbFaithful S U).moveForward 1 _ _ _ _ h.1 hs1
      have := tail { s with line := l1 } ⟨hw1, h.2.1, h.2.2⟩ hb1
      rw [wp_bind] at this
      exact this
  · simp only [ha, Bool.false_eq_true, if_false]
    exact tail s h rfl

/-- `Cmd::Undo`, given that the undo log leaves the cursor on a boundary -/
theorem bdp_undo (hundo : UndoWF S U) (n : Nat) : PresB (do
    let s ← get
    match s.changes.undo S U s.line n with
    | .ok (c, l, undone) => do
      set { s with changes := c, line := l }
      if undone then refreshLine S U cfg
      Pure.pure Status.proceed
    | .error _ => exit .panic : EM Status) := by
  constructor
  intro s h
  simp only [wp_bind, wp_get]
  cases hu : s.changes.undo S U s.line n with
  | error e => exact h
  | ok r =>
    obtain ⟨c, l, undone⟩ := r
    simp only [wp_bind, wp_set]
    have h1 : BdI ({ s with changes := c, line := l } : Ed) := ⟨hundo _ _ _ _ _ _ h.1 hu, h.2.1, h.2.2⟩
    cases undone with
    | true =>
      simp only [if_true]
      exact (PresB.bind (bdp_refreshLine (S := S) (U := U) (cfg := cfg)) fun _ => PresB.pure Status.proceed).h _ h1
    | false =>
      simp only [Bool.false_eq_true, if_false]
      exact h1

theorem lmsafe_of_moveOp : ∀ {op : LM Bool}, MoveOp S U op → LMSafe op
  | _, .moveHome => lmsafe_moveHome S U
  | _, .moveToFirstPrint => lmsafe_moveToFirstPrint S U
  | _, .moveEnd => lmsafe_moveEnd S U
  | _, .moveBackward n => lmsafe_moveBackward S U n
  | _, .moveForward n => lmsafe_moveForward S U n
  | _, .moveToPrevWord w n => lmsafe_moveToPrevWord S U w n
  | _, .moveToNextWord a w n => lmsafe_moveToNextWord S U a w n
  | _, .moveToLineUp n pc => lmsafe_moveToLineUp S U n pc
  | _, .moveToLineDown n pc => lmsafe_moveToLineDown S U n pc
  | _, .moveBufferStart => lmsafe_moveBufferStart S U
  | _, .moveBufferEnd => lmsafe_moveBufferEnd S U
  | _, .moveTo cs n => lmsafe_moveTo S U cs n

theorem lmsafe_of_groupOp : ∀ {op : LM Bool}, GroupOp S U op → LMSafe op
  | _, .transposeChars => lmsafe_transposeChars S U
  | _, .editWord a => lmsafe_editWord S U a
  | _, .transposeWords n => lmsafe_transposeWords S U n

theorem presB_execUnits (hind : cfg.indentSize ≤ 255) (hpop : YankPopWF S U) : ExecUnits S U cfg (fun m => PresB m) where
  toExecBase := ExecBase.ofBk PresB.pure PresB.bind PresB.of_keeps bdp_backup
  refreshLine := bdp_refreshLine
  refreshLineWithMsg := bdp_refreshLineWithMsg none
  editInsert := bdp_editInsert
  editReplaceChar := bdp_editReplaceChar
  editOverwriteChar := bdp_editOverwriteChar
  editYank := bdp_editYank
  editYankPop := bdp_editYankPop hpop
  editInsertText := bdp_editInsertText
  completeHintLine := bdp_completeHintLine
  editHistorySearch := bdp_editHistorySearch
  grouped := fun ho => bdp_grouped (lmsafe_of_groupOp ho)
  editMove := fun ho => bdp_editMove (lmsafe_of_moveOp ho)
  lineArm := fun ho ha => by
    em_walk [PresB.pure, PresB.bind, PresB.of_keeps bk_getPromptCol, bdp_lbQuiet (lmsafe_of_moveOp (ho _)),
      bdp_moveCursor, ha]
  indent := fun m d => by
    em_walk [PresB.pure, PresB.bind, bdp_lb (lmsafe_indent m cfg.indentSize d hind), bdp_refreshLine]
  showEntryRefresh := fun buf => PresB.bind (bdp_showEntry (isBoundary_blen buf)) fun _ => bdp_refreshLine
  restoreRefresh := PresB.bind bdp_restore fun _ => bdp_refreshLine
  clearScreen := PresB.bind (bdp_logRender _ fun _ _ => trivial) fun _ =>
    PresB.bind (PresB.modify fun _ => ⟨rfl, rfl, rfl⟩) fun _ => PresB.bind bdp_refreshLine fun _ => PresB.pure _
  interrupt := PresB.bind (bdp_logRender _ fun _ _ => trivial) fun _ => PresB.exit _

theorem presB_ringUnits : RingUnits S U cfg (fun m => PresB m) where
  editKill := bdp_editKill
  ringYank := PresB.of_keeps bk_ringYank
  ringYankCount := fun n => PresB.of_keeps (bk_ringYankCount n)
  ringYankPop := PresB.of_keeps bk_ringYankPop
  ringKill := fun t => PresB.of_keeps (bk_ringKill t)

/-- **every command keeps the cursor on a boundary wherever it calls the renderer** — `indentSize ≤ 255` (the
    code's `u8`), and what is asked of `yank_pop` and of the undo log -/
theorem bdp_execute (hind : cfg.indentSize ≤ 255) (hpop : YankPopWF S U) (hundo : UndoWF S U) (cmd : Cmd) :
    PresB (execute S U cfg cmd) :=
  (presB_execUnits hind hpop).execute presB_ringUnits (fun n => by unfold execute; exact bdp_undo hundo n) cmd

end
end Rl
