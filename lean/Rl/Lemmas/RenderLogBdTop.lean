/-
  C02, "cursors on boundaries" (`BdI`) through the loops of `readline_edit` and the whole read.
  Needs: `bdp_nextCmd` (`Rl/Lemmas/RenderLogBd.lean`), `bdp_execute` and the `bdp_*` lemmas of the edit functions
  (`Rl/Lemmas/RenderLogBdExec.lean`).
  Provides: `PresB` of completion (circular and listing), incremental search, the dispatch loop and the main loop
  (`bdp_mainLoop`); `readline_logBd`: the log of a whole read is `LogBd`.
-/
import Rl.Lemmas.RenderLogBdExec
import Rl.Lemmas.EditorLoops
namespace Rl
open EM

section
variable {S : Segmenter} {U : UData} {cfg : EdCfg}

/-- `replace` slices at both ends: whenever it returns, the new cursor is on a boundary -/
theorem replace_wf (a b : Nat) (t : Text) (lb : LB) (r : Unit) (lb' : LB) (ns : List Notif)
    (h : LB.replace S U a b t lb = .ok (r, lb', ns)) : WF lb' := by
  unfold LB.replace at h
  cases hs : split3 lb.buf a b with
  | error e => rw [hs] at h; cases h
  | ok xyz =>
    obtain ⟨x, y, z⟩ := xyz
    rw [hs] at h
    injection h with h
    simp only [Prod.mk.injEq] at h
    obtain ⟨_, rfl, _⟩ := h
    obtain ⟨_, ha, _⟩ := split3_ok hs
    exact ⟨x ++ t, z, rfl, by simp [ha]⟩

/-- `bdp_lb` for an operation whose result is on a boundary from every start (`_u`: unconditionally), not only
    from a `WF` one -/
theorem bdp_lb_u {α : Type} {op : LM α} (hop : ∀ lb r lb' ns, op lb = .ok (r, lb', ns) → WF lb') :
    PresB (lb S U op) :=
  ⟨fun _ h => bdi_lb h fun _ _ _ hs => hop _ _ _ _ hs⟩

theorem bdp_truncateChanges (m : Nat) : PresB (truncateChanges m) :=
  PresB.modify fun _ => ⟨rfl, rfl, rfl⟩

theorem bdp_completeCircular (start : Nat) (cands : List Text) (backup : Text) (backupPos : Nat)
    (hbk : IsBoundary backup backupPos) (fuel : Nat) :
    ∀ (mark i : Nat), PresB (completeCircular S U cfg start cands mark backup backupPos fuel i) := by
  have h1 := fun a b t => bdp_lb_u (S := S) (U := U) (replace_wf (S := S) (U := U) a b t)
  have h2 := bdp_lb (S := S) (U := U) (lmsafe_update (S := S) (U := U) hbk)
  have h3 := bdp_refreshLine (S := S) (U := U) (cfg := cfg)
  intro mark i
  constructor
  intro s h
  refine wp_completeCircular S U cfg (P := fun _ _ s => BdI s) (L := fun _ _ s => BdI s) start cands backup backupPos
    (fun _ _ _ h => h) (fun _ _ _ s h => (h1 _ _ _).h s h) (fun _ _ s _ h => h2.h s h) (fun _ _ s h => h3.h s h)
    (fun _ _ fuel s h => (bdp_nextCmd fuel true true).h s h) (fun _ _ _ _ h => h) (fun m i s h => ?_)
    (fun _ _ cmd s h => (PresB.bind (PresB.of_keeps bk_changesEnd) fun _ => PresB.pure (some cmd)).h s h)
    fuel mark i s h
  refine (show PresB _ from ?_).h s h
  em_walk [PresB.pure, PresB.bind, h2, h3, bdp_truncateChanges]

theorem bdp_searchLoop (backup : Text) (backupPos : Nat) (hbk : IsBoundary backup backupPos) (fuel : Nat) :
    ∀ (mark : Nat) (sb : Text) (hi : Nat) (d : Dir) (succ : Bool),
      PresB (searchLoop S U cfg mark backup backupPos fuel sb hi d succ) := by
  have h2 := bdp_lb (S := S) (U := U) (lmsafe_update (S := S) (U := U) hbk)
  have h3 := bdp_refreshLine (S := S) (U := U) (cfg := cfg)
  intro mark sb hi d succ
  constructor
  intro s h
  refine wp_searchLoop S U cfg (L := fun _ s => BdI s) backup backupPos (fun _ _ h => h)
    (fun _ p s h => (bdp_refreshPromptAndLine p).h s h) (fun _ fuel s h => (bdp_nextCmd fuel true true).h s h)
    (fun _ sb st d idx e p s hs h => ?_)
    (fun m s h => (PresB.bind h2 fun _ => PresB.bind h3 fun _ => PresB.bind (bdp_truncateChanges m) fun _ =>
      PresB.pure none).h s h)
    (fun _ cmd s h => (PresB.bind h3 fun _ => PresB.bind (PresB.of_keeps bk_changesEnd) fun _ =>
      PresB.pure (some cmd)).h s h)
    fuel mark sb hi d succ s h
  -- a search result is a position inside the entry (C09)
  obtain ⟨_, ⟨a, b, he, hoff⟩, _⟩ := C09_search_sound _ _ _ _ _ _ _ hs
  exact (bdp_lb (S := S) (U := U) (lmsafe_update (S := S) (U := U) ⟨a, _, by rw [he, List.append_assoc], hoff⟩)).h s h

theorem bdp_reverseIncrementalSearch (fuel : Nat) : PresB (reverseIncrementalSearch S U cfg fuel) := by
  constructor
  intro s h
  unfold reverseIncrementalSearch
  split
  · exact h
  · rw [wp_bind]
    refine wp_mono ((bk_changesBegin).wp s) (fun m s1 e1 => ?_) (fun _ s1 e1 => h.of_bk e1)
    have h1 := h.of_bk e1
    rw [wp_bind, wp_getLine]
    exact (bdp_searchLoop (S := S) (U := U) (cfg := cfg) s1.line.buf s1.line.pos h1.1 fuel _ _ _ _ _).h s1 h1

/-- the listing branch of `complete_line`: the cursor goes to the end of the line and back to where it was -/
theorem bdp_listing : PresB (do
    let savePos ← (fun s => .ok (s.line.pos, s) : EM Nat)
    editMove S U cfg (LB.moveEnd S U)
    lbQuiet (LB.setPosChecked S U savePos)
    refreshLine S U cfg
    Pure.pure none : EM (Option Cmd)) := by
  constructor
  intro s h
  rw [wp_bind', wp_read, wp_bind]
  -- `editMove moveEnd` keeps the text
  unfold editMove
  rw [wp_bind]
  cases hs : LB.moveEnd S U s.line with
  | error e => rw [wp, lbQuiet_error hs]; exact h
  | ok r =>
    obtain ⟨a, l, ns⟩ := r
    refine wp_lbQuiet hs ?_
    have hw1 : WF l := wf_of_total (lmsafe_moveEnd S U s.line h.1) hs
    obtain ⟨hb1, _⟩ := (lbFaithful S U).moveEnd _ _ _ _ h.1 hs
    have h1 : BdI ({ s with line := l } : Ed) := ⟨hw1, h.2.1, h.2.2⟩
    have hbd : IsBoundary l.buf s.line.pos := by rw [hb1]; exact h.1
    obtain ⟨l3, hset, hw3, _⟩ := C03_setPos_total_wf S U s.line.pos l hbd
    -- after the optional `moveCursor` (which keeps the line) the cursor is put back
    have rest : ∀ s2 : Ed, BdI s2 → s2.line = l →
        wp (do
          lbQuiet (LB.setPosChecked S U s.line.pos)
          refreshLine S U cfg
          Pure.pure none : EM (Option Cmd)) (fun _ s' => BdI s') (fun _ s' => BdI s') s2 := by
      intro s2 h2 hl2
      rw [wp_bind]
      refine wp_lbQuiet (s := s2) (by rw [hl2]; exact hset) ?_
      exact (PresB.bind (bdp_refreshLine (S := S) (U := U) (cfg := cfg)) fun _ => PresB.pure none).h _
        ⟨hw3, h2.2.1, h2.2.2⟩
    cases a with
    | true =>
      simp only [if_true]
      exact wp_mono (wp_and_left ((bdp_moveCursor (S := S) (U := U) (cfg := cfg)).h _ h1)
        (wp_moveCursor S U cfg fun s2 hc => (Ed.core_eq hc).1)) (fun _ s2 hh => rest s2 hh.1 hh.2) (fun _ _ e => e)
    | false =>
      simp only [Bool.false_eq_true, if_false, wp_pure]
      exact rest _ h1 rfl

theorem bdp_completeLine (fuel : Nat) : PresB (completeLine S U cfg fuel) := by
  constructor
  intro s h
  unfold completeLine
  rw [wp_bind, wp_getLine]
  have hcc := fun start cands mark i =>
    bdp_completeCircular (S := S) (U := U) (cfg := cfg) start cands s.line.buf s.line.pos h.1 fuel mark i
  have h1 := fun a b t => bdp_lb_u (S := S) (U := U) (replace_wf (S := S) (U := U) a b t)
  have h3 := bdp_refreshLine (S := S) (U := U) (cfg := cfg)
  refine (show PresB _ from ?_).h s h
  em_walk [hcc, bdp_listing, PresB.pure, PresB.bind, PresB.exit, PresB.of_keeps bk_changesBegin, h1, h3, bdp_nextCmd]

theorem bdp_preCmds (fuel : Nat) : ∀ cmd, PresB (preCmds S U cfg fuel cmd) := by
  induction fuel with
  | zero => intro cmd; unfold preCmds; exact PresB.exit _
  | succ k ih =>
    intro cmd
    unfold preCmds
    em_walk [PresB.pure, PresB.bind, bdp_completeLine, bdp_reverseIncrementalSearch, ih]

-- `indentSize ≤ 255`: `Config::indent_size` is a `u8`; `lmsafe_indent` needs it (`LB.indent` inserts its blanks 32 at a time, in 8 rounds at most)
variable (hind : cfg.indentSize ≤ 255) (hpop : YankPopWF S U) (hundo : UndoWF S U)
include hind hpop hundo

theorem bdp_mainLoop (fuel : Nat) : PresB (mainLoop S U cfg fuel) := by
  induction fuel with
  | zero => unfold mainLoop; exact PresB.exit _
  | succ k ih =>
    have m1 : PresB (EM.modify fun s => { s with ring := s.ring.reset }) := PresB.of_keeps (Keeps.modify fun _ => rfl)
    have m2 : PresB (EM.modify fun s => { s with suspends := s.suspends + 1 }) :=
      PresB.of_keeps (Keeps.modify fun _ => rfl)
    unfold mainLoop
    em_walk [PresB.pure, PresB.bind, PresB.of_keeps bk_nextChar, m1, m2, bdp_nextCmd, bdp_preCmds, bdp_refreshLine,
      bdp_editInsert, bdp_execute hind hpop hundo, ih]

/-- **every cursor logged by a whole read is on a character boundary** -/
theorem readline_logBd (ring : KillRing) (left right : Text) (input : Input) :
    LogBd (readline S U cfg ring left right input).2.render.tail := by
  have hprog : PresB (do
      if !(left.isEmpty && right.isEmpty) then
        lb S U (LB.update S U (left ++ right) (blen left))
      refreshLine S U cfg
      mainLoop S U cfg (input.size + 2)
      editMove S U cfg (LB.moveBufferEnd S U) : EM Unit) := by
    em_walk [PresB.pure, PresB.bind, bdp_lb (lmsafe_update (isBoundary_mid left right)), bdp_refreshLine,
      bdp_mainLoop hind hpop hundo, bdp_editMove (lmsafe_moveBufferEnd S U)]
  have h0 : BdI (initEd cfg ring input) :=
    ⟨isBoundary_zero _, isBoundary_zero _, fun op ho => by cases ho⟩
  have hw := hprog.h _ h0
  unfold readline
  unfold wp at hw
  split at hw
  next a s' heq => simp only [heq, List.tail_cons]; exact hw.2.2
  next o s' heq => simp only [heq, List.tail_cons]; exact hw.2.2

end
end Rl
