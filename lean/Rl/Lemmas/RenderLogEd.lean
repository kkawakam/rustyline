/-
  C02, the editor primitives and the invariant "the screen shows the editor's line".
  Needs: the replay `Rep` and the per-operation lemmas of `Rl/Lemmas/RenderLog.lean`.
  Provides: the invariants of the editor state relative to the replay of its log, each under the assumption that the
  logged texts are of the quantified kind and the logged cursors on character boundaries (`LogFine`):
    `LogOK`  the log replays coherently (what is left at an early exit);
    `LogInv` … and the renderer's believed cursor is the editor's `layoutCursor` (between a change and its repaint);
    `TSh`    … and the screen shows the read's own prompt and the current text ("text shown");
    `Sh`     … and the cursor ("shown");
    `ShA`    as `Sh`, under the read's own prompt or that of an incremental search ("shown, any prompt").
  `Ed.lk` / `Ed.sk`: the parts of the state `LogInv` / `Sh` read (their keys): a step that leaves the key alone
  keeps the invariant.  One `wp` lemma per logging primitive: the three refreshes, `moveCursor`, `editInsert`, the
  callback.
-/
import Rl.Editor
import Rl.Lemmas.EditorOps
import Rl.Lemmas.RenderLog
namespace Rl
open EM

section
variable (S : Segmenter) (U : UData) (cfg : EdCfg)

def LogOK (s : Ed) : Prop :=
  LogFine S (edR U cfg) cfg.prompt s.render → ∃ rs g, Rep S (edR U cfg) cfg.prompt s.render rs g

def LogInv (s : Ed) : Prop :=
  LogFine S (edR U cfg) cfg.prompt s.render → DirtyP S (edR U cfg) cfg.prompt s.render s.layoutCursor

def TSh (s : Ed) : Prop :=
  LogFine S (edR U cfg) cfg.prompt s.render →
    TextShownP S (edR U cfg) cfg.prompt s.render s.layoutCursor s.line.buf s.hint

def Sh (s : Ed) : Prop :=
  LogFine S (edR U cfg) cfg.prompt s.render →
    ShownP S (edR U cfg) cfg.prompt s.render s.layoutCursor s.line.buf s.line.pos s.hint

/-- some prompt (the own one, or a search prompt), the line and the cursor are shown -/
def ShA (s : Ed) : Prop :=
  LogFine S (edR U cfg) cfg.prompt s.render →
    ShownA S (edR U cfg) cfg.prompt s.render s.layoutCursor s.line.buf s.line.pos s.hint

variable {S U cfg}

theorem Sh.any {s : Ed} (h : Sh S U cfg s) : ShA S U cfg s := fun hf => (h hf).any
theorem ShA.inv {s : Ed} (h : ShA S U cfg s) : LogInv S U cfg s := fun hf => (h hf).dirty

theorem Sh.tsh {s : Ed} (h : Sh S U cfg s) : TSh S U cfg s := fun hf => (h hf).text
theorem TSh.inv {s : Ed} (h : TSh S U cfg s) : LogInv S U cfg s := fun hf => (h hf).dirty
theorem Sh.inv {s : Ed} (h : Sh S U cfg s) : LogInv S U cfg s := h.tsh.inv
theorem LogInv.ok {s : Ed} (h : LogInv S U cfg s) : LogOK S U cfg s := fun hf => by
  obtain ⟨rs, g, hr, _⟩ := h hf; exact ⟨rs, g, hr⟩
theorem Sh.ok {s : Ed} (h : Sh S U cfg s) : LogOK S U cfg s := h.inv.ok

theorem LogOK.of_eq {s s' : Ed} (h : LogOK S U cfg s) (hr : s'.render = s.render) : LogOK S U cfg s' := by
  unfold LogOK at *; rw [hr]; exact h

theorem LogInv.of_eq {s s' : Ed} (h : LogInv S U cfg s) (hr : s'.render = s.render)
    (hl : s'.layoutCursor = s.layoutCursor) : LogInv S U cfg s' := by
  unfold LogInv at *; rw [hr, hl]; exact h

theorem TSh.of_eq {s s' : Ed} (h : TSh S U cfg s) (hr : s'.render = s.render)
    (hl : s'.layoutCursor = s.layoutCursor) (hb : s'.line.buf = s.line.buf) (hh : s'.hint = s.hint) :
    TSh S U cfg s' := by
  unfold TSh at *; rw [hr, hl, hb, hh]; exact h

theorem Sh.of_eq {s s' : Ed} (h : Sh S U cfg s) (hr : s'.render = s.render)
    (hl : s'.layoutCursor = s.layoutCursor) (hb : s'.line.buf = s.line.buf) (hp : s'.line.pos = s.line.pos)
    (hh : s'.hint = s.hint) : Sh S U cfg s' := by
  unfold Sh at *; rw [hr, hl, hb, hp, hh]; exact h

/-- the keys of the invariants: `lk` ("log key") is all that `LogOK` / `LogInv` read of the state, `sk` ("shown key")
    all that `TSh` / `Sh` / `ShA` read; a step that leaves the key alone keeps the invariant (`LogInv.of_lk`,
    `Sh.of_sk`) -/
def Ed.lk (s : Ed) : List RenderOp × Pos := (s.render, s.layoutCursor)
def Ed.sk (s : Ed) : List RenderOp × Pos × Text × Nat × Option Text :=
  (s.render, s.layoutCursor, s.line.buf, s.line.pos, s.hint)

theorem LogInv.of_lk {s s' : Ed} (h : LogInv S U cfg s) (hk : s'.lk = s.lk) : LogInv S U cfg s' := by
  simp only [Ed.lk, Prod.mk.injEq] at hk; exact h.of_eq hk.1 hk.2

theorem Sh.of_sk {s s' : Ed} (h : Sh S U cfg s) (hk : s'.sk = s.sk) : Sh S U cfg s' := by
  simp only [Ed.sk, Prod.mk.injEq] at hk; exact h.of_eq hk.1 hk.2.1 hk.2.2.1 hk.2.2.2.1 hk.2.2.2.2

theorem ShA.of_sk {s s' : Ed} (h : ShA S U cfg s) (hk : s'.sk = s.sk) : ShA S U cfg s' := by
  simp only [Ed.sk, Prod.mk.injEq] at hk
  unfold ShA at *
  rw [hk.1, hk.2.1, hk.2.2.1, hk.2.2.2.1, hk.2.2.2.2]; exact h

theorem lbQuiet_error {α : Type} {op : LM α} {s : Ed} {e : Panic} (h : op s.line = .error e) :
    lbQuiet op s = .error (.panic, s) := by
  unfold lbQuiet; rw [h]

theorem logFine_cons {R : RCfg} {p : Text} {op : RenderOp} {log : List RenderOp}
    (h : LogFine S R p (op :: log)) : OpFine S R p op ∧ LogFine S R p log :=
  ⟨h op List.mem_cons_self, fun o ho => h o (List.mem_cons_of_mem _ ho)⟩

theorem updateHint_cases (s : Ed) :
    (∃ h n, updateHint cfg s = .ok ((), { s with hint := h, hintCalls := n })) ∨
    (∃ n, updateHint cfg s = .error (.panic, { s with hintCalls := n })) := by
  unfold updateHint
  split
  · simp only []
    split
    · exact Or.inr ⟨_, rfl⟩
    · exact Or.inl ⟨_, _, rfl⟩
  · exact Or.inl ⟨none, s.hintCalls, rfl⟩

theorem highlightCharStep_cases (s : Ed) :
    ∃ b hc', highlightCharStep cfg s = .ok (b, { s with highlightChar := hc' }) := by
  unfold highlightCharStep
  split
  · simp only []
    split
    · exact ⟨_, _, rfl⟩
    · split
      · exact ⟨_, _, rfl⟩
      · exact ⟨false, s.highlightChar, rfl⟩
  · exact ⟨false, s.highlightChar, rfl⟩

/-- the callback: a bound command is handed back, anything else is shown to the observer and logged -/
theorem customBinding_cases (keys : List KeyEvent) (n : Nat) (p : Bool) (s : Ed) :
    (∃ c, customBinding cfg keys n p s = .ok (some c, s)) ∨
    customBinding cfg keys n p s = .ok (none, { s with
      obs := { line := s.line.buf, pos := s.line.pos, mode := modeName cfg s, hasHint := s.hint.isSome,
               keys, n, positive := p } :: s.obs,
      render := .sync s.line.buf s.line.pos s.hint :: s.render }) := by
  unfold customBinding
  cases cfg.binds.find? (fun b => b.1 == keys) with
  | some bc => exact Or.inl ⟨bc.2, rfl⟩
  | none => exact Or.inr rfl

/-- the two repaints that recompute the hint (`refresh_line`: own prompt; `refresh_prompt_and_line`: a dynamic
    one), run: the hinter may panic; otherwise hint, highlight flag and layout are set and one `refresh` is logged
    for the line as it is -/
theorem wp_repaint (p : Text) (d : Bool) (q : Option Text) {Q : Unit → Ed → Prop} {E : Outcome → Ed → Prop} {s : Ed}
    (hq : ∀ h n hc', Q () { s with
      hint := h, hintCalls := n, highlightChar := hc', defaultPrompt := d,
      layoutPromptCol := promptColOf S U cfg p,
      layoutCursor := cursorFor S U cfg (promptSizeOf S U cfg p)
        ({ s with hint := h, hintCalls := n, highlightChar := hc' } : Ed),
      render := .refresh q s.line.buf s.line.pos h :: s.render })
    (he : ∀ n, E .panic { s with hintCalls := n }) :
    wp (do
      updateHint cfg
      let _ ← highlightCharStep cfg
      setRefreshLayout S U cfg p d
      logRender (fun s => .refresh q s.line.buf s.line.pos s.hint)) Q E s := by
  rw [wp_bind]
  rcases updateHint_cases (cfg := cfg) s with ⟨h1, n1, e1⟩ | ⟨n1, e1⟩
  · refine wp_of_eq_ok e1 ?_
    rw [wp_bind]
    obtain ⟨b, hc', e2⟩ := highlightCharStep_cases (cfg := cfg) { s with hint := h1, hintCalls := n1 }
    refine wp_of_eq_ok e2 ?_
    simp only [wp_bind, wp_setRefreshLayout, wp_logRender]
    exact hq h1 n1 hc'
  · unfold wp; rw [e1]; exact he n1

/-- the repaint that shows `msg` in place of the hint -/
theorem wp_repaintMsg (msg : Option Text) {Q : Unit → Ed → Prop} {E : Outcome → Ed → Prop} {s : Ed}
    (hq : ∀ hc', Q () { s with
      hint := none, highlightChar := hc', defaultPrompt := true,
      layoutPromptCol := promptColOf S U cfg cfg.prompt,
      layoutCursor := cursorFor S U cfg (promptSizeOf S U cfg cfg.prompt)
        ({ s with hint := none, highlightChar := hc' } : Ed),
      render := .refresh none s.line.buf s.line.pos msg :: s.render }) :
    wp (refreshLineWithMsg S U cfg msg) Q E s := by
  unfold refreshLineWithMsg
  simp only [wp_bind, wp_modify]
  obtain ⟨b, hc', e2⟩ := highlightCharStep_cases (cfg := cfg) { s with hint := none }
  refine wp_of_eq_ok e2 ?_
  simp only [wp_setRefreshLayout, wp_logRender]
  exact hq hc'

theorem cursorFor_split {s : Ed} {b a : Text} (psize : Pos) (h : splitAtByte s.line.buf s.line.pos = some (b, a)) :
    cursorFor S U cfg psize s = calculatePosition S (edR U cfg) b psize := by
  unfold cursorFor; rw [h]

variable (hc : 2 ≤ cfg.cols) (hprompt : C02_Plain S (edR U cfg) cfg.prompt)
include hc hprompt

/-- a repaint under the read's own prompt, as the editor model records it -/
theorem sh_refresh {s s' : Ed} (h : LogInv S U cfg s) (info : Option Text)
    (hr : s'.render = .refresh none s.line.buf s.line.pos info :: s.render)
    (hl : s'.layoutCursor = cursorFor S U cfg (promptSizeOf S U cfg cfg.prompt) s)
    (hline : s'.line = s.line) (hh : s'.hint = info) : Sh S U cfg s' := by
  intro hf
  rw [hr] at hf
  obtain ⟨hop, hf'⟩ := logFine_cons hf
  obtain ⟨b, a, hs⟩ := hop.2.1
  obtain ⟨e1, e2⟩ := splitAtByte_some hs
  have := dirty_refresh_own (S := S) (R := edR U cfg) (prompt := cfg.prompt) hc hprompt (h hf') b a info
    (by rw [← e1, ← e2]; exact hop)
  rw [hr, hl, hline, hh, cursorFor_split _ hs, e1, e2]
  exact this

theorem wp_refreshLine_sh {s : Ed} (h : LogInv S U cfg s) :
    wp (refreshLine S U cfg) (fun _ s' => Sh S U cfg s') (fun _ s' => LogOK S U cfg s') s := by
  unfold refreshLine
  exact wp_repaint _ _ _ (fun h1 n1 hc' => sh_refresh hc hprompt
    (s := { s with hint := h1, hintCalls := n1, highlightChar := hc' }) (h.of_eq rfl rfl) h1 rfl rfl rfl rfl)
    (fun _ => h.ok.of_eq rfl)

theorem wp_refreshLineWithMsg_sh {s : Ed} (h : LogInv S U cfg s) :
    wp (refreshLineWithMsg S U cfg none) (fun _ s' => Sh S U cfg s') (fun _ s' => LogOK S U cfg s') s := by
  exact wp_repaintMsg none fun hc' => sh_refresh hc hprompt (s := { s with hint := none, highlightChar := hc' })
    (h.of_eq rfl rfl) none rfl rfl rfl rfl

/-- a repaint under a dynamic prompt, as the editor model records it: that prompt, the line and the cursor are
    on the screen -/
theorem refreshDyn {s s' : Ed} (h : LogInv S U cfg s) (p : Text) (info : Option Text)
    (hf : LogFine S (edR U cfg) cfg.prompt s'.render)
    (hr : s'.render = .refresh (some p) s.line.buf s.line.pos info :: s.render)
    (hl : s'.layoutCursor = cursorFor S U cfg (promptSizeOf S U cfg p) s)
    (hline : s'.line = s.line) (hh : s'.hint = info) :
    ∃ rs g, Rep S (edR U cfg) cfg.prompt s'.render rs g ∧ rs.layout.cursor = s'.layoutCursor ∧
      C02_Plain S (edR U cfg) g.hint ∧ g.prompt = p ∧
      splitAtByte s'.line.buf s'.line.pos = some (g.before, g.after) ∧ g.hint = s'.hint.getD [] := by
  rw [hr] at hf
  obtain ⟨hop, hf'⟩ := logFine_cons hf
  obtain ⟨b, a, hs⟩ := hop.2.1
  obtain ⟨e1, e2⟩ := splitAtByte_some hs
  have := dirty_refresh_dyn (S := S) (R := edR U cfg) (prompt := cfg.prompt) hc hprompt (h hf') p b a info
    (by rw [← e1, ← e2]; exact hop)
  rw [hr, hl, hline, hh, cursorFor_split _ hs, e1, e2]
  exact this

theorem wp_refreshPromptAndLine_sha {s : Ed} (p : Text) (hp : C02_IsSearchPrompt p) (h : LogInv S U cfg s) :
    wp (refreshPromptAndLine S U cfg p) (fun _ s' => ShA S U cfg s')
      (fun _ s' => LogOK S U cfg s') s := by
  unfold refreshPromptAndLine
  refine wp_repaint _ _ _ (fun h1 n1 hc' hf => ?_) (fun _ => h.ok.of_eq rfl)
  obtain ⟨rs, g, hrep, hcur, hpl, hpr, hsp, hhi⟩ := refreshDyn hc hprompt
    (s := { s with hint := h1, hintCalls := n1, highlightChar := hc' }) (h.of_eq rfl rfl) p h1 hf rfl rfl rfl rfl
  exact ⟨rs, g, hrep, hcur, hpl, Or.inr (by rw [hpr]; exact hp), hsp, Or.inl hhi⟩

/-- under any dynamic prompt (`(arg: n)`): the log stays coherent; the own prompt is off the screen until the
    next `refreshLine` -/
theorem wp_refreshPromptAndLine_loginv {s : Ed} (p : Text) (h : LogInv S U cfg s) :
    wp (refreshPromptAndLine S U cfg p) (fun _ s' => LogInv S U cfg s')
      (fun _ s' => LogOK S U cfg s') s := by
  unfold refreshPromptAndLine
  refine wp_repaint _ _ _ (fun h1 n1 hc' hf => ?_) (fun _ => h.ok.of_eq rfl)
  obtain ⟨rs, g, hrep, hcur, hpl, _⟩ := refreshDyn hc hprompt
    (s := { s with hint := h1, hintCalls := n1, highlightChar := hc' }) (h.of_eq rfl rfl) p h1 hf rfl rfl rfl rfl
  exact ⟨rs, g, hrep, hcur, hpl⟩

/-- `move_cursor`: from "the text is shown" to "text and cursor are shown" -/
theorem sh_moveCursor {s s' : Ed} (h : TSh S U cfg s) (hl : Bool)
    (hr : s'.render = .moveCursor s.line.buf s.line.pos hl :: s.render)
    (hlc : s'.layoutCursor = cursorFor S U cfg (promptSizeOf S U cfg cfg.prompt) s)
    (hline : s'.line = s.line) (hh : s'.hint = s.hint) : Sh S U cfg s' := by
  intro hf
  rw [hr] at hf
  obtain ⟨hop, hf'⟩ := logFine_cons hf
  obtain ⟨b, a, hs⟩ := hop.1
  obtain ⟨e1, e2⟩ := splitAtByte_some hs
  have h0 := h hf'
  rw [e1] at h0
  have := shown_moveCursor (S := S) (R := edR U cfg) (prompt := cfg.prompt) hc hprompt b a h0 hl
    (by rw [← e1, ← e2]; exact hop)
  rw [hr, hlc, hline, hh, cursorFor_split _ hs, e1, e2]
  exact this

theorem wp_moveCursor_sh {s : Ed} (h : TSh S U cfg s) :
    wp (moveCursor S U cfg) (fun _ s' => Sh S U cfg s') (fun _ s' => LogOK S U cfg s') s := by
  unfold moveCursor
  simp only [wp_bind, wp_get]
  by_cases hsame : (s.layoutCursor == cursorFor S U cfg (promptSizeOf S U cfg cfg.prompt) s) = true
  · rw [if_pos hsame, wp_logRender]
    exact sh_moveCursor hc hprompt h false rfl (by simpa using hsame) rfl rfl
  · rw [if_neg hsame, wp_bind]
    obtain ⟨b, hc', e2⟩ := highlightCharStep_cases (cfg := cfg) s
    refine wp_of_eq_ok e2 ?_
    cases b with
    | true =>
      simp only [if_true, wp_bind, wp_setRefreshLayout, wp_logRender]
      exact sh_moveCursor hc hprompt h true rfl rfl rfl rfl
    | false =>
      simp only [Bool.false_eq_true, if_false, wp_bind, wp_modify, wp_logRender]
      exact sh_moveCursor hc hprompt h false rfl rfl rfl rfl

/-- the callback (`Event::Any`) -/
theorem wp_customBinding_sh {s : Ed} (keys : List KeyEvent) (n : Nat) (p : Bool) (h : Sh S U cfg s) :
    wp (customBinding cfg keys n p) (fun _ s' => Sh S U cfg s') (fun _ s' => LogOK S U cfg s') s := by
  rcases customBinding_cases (cfg := cfg) keys n p s with ⟨c, e⟩ | e
  · exact wp_of_eq_ok e h
  · refine wp_of_eq_ok e ?_
    intro hf
    obtain ⟨_, hf'⟩ := logFine_cons hf
    exact shown_sync hc hprompt (h hf')

/-- the callback while a search prompt may be on display -/
theorem wp_customBinding_sha {s : Ed} (keys : List KeyEvent) (n : Nat) (p : Bool) (h : ShA S U cfg s) :
    wp (customBinding cfg keys n p) (fun _ s' => ShA S U cfg s') (fun _ s' => LogOK S U cfg s') s := by
  rcases customBinding_cases (cfg := cfg) keys n p s with ⟨c, e⟩ | e
  · exact wp_of_eq_ok e h
  · refine wp_of_eq_ok e ?_
    intro hf
    obtain ⟨_, hf'⟩ := logFine_cons hf
    exact any_sync hc hprompt (h hf')

theorem sh_insert_slow {s s' : Ed} (h : LogInv S U cfg s) (ch : Char) (n : Nat) (push : Bool) (info : Option Text)
    (nph hl : Bool)
    (hr : s'.render = .insert ch n push s.line.buf s.line.pos info nph hl :: s.render)
    (hlc : s'.layoutCursor = cursorFor S U cfg (promptSizeOf S U cfg cfg.prompt) s)
    (hline : s'.line = s.line) (hh : s'.hint = info)
    (hslow : (push && (n == 1 && U.cwidth ch != 0 && decide (s.layoutCursor.col + U.cwidth ch < cfg.cols) &&
      (info.isNone && nph) && !hl)) = false) : Sh S U cfg s' := by
  intro hf
  rw [hr] at hf
  obtain ⟨hop, hf'⟩ := logFine_cons hf
  obtain ⟨b, a, hs⟩ := hop.1
  obtain ⟨e1, e2⟩ := splitAtByte_some hs
  have := dirty_insert_slow (S := S) (R := edR U cfg) (prompt := cfg.prompt) hc hprompt (h hf') ch n push b a info
    nph hl hslow (by rw [← e1, ← e2]; exact hop)
  rw [hr, hlc, hline, hh, cursorFor_split _ hs, e1, e2]
  exact this

/-- `edit_insert` keeps `Sh`.  The proof follows the function: a refused insertion (`mustTruncate`) leaves
    everything as it was; otherwise the hint is recomputed and one `insert` operation is logged.  In every branch
    but one the guard of the fast path is false and the operation is a full repaint (`sh_insert_slow`): insertion
    in mid-line, a new hint, a hint on display before, `highlight_char` answering `true`.  In the remaining branch
    the cursor is at the end of a line without hint and the one character is written (`shown_insert_fast`; `hctl`:
    a character of nonzero width is not a control character). -/
theorem wp_editInsert_sh (hctl : ∀ c, isC0Control c = true → U.cwidth c = 0) {s : Ed} (ch : Char) (n : Nat)
    (h : Sh S U cfg s) :
    wp (editInsert S U cfg ch n) (fun _ s' => Sh S U cfg s') (fun _ s' => LogOK S U cfg s') s := by
  unfold editInsert
  rw [wp_bind]
  refine wp_lb_any S U (fun a l ns hins => ?_) h.ok
  generalize hs0 : ({ s with line := l, changes := s.changes.onNotifs S U.alnum ns } : Ed) = s0
  have r0 : s0.render = s.render := by rw [← hs0]
  have c0 : s0.layoutCursor = s.layoutCursor := by rw [← hs0]
  have t0 : s0.hint = s.hint := by rw [← hs0]
  have l0 : s0.line = l := by rw [← hs0]
  have hinv0 : LogInv S U cfg s0 := h.inv.of_eq r0 c0
  rw [insert_eval] at hins
  by_cases ht : s.line.mustTruncate (s.line.len + ch.utf8Size * n) = true
  · rw [if_pos ht] at hins
    injection hins with hins
    simp only [Prod.mk.injEq] at hins
    obtain ⟨rfl, rfl, rfl⟩ := hins
    exact h.of_eq r0 c0 (by rw [l0]) (by rw [l0]) t0
  · rw [if_neg ht] at hins
    cases hs : splitAtByte s.line.buf s.line.pos with
    | none => rw [hs] at hins; cases hins
    | some xz =>
      obtain ⟨x, z⟩ := xz
      rw [hs] at hins
      injection hins with hins
      simp only [Prod.mk.injEq] at hins
      obtain ⟨rfl, hl, _⟩ := hins
      have lb0 : s0.line.buf = x ++ List.replicate n ch ++ z := by rw [l0, ← hl]
      have lp0 : s0.line.pos = s.line.pos + ch.utf8Size * n := by rw [l0, ← hl]
      simp only [wp_bind, wp_get]
      rcases updateHint_cases (cfg := cfg) s0 with ⟨h1, n1, e1⟩ | ⟨n1, e1⟩
      · refine wp_of_eq_ok e1 ?_
        cases hpush : (s.line.pos == s.line.len) with
        | false =>
          simp only [Bool.false_eq_true, if_false, wp_bind]
          obtain ⟨b, hc', e2⟩ := highlightCharStep_cases (cfg := cfg) { s0 with hint := h1, hintCalls := n1 }
          refine wp_of_eq_ok e2 ?_
          simp only [wp_setRefreshLayout, wp_logRender]
          exact sh_insert_slow hc hprompt (s := { s0 with hint := h1, hintCalls := n1, highlightChar := hc' })
            (hinv0.of_eq rfl rfl) ch n false h1 s0.hint.isNone b rfl rfl rfl rfl (by simp)
        | true =>
          simp only [if_true, wp_bind, wp_get, wp_ite]
          split
          next hguard =>
            obtain ⟨b, hc', e2⟩ := highlightCharStep_cases (cfg := cfg) { s0 with hint := h1, hintCalls := n1 }
            refine wp_of_eq_ok e2 ?_
            cases b with
            | true =>
              simp only [if_true, wp_setRefreshLayout, wp_logRender]
              exact sh_insert_slow hc hprompt (s := { s0 with hint := h1, hintCalls := n1, highlightChar := hc' })
                (hinv0.of_eq rfl rfl) ch n true h1 s0.hint.isNone true rfl rfl rfl rfl (by simp)
            | false =>
              simp only [Bool.false_eq_true, if_false, wp_modify, wp_logRender]
              -- the fast path
              simp only [Bool.and_eq_true, beq_iff_eq, bne_iff_ne, ne_eq, decide_eq_true_eq] at hguard
              obtain ⟨⟨⟨hn1, hw⟩, hlt⟩, hh1, hnph⟩ := hguard
              subst hn1
              have hpos : s.line.pos = blen s.line.buf := by simpa [LB.len] using hpush
              obtain ⟨hx, hz⟩ : x = s.line.buf ∧ z = [] := by
                have := splitAtByte_append s.line.buf []
                rw [List.append_nil, ← hpos, hs] at this
                simpa using this
              have hhint : s.hint = none := by rw [t0] at hnph; exact Option.isNone_iff_eq_none.1 hnph
              obtain rfl : h1 = none := Option.isNone_iff_eq_none.1 hh1
              have hch : isC0Control ch = false := Bool.eq_false_iff.2 fun hcc => hw (hctl ch hcc)
              have hbuf : s0.line.buf = s.line.buf ++ [ch] := by rw [lb0, hx, hz]; simp
              have hnewpos : s0.line.pos = blen (s.line.buf ++ [ch]) := by rw [lp0, hpos]; simp
              intro hf
              simp only [hbuf, hnewpos, r0, c0, t0, hhint, Option.isNone_none] at hf ⊢
              obtain ⟨hop, hf'⟩ := logFine_cons hf
              have h0 := h hf'
              rw [hpos, hhint] at h0
              exact shown_insert_fast (S := S) (R := edR U cfg) (prompt := cfg.prompt) hc hprompt h0 ch hch
                (by simp only [Bool.and_eq_true, bne_iff_ne, ne_eq, decide_eq_true_eq]; exact ⟨hw, by rw [← c0]; exact hlt⟩) hop
          next hguard =>
            simp only [wp_setRefreshLayout, wp_logRender]
            refine sh_insert_slow hc hprompt (s := { s0 with hint := h1, hintCalls := n1 })
              (hinv0.of_eq rfl rfl) ch n true h1 s0.hint.isNone false rfl rfl rfl rfl ?_
            simp only [Bool.not_false, Bool.and_true, Bool.true_and]
            have : ¬ (n == 1 && U.cwidth ch != 0 && decide (s0.layoutCursor.col + U.cwidth ch < cfg.cols) &&
                (h1.isNone && s0.hint.isNone)) = true := hguard
            exact Bool.eq_false_iff.mpr this
      · unfold wp; rw [e1]; exact hinv0.ok.of_eq rfl

end
end Rl
