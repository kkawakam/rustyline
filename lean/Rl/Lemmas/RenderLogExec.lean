/-
  C02, `Sh` through `execute`.
  Needs: `Pres` / `Est` (`Rl/Lemmas/RenderLogLift.lean`), `MoveOKB` and `pres_editMoveB`
  (`Rl/Lemmas/RenderLogTop.lean`), the walk `ExecUnits.execute` (`Rl/Lemmas/ExecWalk.lean`).
  Provides: every command keeps prompt, line and cursor shown (`pres_execute : Pres (Sh) (execute cmd)`), and so
  does listing completion (`pres_completeLine`) — the two hypotheses of `Rl/Lemmas/RenderLogTop.lean` —, given that
  the line-buffer operations are *faithful* (`LBFaithful`, proved in `Rl/Lemmas/LBFaithful.lean`): a motion leaves
  the text alone and reports `false` only if the cursor did not move (`MoveOKB`); an edit that reports "nothing
  changed" (`false` / `none`) changed neither text nor cursor (`EditOK`).  Those are statements about
  `Rl/LineBuffer.lean` alone (the province of C03 / C04).

  Two modes of reasoning: `Pres` — `Sh` holds before and after (reading keys, callbacks, commands that repaint
  themselves) — and `Est` — from "the log is coherent and the believed cursor is known" (`LogInv`: the line may
  have changed) to `Sh`, for pieces that end in a repaint.
-/
import Rl.Lemmas.RenderLogTop
namespace Rl
open EM

/-- an edit of the line buffer that reports whether it changed anything -/
def EditOK {α : Type} (op : LM α) (chg : α → Bool) : Prop :=
  ∀ lb r lb' ns, IsBoundary lb.buf lb.pos → op lb = .ok (r, lb', ns) → chg r = false →
    lb'.buf = lb.buf ∧ lb'.pos = lb.pos

/-- what `execute` needs of the line buffer (and of the undo log) -/
structure LBFaithful (S : Segmenter) (U : UData) : Prop where
  moveHome : MoveOKB (LB.moveHome S U)
  moveEnd : MoveOKB (LB.moveEnd S U)
  moveToFirstPrint : MoveOKB (LB.moveToFirstPrint S U)
  moveBackward : ∀ n, MoveOKB (LB.moveBackward S U n)
  moveForward : ∀ n, MoveOKB (LB.moveForward S U n)
  moveToPrevWord : ∀ w n, MoveOKB (LB.moveToPrevWord S U w n)
  moveToNextWord : ∀ a w n, MoveOKB (LB.moveToNextWord S U a w n)
  moveBufferStart : MoveOKB (LB.moveBufferStart S U)
  moveBufferEnd : MoveOKB (LB.moveBufferEnd S U)
  moveTo : ∀ cs n, MoveOKB (LB.moveTo S U cs n)
  moveToLineUp : ∀ n pc, MoveOKB (LB.moveToLineUp S U n pc)
  moveToLineDown : ∀ n pc, MoveOKB (LB.moveToLineDown S U n pc)
  kill : ∀ mvt, EditOK (LB.kill S U mvt) id
  transposeChars : EditOK (LB.transposeChars S U) id
  editWord : ∀ a, EditOK (LB.editWord S U a) id
  transposeWords : ∀ n, EditOK (LB.transposeWords S U n) id
  indent : ∀ m k d, EditOK (LB.indent S U m k d) id
  /-- a refused paste left the line alone — from every state (it is asked after the step forward of
      `Anchor::After`, where nothing is known of the cursor) -/
  yank : ∀ t n lb r lb' ns, LB.yank S U t n lb = .ok (r, lb', ns) → r.isSome = false →
    lb'.buf = lb.buf ∧ lb'.pos = lb.pos
  yankPop : ∀ k t, EditOK (LB.yankPop S U k t) Option.isSome
  delete : ∀ n, EditOK (LB.delete S U n) Option.isSome
  /-- `Undo` that undid nothing left the line alone -/
  undo : ∀ (c c' : Changeset) (l l' : LB) (n : Nat), IsBoundary l.buf l.pos →
    c.undo S U l n = .ok (c', l', false) → l'.buf = l.buf ∧ l'.pos = l.pos

section
variable {S : Segmenter} {U : UData} {cfg : EdCfg}

theorem lk_lbKill {α : Type} (op : LM α) : Keeps Ed.lk (lbKill S U op) :=
  Keeps.lbKill_of S U (fun _ _ _ _ => rfl) op

theorem lk_backup : Keeps Ed.lk (backup S U) := Keeps.backup_of S U fun _ _ => rfl

theorem sk_backup : Keeps Ed.sk (backup S U) := Keeps.backup_of S U fun _ _ => rfl

/-- any `modify` that leaves `Ed.lk` alone (setting the line is the instance meant) -/
theorem lk_set_line (f : Ed → Ed) (h : ∀ s, (f s).lk = s.lk) : Keeps Ed.lk (EM.modify f) := ⟨fun s => h s⟩

end

section
variable {S : Segmenter} {U : UData} {cfg : EdCfg}
variable (hc : 2 ≤ cfg.cols) (hprompt : C02_Plain S (edR U cfg) cfg.prompt)
include hc hprompt

theorem pres_lb_refresh {α : Type} (op : LM α) :
    Pres S U cfg (Sh S U cfg) (do let _ ← lb S U op; refreshLine S U cfg) :=
  Pres.of_est (est_lb_refresh hc hprompt op)

theorem wp_lb_sh {α : Type} {op : LM α} {chg : α → Bool} (hop : EditOK op chg) {s : Ed} (h : Sh S U cfg s) :
    wp (lb S U op) (fun a s' => LogInv S U cfg s' ∧ (chg a = false → Sh S U cfg s'))
      (fun _ s' => LogOK S U cfg s') s := by
  refine wp_lb_any S U (fun a l ns hs => ⟨h.inv.of_eq rfl rfl, fun hch hf => ?_⟩) h.ok
  obtain ⟨hb, hp⟩ := hop _ _ _ _ (h.boundary hc hprompt hf) hs hch
  exact (h.of_eq (s' := { s with line := l, changes := s.changes.onNotifs S U.alnum ns }) rfl rfl hb hp rfl) hf

theorem wp_lbKill_sh {α : Type} {op : LM α} {chg : α → Bool} (hop : EditOK op chg) {s : Ed} (h : Sh S U cfg s) :
    wp (lbKill S U op) (fun a s' => LogInv S U cfg s' ∧ (chg a = false → Sh S U cfg s'))
      (fun _ s' => LogOK S U cfg s') s := by
  unfold wp lbKill
  cases hs : op s.line with
  | error e => exact h.ok
  | ok r =>
    obtain ⟨a, l, ns⟩ := r
    simp only []
    cases lbKill.go ns s.ring with
    | error e => exact h.ok
    | ok k =>
      refine ⟨h.inv.of_eq rfl rfl, fun hch hf => ?_⟩
      obtain ⟨hb, hp⟩ := hop _ _ _ _ (h.boundary hc hprompt hf) hs hch
      exact (h.of_eq (s' := { s with line := l, changes := s.changes.onNotifs S U.alnum ns, ring := k })
        rfl rfl hb hp rfl) hf

variable (hf : LBFaithful S U)
include hf

omit hf in
theorem wp_ifRefresh {a : Bool} {s : Ed} (hi : LogInv S U cfg s) (hs : a = false → Sh S U cfg s) :
    wp (if a = true then refreshLine S U cfg else Pure.pure PUnit.unit) (fun _ s' => Sh S U cfg s')
      (fun _ s' => LogOK S U cfg s') s := by
  cases a with
  | true => exact wp_refreshLine_sh hc hprompt hi
  | false => exact hs rfl

theorem pres_editKill (mvt : Movement) : Pres S U cfg (Sh S U cfg) (editKill S U cfg mvt) := by
  constructor
  intro s h
  unfold editKill
  rw [wp_bind]
  exact wp_mono (wp_lbKill_sh hc hprompt (hf.kill mvt) h) (fun a s' hh => wp_ifRefresh hc hprompt hh.1 hh.2)
    (fun _ _ e => e)

set_option linter.unusedSectionVars false in -- `hf` is not needed
/-- `if ← lb op then refreshLine` (indent / dedent) as a program of its own; inside `execute` the arm goes on with
    `pure .proceed`: `pres_indent_arm` -/
theorem pres_lb_ifRefresh {op : LM Bool} (hop : EditOK op id) :
    Pres S U cfg (Sh S U cfg) (do if ← lb S U op then refreshLine S U cfg : EM Unit) := by
  constructor
  intro s h
  rw [wp_bind]
  exact wp_mono (wp_lb_sh hc hprompt hop h) (fun a s' hh => wp_ifRefresh hc hprompt hh.1 hh.2) (fun _ _ e => e)

omit hf in
theorem pres_group {mid : EM Bool}
    (hmid : ∀ s, Sh S U cfg s → wp mid (fun a s' => LogInv S U cfg s' ∧ (a = false → Sh S U cfg s'))
      (fun _ s' => LogOK S U cfg s') s) :
    Pres S U cfg (Sh S U cfg) (do
      let _ ← changesBegin
      let ok ← mid
      let _ ← changesEnd
      if ok then refreshLine S U cfg) := by
  constructor
  intro s h
  rw [wp_bind]
  refine wp_mono ((Pres.of_keeps sk_changesBegin).h s h) (fun _ s1 h1 => ?_) (fun _ _ e => e)
  rw [wp_bind]
  refine wp_mono (hmid s1 h1) (fun a s2 hh => ?_) (fun _ _ e => e)
  rw [wp_bind]
  refine wp_mono (sk_changesEnd.wp s2) (fun _ s3 e3 => ?_) (fun _ s3 e3 => (hh.1.of_lk (lk_eq_of_sk e3)).ok)
  exact wp_ifRefresh hc hprompt (hh.1.of_lk (lk_eq_of_sk e3)) fun e => (hh.2 e).of_sk e3

omit hf in
theorem pres_grouped {op : LM Bool} (hop : EditOK op id) : Pres S U cfg (Sh S U cfg) (grouped S U cfg op) := by
  unfold grouped
  exact pres_group hc hprompt fun _ h => wp_lb_sh hc hprompt hop h

theorem pres_editYankPop (k : Nat) (t : Text) : Pres S U cfg (Sh S U cfg) (editYankPop S U cfg k t) := by
  constructor
  intro s h
  unfold editYankPop
  rw [wp_bind]
  refine wp_mono ((Pres.of_keeps sk_changesBegin).h s h) (fun _ s1 h1 => ?_) (fun _ _ e => e)
  simp only [wp_bind]
  refine wp_mono (wp_lb_sh hc hprompt (hf.yankPop k t) h1) (fun a s2 hh => ?_) (fun _ _ e => e)
  obtain ⟨hi, hs⟩ := hh
  cases a with
  | some x =>
    exact (Est.bind_pres (est_refreshLine hc hprompt) fun _ =>
      Pres.bind (Pres.of_keeps sk_changesEnd) fun _ => Pres.pure ()).h s2 hi
  | none =>
    exact (Pres.bind (Pres.pure ()) fun _ =>
      Pres.bind (Pres.of_keeps sk_changesEnd) fun _ => Pres.pure ()).h s2 (hs rfl)

omit hc hprompt hf in
theorem lk_showEntry (b : Text) (p : Nat) : Keeps Ed.lk (showEntry S U b p) := by
  unfold showEntry
  exact Keeps.bind (lk_of_sk sk_changesBegin) fun _ => Keeps.bind (lk_lb _) fun _ =>
    Keeps.bind (lk_of_sk sk_changesEnd) fun _ => Keeps.pure _

omit hc hprompt hf in
theorem lk_restore : Keeps Ed.lk (restore S U) := by
  unfold restore
  exact Keeps.bind' (Keeps.read _) fun _ => lk_lb _

omit hf in
theorem pres_showEntry_refresh (b : Text) (p : Nat) :
    Pres S U cfg (Sh S U cfg) (showEntry S U b p >>= fun _ => refreshLine S U cfg) :=
  Pres.of_est (Est.bind_keeps (lk_showEntry b p) fun _ => est_refreshLine hc hprompt)

omit hf in
theorem pres_restore_refresh : Pres S U cfg (Sh S U cfg) (restore S U >>= fun _ => refreshLine S U cfg) :=
  Pres.of_est (Est.bind_keeps lk_restore fun _ => est_refreshLine hc hprompt)

omit hf in
theorem pres_editHistorySearch (d : Dir) : Pres S U cfg (Sh S U cfg) (editHistorySearch S U cfg d) := by
  unfold editHistorySearch
  em_walk [pres_showEntry_refresh hc hprompt, Pres.pure, Pres.bind, Pres.of_bk bk_getHistIdx,
    Pres.of_bk (bk_setHistIdx _), Pres.of_bk bk_getLine, Pres.of_bk (Keeps.liftP _)]

omit hf in
theorem pres_completeHintLine : Pres S U cfg (Sh S U cfg) (completeHintLine S U cfg) := by
  have h1 : ∀ text, Pres S U cfg (Sh S U cfg) (do
      let _ ← lbQuiet (LB.moveEnd S U)
      let _ ← lb S U (LB.yank S U text 1)
      refreshLine S U cfg : EM Unit) := fun text =>
    Pres.of_est (Est.bind_keeps (lk_lbQuiet _) fun _ => est_lb_refresh hc hprompt _)
  unfold completeHintLine
  em_walk [h1, Pres.pure, Pres.bind', Pres.read]

omit hf in
theorem pres_editOverwriteChar (c : Char) : Pres S U cfg (Sh S U cfg) (editOverwriteChar S U cfg c) := by
  unfold editOverwriteChar
  em_walk [pres_lb_refresh hc hprompt, Pres.pure, Pres.bind, Pres.of_bk bk_getLine, Pres.of_bk (Keeps.liftP _)]

omit hf in
theorem pres_editInsertText (t : Text) : Pres S U cfg (Sh S U cfg) (editInsertText S U cfg t) := by
  unfold editInsertText
  em_walk [pres_lb_refresh hc hprompt, Pres.pure, Pres.bind, Pres.of_bk bk_getLine]

omit hf in
/-- `if ← lbQuiet motion then moveCursor else alt` (line up / down, falling back to history recall) as a program of
    its own; the arm of `execute`, which first reads the prompt column, is `pres_line_arm` -/
theorem pres_moveOrElse {op : LM Bool} (hop : MoveOKB op) {alt : EM Unit} (halt : Pres S U cfg (Sh S U cfg) alt) :
    Pres S U cfg (Sh S U cfg) (do if ← lbQuiet op then moveCursor S U cfg else alt : EM Unit) := by
  constructor
  intro s h
  rw [wp_bind]
  refine wp_mono (wp_lbQuiet_sh hc hprompt hop h) (fun a s' hh => ?_) (fun _ _ e => e)
  cases a with
  | true => exact wp_moveCursor_sh hc hprompt hh.1
  | false => exact halt.h _ (hh.2 rfl)

omit hf in
/-- `Cmd::ClearScreen`: the screen is cleared, the believed cursor reset, the line repainted -/
theorem pres_clearScreen : Pres S U cfg (Sh S U cfg) (do
    logRender (fun _ => .clearScreen)
    modify (fun s => { s with layoutCursor := {} })
    refreshLine S U cfg
    Pure.pure Status.proceed : EM Status) := by
  constructor
  intro s h
  simp only [wp_bind, wp_logRender, wp_modify]
  refine wp_mono (wp_refreshLine_sh hc hprompt (fun hfine => ?_)) (fun _ _ e => e) (fun _ _ e => e)
  obtain ⟨_, hf'⟩ := logFine_cons hfine
  exact dirty_clearScreen hc hprompt (h.inv hf')

omit hf in
/-- `Cmd::Interrupt`: `move_cursor_to_end`, then the read ends -/
theorem pres_interrupt {α : Type} : Pres S U cfg (Sh S U cfg) (do
    logRender (fun _ => .moveToEnd)
    exit .interrupted : EM α) := by
  constructor
  intro s h
  simp only [wp_bind, wp_logRender, wp_exit]
  intro hfine
  obtain ⟨_, hf'⟩ := logFine_cons hfine
  exact dirty_moveToEnd hc hprompt (h.inv hf')

theorem pres_undo (n : Nat) : Pres S U cfg (Sh S U cfg) (execute S U cfg (.undo n)) := by
  constructor
  intro s h
  unfold execute
  simp only [wp_bind, wp_get]
  cases hu : s.changes.undo S U s.line n with
  | error e => exact h.ok
  | ok r =>
    obtain ⟨c, l, undone⟩ := r
    simp only [wp_bind, wp_set]
    cases undone with
    | true =>
      simp only [if_true]
      exact (Est.bind_pres (est_refreshLine hc hprompt) fun _ => Pres.pure Status.proceed).h _
        (h.inv.of_eq (s' := { s with changes := c, line := l }) rfl rfl)
    | false =>
      simp only [Bool.false_eq_true, if_false, wp_pure]
      intro hfine
      obtain ⟨hb, hp⟩ := hf.undo _ _ _ _ _ (h.boundary hc hprompt hfine) hu
      exact (h.of_eq (s' := { s with changes := c, line := l }) rfl rfl hb hp rfl) hfine

theorem pres_editReplaceChar (c : Char) (n : Nat) : Pres S U cfg (Sh S U cfg) (editReplaceChar S U cfg c n) := by
  unfold editReplaceChar
  refine pres_group hc hprompt fun s1 h1 => ?_
  rw [wp_bind]
  refine wp_mono (wp_lb_sh hc hprompt (hf.delete n) h1) (fun a s2 hh => ?_) (fun _ _ e => e)
  obtain ⟨hi, hs⟩ := hh
  cases a with
  | none => exact ⟨hi, fun _ => hs rfl⟩
  | some chars =>
    simp only [wp_bind, wp_ite]
    split
    · exact hi.ok
    · simp only [wp_pure]
      refine wp_mono ((lk_lb _).wp s2) (fun _ s3 e3 => ?_) (fun _ s3 e3 => (hi.of_lk e3).ok)
      refine wp_mono ((lk_lbQuiet _).wp s3) (fun _ s4 e4 => ?_) (fun _ s4 e4 => ((hi.of_lk e3).of_lk e4).ok)
      exact ⟨(hi.of_lk e3).of_lk e4, fun hb => by cases hb⟩

theorem pres_editYank (text : Text) (anchor : Anchor) (n : Nat) :
    Pres S U cfg (Sh S U cfg) (editYank S U cfg text anchor n) := by
  have hsome : Est S U cfg (do
      if cfg.vi then do let _ ← lbQuiet (LB.moveBackward S U 1); Pure.pure ()
      refreshLine S U cfg : EM Unit) := by
    simp only []
    split
    · exact Est.bind_keeps (lk_lbQuiet _) fun _ => est_refreshLine hc hprompt
    · exact est_refreshLine hc hprompt
  -- the paste, and on refusal `set_pos(pos)`: from a state whose line holds the text of `s` (the cursor may
  -- have stepped forward)
  have tail : ∀ (s : Ed) (l1 : LB), Sh S U cfg s → l1.buf = s.line.buf →
      wp (do match ← lb S U (LB.yank S U text n) with
             | some _ => do
               if cfg.vi then do let _ ← lbQuiet (LB.moveBackward S U 1); Pure.pure ()
               refreshLine S U cfg
             | none => lbQuiet (LB.setPosChecked S U s.line.pos) : EM Unit)
        (fun _ s' => Sh S U cfg s') (fun _ s' => LogOK S U cfg s') ({ s with line := l1 } : Ed) := by
    intro s l1 h hb1
    have hi1 : LogInv S U cfg ({ s with line := l1 } : Ed) := h.inv.of_eq rfl rfl
    rw [wp_bind]
    refine wp_lb_any S U (s := { s with line := l1 }) (fun a l2 ns2 hs2 => ?_) hi1.ok
    cases a with
    | some x => exact hsome.h _ (hi1.of_eq rfl rfl)
    | none =>
      simp only []
      obtain ⟨hb2, _⟩ := hf.yank text n l1 none l2 ns2 hs2 rfl
      by_cases hle : s.line.pos ≤ l2.len
      · have hs3 : LB.setPosChecked S U s.line.pos l2 = .ok ((), { l2 with pos := s.line.pos }, []) := by
          simp [LB.setPosChecked, hle]
        refine wp_lbQuiet (s := { s with line := l2, changes := s.changes.onNotifs S U.alnum ns2 }) hs3 ?_
        exact h.of_eq rfl rfl (by show l2.buf = s.line.buf; rw [hb2, hb1]) rfl rfl
      · have hs3 : LB.setPosChecked S U s.line.pos l2 = .error .panic := by
          simp [LB.setPosChecked, hle]
        rw [wp, lbQuiet_error (s := { s with line := l2, changes := s.changes.onNotifs S U.alnum ns2 }) hs3]
        exact (hi1.of_eq rfl rfl).ok
  constructor
  intro s h
  unfold editYank
  rw [wp_bind, wp_get]
  simp only []
  by_cases ha : (anchor == Anchor.after) = true
  · rw [if_pos ha, wp_bind]
    cases hs1 : LB.moveForward S U 1 s.line with
    | error e => rw [wp, lbQuiet_error hs1]; exact h.ok
    | ok r =>
      obtain ⟨r1, l1, ns1⟩ := r
      refine wp_lbQuiet hs1 ?_
      exact tail s l1 h ((PosOnly.moveForward S U 1).h _ _ _ _ hs1).1
  · rw [if_neg ha]
    have := tail s s.line h rfl
    exact this

omit hf in
/-- the `Indent` / `Dedent` arms of `execute` -/
theorem pres_indent_arm {op : LM Bool} (hop : EditOK op id) : Pres S U cfg (Sh S U cfg) (do
    if ← lb S U op then refreshLine S U cfg
    Pure.pure Status.proceed : EM Status) := by
  constructor
  intro s h
  rw [wp_bind]
  refine wp_mono (wp_lb_sh hc hprompt hop h) (fun a s' hh => ?_) (fun _ _ e => e)
  cases a with
  | true => exact (Est.bind_pres (est_refreshLine hc hprompt) fun _ => Pres.pure Status.proceed).h _ hh.1
  | false => exact hh.2 rfl

omit hf in
/-- the `LineUpOrPreviousHistory` / `LineDownOrNextHistory` arms of `execute` -/
theorem pres_line_arm {op : Nat → LM Bool} (hop : ∀ pc, MoveOKB (op pc)) {alt : EM Unit}
    (halt : Pres S U cfg (Sh S U cfg) alt) : Pres S U cfg (Sh S U cfg) (do
    let pc ← getPromptCol
    if ← lbQuiet (op pc) then moveCursor S U cfg else alt
    Pure.pure Status.proceed : EM Status) := by
  refine Pres.bind (Pres.of_keeps sk_getPromptCol) fun pc => ⟨fun s h => ?_⟩
  rw [wp_bind]
  refine wp_mono (wp_lbQuiet_sh hc hprompt (hop pc) h) (fun a s' hh => ?_) (fun _ _ e => e)
  cases a with
  | true =>
    rw [if_pos rfl, wp_bind]
    exact wp_mono (wp_moveCursor_sh hc hprompt hh.1) (fun _ _ e => e) (fun _ _ e => e)
  | false => exact (Pres.bind halt fun _ => Pres.pure Status.proceed).h _ (hh.2 rfl)

omit hc hprompt in
theorem moveOKB_of_moveOp : ∀ {op : LM Bool}, MoveOp S U op → MoveOKB op
  | _, .moveHome => hf.moveHome
  | _, .moveToFirstPrint => hf.moveToFirstPrint
  | _, .moveEnd => hf.moveEnd
  | _, .moveBackward n => hf.moveBackward n
  | _, .moveForward n => hf.moveForward n
  | _, .moveToPrevWord w n => hf.moveToPrevWord w n
  | _, .moveToNextWord a w n => hf.moveToNextWord a w n
  | _, .moveToLineUp n pc => hf.moveToLineUp n pc
  | _, .moveToLineDown n pc => hf.moveToLineDown n pc
  | _, .moveBufferStart => hf.moveBufferStart
  | _, .moveBufferEnd => hf.moveBufferEnd
  | _, .moveTo cs n => hf.moveTo cs n

omit hc hprompt in
theorem editOK_of_groupOp : ∀ {op : LM Bool}, GroupOp S U op → EditOK op id
  | _, .transposeChars => hf.transposeChars
  | _, .editWord a => hf.editWord a
  | _, .transposeWords n => hf.transposeWords n

theorem pres_execUnits (hctl : ∀ c, isC0Control c = true → U.cwidth c = 0) :
    ExecUnits S U cfg (fun m => Pres S U cfg (Sh S U cfg) m) where
  toExecBase := ExecBase.ofBk Pres.pure Pres.bind Pres.of_bk (Pres.of_keeps sk_backup)
  refreshLine := pres_refreshLine hc hprompt
  refreshLineWithMsg := pres_refreshLineWithMsg hc hprompt
  editInsert := pres_editInsert hc hprompt hctl
  editReplaceChar := pres_editReplaceChar hc hprompt hf
  editOverwriteChar := pres_editOverwriteChar hc hprompt
  editYank := pres_editYank hc hprompt hf
  editYankPop := pres_editYankPop hc hprompt hf
  editInsertText := pres_editInsertText hc hprompt
  completeHintLine := pres_completeHintLine hc hprompt
  editHistorySearch := pres_editHistorySearch hc hprompt
  grouped := fun ho => pres_grouped hc hprompt (editOK_of_groupOp hf ho)
  editMove := fun ho => pres_editMoveB hc hprompt (moveOKB_of_moveOp hf ho)
  lineArm := fun ho ha => pres_line_arm hc hprompt (fun pc => moveOKB_of_moveOp hf (ho pc)) ha
  indent := fun m d => pres_indent_arm hc hprompt (hf.indent m _ d)
  showEntryRefresh := fun buf => pres_showEntry_refresh hc hprompt buf _
  restoreRefresh := pres_restore_refresh hc hprompt
  clearScreen := pres_clearScreen hc hprompt
  interrupt := pres_interrupt hc hprompt

theorem pres_ringUnits : RingUnits S U cfg (fun m => Pres S U cfg (Sh S U cfg) m) where
  editKill := pres_editKill hc hprompt hf
  ringYank := Pres.of_bk bk_ringYank
  ringYankCount := fun n => Pres.of_bk (bk_ringYankCount n)
  ringYankPop := Pres.of_bk bk_ringYankPop
  ringKill := fun t => Pres.of_bk (bk_ringKill t)

/-- **every command keeps prompt, line and cursor shown**, over a faithful line buffer -/
theorem pres_execute (hctl : ∀ c, isC0Control c = true → U.cwidth c = 0) (cmd : Cmd) :
    Pres S U cfg (Sh S U cfg) (execute S U cfg cmd) :=
  (pres_execUnits hc hprompt hf hctl).execute (pres_ringUnits hc hprompt hf)
    (pres_undo hc hprompt hf) cmd

omit hf in
theorem pres_keeps_refresh_then {α β : Type} {m : EM α} (hm : Keeps Ed.lk m) (k : Unit → EM β)
    (hk : ∀ r, Pres S U cfg (Sh S U cfg) (k r)) :
    Pres S U cfg (Sh S U cfg) (m >>= fun _ => refreshLine S U cfg >>= k) :=
  Pres.of_est (Est.bind_keeps hm fun _ => Est.bind_pres (est_refreshLine hc hprompt) hk)

/-- `complete_line`: circular completion, or the common prefix and the listing -/
theorem pres_completeLine (hnext : ∀ fuel sea iep, Pres S U cfg (Sh S U cfg) (nextCmd S U cfg fuel sea iep))
    (fuel : Nat) : Pres S U cfg (Sh S U cfg) (completeLine S U cfg fuel) := by
  have hcc := fun start cands mark b bp i => pres_completeCircular hc hprompt hnext start cands mark b bp fuel i
  have hn := hnext fuel true true
  have hme := pres_editMoveB hc hprompt (cfg := cfg) hf.moveEnd
  have h1 := fun (op : LM Unit) (k : Unit → EM (Option Cmd)) =>
    pres_keeps_refresh_then hc hprompt (cfg := cfg) (lk_lb (S := S) (U := U) op) k
  have h2 := fun (op : LM Unit) (k : Unit → EM (Option Cmd)) =>
    pres_keeps_refresh_then hc hprompt (cfg := cfg) (lk_lbQuiet op) k
  unfold completeLine
  em_walk [hcc, hn, hme, h1, h2, Pres.pure, Pres.bind, Pres.bind', Pres.read, Pres.exit, Pres.of_bk bk_getLine,
    Pres.of_bk bk_changesBegin]

end
end Rl
