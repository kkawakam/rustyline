/-
  C02, `Sh` through the key maps (`next_cmd`).
  Needs: the `wp` lemmas of the primitives (`Rl/Lemmas/RenderLogEd.lean`) and the walks over key maps and `execute`
  (`Rl/Lemmas/KeymapWalk.lean`, `Rl/Lemmas/ExecWalk.lean`).
  Provides: `Pres I m`: from a state in which prompt, line and cursor are shown (`I = Sh`), every run of `m` ends in
  such a state, or exits with a coherent log (`LogOK`).  It is closed under `pure` / `>>=`, and every step that
  touches neither display nor line keeps it (`Pres.of_bk`, over the frame facts `bk_*` : `Keeps Ed.bk`); the
  `(arg: n)` loops keep it as wholes (`Est`: from `LogInv` to `Sh`; a dynamic prompt while the argument is typed,
  the own prompt again at the end).  Reading and decoding a command (`next_cmd`: the emacs / vi key maps, the
  callback) is therefore `Pres` (`pres_nextCmd`), an instance of the walk `nextCmd_of_prims`.
-/
import Rl.Lemmas.RenderLogEd
import Rl.Lemmas.ExecWalk
namespace Rl
open EM

theorem wp_seq {α β : Type} {m : EM α} {g : α → EM β} {J : Ed → Prop} {Q : β → Ed → Prop} {E : Outcome → Ed → Prop}
    {s : Ed} (hm : wp m (fun _ s' => J s') E s) (hg : ∀ a s', J s' → wp (g a) Q E s') : wp (m >>= g) Q E s := by
  rw [wp_bind]
  exact wp_mono hm hg fun _ _ h => h

/-- "boundary key": the key of `BdI` (`Rl/Lemmas/RenderLogBd.lean`): the key of `Sh`, and the saved line.  It is
    defined here because the frame facts `bk_*` below serve both `Pres.of_bk` and `PresB.of_keeps`. -/
def Ed.bk (s : Ed) : (List RenderOp × Pos × Text × Nat × Option Text) × LB := (s.sk, s.saved)

section
variable {α : Type}

theorem Keeps.sk {m : EM α} (h : Keeps Ed.bk m) : Keeps Ed.sk m := Keeps.comp Prod.fst h

theorem bk_nextKey (sea : Bool) : Keeps Ed.bk (nextKey sea) := Keeps.nextKey_of (fun _ _ => rfl) sea
theorem bk_nextChar : Keeps Ed.bk nextChar := Keeps.nextChar_of fun _ _ => rfl
theorem bk_readPasted : Keeps Ed.bk readPasted := Keeps.readPasted_of fun _ _ => rfl
theorem bk_lineEmpty : Keeps Ed.bk lineEmpty := Keeps.read _
theorem bk_hasHint : Keeps Ed.bk hasHint := Keeps.read _
theorem bk_cursorAtEnd : Keeps Ed.bk cursorAtEnd := Keeps.read _
theorem bk_lastCharSearch : Keeps Ed.bk lastCharSearch := Keeps.read _
theorem bk_getLastCmd : Keeps Ed.bk getLastCmd := Keeps.read _
theorem bk_takeNumArgs : Keeps Ed.bk takeNumArgs := ⟨fun _ => rfl⟩
theorem bk_setInputMode (m : InputMode) : Keeps Ed.bk (setInputMode m) := ⟨fun _ => rfl⟩
theorem bk_setLastCmd (c : Cmd) : Keeps Ed.bk (setLastCmd c) := ⟨fun _ => rfl⟩
theorem bk_getLine : Keeps Ed.bk getLine := Keeps.read _
theorem bk_getHistIdx : Keeps Ed.bk getHistIdx := Keeps.read _
theorem bk_setHistIdx (i : Nat) : Keeps Ed.bk (setHistIdx i) := ⟨fun _ => rfl⟩
theorem bk_getPromptCol : Keeps Ed.bk getPromptCol := Keeps.read _
theorem bk_changesBegin : Keeps Ed.bk changesBegin := ⟨fun _ => rfl⟩
theorem bk_changesEnd : Keeps Ed.bk changesEnd := ⟨fun _ => rfl⟩
theorem bk_redoCmd (c : Cmd) (new : Option Nat) : Keeps Ed.bk (redoCmd c new) :=
  Keeps.bind (Keeps.read _) fun _ => Keeps.liftP _
theorem bk_truncateChanges (m : Nat) : Keeps Ed.bk (truncateChanges m) := ⟨fun _ => rfl⟩
theorem bk_ringYankCount (n : Nat) : Keeps Ed.bk (ringYankCount n) := ⟨fun _ => rfl⟩

theorem bk_ringYank : Keeps Ed.bk ringYank := Keeps.ringYank_of fun _ _ => rfl
theorem bk_ringYankPop : Keeps Ed.bk ringYankPop := Keeps.ringYankPop_of fun _ _ => rfl
theorem bk_ringKill (t : Text) : Keeps Ed.bk (ringKill t) := Keeps.ringKill_of (fun _ _ => rfl) t

theorem sk_lineEmpty : Keeps Ed.sk lineEmpty := Keeps.read _
theorem sk_hasHint : Keeps Ed.sk hasHint := Keeps.read _
theorem sk_cursorAtEnd : Keeps Ed.sk cursorAtEnd := Keeps.read _
theorem sk_lastCharSearch : Keeps Ed.sk lastCharSearch := Keeps.read _
theorem sk_getLastCmd : Keeps Ed.sk getLastCmd := Keeps.read _
theorem sk_getLine : Keeps Ed.sk getLine := Keeps.read _
theorem sk_getHistIdx : Keeps Ed.sk getHistIdx := Keeps.read _
theorem sk_getPromptCol : Keeps Ed.sk getPromptCol := Keeps.read _
theorem sk_changesBegin : Keeps Ed.sk changesBegin := ⟨fun _ => rfl⟩
theorem sk_changesEnd : Keeps Ed.sk changesEnd := ⟨fun _ => rfl⟩
theorem sk_truncateChanges (m : Nat) : Keeps Ed.sk (truncateChanges m) := ⟨fun _ => rfl⟩

end

section
variable {S : Segmenter} {U : UData} {cfg : EdCfg} {C : ∀ {α : Type}, EM α → Prop}
  (pure : ∀ {α : Type} (a : α), C (Pure.pure a : EM α))
  (bind : ∀ {α β : Type} {m : EM α} {f : α → EM β}, C m → (∀ a, C (f a)) → C (m >>= f))
  (bound : ∀ {β : Type} keys n p {f : Option Cmd → EM β}, (∀ r, InBinds cfg r → C (f r)) →
    C (customBinding cfg keys n p >>= f))
  (of_bk : ∀ {α : Type} {m : EM α}, Keeps Ed.bk m → C m)
include pure bind bound of_bk

/-- a predicate that holds of every step that keeps `Ed.bk` holds of the effects the key maps share -/
theorem KeyPrims.ofBk : KeyPrims cfg C where
  pure := pure
  bind := bind
  read := fun g => of_bk (Keeps.read g)
  nextKey := fun sea => of_bk (bk_nextKey sea)
  readPasted := of_bk bk_readPasted
  bound := bound
  termBinding := fun k => of_bk (keeps_termBinding k)
  takeNumArgs := of_bk bk_takeNumArgs
  redoBound := fun c new _ _ => of_bk (bk_redoCmd c new)

theorem ViPrims.ofBk (argDigit : ∀ fuel d, C (viArgDigit S U cfg fuel d)) : ViPrims S U cfg C where
  toKeyPrims := KeyPrims.ofBk pure bind bound of_bk
  viNumArgs := of_bk (Keeps.bind bk_takeNumArgs fun _ => Keeps.ite (Keeps.exit _) (Keeps.pure _))
  argDigit := argDigit
  setInputMode := fun m => of_bk (bk_setInputMode m)
  setLastCmd := fun c => of_bk (bk_setLastCmd c)
  setLastCharSearch := fun _ => of_bk (Keeps.modify fun _ => rfl)
  redoLast := fun c new _ => of_bk (bk_redoCmd c new)
  changesBegin := of_bk bk_changesBegin
  changesEnd := of_bk bk_changesEnd

omit bound in
theorem ExecBase.ofBk (backup : C (Rl.backup S U)) : ExecBase S U C where
  pure := pure
  bind := bind
  read := fun g => of_bk (Keeps.read g)
  exit := fun o => of_bk (Keeps.exit o)
  liftP := fun e => of_bk (Keeps.liftP e)
  backup := backup
  setHistIdx := fun i => of_bk (bk_setHistIdx i)
  changesBegin := of_bk bk_changesBegin
  changesEnd := of_bk bk_changesEnd
  logValidator := fun _ => of_bk (Keeps.modify fun _ => rfl)

end

section
variable (S : Segmenter) (U : UData) (cfg : EdCfg)

/-- an invariant of the editor state that depends on the key `Ed.sk` only, lies between `Sh` and `LogInv` -/
class SkInv (I : Ed → Prop) : Prop where
  of_sk : ∀ {s s' : Ed}, I s → s'.sk = s.sk → I s'
  inv : ∀ {s : Ed}, I s → LogInv S U cfg s
  of_sh : ∀ {s : Ed}, Sh S U cfg s → I s

/-- `Ed.lk` is part of `Ed.sk` (two states; `lk_of_sk` is the same for a program) -/
theorem lk_eq_of_sk {s s' : Ed} (h : s'.sk = s.sk) : s'.lk = s.lk := by
  simp only [Ed.sk, Ed.lk, Prod.mk.injEq] at h ⊢; exact ⟨h.1, h.2.1⟩

instance : SkInv S U cfg (Sh S U cfg) := ⟨fun h e => h.of_sk e, fun h => h.inv, fun h => h⟩
instance : SkInv S U cfg (ShA S U cfg) := ⟨fun h e => h.of_sk e, fun h => h.inv, fun h => h.any⟩
instance : SkInv S U cfg (LogInv S U cfg) := ⟨fun h e => h.of_lk (lk_eq_of_sk e), fun h => h, fun h => h.inv⟩

/-- `I` is an invariant of `m`; an early exit leaves a coherent log.  `I` is `Sh` (prompt, line and cursor
    shown) in the main loop and `ShA` (the prompt may be that of an incremental search) in the search loop. -/
structure Pres (I : Ed → Prop) {α : Type} (m : EM α) : Prop where
  h : ∀ s, I s → wp m (fun _ s' => I s') (fun _ s' => LogOK S U cfg s') s

/-- `m` repaints: from any state with a coherent log and a known cursor to `Sh` -/
structure Est {α : Type} (m : EM α) : Prop where
  h : ∀ s, LogInv S U cfg s → wp m (fun _ s' => Sh S U cfg s') (fun _ s' => LogOK S U cfg s') s

variable {S U cfg}

namespace Pres
variable {α β : Type} {I : Ed → Prop}

theorem pure (a : α) : Pres S U cfg I (pure a : EM α) := ⟨fun _ h => h⟩

theorem bind {m : EM α} {g : α → EM β} (hm : Pres S U cfg I m) (hg : ∀ a, Pres S U cfg I (g a)) :
    Pres S U cfg I (m >>= g) :=
  ⟨fun s h => wp_seq (hm.h s h) fun a => (hg a).h⟩

/-- `bind` for an `m` written as a bare function on states (`fun s => …` in the model): there `m >>= g` does not
    unify with `bind`'s pattern until the monad is given -/
theorem bind' {m : Ed → Except (Outcome × Ed) (α × Ed)} {g : α → EM β}
    (hm : Pres S U cfg I (m : EM α)) (hg : ∀ a, Pres S U cfg I (g a)) :
    Pres S U cfg I (@Bind.bind EM _ α β m g) :=
  Pres.bind hm hg

theorem of_keeps [hI : SkInv S U cfg I] {m : EM α} (hk : Keeps Ed.sk m) : Pres S U cfg I m := by
  constructor
  intro s h
  exact wp_mono (hk.wp s) (fun _ s' e => hI.of_sk h e) (fun _ s' e => (hI.inv (hI.of_sk h e)).ok)

theorem of_bk [SkInv S U cfg I] {m : EM α} (hk : Keeps Ed.bk m) : Pres S U cfg I m := of_keeps hk.sk

theorem read [SkInv S U cfg I] (g : Ed → α) : Pres S U cfg I (fun s => .ok (g s, s) : EM α) := of_bk (Keeps.read g)

theorem bindFact {m : EM α} {g : α → EM β} {P : α → Prop} (hm : Pres S U cfg I m)
    (hP : ∀ s a s', m s = .ok (a, s') → P a) (hg : ∀ a, P a → Pres S U cfg I (g a)) : Pres S U cfg I (m >>= g) :=
  ⟨fun s h => wp_bind_fact hP (wp_mono (hm.h s h) (fun a s1 h1 hp => (hg a hp).h s1 h1) (fun _ _ h' => h'))⟩

theorem exit [hI : SkInv S U cfg I] (o : Outcome) : Pres S U cfg I (EM.exit o : EM α) :=
  ⟨fun _ h => (hI.inv h).ok⟩

theorem of_est [hI : SkInv S U cfg I] {m : EM α} (hm : Est S U cfg m) : Pres S U cfg I m :=
  ⟨fun s h => wp_mono (hm.h s (hI.inv h)) (fun _ _ h' => hI.of_sh h') (fun _ _ h' => h')⟩

end Pres

theorem Est.bind_inv {α β : Type} {m : EM α} {g : α → EM β} (hm : Pres S U cfg (LogInv S U cfg) m)
    (hg : ∀ a, Est S U cfg (g a)) : Est S U cfg (m >>= g) :=
  ⟨fun s h => wp_seq (hm.h s h) fun a => (hg a).h⟩

theorem Est.bind_keeps {α β : Type} {m : EM α} {g : α → EM β} (hm : Keeps Ed.lk m) (hg : ∀ a, Est S U cfg (g a)) :
    Est S U cfg (m >>= g) :=
  Est.bind_inv ⟨fun s h => wp_mono (hm.wp s) (fun _ _ e => h.of_lk e) (fun _ _ e => (h.of_lk e).ok)⟩ hg

theorem Est.bind_pres {α β : Type} {m : EM α} {g : α → EM β} (hm : Est S U cfg m) (hg : ∀ a, Pres S U cfg (Sh S U cfg) (g a)) :
    Est S U cfg (m >>= g) :=
  ⟨fun s h => wp_seq (hm.h s h) fun a => (hg a).h⟩

theorem Est.ite {α : Type} {c : Prop} [Decidable c] {a b : EM α} (ha : Est S U cfg a) (hb : Est S U cfg b) :
    Est S U cfg (if c then a else b) := by
  split <;> assumption

/-- a program that keeps `Ed.sk` keeps `Ed.lk` -/
theorem lk_of_sk {α : Type} {m : EM α} (h : Keeps Ed.sk m) : Keeps Ed.lk m :=
  Keeps.comp (fun k => (k.1, k.2.1)) h

end

section
variable {S : Segmenter} {U : UData} {cfg : EdCfg}
variable (hc : 2 ≤ cfg.cols) (hprompt : C02_Plain S (edR U cfg) cfg.prompt)
include hc hprompt

theorem pres_refreshLine : Pres S U cfg (Sh S U cfg) (refreshLine S U cfg) :=
  ⟨fun _ h => wp_refreshLine_sh hc hprompt h.inv⟩

theorem est_refreshLine : Est S U cfg (refreshLine S U cfg) :=
  ⟨fun _ h => wp_refreshLine_sh hc hprompt h⟩

theorem Est.of_keeps_refresh {α : Type} {m : EM α} (hm : Keeps Ed.lk m) :
    Est S U cfg (do let _ ← m; refreshLine S U cfg) :=
  Est.bind_keeps hm fun _ => est_refreshLine hc hprompt

theorem pres_customBinding (keys : List KeyEvent) (n : Nat) (p : Bool) :
    Pres S U cfg (Sh S U cfg) (customBinding cfg keys n p) :=
  ⟨fun _ h => wp_customBinding_sh hc hprompt keys n p h⟩

theorem pres_refreshPromptAndLine_inv (p : Text) : Pres S U cfg (LogInv S U cfg) (refreshPromptAndLine S U cfg p) :=
  ⟨fun _ h => wp_refreshPromptAndLine_loginv hc hprompt p h⟩

/-- the `(arg: n)` loop of emacs mode: a dynamic prompt while the argument is typed, the own prompt again
    before the key that ends it is returned; no callback in between -/
theorem est_emacsDigitLoop (negative : Bool) (fuel : Nat) (mag : Option Nat) :
    Est S U cfg (emacsDigitLoop S U cfg negative fuel mag) := by
  induction fuel generalizing mag with
  | zero => unfold emacsDigitLoop; exact ⟨fun s h => h.ok⟩
  | succ k ih =>
    have hfin := fun key : KeyEvent => Est.bind_pres (est_refreshLine hc hprompt) fun _ => Pres.pure (I := Sh S U cfg) key
    unfold emacsDigitLoop
    refine Est.bind_inv (Pres.of_bk (Keeps.modify fun _ => rfl)) fun _ =>
      Est.bind_inv (pres_refreshPromptAndLine_inv hc hprompt _) fun _ =>
      Est.bind_inv (Pres.of_bk (bk_nextKey true)) fun key => ?_
    split
    · split
      · exact ih _
      · split
        · exact ih _
        · exact hfin key
    · exact hfin key

theorem est_viDigitLoop (fuel : Nat) : Est S U cfg (viDigitLoop S U cfg fuel) := by
  induction fuel with
  | zero => unfold viDigitLoop; exact ⟨fun s h => h.ok⟩
  | succ k ih =>
    have hfin := fun key : KeyEvent => Est.bind_pres (est_refreshLine hc hprompt) fun _ => Pres.pure (I := Sh S U cfg) key
    unfold viDigitLoop
    refine Est.bind_inv (Pres.read _) fun _ => Est.bind_inv (pres_refreshPromptAndLine_inv hc hprompt _) fun _ =>
      Est.bind_inv (Pres.of_bk (bk_nextKey false)) fun key => ?_
    split
    · split
      · exact Est.bind_inv (Pres.of_bk (Keeps.modify fun _ => rfl)) fun _ => ih
      · exact hfin key
    · exact hfin key

/-- the callback while a search prompt may be on display -/
theorem pres_customBinding_any (keys : List KeyEvent) (n : Nat) (p : Bool) :
    Pres S U cfg (ShA S U cfg) (customBinding cfg keys n p) :=
  ⟨fun _ h => wp_customBinding_sha hc hprompt keys n p h⟩

variable (I : Ed → Prop) [hI : SkInv S U cfg I]
variable (hcb : ∀ keys n p, Pres S U cfg I (customBinding cfg keys n p))
include hI hcb

theorem pres_emacsPrims : EmacsPrims S U cfg (fun m => Pres S U cfg I m) where
  toKeyPrims := KeyPrims.ofBk Pres.pure Pres.bind
    (fun keys n p _ hf => Pres.bindFact (hcb keys n p) (customBinding_inBinds cfg keys n p) hf) Pres.of_bk
  digitLoop := fun ng fuel mag => Pres.of_est (est_emacsDigitLoop hc hprompt ng fuel mag)

theorem pres_viPrims : ViPrims S U cfg (fun m => Pres S U cfg I m) :=
  ViPrims.ofBk Pres.pure Pres.bind
    (fun keys n p _ hf => Pres.bindFact (hcb keys n p) (customBinding_inBinds cfg keys n p) hf) Pres.of_bk
    fun fuel d => by
      unfold viArgDigit
      exact Pres.bind (Pres.of_bk (Keeps.modify fun _ => rfl)) fun _ => Pres.of_est (est_viDigitLoop hc hprompt fuel)

/-- **`next_cmd` keeps the screen in step**: reading and decoding the next command — the callback included —
    leaves prompt, line and cursor shown. -/
theorem pres_nextCmdI (fuel : Nat) (sea iep : Bool) : Pres S U cfg I (nextCmd S U cfg fuel sea iep) :=
  nextCmd_of_prims (fun _ => pres_emacsPrims hc hprompt I hcb) (fun _ => pres_viPrims hc hprompt I hcb)
    (Pres.of_bk bk_changesBegin) fuel sea iep

omit hI hcb in
theorem pres_nextCmd (fuel : Nat) (sea iep : Bool) : Pres S U cfg (Sh S U cfg) (nextCmd S U cfg fuel sea iep) :=
  pres_nextCmdI hc hprompt (Sh S U cfg) (fun k n p => pres_customBinding hc hprompt k n p) fuel sea iep

omit hI hcb in
/-- `next_cmd` inside an incremental search: the prompt on display stays on display -/
theorem pres_nextCmd_any (fuel : Nat) (sea iep : Bool) : Pres S U cfg (ShA S U cfg) (nextCmd S U cfg fuel sea iep) :=
  pres_nextCmdI hc hprompt (ShA S U cfg) (fun k n p => pres_customBinding_any hc hprompt k n p) fuel sea iep

end
end Rl
