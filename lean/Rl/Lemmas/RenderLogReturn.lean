/-
  C02, the state in which a read RETURNS with a line ("when the read returns …").
  Needs: `readProg` and `readProg_sh` (`Rl/Lemmas/RenderLogTop.lean`: `Sh` is kept through the whole read, from which
  that file concludes only that the log replays coherently), with the same hypotheses `hnext`, `hcl`, `hexec`.
  Provides: `readProg_returns`: the invariant `Sh` (the screen shows the read's own prompt, the current line and
  cursor, with the current hint or none) holds in the state in which `readline_edit` returns `Ok`, and the final
  `edit_move_buffer_end` leaves the cursor of the line buffer at the end of the buffer
  (`editMove_bufferEnd_pos`).
-/
import Rl.Lemmas.RenderLogTop
import Rl.Lemmas.ExecRefines
namespace Rl
open EM

section
variable (S : Segmenter) (U : UData) (cfg : EdCfg)

theorem readline_eq_readProg (ring : KillRing) (left right : Text) (input : Input) :
    readline S U cfg ring left right input =
      match readProg S U cfg left right input (initEd cfg ring input) with
      | .ok (_, s) => (.line s.line.buf, { s with render := .writeln :: s.render })
      | .error (o, s) => (o, { s with render := .writeln :: s.render }) := rfl

variable {S U cfg}

/-- after `edit_move_buffer_end` the cursor of the line buffer is at the end of the buffer -/
theorem editMove_bufferEnd_pos {s s' : Ed}
    (h : editMove S U cfg (LB.moveBufferEnd S U) s = .ok ((), s')) : s'.line.pos = blen s'.line.buf := by
  unfold editMove at h
  rw [EM.bind_apply] at h
  cases hq : lbQuiet (LB.moveBufferEnd S U) s with
  | error e => rw [hq] at h; cases h
  | ok r =>
    obtain ⟨moved, s1⟩ := r
    rw [hq] at h
    simp only [] at h
    have h1 : s1.line.pos = blen s1.line.buf := by
      obtain ⟨r, l, hop, hl⟩ := moveBufferEnd_refines (S := S) (U := U) s.line
      rw [lbQuiet_ok hop] at hq
      injection hq with hq
      simp only [Prod.mk.injEq] at hq
      obtain ⟨_, rfl⟩ := hq
      show l.pos = blen l.buf
      rw [hl]; rfl
    by_cases hm : moved = true
    · simp only [hm, if_true] at h
      obtain ⟨s2, h2, hcore⟩ := moveCursor_returns S U cfg s1
      rw [h2] at h
      injection h with h; simp only [Prod.mk.injEq] at h; obtain ⟨_, rfl⟩ := h
      have : s2.line = s1.line := congrArg Core.line hcore
      rw [this]; exact h1
    · simp only [hm] at h
      injection h with h; simp only [Prod.mk.injEq] at h; obtain ⟨_, rfl⟩ := h
      exact h1

variable (hc : 2 ≤ cfg.cols) (hprompt : C02_Plain S (edR U cfg) cfg.prompt)
variable (hnext : ∀ fuel sea iep, Pres S U cfg (Sh S U cfg) (nextCmd S U cfg fuel sea iep))
variable (hcl : ∀ fuel, Pres S U cfg (Sh S U cfg) (completeLine S U cfg fuel))
variable (hctl : ∀ c, isC0Control c = true → U.cwidth c = 0)
variable (hexec : ∀ cmd, Pres S U cfg (Sh S U cfg) (execute S U cfg cmd))
include hc hprompt hnext hcl hctl hexec

/-- on a normal return prompt, line and cursor are shown, and the cursor of the line buffer is at its end -/
theorem readProg_returns (ring : KillRing) (left right : Text) (input : Input) {s : Ed}
    (h : readProg S U cfg left right input (initEd cfg ring input) = .ok ((), s)) :
    Sh S U cfg s ∧ s.line.pos = blen s.line.buf := by
  have hsh : Sh S U cfg s := by
    have hw := readProg_sh hc hprompt hnext hcl hctl hexec ring left right input
    unfold wp at hw
    rw [h] at hw
    exact hw
  refine ⟨hsh, ?_⟩
  -- the last step of the program is `edit_move_buffer_end`
  have inv : ∀ {α β : Type} (m : EM α) (f : α → EM β) (s0 s : Ed) (b : β),
      (m >>= f) s0 = .ok (b, s) → ∃ a s1, m s0 = .ok (a, s1) ∧ f a s1 = .ok (b, s) := by
    intro α β m f s0 s b hp
    rw [EM.bind_apply] at hp
    cases hpre : m s0 with
    | error e => rw [hpre] at hp; cases hp
    | ok r => obtain ⟨a, s1⟩ := r; rw [hpre] at hp; exact ⟨a, s1, rfl, hp⟩
  unfold readProg at h
  simp only [] at h
  split at h
  · obtain ⟨_, _, _, h⟩ := inv _ _ _ _ _ h
    obtain ⟨_, _, _, h⟩ := inv _ _ _ _ _ h
    obtain ⟨_, _, _, h⟩ := inv _ _ _ _ _ h
    exact editMove_bufferEnd_pos h
  · obtain ⟨_, _, _, h⟩ := inv _ _ _ _ _ h
    obtain ⟨_, _, _, h⟩ := inv _ _ _ _ _ h
    exact editMove_bufferEnd_pos h

end

end Rl
