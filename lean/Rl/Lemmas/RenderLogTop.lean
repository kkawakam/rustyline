/-
  C02, `Sh` through the loops of `readline_edit` and the whole read (`Top` = the top-level loops).
  Needs: `pres_nextCmd` (`Rl/Lemmas/RenderLogLift.lean`); as hypotheses, discharged in
  `Rl/Lemmas/RenderLogExec.lean`: every command keeps the screen in step (`hexec : Pres (execute cmd)`) and so does
  listing completion (`hcl`).
  Provides: `MoveOK` / `MoveOKB` (what a cursor motion of the line buffer must satisfy) and `pres_editMove*`;
  `Sh` is kept by circular completion, incremental search (every way out of the search repaints under the read's
  own prompt, D42; inside it the search prompt is the prompt on display, `ShA`), the dispatch loop and the main
  loop (`pres_mainLoop`).  `readProg`: the body of `readline_edit`; the log of a whole read — without the final
  `writeln` — is coherent and replays without panic (`readProg_sh`, `readline_prog_logOK`).
-/
import Rl.Lemmas.RenderLogLift
import Rl.Lemmas.EditorLoops
namespace Rl
open EM

/-- a cursor motion of the line buffer: the text stays, and `false` means the cursor did not move; asked of every
    starting state (`MoveOKB` asks it only when the cursor starts on a character boundary).  Used for
    `LB.moveBufferEnd`, the one motion `readProg` itself issues. -/
def MoveOK (op : LM Bool) : Prop :=
  ∀ lb r lb' ns, op lb = .ok (r, lb', ns) → lb'.buf = lb.buf ∧ (r = false → lb'.pos = lb.pos)

section
variable (S : Segmenter) (U : UData) (cfg : EdCfg)

/-- the body of `readline_edit` as `Rl.readline` runs it (initial text, first repaint, main loop, final
    `edit_move_buffer_end`).  The fuel `input.size + 2` is the one `Rl.readline` (`Rl/Editor.lean`) passes; nothing
    here depends on its value: the lemmas about the loops hold for every `fuel`. -/
def readProg (left right : Text) (input : Input) : EM Unit := do
  if !(left.isEmpty && right.isEmpty) then
    lb S U (LB.update S U (left ++ right) (blen left))
  refreshLine S U cfg
  mainLoop S U cfg (input.size + 2)
  editMove S U cfg (LB.moveBufferEnd S U)

end

/-- `MoveOK` for a cursor that starts on a character boundary (`B` = with the boundary hypothesis): the form
    in which `LBFaithful` states the motions of `execute`; `Sh` supplies the boundary (`Sh.boundary`) -/
def MoveOKB (op : LM Bool) : Prop :=
  ∀ lb r lb' ns, IsBoundary lb.buf lb.pos → op lb = .ok (r, lb', ns) →
    lb'.buf = lb.buf ∧ (r = false → lb'.pos = lb.pos)

section
variable {S : Segmenter} {U : UData} {cfg : EdCfg}

theorem lk_lb {α : Type} (op : LM α) : Keeps Ed.lk (lb S U op) := Keeps.lb_of S U (fun _ _ _ => rfl) op

theorem lk_lbQuiet {α : Type} (op : LM α) : Keeps Ed.lk (lbQuiet op) := Keeps.lbQuiet_of (fun _ _ => rfl) op

theorem lk_getLine : Keeps Ed.lk getLine := ⟨fun _ => rfl⟩
theorem sk_lowerMark (m : Nat) : Keeps Ed.sk (lowerMark m) := ⟨fun _ => rfl⟩

variable (hc : 2 ≤ cfg.cols) (hprompt : C02_Plain S (edR U cfg) cfg.prompt)
include hc hprompt
set_option linter.unusedSectionVars false

/-- under `Sh` the cursor of the line buffer is on a character boundary: the screen shows the line split there -/
theorem Sh.boundary {s : Ed} (h : Sh S U cfg s) (hf : LogFine S (edR U cfg) cfg.prompt s.render) :
    IsBoundary s.line.buf s.line.pos := by
  obtain ⟨rs, g, _, hs⟩ := h hf
  exact isBoundary_iff_split.2 ⟨_, _, hs⟩

theorem wp_lbQuiet_sh {op : LM Bool} (hop : MoveOKB op) {s : Ed} (h : Sh S U cfg s) :
    wp (lbQuiet op) (fun a s' => TSh S U cfg s' ∧ (a = false → Sh S U cfg s')) (fun _ s' => LogOK S U cfg s') s := by
  cases hs : op s.line with
  | error e => rw [wp, lbQuiet_error hs]; exact h.ok
  | ok r =>
    obtain ⟨a, l, ns⟩ := r
    refine wp_lbQuiet hs ⟨fun hf => ?_, fun ha hf => ?_⟩
    · obtain ⟨hb, _⟩ := hop _ _ _ _ (h.boundary hc hprompt hf) hs
      exact (h.tsh.of_eq (s' := { s with line := l }) rfl rfl hb rfl) hf
    · obtain ⟨hb, hp⟩ := hop _ _ _ _ (h.boundary hc hprompt hf) hs
      exact (h.of_eq (s' := { s with line := l }) rfl rfl hb (hp ha) rfl) hf

theorem pres_editMoveB {op : LM Bool} (hop : MoveOKB op) : Pres S U cfg (Sh S U cfg) (editMove S U cfg op) := by
  constructor
  intro s h
  unfold editMove
  rw [wp_bind]
  refine wp_mono (wp_lbQuiet_sh hc hprompt hop h) (fun a s' hh => ?_) (fun _ _ e => e)
  cases a with
  | true => exact wp_moveCursor_sh hc hprompt hh.1
  | false => exact hh.2 rfl

theorem pres_editMove {op : LM Bool} (hop : MoveOK op) : Pres S U cfg (Sh S U cfg) (editMove S U cfg op) :=
  pres_editMoveB hc hprompt fun _ _ _ _ _ h => hop _ _ _ _ h

theorem moveOK_moveBufferEnd : MoveOK (LB.moveBufferEnd S U) := by
  intro lb r lb' ns h
  unfold LB.moveBufferEnd at h
  simp only [bind, pure, LM.bind', LM.get] at h
  by_cases hp : (lb.pos == lb.len) = true
  · simp only [hp, if_true] at h
    injection h with h; simp only [Prod.mk.injEq] at h; obtain ⟨rfl, rfl, _⟩ := h; exact ⟨rfl, fun _ => rfl⟩
  · simp only [hp] at h
    injection h with h; simp only [Prod.mk.injEq] at h; obtain ⟨rfl, rfl, _⟩ := h
    exact ⟨rfl, fun h => by cases h⟩

theorem est_lb_refresh {α : Type} (op : LM α) : Est S U cfg (do let _ ← lb S U op; refreshLine S U cfg) :=
  Est.of_keeps_refresh hc hprompt (lk_lb op)

variable (hnext : ∀ fuel sea iep, Pres S U cfg (Sh S U cfg) (nextCmd S U cfg fuel sea iep))
include hnext

theorem pres_completeCircular (start : Nat) (cands : List Text) (mark : Nat) (backup : Text) (backupPos : Nat)
    (fuel i : Nat) : Pres S U cfg (Sh S U cfg) (completeCircular S U cfg start cands mark backup backupPos fuel i) := by
  constructor
  intro s h
  refine wp_completeCircular_turns S U cfg (I := fun _ _ s => Sh S U cfg s) (T := fun _ _ _ s => Sh S U cfg s)
    (fun _ _ _ h => h.ok) (fun k _ i s h => ?_) (fun _ _ _ h => h) (fun _ _ _ h => h) (fun m i s h => ?_)
    (fun _ _ _ _ _ h => h.of_sk rfl) fuel mark i s h
  · have rest := Est.bind_pres (est_refreshLine hc hprompt) fun _ => hnext k true true
    refine (Pres.of_est ?_ : Pres S U cfg (Sh S U cfg) _).h s h
    unfold circTurn
    split
    · split
      · exact Est.bind_keeps lk_getLine fun l => Est.bind_keeps (lk_lb _) fun _ => rest
      · exact rest
    · exact Est.bind_keeps (lk_lb _) fun _ => rest
  · have hfin : Pres S U cfg (Sh S U cfg) (do truncateChanges m; Pure.pure none : EM (Option Cmd)) :=
      Pres.bind (Pres.of_keeps (sk_truncateChanges _)) fun _ => Pres.pure _
    refine (?_ : Pres S U cfg (Sh S U cfg) _).h s h
    unfold circAbort
    split
    · exact Pres.of_est (Est.bind_keeps (lk_lb _) fun _ => Est.bind_pres (est_refreshLine hc hprompt) fun _ => hfin)
    · exact hfin

omit hnext in
/-- **incremental search**: inside the loop the search prompt, the line and the cursor are shown at every
    callback; every way out (abort, or any other command: D42) repaints under the read's own prompt -/
theorem est_searchLoop (mark : Nat) (backup : Text) (backupPos : Nat) :
    ∀ (fuel : Nat) (sb : Text) (hi : Nat) (d : Dir) (succ : Bool),
      Est S U cfg (searchLoop S U cfg mark backup backupPos fuel sb hi d succ) := by
  intro fuel sb hi d succ
  constructor
  intro s h
  refine wp_searchLoop_prompt S U cfg (L := fun _ s => LogInv S U cfg s) (A := fun _ s => ShA S U cfg s)
    backup backupPos (fun _ _ h => h.ok)
    (fun _ sb succ _ h => wp_refreshPromptAndLine_sha hc hprompt _ ⟨sb, succ, rfl⟩ h)
    (fun _ fuel s h => wp_mono ((pres_nextCmd_any hc hprompt fuel true true).h s h) (fun _ _ h' => h'.inv) (fun _ _ e => e))
    (fun _ _ _ _ _ _ _ s _ h => wp_mono ((lk_lb _).wp s) (fun _ _ e => h.of_lk e) (fun _ _ e => (h.of_lk e).ok))
    (fun _ s h => ?_) (fun _ _ s h => ?_) fuel mark sb hi d succ s h
  · exact (Est.bind_keeps (lk_lb _) fun _ => Est.bind_pres (est_refreshLine hc hprompt) fun _ =>
      Pres.bind (Pres.of_keeps (sk_truncateChanges _)) fun _ => Pres.pure _).h s h
  · exact (Est.bind_pres (est_refreshLine hc hprompt) fun _ =>
      Pres.bind (Pres.of_keeps sk_changesEnd) fun _ => Pres.pure _).h s h

omit hnext in
theorem pres_reverseIncrementalSearch (fuel : Nat) :
    Pres S U cfg (Sh S U cfg) (reverseIncrementalSearch S U cfg fuel) := by
  unfold reverseIncrementalSearch
  split
  · exact Pres.pure _
  · exact Pres.bind (Pres.of_keeps sk_changesBegin) fun _ => Pres.bind (Pres.of_keeps sk_getLine) fun _ =>
      Pres.of_est (est_searchLoop hc hprompt _ _ _ _ _ _ _ _)

variable (hcl : ∀ fuel, Pres S U cfg (Sh S U cfg) (completeLine S U cfg fuel))
include hcl

omit hnext in
theorem pres_preCmds (fuel : Nat) (cmd : Cmd) : Pres S U cfg (Sh S U cfg) (preCmds S U cfg fuel cmd) := by
  induction fuel generalizing cmd with
  | zero => unfold preCmds; exact Pres.exit _
  | succ k ih =>
    have h1 := hcl k
    have h2 := pres_reverseIncrementalSearch hc hprompt (S := S) (U := U) (cfg := cfg) k
    unfold preCmds
    em_walk [Pres.pure, Pres.bind, h1, h2, ih]

variable (hctl : ∀ c, isC0Control c = true → U.cwidth c = 0)
variable (hexec : ∀ cmd, Pres S U cfg (Sh S U cfg) (execute S U cfg cmd))
include hctl hexec

omit hnext hcl hexec in
theorem pres_editInsert (ch : Char) (n : Nat) : Pres S U cfg (Sh S U cfg) (editInsert S U cfg ch n) :=
  ⟨fun _ h => wp_editInsert_sh hc hprompt hctl ch n h⟩

theorem pres_mainLoop (fuel : Nat) : Pres S U cfg (Sh S U cfg) (mainLoop S U cfg fuel) := by
  induction fuel with
  | zero => unfold mainLoop; exact Pres.exit _
  | succ k ih =>
    have h1 := hnext k false false
    have h2 := fun cmd => pres_preCmds hc hprompt hcl k cmd
    have h3 := pres_refreshLine hc hprompt (S := S) (U := U) (cfg := cfg)
    have h4 := fun c n => pres_editInsert hc hprompt hctl c n
    have m1 : Pres S U cfg (Sh S U cfg) (modify fun s => { s with ring := s.ring.reset }) :=
      Pres.of_bk (Keeps.modify fun _ => rfl)
    have m2 : Pres S U cfg (Sh S U cfg) (modify fun s => { s with suspends := s.suspends + 1 }) :=
      Pres.of_bk (Keeps.modify fun _ => rfl)
    unfold mainLoop
    em_walk [Pres.pure, Pres.bind, Pres.of_bk bk_nextChar, h1, h2, h3, h4, m1, m2, hexec, ih]

omit hnext hcl hexec in
/-- three commands of `execute` that ask nothing of the line buffer (`pres_execute`, `Rl/Lemmas/RenderLogExec.lean`,
    covers every command under `LBFaithful`): `unfold execute` and the walk `em_walk` over the edit function's lemma -/
theorem pres_execute_selfInsert (n : Nat) (c : Char) : Pres S U cfg (Sh S U cfg) (execute S U cfg (.selfInsert n c)) := by
  have h4 := fun c n => pres_editInsert hc hprompt hctl c n
  unfold execute
  em_walk [Pres.pure, Pres.bind, h4]

omit hnext hcl hexec hctl in
theorem pres_execute_repaint : Pres S U cfg (Sh S U cfg) (execute S U cfg .repaint) := by
  have h3 := pres_refreshLine hc hprompt (S := S) (U := U) (cfg := cfg)
  unfold execute
  em_walk [Pres.pure, Pres.bind, h3]

omit hnext hcl hexec hctl in
theorem pres_execute_move_endOfBuffer : Pres S U cfg (Sh S U cfg) (execute S U cfg (.move .endOfBuffer)) := by
  have h3 := pres_editMove hc hprompt (moveOK_moveBufferEnd (S := S) (U := U) hc hprompt)
  unfold execute
  em_walk [Pres.pure, Pres.bind, h3]

omit hnext hcl hexec hctl in
theorem pres_refreshLineWithMsg : Pres S U cfg (Sh S U cfg) (refreshLineWithMsg S U cfg) :=
  ⟨fun _ h => wp_refreshLineWithMsg_sh hc hprompt h.inv⟩

omit hnext hcl hexec hctl in
theorem pres_moveCursor : Pres S U cfg (Sh S U cfg) (moveCursor S U cfg) :=
  ⟨fun _ h => wp_moveCursor_sh hc hprompt h.tsh⟩

/-- on a normal return of the read (before the final `writeln`) prompt, line and cursor are shown -/
theorem readProg_sh (ring : KillRing) (left right : Text) (input : Input) :
    wp (readProg S U cfg left right input)
      (fun _ s' => Sh S U cfg s') (fun _ s' => LogOK S U cfg s') (initEd cfg ring input) := by
  have h0 : LogInv S U cfg (initEd cfg ring input) := by
    intro _
    exact ⟨_, _, Rep.nil, rfl, plain_nil⟩
  have hrest : Est S U cfg (do
      refreshLine S U cfg
      mainLoop S U cfg (input.size + 2)
      editMove S U cfg (LB.moveBufferEnd S U) : EM Unit) :=
    Est.bind_pres (est_refreshLine hc hprompt) fun _ =>
      Pres.bind (pres_mainLoop hc hprompt hnext hcl hctl hexec _) fun _ =>
        pres_editMove hc hprompt (moveOK_moveBufferEnd hc hprompt)
  have hall : Est S U cfg (readProg S U cfg left right input) := by
    unfold readProg
    simp only []
    split
    · exact Est.bind_keeps (lk_lb _) fun _ => hrest
    · exact hrest
  exact hall.h _ h0

/-- **the log of a whole read** (before the final `writeln`) replays coherently -/
theorem readline_prog_logOK (ring : KillRing) (left right : Text) (input : Input) :
    wp (do
        if !(left.isEmpty && right.isEmpty) then
          lb S U (LB.update S U (left ++ right) (blen left))
        refreshLine S U cfg
        mainLoop S U cfg (input.size + 2)
        editMove S U cfg (LB.moveBufferEnd S U) : EM Unit)
      (fun _ s' => LogOK S U cfg s') (fun _ s' => LogOK S U cfg s') (initEd cfg ring input) :=
  wp_mono (readProg_sh hc hprompt hnext hcl hctl hexec ring left right input) (fun _ _ h => h.ok) (fun _ _ h => h)

end
end Rl
