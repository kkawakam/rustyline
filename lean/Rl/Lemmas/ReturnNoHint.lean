/-
  "No hint is on display when the read returns with a line" (C02, last clause): the main loop returns normally
  only after `execute` answered `Submit`, and `execute` answers `Submit` only for an accepting command, after
  `refresh_line_with_msg` cleared the hint (or with no hint to clear); `validate` and the final
  `edit_move_buffer_end` do not bring one back.

  Every statement has the exceptional postcondition `fun _ _ => True`: nothing is claimed about runs
  that exit (end of input, panic, fuel), only about normal returns.
-/
import Rl.Lemmas.RenderLogReturn
import Rl.Lemmas.EditorOps
import Rl.Lemmas.Keymap
import Rl.Lemmas.KeymapWalk
namespace Rl
open EM

section
variable {S : Segmenter} {U : UData} {cfg : EdCfg}

/-- `m` does not bring a hint up: started without one, it returns without one -/
structure HNone {α : Type} (m : EM α) : Prop where
  h : ∀ s : Ed, s.hint = none → wp m (fun _ s' => s'.hint = none) (fun _ _ => True) s

theorem HNone.pure {α : Type} (a : α) : HNone (pure a : EM α) := ⟨fun _ h => h⟩
theorem HNone.exit {α : Type} (o : Outcome) : HNone (EM.exit o : EM α) := ⟨fun _ _ => trivial⟩
theorem HNone.bind {α β : Type} {m : EM α} {g : α → EM β} (hm : HNone m) (hg : ∀ a, HNone (g a)) :
    HNone (m >>= g) := by
  constructor
  intro s h
  rw [wp_bind]
  exact wp_mono (hm.h s h) (fun a s' h' => (hg a).h s' h') (fun _ _ _ => trivial)
theorem HNone.of_keeps {α : Type} {m : EM α} (hk : Keeps Ed.hint m) : HNone m := by
  constructor
  intro s h
  exact wp_mono (hk.wp s) (fun _ s' h' => by rw [h', h]) (fun _ _ _ => trivial)

theorem wp_any {α : Type} {m : EM α} {P : α → Ed → Prop} {s : Ed} (h : ∀ a s', P a s') :
    wp m P (fun _ _ => True) s := by
  unfold wp; cases m s with
  | error e => trivial
  | ok r => exact h _ _

theorem kh_highlightCharStep : Keeps Ed.hint (highlightCharStep cfg) :=
  Keeps.highlightCharStep_of cfg fun _ _ => rfl

theorem kh_changesBegin : Keeps Ed.hint changesBegin := by
  constructor; intro s; unfold changesBegin
  generalize s.changes.begin = p; obtain ⟨c, m⟩ := p; rfl

theorem kh_changesEnd : Keeps Ed.hint changesEnd := by
  constructor; intro s; unfold changesEnd
  generalize s.changes.end_ = p; obtain ⟨c, m⟩ := p; rfl

/-- `refresh_line_with_msg` clears the hint, whatever was there -/
theorem refreshLineWithMsg_nohint (msg : Option Text) (s : Ed) :
    wp (refreshLineWithMsg S U cfg msg) (fun _ s' => s'.hint = none) (fun _ _ => True) s := by
  unfold refreshLineWithMsg
  rw [wp_bind, wp_modify]
  have hk : Keeps Ed.hint (do
      let _ ← highlightCharStep cfg
      setRefreshLayout S U cfg cfg.prompt true
      logRender (fun s => .refresh none s.line.buf s.line.pos msg) : EM Unit) :=
    Keeps.bind kh_highlightCharStep fun _ => Keeps.bind (Keeps.modify fun _ => rfl) fun _ => Keeps.modify fun _ => rfl
  exact (HNone.of_keeps hk).h _ rfl

theorem hn_refreshLineWithMsg (msg : Option Text) : HNone (refreshLineWithMsg S U cfg msg) :=
  ⟨fun s _ => refreshLineWithMsg_nohint msg s⟩

theorem hn_validate : HNone (validate S U cfg) := by
  have r1 : HNone getLine := HNone.of_keeps (Keeps.read _)
  have r2 : HNone hasHint := HNone.of_keeps (Keeps.read _)
  have r3 : ∀ t : Text, HNone (EM.modify fun s => { s with validatorCalls := t :: s.validatorCalls }) :=
    fun _ => HNone.of_keeps (Keeps.modify fun _ => rfl)
  unfold validate
  em_walk [HNone.pure, HNone.bind, HNone.exit, hn_refreshLineWithMsg, HNone.of_keeps kh_changesBegin,
    HNone.of_keeps kh_changesEnd, r1, r2, r3]

/-- postcondition "an answer `Submit` comes without a hint" -/
def SubQ (st : Status) (s' : Ed) : Prop := st = .submit → s'.hint = none

theorem wp_proceed {s : Ed} : wp (pure Status.proceed : EM Status) SubQ (fun _ _ => True) s :=
  fun h => by cases h

theorem subq_of_hn {k : EM Status} (hk : HNone k) {s : Ed} (h : s.hint = none) :
    wp k SubQ (fun _ _ => True) s :=
  wp_mono (hk.h s h) (fun _ _ h' _ => h') (fun _ _ _ => trivial)

theorem withPreAccept_subq {k : EM Status} {s : Ed}
    (hk : ∀ s1 : Ed, s1.hint = none → wp k SubQ (fun _ _ => True) s1) :
    wp (withPreAccept S U cfg k) SubQ (fun _ _ => True) s := by
  unfold withPreAccept
  simp only [wp_bind, wp_get, wp_ite]
  split
  · exact wp_mono (refreshLineWithMsg_nohint none s) (fun _ s1 h1 => hk s1 h1) (fun _ _ _ => trivial)
  · next hneg =>
    refine hk s ?_
    cases hh : s.hint with
    | none => rfl
    | some x => simp [hh] at hneg

theorem execute_acceptLine :
    execute S U cfg .acceptLine = withPreAccept S U cfg (do
      let _ ← validate S U cfg
      pure .submit) := by
  unfold execute withPreAccept
  simp only []

theorem execAccept_subq (aim : Bool) {s : Ed} (h : s.hint = none) :
    wp (execAccept S U cfg aim) SubQ (fun _ _ => True) s := by
  unfold execAccept
  rw [wp_bind]
  refine wp_mono (hn_validate.h s h) (fun v s1 h1 => ?_) (fun _ _ _ => trivial)
  simp only []
  rw [wp_bind, wp_getLine]
  split
  · exact fun _ => h1
  · rw [wp_bind]; exact wp_any fun _ _ => wp_proceed
  · exact wp_proceed

/-- `m` satisfies `SubQ` from every state; closed under `>>=` on the left because only the last step
    decides the status, so the arms of `execute` that end in `Proceed` or exit have it by walking -/
structure SubK (m : EM Status) : Prop where
  h : ∀ s, wp m SubQ (fun _ _ => True) s

theorem SubK.proceed : SubK (pure Status.proceed) := ⟨fun _ => wp_proceed⟩
theorem SubK.exit (o : Outcome) : SubK (EM.exit o) := ⟨fun _ => trivial⟩
theorem SubK.bind {α : Type} {m : EM α} {f : α → EM Status} (hf : ∀ a, SubK (f a)) : SubK (m >>= f) :=
  ⟨fun s => by rw [wp_bind]; exact wp_any fun a s' => (hf a).h s'⟩
theorem SubK.bind' {α : Type} {m : Ed → Except (Outcome × Ed) (α × Ed)} {f : α → EM Status} (hf : ∀ a, SubK (f a)) :
    SubK (@Bind.bind EM _ α Status m f) := SubK.bind hf

/-- only the three accepting commands can answer `Submit`: every other arm of `execute` ends in
    `Proceed` or exits -/
theorem execute_subq (cmd : Cmd) (s : Ed) : wp (execute S U cfg cmd) SubQ (fun _ _ => True) s := by
  by_cases h1 : cmd = .endOfFile
  · subst h1
    rw [execute_endOfFile]
    have r : HNone lineEmpty := HNone.of_keeps (Keeps.read _)
    refine withPreAccept_subq fun s1 hs1 => subq_of_hn ?_ hs1
    em_walk [HNone.pure, HNone.bind, HNone.exit, r]
  by_cases h2 : cmd = .acceptLine
  · subst h2
    rw [execute_acceptLine]
    refine withPreAccept_subq fun s1 hs1 => subq_of_hn ?_ hs1
    exact HNone.bind hn_validate fun _ => HNone.pure _
  by_cases h3 : ∃ aim, cmd = .acceptOrInsertLine aim
  · obtain ⟨aim, rfl⟩ := h3
    rw [execute_acceptOrInsertLine]
    exact withPreAccept_subq fun s1 hs1 => execAccept_subq aim hs1
  have h3' : ∀ aim, ¬ cmd = .acceptOrInsertLine aim := fun aim h => h3 ⟨aim, h⟩
  have key : SubK (execute S U cfg cmd) := by
    unfold execute
    em_walk [SubK.proceed, SubK.exit, SubK.bind, SubK.bind', absurd rfl h1, absurd rfl h2, absurd rfl (h3' _)]
  exact key.h s

theorem mainLoop_nohint (fuel : Nat) :
    ∀ s : Ed, wp (mainLoop S U cfg fuel) (fun _ s' => s'.hint = none) (fun _ _ => True) s := by
  induction fuel with
  | zero => intro s; unfold mainLoop; trivial
  | succ k ih =>
    intro s
    unfold mainLoop
    -- walk the body: binds whose result does not matter are skipped (`wp_any`), the one on `execute`
    -- hands `SubQ` to the `match` on its status; the leaves are a recursive call (`ih`), the
    -- `.submit` arm (`SubQ` with `rfl`) or an exit.  Each round consumes one bind or one `if`/`match`
    -- of the finite body, so `repeat'` stops.
    repeat' (first
      | exact ih _
      | exact (‹SubQ _ _› : SubQ _ _) rfl
      | exact (trivial : wp (EM.exit _ : EM Unit) _ (fun _ _ => True) _)
      | (rw [wp_bind]; refine wp_mono (execute_subq _ _) (fun _ _ _ => ?_) (fun _ _ _ => trivial))
      | (rw [wp_bind]; refine wp_any (fun _ _ => ?_))
      | (rw [wp_bind']; refine wp_any (fun _ _ => ?_))
      | simp only []
      | split)

theorem kh_editMove_bufferEnd : Keeps Ed.hint (editMove S U cfg (LB.moveBufferEnd S U)) := by
  unfold editMove
  refine Keeps.bind ?_ fun moved => ?_
  · constructor
    intro s
    unfold lbQuiet
    cases LB.moveBufferEnd S U s.line with
    | error e => rfl
    | ok r => rfl
  · split
    · unfold moveCursor
      refine Keeps.bind Keeps.get fun s0 => ?_
      simp only []
      split
      · exact Keeps.modify fun _ => rfl
      · refine Keeps.bind kh_highlightCharStep fun hl => ?_
        split
        · exact Keeps.bind (Keeps.modify fun _ => rfl) fun _ => Keeps.modify fun _ => rfl
        · exact Keeps.bind (Keeps.modify fun _ => rfl) fun _ => Keeps.modify fun _ => rfl
    · exact Keeps.pure _

/-- **a normal return of the body of `readline_edit` carries no hint**.  `input.size + 2` is the fuel
    `readProg` gives the main loop (each turn reads a key of the scripted input, and reading past
    its end exits); `mainLoop_nohint` holds for any fuel. -/
theorem readProg_nohint (ring : KillRing) (left right : Text) (input : Input) {s : Ed}
    (h : readProg S U cfg left right input (initEd cfg ring input) = .ok ((), s)) : s.hint = none := by
  have key : ∀ s0 : Ed,
      wp (mainLoop S U cfg (input.size + 2) >>= fun _ =>
        editMove S U cfg (LB.moveBufferEnd S U)) (fun _ s' => s'.hint = none) (fun _ _ => True) s0 := by
    intro s0
    rw [wp_bind]
    refine wp_mono (mainLoop_nohint _ s0) (fun _ s2 h2 => ?_) (fun _ _ _ => trivial)
    exact (HNone.of_keeps kh_editMove_bufferEnd).h s2 h2
  have hw : wp (readProg S U cfg left right input) (fun _ s' => s'.hint = none) (fun _ _ => True)
      (initEd cfg ring input) := by
    unfold readProg
    simp only []
    split
    · rw [wp_bind]; refine wp_any fun _ _ => ?_
      rw [wp_bind]; refine wp_any fun _ _ => ?_
      exact key _
    · rw [wp_bind]; refine wp_any fun _ _ => ?_
      exact key _
  unfold wp at hw
  rw [h] at hw
  exact hw

end
end Rl
