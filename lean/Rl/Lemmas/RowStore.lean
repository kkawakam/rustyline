/-
  Lemmas about a row store with holes (`RowStore`, `histGetDir` of Rl/Editor.lean): a strictly
  increasing list of row indices zipped with the entries.  `find?` (nearest row at or after an
  index) and `filter … getLast?` (nearest row at or before) are read as positional look-ups at the
  number of rows below the index.  The namespace is `Rl.Rows`: the entries are the rows of
  `SQLiteHistory`'s table, the indices their row ids − 1.
-/
import Rl.Editor
namespace Rl.Rows

theorem count_lt_eq (l : List Nat) (x k : Nat) (hk : k ≤ l.length)
    (hlo : ∀ j (hj : j < l.length), j < k → l[j] < x)
    (hhi : ∀ j (hj : j < l.length), k ≤ j → ¬ l[j] < x) :
    (l.filter (· < x)).length = k := by
  have h1 : (l.take k).filter (· < x) = l.take k := by
    rw [List.filter_eq_self]
    intro a ha
    obtain ⟨j, hj, rfl⟩ := List.mem_take_iff_getElem.mp ha
    have hj' : j < l.length := by omega
    have := hlo j hj' (by omega)
    simpa using this
  have h2 : (l.drop k).filter (· < x) = [] := by
    rw [List.filter_eq_nil_iff]
    intro a ha
    obtain ⟨j, hj, rfl⟩ := List.mem_drop_iff_getElem.mp ha
    have := hhi (k + j) (by omega) (by omega)
    simpa using this
  have h3 : l.filter (· < x) = (l.take k ++ l.drop k).filter (· < x) := by
    rw [List.take_append_drop]
  rw [h3, List.filter_append, h1, h2, List.append_nil, List.length_take]
  omega

theorem sorted_lt {l : List Nat} (h : l.Pairwise (· < ·)) {i j : Nat} (hi : i < l.length)
    (hj : j < l.length) (hij : i < j) : l[i] < l[j] :=
  List.pairwise_iff_getElem.mp h i j hi hj hij

theorem sorted_le {l : List Nat} (h : l.Pairwise (· < ·)) {i j : Nat} (hi : i < l.length)
    (hj : j < l.length) (hij : i ≤ j) : l[i] ≤ l[j] := by
  by_cases he : i = j
  · subst he; exact Nat.le_refl _
  · exact Nat.le_of_lt (sorted_lt h hi hj (by omega))

theorem count_lt_getElem {l : List Nat} (h : l.Pairwise (· < ·)) (k : Nat) (hk : k < l.length) :
    (l.filter (· < l[k])).length = k :=
  count_lt_eq l _ k (Nat.le_of_lt hk) (fun _ hj hjk => sorted_lt h hj hk hjk)
    (fun _ hj hkj => Nat.not_lt.mpr (sorted_le h hk hj hkj))

theorem count_lt_getElem_succ {l : List Nat} (h : l.Pairwise (· < ·)) (k : Nat) (hk : k < l.length) :
    (l.filter (· < l[k] + 1)).length = k + 1 :=
  count_lt_eq l _ (k + 1) hk
    (fun j hj hjk => Nat.lt_succ_of_le (sorted_le h hj hk (by omega)))
    (fun j hj hkj => by have := sorted_lt h hk hj (by omega); omega)

theorem count_lt_of_bound {l : List Nat} {x : Nat} (hb : ∀ i ∈ l, i < x) :
    (l.filter (· < x)).length = l.length := by
  rw [List.filter_eq_self.mpr]
  intro a ha
  simpa using hb a ha

theorem count_lt_zero (l : List Nat) : (l.filter (· < 0)).length = 0 := by simp

theorem count_lt_mono (l : List Nat) {i j : Nat} (h : i ≤ j) :
    (l.filter (· < i)).length ≤ (l.filter (· < j)).length := by
  rw [← List.countP_eq_length_filter, ← List.countP_eq_length_filter]
  exact List.countP_mono_left fun x _ hx => by simp only [decide_eq_true_eq] at hx ⊢; omega

theorem zip_getElem? {α : Type} (idx : List Nat) (es : List α) (k : Nat) (h1 : k < idx.length)
    (h2 : k < es.length) : (idx.zip es)[k]? = some (idx[k], es[k]) := by
  rw [List.getElem?_zip_eq_some]
  simp [h1, h2]

/-- `rowid >= i ORDER BY rowid ASC LIMIT 1`: the row at the position "number of rows below `i`" -/
theorem find_forward {α : Type} (idx : List Nat) (es : List α) (h : idx.Pairwise (· < ·)) (i : Nat) :
    (idx.zip es).find? (fun p => decide (i ≤ p.1)) = (idx.zip es)[(idx.filter (· < i)).length]? := by
  induction idx generalizing es with
  | nil => simp
  | cons a t ih =>
    cases es with
    | nil => simp
    | cons e es =>
      rw [List.pairwise_cons] at h
      by_cases ha : i ≤ a
      · have ht : t.filter (· < i) = [] := by
          rw [List.filter_eq_nil_iff]
          intro b hb
          have := h.1 b hb
          simp only [decide_eq_true_eq]
          omega
        have ha' : ¬ a < i := by omega
        simp [ha, ha', ht]
      · have ha' : a < i := by omega
        simp [ha, ha', ih es h.2]

/-- the rows at or before `i` (what a look-up in direction `Reverse` keeps) are an initial segment -/
theorem filter_le_eq_take {α : Type} (idx : List Nat) (es : List α) (h : idx.Pairwise (· < ·))
    (i : Nat) :
    (idx.zip es).filter (fun p => decide (p.1 ≤ i)) =
      (idx.zip es).take (idx.filter (· < i + 1)).length := by
  induction idx generalizing es with
  | nil => simp
  | cons a t ih =>
    cases es with
    | nil => simp
    | cons e es =>
      rw [List.pairwise_cons] at h
      by_cases ha : a ≤ i
      · have ha' : a < i + 1 := by omega
        simp [ha, ha', ih es h.2]
      · have ha' : ¬ a < i + 1 := by omega
        have ht : t.filter (· < i + 1) = [] := by
          rw [List.filter_eq_nil_iff]
          intro b hb
          have := h.1 b hb
          simp only [decide_eq_true_eq]
          omega
        have hz : (t.zip es).filter (fun p => decide (p.1 ≤ i)) = [] := by
          rw [List.filter_eq_nil_iff]
          intro p hp
          have := h.1 p.1 (List.of_mem_zip hp).1
          simp only [decide_eq_true_eq]
          omega
        simp [ha, ha', ht, hz]

/-- `rowid <= i ORDER BY rowid DESC LIMIT 1`: the row just before the position "number of rows
    below `i + 1`", none when there is no such row -/
theorem filter_le_getLast? {α : Type} (idx : List Nat) (es : List α) (h : idx.Pairwise (· < ·))
    (hlen : idx.length = es.length) (i : Nat) :
    ((idx.zip es).filter (fun p => decide (p.1 ≤ i))).getLast? =
      if (idx.filter (· < i + 1)).length = 0 then none
      else (idx.zip es)[(idx.filter (· < i + 1)).length - 1]? := by
  rw [filter_le_eq_take idx es h i, List.getLast?_take]
  split
  · rfl
  · next hc =>
    have hle : (idx.filter (· < i + 1)).length ≤ idx.length := List.length_filter_le _ _
    have hlt : (idx.filter (· < i + 1)).length - 1 < idx.length := by omega
    rw [zip_getElem? idx es _ hlt (by omega)]
    rfl

theorem histLen_rows (cfg : EdCfg) (r : RowStore) (hr : cfg.histRows = some r) : histLen cfg = r.len := by
  unfold histLen
  rw [hr]

theorem histGetDir_forward_rows (cfg : EdCfg) (r : RowStore) (hr : cfg.histRows = some r)
    (hs : r.idx.Pairwise (· < ·)) (hl : r.len ≠ 0) (i : Nat) :
    histGetDir cfg i .forward = (r.idx.zip cfg.hist)[(r.idx.filter (· < i)).length]? := by
  unfold histGetDir
  rw [hr]
  have : (r.len == 0) = false := by simp [hl]
  simp only [this, Bool.false_eq_true, if_false]
  exact find_forward r.idx cfg.hist hs i

theorem histGetDir_reverse_rows (cfg : EdCfg) (r : RowStore) (hr : cfg.histRows = some r)
    (hs : r.idx.Pairwise (· < ·)) (hlen : r.idx.length = cfg.hist.length) (hl : r.len ≠ 0) (i : Nat) :
    histGetDir cfg i .reverse =
      if (r.idx.filter (· < i + 1)).length = 0 then none
      else (r.idx.zip cfg.hist)[(r.idx.filter (· < i + 1)).length - 1]? := by
  unfold histGetDir
  rw [hr]
  have : (r.len == 0) = false := by simp [hl]
  simp only [this, Bool.false_eq_true, if_false]
  exact filter_le_getLast? r.idx cfg.hist hs hlen i

end Rl.Rows
