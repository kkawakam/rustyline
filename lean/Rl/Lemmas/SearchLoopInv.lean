/-
  The incremental-search loop (`searchLoop` in Rl/Editor.lean) as a small automaton over
  (search text, index, direction, success flag, shown text, cursor), and the proof that the model's
  loop is a run of that automaton (`searchLoop_refines`).
-/
import Rl.Lemmas.EditorLoops
namespace Rl

/-- the loop variables of `reverse_incremental_search` together with the text and cursor shown -/
structure SearchVars where
  sb : Text
  hi : Nat
  d : Dir
  succ : Bool
  buf : Text
  pos : Nat
deriving DecidableEq, Repr

/-- one history search from the loop, started at `hi`: on a hit the entry and the match offset become
    text and cursor, the index moves to the hit; on a miss text, cursor AND index (`c.hi`, the entry on
    display) stay and the flag drops -/
def searchTry (cfg : EdCfg) (c : SearchVars) (sb : Text) (hi : Nat) (d : Dir) : SearchVars :=
  match (memHist cfg).search sb hi d with
  | some (i, e, off) => { sb := sb, hi := i, d := d, succ := true, buf := e, pos := off }
  | none => { sb := sb, hi := c.hi, d := d, succ := false, buf := c.buf, pos := c.pos }

/-- the effect of one decoded command on the loop variables; `none` = the command is not a search
    key (it ends the loop: `abort` restores, everything else is handed back) -/
def searchKey (cfg : EdCfg) (c : SearchVars) : Cmd → Option SearchVars
  | .selfInsert _ ch => some (searchTry cfg c (c.sb ++ [ch]) c.hi c.d)
  | .kill (.backwardChar _) => some { c with sb := c.sb.dropLast }
  | .reverseSearchHistory =>
    some (if c.hi > 0 then searchTry cfg c c.sb (c.hi - 1) .reverse
          else { c with d := .reverse, succ := false })
  | .forwardSearchHistory =>
    some (if c.hi + 1 < cfg.hist.length then searchTry cfg c c.sb (c.hi + 1) .forward
          else { c with d := .forward, succ := false })
  | _ => none

def searchRun (cfg : EdCfg) : SearchVars → List Cmd → Option SearchVars
  | c, [] => some c
  | c, k :: ks =>
    match searchKey cfg c k with
    | some c' => searchRun cfg c' ks
    | none => none

variable (S : Segmenter) (U : UData) (cfg : EdCfg)

theorem searchRun_inv {P : SearchVars → Prop}
    (hstep : ∀ c c' k, P c → searchKey cfg c k = some c' → P c') :
    ∀ (keys : List Cmd) (c0 c : SearchVars), P c0 → searchRun cfg c0 keys = some c → P c := by
  intro keys
  induction keys with
  | nil => intro c0 c h0 hr; cases hr; exact h0
  | cons k ks ih =>
    intro c0 c h0 hr
    simp only [searchRun] at hr
    cases hk : searchKey cfg c0 k with
    | none => rw [hk] at hr; cases hr
    | some c1 => rw [hk] at hr; exact ih c1 c (hstep c0 c1 k h0 hk) hr

def SearchPost (c : SearchVars) (r : Option Cmd) (s' : Ed) : Prop :=
  ∀ cmd, r = some cmd →
    ∃ keys cf, searchRun cfg c keys = some cf ∧ searchKey cfg cf cmd = none ∧ cmd ≠ .abort ∧
      s'.line.buf = cf.buf ∧ s'.line.pos = cf.pos ∧ s'.line.canGrow = true

theorem SearchPost.step {c c' : SearchVars} {k : Cmd} (hk : searchKey cfg c k = some c')
    {r : Option Cmd} {s' : Ed} (h : SearchPost cfg c' r s') : SearchPost cfg c r s' := by
  intro cmd hr
  obtain ⟨keys, cf, h1, h2⟩ := h cmd hr
  refine ⟨k :: keys, cf, ?_, h2⟩
  simp only [searchRun, hk]
  exact h1

theorem SearchPost.wp_step {c c' : SearchVars} {k : Cmd} (hk : searchKey cfg c k = some c')
    {m : EM (Option Cmd)} {s : Ed} (h : wp m (SearchPost cfg c') (fun _ _ => True) s) :
    wp m (SearchPost cfg c) (fun _ _ => True) s :=
  wp_mono h (fun _ _ h => SearchPost.step cfg hk h) (fun _ _ h => h)

/-- **refinement**: whenever the model's loop, started with loop variables `c` on a state showing
    `c.buf` / `c.pos`, hands a command back, the keys it consumed form a run of the automaton from `c`
    to some `cf`, the command is not a search key and not `abort`, and the line and cursor handed
    back are exactly those of `cf`. -/
theorem searchLoop_refines (backup : Text) (backupPos : Nat) :
    ∀ (fuel mark : Nat) (c : SearchVars) (s : Ed), s.line.canGrow = true → s.line.buf = c.buf → s.line.pos = c.pos →
      wp (searchLoop S U cfg mark backup backupPos fuel c.sb c.hi c.d c.succ)
        (SearchPost cfg c) (fun _ _ => True) s := by
  intro fuel
  induction fuel with
  | zero => intro mark c s _ _ _; unfold searchLoop; exact trivial
  | succ fuel ih =>
    intro mark c s hg hb hpos
    unfold searchLoop
    simp only [wp_bind]
    refine wp_refreshPromptAndLine S U cfg (fun s2 hc2 => ?_) (fun _ _ _ => trivial)
    obtain ⟨l2, _⟩ := Ed.core_eq hc2
    refine wp_nextCmd S U cfg (fun cmd s3 hc3 => ?_) (fun _ _ _ => trivial)
    rw [wp_lowerMark]
    obtain ⟨l3, _⟩ := Ed.coreNC_eq hc3
    have hg3 : s3.line.canGrow = true := by rw [l3, l2]; exact hg
    have hb3 : s3.line.buf = c.buf := by rw [l3, l2]; exact hb
    have hp3 : s3.line.pos = c.pos := by rw [l3, l2]; exact hpos
    have hds : ∀ (mark : Nat) (sb : Text) (hi : Nat) (d : Dir),
        wp (match (memHist cfg).search sb hi d with
            | some (idx, entry, pos) => do
              lb S U (LB.update S U entry pos)
              searchLoop S U cfg mark backup backupPos fuel sb idx d true
            | none => searchLoop S U cfg mark backup backupPos fuel sb c.hi d false)
          (SearchPost cfg (searchTry cfg c sb hi d)) (fun _ _ => True) s3 := by
      intro mark sb hi d
      unfold searchTry
      cases (memHist cfg).search sb hi d with
      | none => exact ih mark ⟨sb, c.hi, d, false, c.buf, c.pos⟩ s3 hg3 hb3 hp3
      | some r =>
        obtain ⟨idx, entry, pos⟩ := r
        simp only [wp_bind]
        refine wp_lb_any S U (fun a l ns h => ?_) trivial
        obtain ⟨e1, e2, e3⟩ := LB.update_ok_line S U h hg3
        exact ih mark ⟨sb, idx, d, true, entry, pos⟩ _ e3 e1 e2
    split
    · rename_i n ch
      exact SearchPost.wp_step cfg (k := .selfInsert n ch) rfl (hds _ _ _ _)
    · rename_i n
      exact SearchPost.wp_step cfg (k := .kill (.backwardChar n)) rfl
        (ih _ { c with sb := c.sb.dropLast } s3 hg3 hb3 hp3)
    · split
      · rename_i hlt
        exact SearchPost.wp_step cfg (k := .reverseSearchHistory)
          (by simp only [searchKey, if_pos hlt]) (hds _ _ _ _)
      · rename_i hlt
        exact SearchPost.wp_step cfg (k := .reverseSearchHistory)
          (by simp only [searchKey, if_neg hlt]) (ih _ { c with d := .reverse, succ := false } s3 hg3 hb3 hp3)
    · split
      · rename_i hlt
        exact SearchPost.wp_step cfg (k := .forwardSearchHistory)
          (by simp only [searchKey, if_pos hlt]) (hds _ _ _ _)
      · rename_i hlt
        exact SearchPost.wp_step cfg (k := .forwardSearchHistory)
          (by simp only [searchKey, if_neg hlt]) (ih _ { c with d := .forward, succ := false } s3 hg3 hb3 hp3)
    · simp only [wp_bind]
      refine wp_lb_any S U (fun a l ns h => ?_) trivial
      refine wp_refreshLine S U cfg (fun s4 hc4 => ?_) (fun _ _ _ => trivial)
      simp only [truncateChanges, wp_modify, wp_pure]
      intro cmd h; cases h
    · simp only [wp_bind]
      refine wp_refreshLine S U cfg (fun s4 hc4 => ?_) (fun _ _ _ => trivial)
      obtain ⟨l4, _⟩ := Ed.core_eq hc4
      simp only [wp_changesEnd, wp_pure]
      intro cmd' h
      cases h
      refine ⟨[], c, rfl, ?_, ?_, ?_, ?_, ?_⟩
      · unfold searchKey
        split <;> first | rfl | (exfalso; simp_all)
      · intro h; simp_all
      · show s4.line.buf = c.buf
        rw [l4]; exact hb3
      · show s4.line.pos = c.pos
        rw [l4]; exact hp3
      · show s4.line.canGrow = true
        rw [l4]; exact hg3

def searchPrompt (succ : Bool) (sb : Text) : Text :=
  (if succ then "(reverse-i-search)`" else "(failed reverse-i-search)`").toList ++ sb ++ "': ".toList

theorem updateHint_keeps_display (s : Ed) :
    match updateHint cfg s with
    | .ok (_, s') => s'.line = s.line ∧ s'.render = s.render
    | .error _ => True := by
  unfold updateHint
  by_cases h1 : cfg.hasHelper = true
  · by_cases h2 : (cfg.hinterPanicAt == some (cfg.hintCallsBase + (s.hintCalls + 1))) = true
    · simp only [h1, h2, if_true]
    · simp only [h1, h2, if_true, if_false, Bool.false_eq_true]; constructor <;> first | rfl | trivial
  · simp only [h1, if_false, Bool.false_eq_true]; constructor <;> first | rfl | trivial

theorem highlightCharStep_keeps_display (s : Ed) :
    ∃ b s', highlightCharStep cfg s = .ok (b, s') ∧ s'.line = s.line ∧ s'.render = s.render := by
  unfold highlightCharStep
  by_cases h1 : cfg.hasHelper = true
  · by_cases h2 : cfg.highlightChar s.line.buf s.line.pos = true
    · simp only [h1, h2, if_true]; exact ⟨_, _, rfl, rfl, rfl⟩
    · by_cases h3 : s.highlightChar = true
      · simp only [h1, h2, h3, if_true, if_false, Bool.false_eq_true]; exact ⟨_, _, rfl, rfl, rfl⟩
      · simp only [h1, h2, h3, if_true, if_false, Bool.false_eq_true]; exact ⟨_, _, rfl, rfl, rfl⟩
  · simp only [h1, if_false, Bool.false_eq_true]; exact ⟨_, _, rfl, rfl, rfl⟩

theorem refreshPromptAndLine_display (p : Text) (s : Ed) :
    wp (refreshPromptAndLine S U cfg p)
      (fun _ s' => s'.line = s.line ∧ ∃ h, s'.render = .refresh (some p) s.line.buf s.line.pos h :: s.render)
      (fun _ _ => True) s := by
  unfold refreshPromptAndLine
  rw [wp_bind]
  have h0 := updateHint_keeps_display cfg s
  unfold wp
  cases hu : updateHint cfg s with
  | error e => trivial
  | ok r =>
    obtain ⟨u, s1⟩ := r
    rw [hu] at h0
    obtain ⟨b, s2, h2, hl2, hr2⟩ := highlightCharStep_keeps_display cfg s1
    show wp _ _ _ s1
    rw [wp_bind]
    refine wp_of_eq_ok h2 ?_
    simp only [wp_bind, wp_setRefreshLayout, wp_logRender]
    refine ⟨hl2.trans h0.1, s2.hint, ?_⟩
    show _ :: s2.render = _
    rw [hr2, h0.2, hl2, h0.1]

theorem searchLoop_starts_with_display (mark : Nat) (backup : Text) (backupPos : Nat) (fuel : Nat)
    (sb : Text) (hi : Nat) (d : Dir) (succ : Bool) :
    ∃ k : Unit → EM (Option Cmd),
      searchLoop S U cfg mark backup backupPos (fuel + 1) sb hi d succ =
        (refreshPromptAndLine S U cfg (searchPrompt succ sb) >>= k) := by
  unfold searchLoop
  exact ⟨_, rfl⟩
end Rl
