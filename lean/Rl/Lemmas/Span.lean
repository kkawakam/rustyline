/-
  What the C04 "a kill / copy covers exactly the span" theorems share: `spanOf` of `Rl/Spec/Motion.lean`
  movement by movement, the outcome of a kill / copy as a byte range (`Killed`, `Copied`), and how the
  executable oracles `checkKill` / `checkCopy` are discharged once that range is the declarative span.
  The last argument `fc` of `spanOf` is its `forCopy`: `false` for a kill, `true` for a copy.
-/
import Rl.Lemmas.Motion
namespace Rl
open Rl.Spec

theorem removeSpan_mid (x y z : Text) :
    removeSpan (x ++ y ++ z) (blen x) (blen x + blen y) = some (x ++ z, y) := by
  unfold removeSpan; rw [split3_append]

def mkSpan (a b : Nat) : SpanRes := if a < b then .span a b else .nothing

section
variable {S : Segmenter} {U : UData} {buf : Text}

theorem spanOf_of_isEmpty (h : buf.isEmpty = true) (pos : Nat) (mvt : Movement) (fc : Bool) :
    spanOf S U buf pos mvt fc = .nothing := by
  unfold spanOf; rw [h]; rfl

theorem spanOf_wholeLine (h : buf.isEmpty = false) (pos : Nat) (fc : Bool) :
    spanOf S U buf pos .wholeLine fc =
      if lineStartOf buf pos < lineEndOf buf pos then .span (lineStartOf buf pos) (lineEndOf buf pos)
      else if fc then .nothing
      else if lineEndOf buf pos < blen buf then .span (lineEndOf buf pos) (lineEndOf buf pos + 1) else .nothing := by
  unfold spanOf; rw [h]; rfl

theorem spanOf_beginningOfLine (h : buf.isEmpty = false) (pos : Nat) (fc : Bool) :
    spanOf S U buf pos .beginningOfLine fc =
      if lineStartOf buf pos < pos then .span (lineStartOf buf pos) pos
      else if fc || pos == 0 then .nothing
      else match charTargetBwd S buf pos 1 with
        | some t => mkSpan t pos
        | none => .unjudged := by
  unfold spanOf mkSpan; rw [h]; rfl

theorem spanOf_endOfLine (h : buf.isEmpty = false) (pos : Nat) (fc : Bool) :
    spanOf S U buf pos .endOfLine fc =
      if pos < lineEndOf buf pos then .span pos (lineEndOf buf pos)
      else if fc || pos ≥ blen buf then .nothing
      else match charTargetFwd S buf pos 1 with
        | some t => mkSpan pos t
        | none => .unjudged := by
  unfold spanOf mkSpan; rw [h]; rfl

theorem spanOf_backwardWord (h : buf.isEmpty = false) (pos n : Nat) (d : Word) (fc : Bool) :
    spanOf S U buf pos (.backwardWord n d) fc =
      if n == 0 then .unjudged
      else match wordTargetBwd S U buf pos d n with
        | some t => mkSpan t pos
        | none => .nothing := by
  unfold spanOf mkSpan; rw [h]; rfl

theorem spanOf_forwardWord (h : buf.isEmpty = false) (pos n : Nat) (a : At) (d : Word) (fc : Bool) :
    spanOf S U buf pos (.forwardWord n a d) fc =
      if n == 0 || a == .beforeEnd then .unjudged
      else match wordTargetFwd S U buf pos a d n false with
        | some t => mkSpan pos t
        | none => .nothing := by
  unfold spanOf mkSpan; rw [h]; rfl

theorem spanOf_viCharSearch (h : buf.isEmpty = false) (pos n : Nat) (cs : CharSearch) (fc : Bool) :
    spanOf S U buf pos (.viCharSearch n cs) fc =
      if n == 0 then .unjudged
      else match cs with
        | .forward c => match occFwd S buf pos c n with
          | some p => mkSpan pos (p + c.utf8Size)
          | none => .unjudged
        | .forwardBefore c => match occFwd S buf pos c n with
          | some p => mkSpan pos p
          | none => .unjudged
        | .backward c => match occBwd buf pos c n with
          | some p => mkSpan p pos
          | none => .unjudged
        | .backwardAfter _ => match charSearchTarget S buf pos cs n with
          | some t => mkSpan t pos
          | none => .unjudged := by
  unfold spanOf mkSpan; rw [h]; rfl

theorem spanOf_viFirstPrint (h : buf.isEmpty = false) (pos : Nat) (fc : Bool) :
    spanOf S U buf pos .viFirstPrint fc =
      match firstPrintTarget S U buf pos with
      | none => .unjudged
      | some fp => if fp < pos then .span fp pos else if pos < fp then .span pos fp else .nothing := by
  unfold spanOf; rw [h]; rfl

theorem spanOf_backwardChar (h : buf.isEmpty = false) (pos n : Nat) (fc : Bool) :
    spanOf S U buf pos (.backwardChar n) fc =
      if n == 0 then .unjudged
      else match charTargetBwd S buf pos n with
        | some t => mkSpan t pos
        | none => .unjudged := by
  unfold spanOf mkSpan; rw [h]; rfl

theorem spanOf_forwardChar (h : buf.isEmpty = false) (pos n : Nat) (fc : Bool) :
    spanOf S U buf pos (.forwardChar n) fc =
      if n == 0 then .unjudged
      else match charTargetFwd S buf pos n with
        | some t => mkSpan pos t
        | none => .unjudged := by
  unfold spanOf mkSpan; rw [h]; rfl

theorem spanOf_lineUp (h : buf.isEmpty = false) (pos n : Nat) (fc : Bool) :
    spanOf S U buf pos (.lineUp n) fc =
      if n == 0 then .unjudged
      else if lineStartOf buf pos == 0 then .nothing
      else mkSpan (linesSpan buf (upStart buf n (lineStartOf buf pos)) (lineEndOf buf pos) fc).1
                  (linesSpan buf (upStart buf n (lineStartOf buf pos)) (lineEndOf buf pos) fc).2 := by
  unfold spanOf mkSpan; rw [h]; rfl

theorem spanOf_lineDown (h : buf.isEmpty = false) (pos n : Nat) (fc : Bool) :
    spanOf S U buf pos (.lineDown n) fc =
      if n == 0 then .unjudged
      else if lineEndOf buf pos ≥ blen buf then .nothing
      else mkSpan (linesSpan buf (lineStartOf buf pos) (downEnd buf n (lineEndOf buf pos)) fc).1
                  (linesSpan buf (lineStartOf buf pos) (downEnd buf n (lineEndOf buf pos)) fc).2 := by
  unfold spanOf mkSpan; rw [h]; rfl

theorem spanOf_wholeBuffer (h : buf.isEmpty = false) (pos : Nat) (fc : Bool) :
    spanOf S U buf pos .wholeBuffer fc = mkSpan 0 (blen buf) := by
  unfold spanOf mkSpan; rw [h]; rfl

theorem spanOf_beginningOfBuffer (h : buf.isEmpty = false) (pos : Nat) (fc : Bool) :
    spanOf S U buf pos .beginningOfBuffer fc = mkSpan 0 pos := by
  unfold spanOf mkSpan; rw [h]; rfl

theorem spanOf_endOfBuffer (h : buf.isEmpty = false) (pos : Nat) (fc : Bool) :
    spanOf S U buf pos .endOfBuffer fc = mkSpan pos (blen buf) := by
  unfold spanOf mkSpan; rw [h]; rfl

end

theorem checkKill_span {S : Segmenter} {U : UData} {old : LB} {mvt : Movement} {a b : Nat} {x y z : Text}
    {buf : Text} {pos : Nat} {ns : List Notif}
    (hs : spanOf S U old.buf old.pos mvt false = .span a b)
    (hb : old.buf = x ++ y ++ z) (ha : a = blen x) (hb2 : b = blen x + blen y)
    (hbuf : buf = x ++ z) (hk : killedText ns = y) (hp : pos = a) :
    checkKill S U old mvt buf pos ns = none := by
  unfold checkKill
  rw [hs]
  simp only [hb, ha, hb2, removeSpan_mid, hbuf, hk, hp]
  simp

theorem checkKill_nothing {S : Segmenter} {U : UData} {old : LB} {mvt : Movement}
    {buf : Text} {pos : Nat} {ns : List Notif}
    (hs : spanOf S U old.buf old.pos mvt false = .nothing) (hbuf : buf = old.buf) :
    checkKill S U old mvt buf pos ns = none := by
  unfold checkKill
  rw [hs]
  simp [hbuf]

theorem checkKill_unjudged {S : Segmenter} {U : UData} {old : LB} {mvt : Movement}
    {buf : Text} {pos : Nat} {ns : List Notif}
    (hs : spanOf S U old.buf old.pos mvt false = .unjudged) :
    checkKill S U old mvt buf pos ns = none := by
  unfold checkKill
  rw [hs]

theorem checkCopy_span {S : Segmenter} {U : UData} {old : LB} {mvt : Movement} {a b : Nat} {x y z : Text}
    (hs : spanOf S U old.buf old.pos mvt true = .span a b)
    (hb : old.buf = x ++ y ++ z) (ha : a = blen x) (hb2 : b = blen x + blen y) :
    checkCopy S U old mvt (.optText (some y)) = none := by
  unfold checkCopy
  rw [hs]
  simp only [hb, ha, hb2, removeSpan_mid]
  simp

theorem checkCopy_nothing {S : Segmenter} {U : UData} {old : LB} {mvt : Movement}
    (hs : spanOf S U old.buf old.pos mvt true = .nothing) :
    checkCopy S U old mvt (.optText none) = none := by
  unfold checkCopy
  rw [hs]
  simp

theorem checkCopy_unjudged {S : Segmenter} {U : UData} {old : LB} {mvt : Movement} {r : Ret}
    (hs : spanOf S U old.buf old.pos mvt true = .unjudged) :
    checkCopy S U old mvt r = none := by
  unfold checkCopy
  rw [hs]

theorem killedText_append (a b : List Notif) : killedText (a ++ b) = killedText a ++ killedText b := by
  induction a with
  | nil => rfl
  | cons n a ih => cases n <;> simp [killedText, ih]

theorem killedText_wrap (l : List Notif) : killedText (.startKill :: (l ++ [.stopKill])) = killedText l := by
  simp [killedText, killedText_append]

/-- every branch of `kill` that tells the listener is (by `rfl`) the operation that does the work between a
    start and a stop marker -/
def killWrap (m : LM Bool) : LM Bool := do
  LM.notify .startKill
  let k ← m
  LM.notify .stopKill
  pure k

/-- `l` is `lb` without its bytes `[a, b)`, the cursor on `a`; `ns` reports the removed text -/
def Cut (lb l : LB) (ns : List Notif) (a b : Nat) : Prop :=
  ∃ x y z, lb.buf = x ++ y ++ z ∧ a = blen x ∧ b = blen x + blen y ∧
    l = { lb with buf := x ++ z, pos := a } ∧ killedText ns = y

/-- the outcome of a kill over the byte range `o`: nothing happened, or the range, which held the cursor,
    was cut out -/
def Killed (lb l : LB) (ns : List Notif) : Option (Nat × Nat) → Prop
  | none => l = lb
  | some (a, b) => a ≤ lb.pos ∧ lb.pos ≤ b ∧ Cut lb l ns a b

def rangeSpan : Option (Nat × Nat) → SpanRes
  | none => .nothing
  | some (a, b) => mkSpan a b

/-- the declarative span of `mvt` is the range `o`, where it is judged at all -/
def Judged (S : Segmenter) (U : UData) (lb : LB) (mvt : Movement) (fc : Bool) (o : Option (Nat × Nat)) : Prop :=
  spanOf S U lb.buf lb.pos mvt fc = .unjudged ∨ spanOf S U lb.buf lb.pos mvt fc = rangeSpan o

theorem judged_of_isEmpty {S : Segmenter} {U : UData} {lb : LB} (h : lb.buf.isEmpty = true) (mvt : Movement)
    (fc : Bool) : Judged S U lb mvt fc none :=
  Or.inr (spanOf_of_isEmpty h _ _ _)

section
variable {lb l : LB} {ns : List Notif} {o : Option (Nat × Nat)}

theorem Killed.wf (h : WF lb) (hk : Killed lb l ns o) : WF l := by
  match o, hk with
  | none, hk => exact hk ▸ h
  | some (a, b), ⟨_, _, x, y, z, _, ha, _, hl, _⟩ => rw [hl, ha]; exact isBoundary_mid x z

/-- a kill that left the text as it was has not moved the cursor: what it cut out around the cursor was empty -/
theorem Killed.same_pos (hk : Killed lb l ns o) (hb : l.buf = lb.buf) : l.pos = lb.pos := by
  match o, hk with
  | none, hk => rw [hk]
  | some (a, b), ⟨h1, h2, x, y, z, hbuf, ha, hb2, hl, _⟩ =>
    have : blen (x ++ z) = blen (x ++ y ++ z) := by rw [← hbuf, ← hb, hl]
    simp only [blen_append] at this
    rw [hl]
    show a = lb.pos
    omega

theorem Killed.wrap (hk : Killed lb l ns o) : Killed lb l (.startKill :: (ns ++ [.stopKill])) o := by
  match o, hk with
  | none, hk => exact hk
  | some (a, b), ⟨h1, h2, x, y, z, hbuf, ha, hb, hl, ht⟩ =>
    exact ⟨h1, h2, x, y, z, hbuf, ha, hb, hl, by rw [killedText_wrap, ht]⟩

theorem Killed.checkKill {S : Segmenter} {U : UData} {mvt : Movement} (hk : Killed lb l ns o)
    (hj : Judged S U lb mvt false o) : checkKill S U lb mvt l.buf l.pos ns = none := by
  rcases hj with hu | hs
  · exact checkKill_unjudged hu
  match o, hk with
  | none, hk => exact checkKill_nothing hs (by rw [hk])
  | some (a, b), ⟨_, _, x, y, z, hbuf, ha, hb, hl, ht⟩ =>
    simp only [rangeSpan, mkSpan] at hs
    by_cases hab : a < b
    · rw [if_pos hab] at hs
      exact checkKill_span hs hbuf ha hb (by rw [hl]) ht (by rw [hl])
    · -- the range is empty: nothing was removed
      rw [if_neg hab] at hs
      have : y = [] := blen_eq_zero.mp (by omega)
      subst this
      exact checkKill_nothing hs (by rw [hl, hbuf]; simp)

end

/-- what the evaluation of each kill establishes: `m` returns from `lb`, having cut out a range around the
    cursor or done nothing, and (under `hyp`, what the movement asks of the segmenter) that range is the
    declarative span of `mvt` -/
def KillsSpan (S : Segmenter) (U : UData) (hyp : Prop) (mvt : Movement) (m : LM Bool) (lb : LB) : Prop :=
  ∃ o r l ns, m lb = .ok (r, l, ns) ∧ Killed lb l ns o ∧ (hyp → Judged S U lb mvt false o)

section
variable {S : Segmenter} {U : UData} {hyp : Prop} {mvt : Movement} {m : LM Bool} {lb l : LB} {r : Bool}
  {ns : List Notif}

theorem KillsSpan.mono {hyp' : Prop} (he : KillsSpan S U hyp mvt m lb) (hi : hyp' → hyp) :
    KillsSpan S U hyp' mvt m lb :=
  let ⟨o, r, l, ns, hm, hk, hj⟩ := he; ⟨o, r, l, ns, hm, hk, fun h => hj (hi h)⟩

theorem KillsSpan.total_wf (he : KillsSpan S U hyp mvt m lb) (h : WF lb) :
    ∃ r l ns, m lb = .ok (r, l, ns) ∧ WF l := by
  obtain ⟨o, r, l, ns, hm, hk, _⟩ := he
  exact ⟨r, l, ns, hm, hk.wf h⟩

theorem KillsSpan.same_pos (he : KillsSpan S U hyp mvt m lb) (hrun : m lb = .ok (r, l, ns))
    (hb : l.buf = lb.buf) : l.pos = lb.pos := by
  obtain ⟨o, r', l', ns', hm, hk, _⟩ := he
  rw [hm] at hrun; cases hrun
  exact hk.same_pos hb

theorem KillsSpan.checkKill (he : KillsSpan S U hyp mvt m lb) (hh : hyp) (hrun : m lb = .ok (r, l, ns)) :
    checkKill S U lb mvt l.buf l.pos ns = none := by
  obtain ⟨o, r', l', ns', hm, hk, hj⟩ := he
  rw [hm] at hrun; cases hrun
  exact hk.checkKill (hj hh)

theorem KillsSpan.wrap (he : KillsSpan S U hyp mvt m lb) : KillsSpan S U hyp mvt (killWrap m) lb := by
  obtain ⟨o, r, l, ns, hm, hk, hj⟩ := he
  exact ⟨o, r, l, _, by simp only [killWrap, LM.bind_apply, LM.notify, hm]; rfl, hk.wrap, hj⟩

end

/-- the answer of a copy over the byte range `o` -/
def Copied (lb : LB) (r : Option Text) : Option (Nat × Nat) → Prop
  | none => r = none
  | some (a, b) => ∃ x y z, lb.buf = x ++ y ++ z ∧ a = blen x ∧ b = blen x + blen y ∧ r = some y

/-- what the evaluation of each copy establishes (`KillsSpan` for `copy`) -/
def CopiesSpan (S : Segmenter) (U : UData) (hyp : Prop) (mvt : Movement) (lb : LB) : Prop :=
  ∃ o r, LB.copy S U lb mvt = .ok r ∧ Copied lb r o ∧ (hyp → Judged S U lb mvt true o)

section
variable {S : Segmenter} {U : UData} {hyp : Prop} {mvt : Movement} {lb : LB} {r : Option Text}

/-- `copy` on the empty text answers `None`, which every movement's span allows -/
theorem copiesSpan_of_isEmpty (hemp : lb.buf.isEmpty = true) : CopiesSpan S U hyp mvt lb :=
  ⟨none, none, by unfold LB.copy; rw [hemp]; rfl, rfl, fun _ => judged_of_isEmpty hemp _ _⟩

theorem CopiesSpan.mono {hyp' : Prop} (he : CopiesSpan S U hyp mvt lb) (hi : hyp' → hyp) :
    CopiesSpan S U hyp' mvt lb :=
  let ⟨o, r, hc, hk, hj⟩ := he; ⟨o, r, hc, hk, fun h => hj (hi h)⟩

theorem CopiesSpan.total (he : CopiesSpan S U hyp mvt lb) : ∃ r, LB.copy S U lb mvt = .ok r :=
  let ⟨_, r, hc, _⟩ := he; ⟨r, hc⟩

theorem CopiesSpan.checkCopy (he : CopiesSpan S U hyp mvt lb) (hh : hyp) (hrun : LB.copy S U lb mvt = .ok r) :
    checkCopy S U lb mvt (.optText r) = none := by
  obtain ⟨o, r', hc, hk, hj⟩ := he
  rw [hc] at hrun; cases hrun
  rcases hj hh with hu | hs
  · exact checkCopy_unjudged hu
  match o, hk with
  | none, hk => rw [hk]; exact checkCopy_nothing hs
  | some (a, b), ⟨x, y, z, hbuf, ha, hb, hr⟩ =>
    rw [hr]
    simp only [rangeSpan, mkSpan] at hs
    by_cases hab : a < b
    · rw [if_pos hab] at hs
      exact checkCopy_span hs hbuf ha hb
    · -- an empty range: the oracle accepts the empty text for `nothing`
      rw [if_neg hab] at hs
      have : y = [] := blen_eq_zero.mp (by omega)
      subst this
      unfold Spec.checkCopy
      rw [hs]
      simp

end

end Rl
