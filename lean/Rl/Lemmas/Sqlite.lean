/-
  Lemmas about the model of the SQLite history alone (Rl/Sqlite.lean): case folding, what a search
  can answer, the operations on the file as equations, the walk, the invariant `Inv`.
-/
import Rl.Sqlite
import Rl.Spec.Sqlite
namespace Rl.Sq
open Rl

theorem toLower_utf8Size (c : Char) : c.toLower.utf8Size = c.utf8Size := by
  unfold Char.toLower
  split
  · rename_i h
    obtain ⟨h1, h2⟩ := h
    have e1 : 'A'.val = 65 := by decide
    have e2 : 'Z'.val = 90 := by decide
    have e3 : 'a'.val = 97 := by decide
    rw [e1] at h1; rw [e2] at h2
    have h3 : c.val.toNat ≤ 90 := UInt32.le_iff_toNat_le.mp h2
    have h4 : 65 ≤ c.val.toNat := UInt32.le_iff_toNat_le.mp h1
    have a1 : c.val ≤ 127 := by
      apply UInt32.le_iff_toNat_le.mpr
      show c.val.toNat ≤ 127
      omega
    have a2 : c.val + 32 ≤ 127 := by
      apply UInt32.le_iff_toNat_le.mpr
      rw [UInt32.toNat_add]
      show (c.val.toNat + 32) % 2 ^ 32 ≤ 127
      omega
    simp only [Char.utf8Size, e1, e3]
    have : (97 : UInt32) - 65 = 32 := by decide
    rw [this]
    simp [a1, a2]
  · rfl

theorem blen_lower (t : Text) : blen (lower t) = blen t := by
  induction t with
  | nil => rfl
  | cons c t ih => simp [lower, toLower_utf8Size] at *; rw [ih]

theorem lower_append (a b : Text) : lower (a ++ b) = lower a ++ lower b := by simp [lower]

theorem lower_length (a : Text) : (lower a).length = a.length := by simp [lower]

theorem lower_split {e x y : Text} (h : lower e = x ++ y) :
    ∃ a b, e = a ++ b ∧ lower a = x ∧ lower b = y := by
  refine ⟨e.take x.length, e.drop x.length, (List.take_append_drop _ _).symm, ?_, ?_⟩
  · have : List.map Char.toLower e = x ++ y := h
    simp only [lower, List.map_take, this]; simp
  · have : List.map Char.toLower e = x ++ y := h
    simp only [lower, List.map_drop, this]; simp

theorem blen_eq_of_lower_eq {a t : Text} (h : lower a = lower t) : blen a = blen t := by
  rw [← blen_lower a, h, blen_lower]

theorem matchPos_startsWith {e t : Text} {pos : Nat} (h : matchPos e t true = some pos) :
    ∃ a b, e = a ++ b ∧ pos = blen a ∧ lower a = lower t := by
  simp only [matchPos, if_true] at h
  split at h
  · rename_i hp
    simp at h
    obtain ⟨k, hk⟩ := List.isPrefixOf_iff_prefix.mp hp
    obtain ⟨a, b, hab, ha, _⟩ := lower_split hk.symm
    exact ⟨a, b, hab, by rw [← h, blen_eq_of_lower_eq ha], ha⟩
  · simp at h

theorem matchPos_search {e t : Text} {pos : Nat} (h : matchPos e t false = some pos) :
    ∃ a b, e = a ++ b ∧ pos = blen a ∧ lower t <+: lower b := by
  simp only [matchPos, Bool.false_eq_true, if_false] at h
  obtain ⟨⟨x, y, hxy, hoff⟩, _⟩ := findSub_some h
  rw [List.append_assoc] at hxy
  obtain ⟨a, b, hab, ha, hb⟩ := lower_split hxy
  refine ⟨a, b, hab, ?_, ?_⟩
  · rw [hoff, ← ha, blen_lower]
  · rw [hb]; exact List.prefix_append _ _

theorem containsAt_append {t a b : Text} (h : lower t <+: lower b) :
    Spec.Sq.containsAt t (a ++ b) (blen a) = true := by
  simp only [Spec.Sq.containsAt, splitAtByte_append]
  exact List.isPrefixOf_iff_prefix.mpr h

theorem startsAt_append {t a b : Text} (h : lower a = lower t) :
    Spec.Sq.startsAt t (a ++ b) (blen a) = true := by
  simp only [Spec.Sq.startsAt, splitAtByte_append]
  exact beq_iff_eq.mpr h

theorem firstVerified_some {t : Text} {sw : Bool} {l : List Row} {r : Row} {pos : Nat}
    (h : firstVerified t sw l = some (r, pos)) : r ∈ l ∧ matchPos r.entry t sw = some pos := by
  induction l with
  | nil => simp [firstVerified] at h
  | cons x xs ih =>
    simp only [firstVerified] at h
    split at h
    · rename_i p hp
      simp at h
      obtain ⟨rfl, rfl⟩ := h
      exact ⟨List.mem_cons_self, hp⟩
    · obtain ⟨h1, h2⟩ := ih h
      exact ⟨List.mem_cons_of_mem _ h1, h2⟩

/-- An answer of a search is a stored row on the requested side of the start, verified by
    `matchPos` — whatever the FTS oracle proposed (`key`: the same for any candidate list). -/
theorem searchMatch_some {fts : Text → Text → Bool} {h : Hist} {t : Text} {s : Nat} {d : Dir} {sw : Bool}
    {i : Nat} {e : Text} {pos : Nat}
    (hs : (h.searchMatch fts t s d sw).2 = some (i, e, pos)) :
    t ≠ [] ∧ ∃ r, r ∈ h.db.rows ∧ r.entry = e ∧ i = r.rowid - 1 ∧ matchPos e t sw = some pos ∧
      (d = .forward → s + 1 ≤ r.rowid) ∧ (d = .reverse → r.rowid ≤ s + 1) := by
  have key : ∀ (cands : List Row), (∀ r ∈ cands, r ∈ h.db.rows ∧ (d = .forward → s + 1 ≤ r.rowid) ∧ (d = .reverse → r.rowid ≤ s + 1)) →
      ∀ q, (match firstVerified t sw (cands.filter (fun r => fts q r.entry)) with
        | some (r, pos) => (h.bump r.rowid, some (r.rowid - 1, r.entry, pos))
        | none => (h, none)).2 = some (i, e, pos) →
      ∃ r, r ∈ h.db.rows ∧ r.entry = e ∧ i = r.rowid - 1 ∧ matchPos e t sw = some pos ∧
        (d = .forward → s + 1 ≤ r.rowid) ∧ (d = .reverse → r.rowid ≤ s + 1) := by
    intro cands hc q hq
    split at hq
    · rename_i r p hf
      simp at hq
      obtain ⟨rfl, rfl, rfl⟩ := hq
      obtain ⟨hm, hp⟩ := firstVerified_some hf
      rw [List.mem_filter] at hm
      obtain ⟨h1, h2, h3⟩ := hc r hm.1
      exact ⟨r, h1, rfl, rfl, hp, h2, h3⟩
    · simp at hq
  unfold Hist.searchMatch at hs
  split at hs
  · simp at hs
  · rename_i hg
    have ht : t ≠ [] := by
      intro h0; subst h0; simp at hg
    refine ⟨ht, ?_⟩
    split at hs
    · simp at hs
    · rename_i q hq
      cases d with
      | forward =>
        refine key _ ?_ q hs
        intro r hr
        rw [List.mem_filter] at hr
        exact ⟨hr.1, fun _ => by simpa using hr.2, fun hd => by cases hd⟩
      | reverse =>
        refine key _ ?_ q hs
        intro r hr
        rw [List.mem_reverse, List.mem_filter] at hr
        exact ⟨hr.1, fun hd => (by cases hd), fun _ => by simpa using hr.2⟩


/-- what a walk reports of a row: the history index (rowid − 1) and the entry -/
def shown (r : Row) : Nat × Text := (r.rowid - 1, r.entry)

/-- the table is in strictly increasing rowid order -/
def Sorted (rows : List Row) : Prop := rows.Pairwise (fun a b => a.rowid < b.rowid)

/-- invariant of a connection: the table is in rowid order, rowids start at 1, and the cached
    largest rowid (`len`) bounds every rowid -/
structure Inv (h : Hist) : Prop where
  sorted : Sorted h.db.rows
  pos : ∀ r ∈ h.db.rows, 1 ≤ r.rowid
  bound : ∀ r ∈ h.db.rows, r.rowid ≤ h.rowId
  init : h.db.init = true

theorem getRow_reverse {h : Hist} {pre post : List Row} {k : Nat} (hr : h.db.rows = pre ++ post)
    (h1 : ∀ r ∈ pre, r.rowid ≤ k + 1) (h2 : ∀ r ∈ post, k + 1 < r.rowid) :
    h.getRow k .reverse = pre.getLast? := by
  simp only [Hist.getRow, hr, List.filter_append]
  have e1 : pre.filter (fun r => decide (r.rowid ≤ k + 1)) = pre :=
    List.filter_eq_self.mpr (fun a ha => by simpa using h1 a ha)
  have e2 : post.filter (fun r => decide (r.rowid ≤ k + 1)) = [] :=
    List.filter_eq_nil_iff.mpr (fun a ha => by have := h2 a ha; simp; omega)
  rw [e1, e2, List.append_nil]

theorem getRow_forward {h : Hist} {pre post : List Row} {k : Nat} (hr : h.db.rows = pre ++ post)
    (h1 : ∀ r ∈ pre, r.rowid < k + 1) :
    h.getRow k .forward = post.find? (fun r => k + 1 ≤ r.rowid) := by
  simp only [Hist.getRow, hr, List.find?_append]
  have e1 : pre.find? (fun r => decide (k + 1 ≤ r.rowid)) = none :=
    List.find?_eq_none.mpr (fun a ha => by have := h1 a ha; simp; omega)
  rw [e1]; rfl

/-- The walk towards older entries from index `hi`: the table is `pre ++ post` with `pre` the rows
    still to show (rowids ≤ `hi`) and `post` the rows already passed (rowids > `hi`); the walk
    shows `pre` from its last row down and stops at the index of the first row.  Induction on
    `pre.length`, peeling the LAST row of `pre`: it is the one `getRow_reverse` finds. -/
theorem walkDown_eq {h : Hist} (hne : h.rowId ≠ 0) :
    ∀ (n : Nat) (pre post : List Row) (hi fuel : Nat), pre.length = n → h.db.rows = pre ++ post → Sorted pre →
      (∀ r ∈ pre, 1 ≤ r.rowid) → (∀ r ∈ pre, r.rowid ≤ hi) → (∀ r ∈ post, hi < r.rowid) → hi ≤ h.rowId →
      pre.length < fuel →
      walkDown h hi fuel = (pre.reverse.map shown, match pre.head? with | some r => r.rowid - 1 | none => hi) := by
  intro n
  induction n with
  | zero =>
    intro pre post hi fuel hn hr _ _ _ h2 hle hf
    have : pre = [] := List.eq_nil_of_length_eq_zero hn
    subst this
    obtain ⟨f, rfl⟩ : ∃ f, fuel = f + 1 := ⟨fuel - 1, by simp at hf; omega⟩
    simp only [walkDown, Hist.isEmpty, Hist.len, Hist.get]
    have he : (h.rowId == 0) = false := by simp [hne]
    simp only [he, Bool.false_or]
    by_cases h0 : hi = 0
    · simp [h0]
    · have hg : h.getRow (hi - 1) .reverse = none := by
        rw [getRow_reverse (pre := []) (post := post) (by simpa using hr) (by simp)
          (fun r hr' => by have := h2 r hr'; omega)]
        rfl
      simp [h0, hg]
  | succ n ih =>
    intro pre post hi fuel hn hr hs hp h1 h2 hle hf
    rcases List.eq_nil_or_concat pre with rfl | ⟨pre', r, rfl⟩
    · simp at hn
    · rw [List.concat_eq_append] at *
      obtain ⟨f, rfl⟩ : ∃ f, fuel = f + 1 := ⟨fuel - 1, by omega⟩
      have hrm : r ∈ pre' ++ [r] := by simp
      have hr1 : 1 ≤ r.rowid := hp r hrm
      have hrhi : r.rowid ≤ hi := h1 r hrm
      have hs' := List.pairwise_append.mp hs
      have hg : h.getRow (hi - 1) .reverse = some r := by
        rw [getRow_reverse (pre := pre' ++ [r]) (post := post) hr
          (fun x hx => by have := h1 x hx; omega) (fun x hx => by have := h2 x hx; omega)]
        simp
      simp only [walkDown, Hist.isEmpty, Hist.len, Hist.get]
      have he : (h.rowId == 0) = false := by simp [hne]
      have h0 : (hi == 0) = false := by simp; omega
      have hlt : hi - 1 < h.rowId := by omega
      simp only [he, h0, Bool.false_or, hlt, if_true, hg, Bool.false_eq_true, if_false]
      have := ih pre' (r :: post) (r.rowid - 1) f (by simpa using hn) (by simp [hr]) hs'.1
        (fun x hx => hp x (by simp [hx]))
        (fun x hx => by have := hs'.2.2 x hx r (by simp); omega)
        (fun x hx => by
          rcases List.mem_cons.mp hx with rfl | hx
          · omega
          · have := h2 x hx; omega)
        (by omega) (by simp at hf; omega)
      rw [this]
      simp only [List.reverse_append, List.reverse_cons, List.reverse_nil, List.nil_append,
        List.singleton_append, List.map_cons, shown]
      congr 1
      cases pre' <;> simp

/-- The walk back towards newer entries from index `hi`: the table is `pre ++ post` with `pre` the
    rows at or below the current index (rowids ≤ `hi + 1`) and `post` the rows above it; the walk
    shows `post` in order.  Induction on `post`: its head is the row `getRow_forward` finds. -/
theorem walkUp_eq {h : Hist} :
    ∀ (post pre : List Row) (hi fuel : Nat), h.db.rows = pre ++ post → Sorted (pre ++ post) →
      (∀ r ∈ pre, r.rowid ≤ hi + 1) → (∀ r ∈ post, hi + 2 ≤ r.rowid) → (∀ r ∈ post, r.rowid ≤ h.rowId) →
      post.length < fuel → walkUp h hi fuel = post.map shown := by
  intro post
  induction post with
  | nil =>
    intro pre hi fuel hr _ h1 _ _ hf
    obtain ⟨f, rfl⟩ : ∃ f, fuel = f + 1 := ⟨fuel - 1, by simp at hf; omega⟩
    have hg : h.getRow (hi + 1) .forward = none := by
      rw [getRow_forward (pre := pre) (post := []) hr (fun x hx => by have := h1 x hx; omega)]
      rfl
    simp only [walkUp, Hist.get, hg, ite_self]
    repeat' (first | rfl | split)
  | cons r post ih =>
    intro pre hi fuel hr hs h1 h2 h3 hf
    obtain ⟨f, rfl⟩ : ∃ f, fuel = f + 1 := ⟨fuel - 1, by omega⟩
    have hr2 : hi + 2 ≤ r.rowid := h2 r (by simp)
    have hr3 : r.rowid ≤ h.rowId := h3 r (by simp)
    have hg : h.getRow (hi + 1) .forward = some r := by
      rw [getRow_forward (pre := pre) (post := r :: post) hr (fun x hx => by have := h1 x hx; omega)]
      simp only [List.find?_cons]
      have : decide (hi + 1 + 1 ≤ r.rowid) = true := by simp; omega
      simp [this]
    have hne : h.rowId ≠ 0 := by omega
    have he : h.isEmpty = false := by simp [Hist.isEmpty, hne]
    have hl : (hi == h.len) = false := by simp [Hist.len]; omega
    have hlt : hi + 1 < h.len := by simp [Hist.len]; omega
    simp only [walkUp, he, hl, Bool.false_or, Bool.false_eq_true, if_false, hlt, if_true, Hist.get, hg]
    have hs' := List.pairwise_append.mp hs
    have hs2 := List.pairwise_cons.mp hs'.2.1
    have := ih (pre ++ [r]) (r.rowid - 1) f (by simp [hr]) (by simpa using hs)
      (fun x hx => by
        rcases List.mem_append.mp hx with hx | hx
        · have := h1 x hx; omega
        · simp at hx; subst hx; omega)
      (fun x hx => by have := hs2.1 x hx; omega)
      (fun x hx => h3 x (by simp [hx]))
      (by simp at hf; omega)
    simp only [List.map_cons, shown]
    rw [this]

theorem walk_eq {h : Hist} (hi : Inv h) {fuel : Nat} (hf : h.db.rows.length < fuel) :
    walk h fuel = (h.db.rows.reverse.map shown, h.db.rows.tail.map shown) := by
  unfold walk
  by_cases hne : h.rowId = 0
  · -- `is_empty()`: nothing is shown; the bound says the table is empty
    have : h.db.rows = [] := by
      cases hrows : h.db.rows with
      | nil => rfl
      | cons r rs =>
        have h1 := hi.pos r (by simp [hrows]); have h2 := hi.bound r (by simp [hrows]); omega
    obtain ⟨f, rfl⟩ : ∃ f, fuel = f + 1 := ⟨fuel - 1, by omega⟩
    simp [walkDown, walkUp, Hist.isEmpty, Hist.len, hne, this]
  · have hd := walkDown_eq hne h.db.rows.length h.db.rows [] h.len fuel rfl (by simp) hi.sorted hi.pos
      hi.bound (by simp) (Nat.le_refl _) hf
    rw [hd]
    simp only
    cases hrows : h.db.rows with
    | nil =>
      obtain ⟨f, rfl⟩ : ∃ f, fuel = f + 1 := ⟨fuel - 1, by omega⟩
      simp [walkUp]
    | cons r0 rest =>
      simp only [List.head?_cons, List.tail_cons]
      have hs : Sorted ([r0] ++ rest) := by have := hi.sorted; rw [hrows] at this; simpa using this
      have hs0 : List.Pairwise (fun a b : Row => a.rowid < b.rowid) (r0 :: rest) := by
        have := hi.sorted; rw [hrows] at this; exact this
      have hs2 := List.pairwise_cons.mp hs0
      have h1 := hi.pos r0 (by simp [hrows])
      rw [walkUp_eq rest [r0] (r0.rowid - 1) fuel (by simp [hrows]) hs
        (fun x hx => by simp at hx; subst hx; omega)
        (fun x hx => by have := hs2.1 x hx; omega)
        (fun x hx => hi.bound x (by simp [hrows, hx]))
        (by rw [hrows] at hf; simp at hf; omega)]


theorem dedupe_noDup {rows : List Row} (h : hasDup rows = false) : dedupe rows = rows := by
  unfold dedupe
  rw [List.filter_eq_self]
  intro r hr
  unfold hasDup at h
  rw [List.any_eq_false] at h
  have := h r hr
  simpa using this

theorem ite_dedupe_sublist (b : Bool) (rows : List Row) :
    (if b then dedupe rows else rows).Sublist rows := by
  split
  · exact List.filter_sublist
  · exact List.Sublist.refl _

/-- `set_ignore_dups` makes the index follow the setting; creating the index deletes all but the
    newest row of every (entry, session) group (nothing, when no two rows share one) -/
theorem setIgnoreDupsIndex_eq (h : Hist) :
    h.setIgnoreDupsIndex = { h with db := { h.db with
      rows := if h.ignoreDups && !h.db.index then dedupe h.db.rows else h.db.rows,
      index := h.ignoreDups } } := by
  obtain ⟨⟨init, sessions, rows, index⟩, ml, isp, idp, sid, rid⟩ := h
  cases idp <;> cases index <;> simp [Hist.setIgnoreDupsIndex]
  exact fun hd => (dedupe_noDup hd).symm

theorem setIgnoreDupsIndex_of_idx {h : Hist} (hidx : h.db.index = h.ignoreDups) :
    h.setIgnoreDupsIndex = h := by
  obtain ⟨⟨init, sessions, rows, index⟩, ml, isp, idp, sid, rid⟩ := h
  simp only at hidx
  subst hidx
  rw [setIgnoreDupsIndex_eq]
  simp only [Bool.and_not_self, Bool.false_eq_true, if_false]

theorem setIgnoreDups_eq {h : Hist} (hidx : h.db.index = h.ignoreDups) (b : Bool) :
    h.setIgnoreDups b = { h with ignoreDups := b, db := { h.db with
      rows := if b && !h.ignoreDups then dedupe h.db.rows else h.db.rows, index := b } } := by
  obtain ⟨⟨init, sessions, rows, index⟩, ml, isp, idp, sid, rid⟩ := h
  simp only at hidx
  subst hidx
  cases b <;> cases index <;> simp [Hist.setIgnoreDups, setIgnoreDupsIndex_eq]

theorem checkSchema_eq {h : Hist} (hinit : h.db.init = true) :
    h.checkSchema = if h.rowId = 0 then h.setIgnoreDupsIndex.updateRowId else h.setIgnoreDupsIndex := by
  have hr : h.setIgnoreDupsIndex.rowId = h.rowId := by rw [setIgnoreDupsIndex_eq]
  unfold Hist.checkSchema
  simp only [hinit, if_true, Bool.or_true, Bool.and_true, hr, beq_iff_eq]

theorem openDb_eq (c : Cfg) (db : Db) (hinit : db.init = true) :
    Hist.openDb c db =
      let rows := if c.ignoreDups && !db.index then dedupe db.rows else db.rows
      { db := { db with rows := rows, index := c.ignoreDups }, maxLen := c.maxLen,
        ignoreSpace := c.ignoreSpace, ignoreDups := c.ignoreDups, sessionId := 0, rowId := maxRowid rows } := by
  unfold Hist.openDb
  rw [checkSchema_eq hinit, setIgnoreDupsIndex_eq]
  rfl

theorem openDb_fresh (c : Cfg) :
    Hist.openDb c {} =
      { db := { init := true, index := c.ignoreDups }, maxLen := c.maxLen,
        ignoreSpace := c.ignoreSpace, ignoreDups := c.ignoreDups, sessionId := 0, rowId := 0 } := by
  obtain ⟨ml, isp, idp⟩ := c
  cases idp <;> rfl

theorem openDb_rows (c : Cfg) {db : Db} (hinit : db.init = true)
    (hnd : c.ignoreDups = true → db.index = false → hasDup db.rows = false) :
    (Hist.openDb c db).db.rows = db.rows := by
  rw [openDb_eq c db hinit]
  show (if (c.ignoreDups && !db.index) = true then dedupe db.rows else db.rows) = db.rows
  split
  · rename_i hc
    simp only [Bool.and_eq_true, Bool.not_eq_true'] at hc
    exact dedupe_noDup (hnd hc.1 hc.2)
  · rfl

theorem setMaxLen_eq (h : Hist) (n : Nat) :
    h.setMaxLen n =
      { h with db := { h.db with rows := h.db.rows.drop (h.db.rows.length - n) }, maxLen := n } := by
  unfold Hist.setMaxLen
  simp only
  split
  · rfl
  · rename_i hc
    have : h.db.rows.length - n = 0 := by omega
    rw [this]; rfl

theorem createSession_full {h : Hist} (hinit : h.db.init = true) (hidx : h.db.index = h.ignoreDups) :
    h.createSession.db.rows = h.db.rows ∧ h.createSession.db.index = h.ignoreDups ∧
    h.createSession.sessionId = (if h.sessionId = 0 then h.db.sessions + 1 else h.sessionId) ∧
    h.createSession.db.sessions = (if h.sessionId = 0 then h.db.sessions + 1 else h.db.sessions) ∧
    h.createSession.maxLen = h.maxLen ∧ h.createSession.ignoreSpace = h.ignoreSpace ∧
    h.createSession.ignoreDups = h.ignoreDups := by
  unfold Hist.createSession
  by_cases hs : h.sessionId = 0
  · simp only [hs, beq_self_eq_true, if_true]
    rw [checkSchema_eq hinit, setIgnoreDupsIndex_of_idx hidx]
    split <;> exact ⟨rfl, hidx, rfl, rfl, rfl, rfl, rfl⟩
  · rw [if_neg (by simpa using hs)]
    exact ⟨rfl, hidx, (if_neg hs).symm, (if_neg hs).symm, rfl, rfl, rfl⟩

/-- `h'` is `h` except that the cached largest rowid may have grown: all that a read operation
    (`get`, a search, `hint`) does to a connection -/
def Reads (h h' : Hist) : Prop := ∃ k, h.rowId ≤ k ∧ h' = { h with rowId := k }

theorem Reads.refl (h : Hist) : Reads h h := ⟨h.rowId, Nat.le_refl _, rfl⟩

theorem bump_reads (h : Hist) (k : Nat) : Reads h (h.bump k) := by
  unfold Hist.bump
  split
  · rename_i hk; exact ⟨k, Nat.le_of_lt hk, rfl⟩
  · exact Reads.refl h

theorem get_reads (h : Hist) (i : Nat) (d : Dir) : Reads h (h.get i d).1 := by
  unfold Hist.get
  split
  · exact Reads.refl h
  · split
    · exact bump_reads h _
    · exact Reads.refl h

theorem searchMatch_reads (fts : Text → Text → Bool) (h : Hist) (t : Text) (s : Nat) (d : Dir)
    (sw : Bool) : Reads h (h.searchMatch fts t s d sw).1 := by
  unfold Hist.searchMatch
  split
  · exact Reads.refl h
  · split
    · exact Reads.refl h
    · simp only
      split
      · exact bump_reads h _
      · exact Reads.refl h

theorem hint_fst (fts : Text → Text → Bool) (h : Hist) (t : Text) (p : Nat) :
    (h.hint fts t p).1 = h ∨ (h.hint fts t p).1 = (h.startsWith fts t (h.len - 1) .reverse).1 := by
  unfold Hist.hint
  split
  · exact Or.inl rfl
  · simp only [beq_self_eq_true, if_true]
    generalize Hist.startsWith fts h t (h.len - 1) Dir.reverse = res
    rcases res with ⟨h', _ | ⟨i, e, p'⟩⟩
    · exact Or.inr rfl
    · simp only
      split
      · exact Or.inr rfl
      · split <;> exact Or.inr rfl

theorem hint_reads (fts : Text → Text → Bool) (h : Hist) (t : Text) (p : Nat) :
    Reads h (h.hint fts t p).1 := by
  rcases hint_fst fts h t p with e | e <;> rw [e]
  · exact Reads.refl h
  · exact searchMatch_reads fts h t _ .reverse true

/-- Asked at the end of the line, the hinter answers "no hint" or the rest of a stored entry that
    starts with the line ignoring case: the slice `entry[pos..]` is at the end of a prefix. -/
theorem hint_cases (fts : Text → Text → Bool) (h : Hist) (t : Text) :
    (h.hint fts t (blen t)).2 = some none ∨
    ∃ r a b, r ∈ h.db.rows ∧ r.entry = a ++ b ∧ lower a = lower t ∧
      (h.hint fts t (blen t)).2 = some (some b) := by
  unfold Hist.hint
  split
  · exact Or.inl rfl
  · simp only [beq_self_eq_true, if_true]
    generalize hst : Hist.startsWith fts h t (h.len - 1) Dir.reverse = res
    rcases res with ⟨h', _ | ⟨i, e, p⟩⟩
    · exact Or.inl rfl
    · have hs : (h.searchMatch fts t (h.len - 1) .reverse true).2 = some (i, e, p) := by
        show (Hist.startsWith fts h t (h.len - 1) Dir.reverse).2 = _
        rw [hst]
      obtain ⟨_, r, hr, he, _, hp, _, _⟩ := searchMatch_some hs
      obtain ⟨a, b, hab, _, hlo⟩ := matchPos_startsWith hp
      have hsp : splitAtByte e (blen t) = some (a, b) := by
        rw [hab, ← blen_eq_of_lower_eq hlo]; exact splitAtByte_append a b
      simp only [hsp]
      split
      · exact Or.inl rfl
      · exact Or.inr ⟨r, a, b, hr, he.trans hab, hlo, rfl⟩

theorem le_maxRowid {rows : List Row} (hs : Sorted rows) {r : Row} (hr : r ∈ rows) :
    r.rowid ≤ maxRowid rows := by
  unfold maxRowid
  cases hl : rows.getLast? with
  | none => simp [List.getLast?_eq_none_iff] at hl; subst hl; simp at hr
  | some l =>
    obtain ⟨ys, rfl⟩ := List.getLast?_eq_some_iff.mp hl
    simp only
    rcases List.mem_append.mp hr with h1 | h1
    · have := (List.pairwise_append.mp hs).2.2 r h1 l (by simp); omega
    · simp at h1; subst h1; exact Nat.le_refl _

theorem Inv.of_sublist {h h' : Hist} (hi : Inv h) (hsub : h'.db.rows.Sublist h.db.rows)
    (hle : h.rowId ≤ h'.rowId) (hin : h'.db.init = true) : Inv h' :=
  { sorted := List.Pairwise.sublist hsub hi.sorted
    pos := fun r hr => hi.pos r (hsub.subset hr)
    bound := fun r hr => Nat.le_trans (hi.bound r (hsub.subset hr)) hle
    init := hin }

theorem Reads.inv {h h' : Hist} (hr : Reads h h') (hi : Inv h) : Inv h' := by
  obtain ⟨k, hk, rfl⟩ := hr
  exact hi.of_sublist (List.Sublist.refl _) hk hi.init

theorem setIgnoreDupsIndex_inv {h : Hist} (hi : Inv h) : Inv h.setIgnoreDupsIndex := by
  rw [setIgnoreDupsIndex_eq]
  exact hi.of_sublist (ite_dedupe_sublist _ _) (Nat.le_refl _) hi.init

theorem updateRowId_inv {h : Hist} (hs : Sorted h.db.rows) (hp : ∀ r ∈ h.db.rows, 1 ≤ r.rowid)
    (hin : h.db.init = true) : Inv h.updateRowId :=
  { sorted := hs, pos := hp, bound := fun _ hr => le_maxRowid hs hr, init := hin }

theorem checkSchema_inv {h : Hist} (hi : Inv h) : Inv h.checkSchema := by
  rw [checkSchema_eq hi.init]
  have h1 := setIgnoreDupsIndex_inv hi
  split
  · exact updateRowId_inv h1.sorted h1.pos h1.init
  · exact h1

theorem openDb_inv (c : Cfg) {h : Hist} (hi : Inv h) : Inv (Hist.openDb c h.db) := by
  rw [openDb_eq c h.db hi.init]
  have hsub := ite_dedupe_sublist (c.ignoreDups && !h.db.index) h.db.rows
  have hs : Sorted (if (c.ignoreDups && !h.db.index) = true then dedupe h.db.rows else h.db.rows) :=
    hi.sorted.sublist hsub
  exact { sorted := hs, pos := fun r hr => hi.pos r (hsub.subset hr),
          bound := fun r hr => le_maxRowid hs hr, init := hi.init }

theorem fresh_inv (c : Cfg) : Inv (Hist.openDb c {}) := by
  rw [openDb_fresh]
  exact { sorted := List.Pairwise.nil, pos := fun _ hr => (nomatch hr), bound := fun _ hr => (nomatch hr),
          init := rfl }

theorem createSession_inv {h : Hist} (hi : Inv h) : Inv h.createSession := by
  unfold Hist.createSession
  split
  · have := checkSchema_inv hi
    exact { sorted := this.sorted, pos := this.pos, bound := this.bound, init := this.init }
  · exact hi

theorem addEntry_inv {h : Hist} (hi : Inv h) (l : Text) : Inv (h.addEntry l).1 := by
  unfold Hist.addEntry
  simp only
  have hk : ∀ (kept : List Row), kept.Sublist h.db.rows →
      Sorted (kept ++ [{ rowid := maxRowid h.db.rows + 1, session := h.sessionId, entry := l }]) ∧
      (∀ r ∈ kept ++ [({ rowid := maxRowid h.db.rows + 1, session := h.sessionId, entry := l } : Row)],
        1 ≤ r.rowid ∧ r.rowid ≤ maxRowid h.db.rows + 1) := by
    intro kept hsub
    refine ⟨List.pairwise_append.mpr ⟨List.Pairwise.sublist hsub hi.sorted, by simp, ?_⟩, ?_⟩
    · intro a ha b hb
      simp at hb; subst hb
      have := le_maxRowid hi.sorted (hsub.subset ha)
      simp; omega
    · intro r hr
      rcases List.mem_append.mp hr with h1 | h1
      · have := le_maxRowid hi.sorted (hsub.subset h1)
        exact ⟨hi.pos r (hsub.subset h1), by omega⟩
      · simp at h1; subst h1; simp
  split
  · obtain ⟨h1, h2⟩ := hk _ (List.filter_sublist (l := h.db.rows))
    exact { sorted := h1, pos := fun r hr => (h2 r hr).1, bound := fun r hr => (h2 r hr).2, init := hi.init }
  · obtain ⟨h1, h2⟩ := hk _ (List.Sublist.refl _)
    exact { sorted := h1, pos := fun r hr => (h2 r hr).1, bound := fun r hr => (h2 r hr).2, init := hi.init }

theorem add_inv (ws : Char → Bool) {h : Hist} (hi : Inv h) (l : Text) : Inv (h.add ws l).1 := by
  unfold Hist.add
  split
  · exact hi
  · exact addEntry_inv (createSession_inv hi) l

theorem addAll_inv (ws : Char → Bool) {h : Hist} (hi : Inv h) (ls : List Text) : Inv (addAll ws h ls).1 := by
  induction ls generalizing h with
  | nil => exact hi
  | cons l ls ih => simp only [addAll]; exact ih (add_inv ws hi l)

theorem setMaxLen_inv {h : Hist} (hi : Inv h) (n : Nat) : Inv (h.setMaxLen n) := by
  rw [setMaxLen_eq]
  exact hi.of_sublist (List.drop_sublist _ _) (Nat.le_refl _) hi.init

theorem setIgnoreDups_inv {h : Hist} (hi : Inv h) (b : Bool) : Inv (h.setIgnoreDups b) := by
  unfold Hist.setIgnoreDups
  split
  · exact setIgnoreDupsIndex_inv (h := { h with ignoreDups := b })
      { sorted := hi.sorted, pos := hi.pos, bound := hi.bound, init := hi.init }
  · exact hi

theorem step_inv (ws : Char → Bool) (fts : Text → Text → Bool) {h : Hist} (hi : Inv h) (op : QOp) :
    Inv (h.step ws fts op).1 := by
  cases op with
  | add l => exact add_inv ws hi l
  | setMax n => exact setMaxLen_inv hi n
  | dups b => exact setIgnoreDups_inv hi b
  | space b => exact { sorted := hi.sorted, pos := hi.pos, bound := hi.bound, init := hi.init }
  | reopen c => exact openDb_inv c hi
  | crash c ls => exact openDb_inv c (addAll_inv ws (openDb_inv c hi) ls)
  | len => exact hi
  | get i d => exact (get_reads h i d).inv hi
  | walk => exact hi
  | search t s d => exact (searchMatch_reads fts h t s d false).inv hi
  | startsWith t s d => exact (searchMatch_reads fts h t s d true).inv hi
  | hint t => exact (hint_reads fts h t _).inv hi

theorem run_inv (ws : Char → Bool) (fts : Text → Text → Bool) {h : Hist} (hi : Inv h) (ops : List QOp) :
    Inv (h.run ws fts ops).1 := by
  induction ops generalizing h with
  | nil => exact hi
  | cons op ops ih => simp only [Hist.run]; exact ih (step_inv ws fts hi op)

end Rl.Sq
