/-
  Refinement lemmas for C20: the content of the row store (rows without their rowids) evolves
  as the declarative store of Rl/Spec/Sqlite.lean prescribes, the index flag follows the
  ignore-dups setting over every operation, and the spec's judge accepts every answer of the model.
  Session tags of the model (ids of the `session` table) and of the declarative store (one epoch
  per open) are related by a renaming that is injective where it matters (`Sim`).
-/
import Rl.Lemmas.Sqlite
namespace Rl.Sq
open Rl Rl.Spec.Sq

/-- a row without its rowid: (session id, line) — what the unique index is on -/
def key (r : Row) : Nat × Text := (r.session, r.entry)

/-- the session the next accepted line of this connection is stored under -/
def Hist.sidOf (h : Hist) : Nat := if h.sessionId = 0 then h.db.sessions + 1 else h.sessionId

/-- abstraction: the declarative store state a connection stands for (holes in rowids forgotten) -/
def Hist.abs (h : Hist) : Spec.Sq.SState :=
  { entries := h.db.rows.map key, epoch := h.sidOf, max := h.maxLen,
    ignoreSpace := h.ignoreSpace, ignoreDups := h.ignoreDups }

/-- `Inv` and: the unique index exists exactly when the connection ignores duplicates -/
structure Good (h : Hist) : Prop where
  inv : Inv h
  idx : h.db.index = h.ignoreDups

theorem refused_abs (ws : Char → Bool) (h : Hist) (l : Text) :
    Spec.Sq.refused ws h.abs l = h.ignore ws l := by
  unfold Spec.Sq.refused Hist.ignore Hist.abs
  cases l with
  | nil => simp
  | cons c t =>
    by_cases hm : h.maxLen = 0
    · simp [hm]
    · cases hsp : h.ignoreSpace <;> cases hw : ws c <;> simp [hm, hw]

theorem sidOf_ne_zero (h : Hist) : h.sidOf ≠ 0 := by
  unfold Hist.sidOf; split <;> omega

theorem filter_key (rows : List Row) (sid : Nat) (l : Text) :
    (rows.filter (fun r => !sameKey r { rowid := k, session := sid, entry := l })).map key =
      (rows.map key).filter (· != (sid, l)) := by
  induction rows with
  | nil => rfl
  | cons r rs ih =>
    have hp : (!sameKey r { rowid := k, session := sid, entry := l }) = (key r != (sid, l)) := by
      simp only [sameKey, key, bne]
      congr 1
      rw [Bool.eq_iff_iff]
      simp [and_comm]
    simp only [List.filter_cons, List.map_cons, hp]
    split <;> simp [ih]

theorem add_abs (ws : Char → Bool) {h : Hist} (hg : Good h) (l : Text) :
    (h.add ws l).1.abs = (Spec.Sq.addLine ws h.abs l).1 ∧
    (h.add ws l).2 = (Spec.Sq.addLine ws h.abs l).2 ∧ Good (h.add ws l).1 := by
  have hgi : Inv (h.add ws l).1 := add_inv ws hg.inv l
  obtain ⟨e1, e2, e3, _, e4, e5, e6⟩ := createSession_full hg.inv.init hg.idx
  change h.createSession.sessionId = h.sidOf at e3
  unfold Spec.Sq.addLine
  rw [refused_abs]
  unfold Hist.add at hgi ⊢
  cases hig : h.ignore ws l
  · simp only [Bool.false_eq_true, if_false]
    simp only [hig, Bool.false_eq_true, if_false] at hgi
    refine ⟨?_, rfl, hgi, ?_⟩
    · have hs : (h.createSession.addEntry l).1.sidOf = h.sidOf := by
        simp [Hist.addEntry, Hist.sidOf, e3]
        intro h0
        exact absurd h0 (sidOf_ne_zero h)
      simp only [Hist.abs, hs]
      simp only [Hist.addEntry, e1, e2, e3, e4, e5, e6]
      congr 1
      by_cases hd : h.ignoreDups = true <;> simp [hd, key, filter_key]
    · simp [Hist.addEntry, e2, e6]
  · simp only [if_true]
    exact ⟨by trivial, by trivial, hg⟩

theorem addAll_abs (ws : Char → Bool) {h : Hist} (hg : Good h) (ls : List Text) :
    (addAll ws h ls).1.abs = (Spec.Sq.addLines ws h.abs ls).1 ∧
    (addAll ws h ls).2 = (Spec.Sq.addLines ws h.abs ls).2 ∧ Good (addAll ws h ls).1 := by
  induction ls generalizing h with
  | nil => exact ⟨rfl, rfl, hg⟩
  | cons l ls ih =>
    obtain ⟨a1, a2, a3⟩ := add_abs ws hg l
    obtain ⟨b1, b2, b3⟩ := ih a3
    simp only [addAll, Spec.Sq.addLines]
    rw [← a1, ← a2]
    exact ⟨b1, by rw [b2], b3⟩

theorem dedupe_key_aux (rows : List Row) : ∀ (pre : List Row), Sorted (pre ++ rows) →
    (rows.filter (fun r => !(pre ++ rows).any (fun r' => sameKey r' r && decide (r.rowid < r'.rowid)))).map key
      = collapse (rows.map key) := by
  induction rows with
  | nil => intro _ _; rfl
  | cons x xs ih =>
    intro pre hs
    have hs' : Sorted ((pre ++ [x]) ++ xs) := by simpa using hs
    have ih' := ih (pre ++ [x]) hs'
    have e : pre ++ [x] ++ xs = pre ++ x :: xs := by simp
    rw [e] at ih'
    have hp := List.pairwise_append.mp hs
    have hx : (pre ++ x :: xs).any (fun r' => sameKey r' x && decide (x.rowid < r'.rowid))
        = (xs.map key).contains (key x) := by
      rw [Bool.eq_iff_iff]
      simp only [List.any_eq_true, Bool.and_eq_true, decide_eq_true_eq, List.contains_iff_mem,
        List.mem_map, List.mem_append, List.mem_cons]
      constructor
      · rintro ⟨r', hr', hk, hlt⟩
        rcases hr' with h1 | h1 | h1
        · have := hp.2.2 r' h1 x (by simp); omega
        · subst h1; omega
        · refine ⟨r', h1, ?_⟩
          simp only [sameKey, Bool.and_eq_true, beq_iff_eq] at hk
          simp [key, hk.1, hk.2]
      · rintro ⟨r', h1, hk⟩
        refine ⟨r', Or.inr (Or.inr h1), ?_, ?_⟩
        · simp only [key, Prod.mk.injEq] at hk
          simp [sameKey, hk.1, hk.2]
        · exact (List.pairwise_cons.mp hp.2.1).1 r' h1
    simp only [List.filter_cons, hx, List.map_cons, collapse]
    cases hc : (xs.map key).contains (key x)
    · simp only [Bool.not_false, if_true, Bool.false_eq_true, if_false, List.map_cons, ih']
    · simp only [Bool.not_true, Bool.false_eq_true, if_false, if_true, ih']

theorem dedupe_key {rows : List Row} (hs : Sorted rows) : (dedupe rows).map key = collapse (rows.map key) := by
  have := dedupe_key_aux rows [] (by simpa using hs)
  simpa [dedupe] using this

theorem collapse_nodup_id : ∀ (l : List (Nat × Text)), l.Nodup → collapse l = l
  | [], _ => rfl
  | x :: xs, h => by
    have h' := List.nodup_cons.mp h
    have : xs.contains x = false := by simpa using h'.1
    simp [collapse, h'.1, collapse_nodup_id xs h'.2]

theorem mem_collapse : ∀ (l : List (Nat × Text)) (y : Nat × Text), y ∈ collapse l → y ∈ l
  | [], _, h => by simp [collapse] at h
  | x :: xs, y, h => by
    unfold collapse at h
    split at h
    · exact List.mem_cons_of_mem _ (mem_collapse xs y h)
    · rcases List.mem_cons.mp h with h1 | h1
      · subst h1; simp
      · exact List.mem_cons_of_mem _ (mem_collapse xs y h1)

theorem collapse_nodup : ∀ (l : List (Nat × Text)), (collapse l).Nodup
  | [] => by simp [collapse]
  | x :: xs => by
    unfold collapse
    split
    · exact collapse_nodup xs
    · rename_i hc
      refine List.nodup_cons.mpr ⟨fun hm => hc ?_, collapse_nodup xs⟩
      simpa using mem_collapse xs x hm

theorem collapse_length_le : ∀ (l : List (Nat × Text)), (collapse l).length ≤ l.length
  | [] => Nat.le_refl _
  | x :: xs => by
    have := collapse_length_le xs
    unfold collapse
    split <;> simp <;> omega

theorem ite_dedupe_key {rows : List Row} (hs : Sorted rows) (c : Bool) :
    (if c then dedupe rows else rows).map key = if c then collapse (rows.map key) else rows.map key := by
  cases c
  · rfl
  · exact dedupe_key hs

theorem nodup_ite_dedupe {rows : List Row} (hs : Sorted rows) {c : Bool} (hc : c = true) :
    ((if c then dedupe rows else rows).map key).Nodup := by
  subst hc
  rw [if_pos rfl, dedupe_key hs]
  exact collapse_nodup _

/-- rename the session tags of a list of (session, line) by `f` -/
def ren (f : Nat → Nat) (es : List (Nat × Text)) : List (Nat × Text) := es.map (fun x => (f x.1, x.2))

/-- `f` is injective on the session tags that occur in `es`, and sends none of them but `e0` itself
    to the image of `e0` (the current epoch).  Deleting the rows equal to `(e0, l)` and testing for
    duplicates compare tags only within `es` and against `e0`, so this is all that `ren f` needs
    to commute with them (`ren_filter`). -/
def InjOn (f : Nat → Nat) (es : List (Nat × Text)) (e0 : Nat) : Prop :=
  (∀ x ∈ es, ∀ y ∈ es, f x.1 = f y.1 → x.1 = y.1) ∧ (∀ x ∈ es, f x.1 = f e0 → x.1 = e0)

theorem InjOn.mono {f : Nat → Nat} {es es' : List (Nat × Text)} {e0 : Nat} (h : InjOn f es e0)
    (hsub : ∀ x ∈ es', x ∈ es) : InjOn f es' e0 :=
  ⟨fun x hx y hy => h.1 x (hsub x hx) y (hsub y hy), fun x hx => h.2 x (hsub x hx)⟩

theorem ren_filter {f : Nat → Nat} {es : List (Nat × Text)} {e0 : Nat} (h : InjOn f es e0) (l : Text) :
    (ren f es).filter (· != (f e0, l)) = ren f (es.filter (· != (e0, l))) := by
  unfold ren
  rw [List.filter_map]
  congr 1
  apply List.filter_congr
  intro x hx
  obtain ⟨a, b⟩ := x
  simp only [Function.comp, bne]
  congr 1
  rw [Bool.eq_iff_iff]
  simp only [beq_iff_eq, Prod.mk.injEq]
  constructor
  · rintro ⟨h1, h2⟩; exact ⟨h.2 (a, b) hx h1, h2⟩
  · rintro ⟨h1, h2⟩; exact ⟨by rw [h1], h2⟩

theorem ren_contains {f : Nat → Nat} {xs : List (Nat × Text)} {x : Nat × Text}
    (h : ∀ y ∈ xs, f y.1 = f x.1 → y.1 = x.1) :
    (ren f xs).contains (f x.1, x.2) = xs.contains x := by
  rw [Bool.eq_iff_iff]
  simp only [List.contains_iff_mem, ren, List.mem_map]
  constructor
  · rintro ⟨y, hy, he⟩
    simp only [Prod.mk.injEq] at he
    have : y = x := Prod.ext (h y hy he.1) he.2
    rw [← this]; exact hy
  · intro hx; exact ⟨x, hx, rfl⟩

theorem ren_collapse {f : Nat → Nat} : ∀ (es : List (Nat × Text)),
    (∀ x ∈ es, ∀ y ∈ es, f x.1 = f y.1 → x.1 = y.1) → collapse (ren f es) = ren f (collapse es)
  | [], _ => rfl
  | x :: xs, h => by
    have ih := ren_collapse xs (fun a ha b hb => h a (List.mem_cons_of_mem _ ha) b (List.mem_cons_of_mem _ hb))
    have hc := ren_contains (f := f) (xs := xs) (x := x)
      (fun y hy he => h y (List.mem_cons_of_mem _ hy) x (by simp) he)
    have e : ren f (x :: xs) = (f x.1, x.2) :: ren f xs := rfl
    rw [e]
    unfold collapse
    rw [hc]
    cases xs.contains x
    · simp only [Bool.false_eq_true, if_false, ih]; rfl
    · simp only [if_true, ih]

theorem ren_takeLast (f : Nat → Nat) (n : Nat) (es : List (Nat × Text)) :
    takeLast n (ren f es) = ren f (takeLast n es) := by
  simp [takeLast, ren, List.map_drop]

theorem Reads.abs {h h' : Hist} (hr : Reads h h') : h'.abs = h.abs := by
  obtain ⟨k, _, rfl⟩ := hr
  rfl

theorem setMaxLen_abs (h : Hist) (n : Nat) :
    (h.setMaxLen n).abs = { h.abs with max := n, entries := takeLast n h.abs.entries } := by
  rw [setMaxLen_eq]
  simp only [Hist.abs, Hist.sidOf, takeLast, List.map_drop, List.length_map]

theorem setIgnoreDups_abs {h : Hist} (hg : Good h) (b : Bool) :
    (h.setIgnoreDups b).abs =
      { h.abs with entries := (if b && !h.ignoreDups then collapse h.abs.entries else h.abs.entries), ignoreDups := b } := by
  rw [setIgnoreDups_eq hg.idx]
  simp only [Hist.abs, Hist.sidOf, ite_dedupe_key hg.inv.sorted]

theorem openDb_abs {h : Hist} (hi : Inv h) (hn : h.db.index = true → (h.db.rows.map key).Nodup) (c : Cfg) :
    (Hist.openDb c h.db).abs =
      { entries := if c.ignoreDups then collapse (h.db.rows.map key) else h.db.rows.map key,
        epoch := h.db.sessions + 1, max := c.maxLen, ignoreSpace := c.ignoreSpace, ignoreDups := c.ignoreDups } := by
  rw [openDb_eq c h.db hi.init]
  simp only [Hist.abs, Hist.sidOf, ite_dedupe_key hi.sorted, if_true]
  congr 1
  cases c.ignoreDups
  · rfl
  · cases hx : h.db.index
    · rfl
    · exact (collapse_nodup_id _ (hn hx)).symm

/-- `Good` plus: with the index on no two rows share (session, line); session ids in use are
    bounded by the `session` table's largest id -/
structure Good2 (h : Hist) : Prop where
  good : Good h
  nodup : h.db.index = true → (h.db.rows.map key).Nodup
  sid : h.sessionId ≤ h.db.sessions
  sess : ∀ x ∈ h.db.rows.map key, x.1 ≤ h.db.sessions

/-- `add` keeps `Good2`.  The keys after an accepted `add` are, by `add_abs`, the old keys (without
    `(sidOf, l)` when duplicates are ignored) followed by `(sidOf, l)`: no duplicate arises, and
    `sidOf` is an id of the `session` table after `createSession`. -/
theorem add_good2 (ws : Char → Bool) {h : Hist} (hg : Good2 h) (l : Text) : Good2 (h.add ws l).1 := by
  obtain ⟨a1, _, a3⟩ := add_abs ws hg.good l
  obtain ⟨_, _, e3, hse, _, _, e6⟩ := createSession_full hg.good.inv.init hg.good.idx
  change h.createSession.sessionId = h.sidOf at e3
  have hent := congrArg (·.entries) a1
  unfold Spec.Sq.addLine at hent
  rw [refused_abs] at hent
  unfold Hist.add at a3 hent ⊢
  cases hig : h.ignore ws l
  · simp only [hig, Bool.false_eq_true, if_false] at a3 hent ⊢
    have hsid : (h.createSession.addEntry l).1.sessionId = h.sidOf := by simp [Hist.addEntry, e3]
    have hss : (h.createSession.addEntry l).1.db.sessions = h.createSession.db.sessions := by simp [Hist.addEntry]
    have hdu : (h.createSession.addEntry l).1.ignoreDups = h.ignoreDups := by simp [Hist.addEntry, e6]
    have hk : (h.createSession.addEntry l).1.db.rows.map key =
        (if h.ignoreDups = true then (h.db.rows.map key).filter (· != (h.sidOf, l)) else h.db.rows.map key)
          ++ [(h.sidOf, l)] := hent
    have hle : h.db.sessions ≤ h.createSession.db.sessions ∧ h.sidOf ≤ h.createSession.db.sessions := by
      rw [hse]; unfold Hist.sidOf
      have := hg.sid
      split <;> omega
    refine ⟨a3, ?_, by rw [hsid, hss]; exact hle.2, ?_⟩
    · intro hi
      rw [a3.idx, hdu] at hi
      rw [hk]
      simp only [hi, if_true]
      have hn := hg.nodup (by rw [hg.good.idx]; exact hi)
      refine List.nodup_append.mpr ⟨hn.filter _, by simp, ?_⟩
      intro a ha b hb
      simp at hb; subst hb
      intro heq; subst heq
      simp at ha
    · intro x hx
      rw [hk] at hx
      rw [hss]
      rcases List.mem_append.mp hx with hx | hx
      · have : x ∈ h.db.rows.map key := by
          split at hx
          · exact (List.mem_filter.mp hx).1
          · exact hx
        have := hg.sess x this
        omega
      · simp at hx; subst hx; exact hle.2
  · simp only [if_true]; exact hg

theorem addAll_good2 (ws : Char → Bool) {h : Hist} (hg : Good2 h) (ls : List Text) : Good2 (addAll ws h ls).1 := by
  induction ls generalizing h with
  | nil => exact hg
  | cons l ls ih => simp only [addAll]; exact ih (add_good2 ws hg l)

theorem Good2.shrink {h h' : Hist} (hg : Good2 h) (hgood : Good h') (hsub : h'.db.rows.Sublist h.db.rows)
    (hn : h'.db.index = true → h.db.index = false → (h'.db.rows.map key).Nodup)
    (hss : h'.db.sessions = h.db.sessions) (hsid : h'.sessionId ≤ h.sessionId) : Good2 h' := by
  refine ⟨hgood, fun hi => ?_, by rw [hss]; exact Nat.le_trans hsid hg.sid,
    fun x hx => by rw [hss]; exact hg.sess x ((hsub.map key).subset hx)⟩
  cases hx : h.db.index
  · exact hn hi hx
  · exact (hg.nodup hx).sublist (hsub.map key)

theorem Reads.good2 {h h' : Hist} (hr : Reads h h') (hg : Good2 h) : Good2 h' := by
  have hi := hr.inv hg.good.inv
  obtain ⟨k, _, rfl⟩ := hr
  exact ⟨⟨hi, hg.good.idx⟩, hg.nodup, hg.sid, hg.sess⟩

theorem setMaxLen_good2 {h : Hist} (hg : Good2 h) (n : Nat) : Good2 (h.setMaxLen n) := by
  have hi := setMaxLen_inv hg.good.inv n
  rw [setMaxLen_eq] at hi ⊢
  exact hg.shrink ⟨hi, hg.good.idx⟩ (List.drop_sublist _ _) (fun hi h0 => nomatch hi.symm.trans h0) rfl
    (Nat.le_refl _)

theorem setIgnoreDups_good2 {h : Hist} (hg : Good2 h) (b : Bool) : Good2 (h.setIgnoreDups b) := by
  have hi := setIgnoreDups_inv hg.good.inv b
  rw [setIgnoreDups_eq hg.good.idx] at hi ⊢
  refine hg.shrink ⟨hi, rfl⟩ (ite_dedupe_sublist _ _) (fun hb h0 => ?_) rfl (Nat.le_refl _)
  have hb' : b = true := hb
  exact nodup_ite_dedupe hg.good.inv.sorted (by rw [hb', ← hg.good.idx, h0]; rfl)

theorem openDb_good2 (c : Cfg) {h : Hist} (hg : Good2 h) : Good2 (Hist.openDb c h.db) := by
  have hi := openDb_inv c hg.good.inv
  rw [openDb_eq c h.db hg.good.inv.init] at hi ⊢
  refine hg.shrink ⟨hi, rfl⟩ (ite_dedupe_sublist _ _) (fun hc h0 => ?_) rfl (Nat.zero_le _)
  have hc' : c.ignoreDups = true := hc
  exact nodup_ite_dedupe hg.good.inv.sorted (by rw [hc', h0]; rfl)

theorem fresh_good2 (c : Cfg) : Good2 (Hist.openDb c {}) := by
  have hi := fresh_inv c
  rw [openDb_fresh] at hi ⊢
  exact ⟨⟨hi, rfl⟩, fun _ => List.nodup_nil, Nat.le_refl _, fun _ hx => nomatch hx⟩

/-- simulation between the model's content (`a`, session ids of the `session` table) and the
    declarative store (`s`, one epoch per open) -/
structure Sim (a s : SState) : Prop where
  max : a.max = s.max
  space : a.ignoreSpace = s.ignoreSpace
  dups : a.ignoreDups = s.ignoreDups
  -- no entry is tagged with a later epoch: the epoch of a reopen (`epoch + 1`) is unused, so the
  -- renaming can be set there to the new session id and stay injective
  le : ∀ x ∈ s.entries, x.1 ≤ s.epoch
  ex : ∃ f : Nat → Nat, a.entries = ren f s.entries ∧ f s.epoch = a.epoch ∧ InjOn f s.entries s.epoch

theorem Sim.lines {a s : SState} (h : Sim a s) : Spec.Sq.lines a = Spec.Sq.lines s := by
  obtain ⟨f, h1, _, _⟩ := h.ex
  simp [Spec.Sq.lines, h1, ren, List.map_map, Function.comp_def]

theorem refused_sim (ws : Char → Bool) {a s : SState} (h : Sim a s) (l : Text) :
    refused ws a l = refused ws s l := by
  simp [refused, h.max, h.space]

theorem sim_addLine (ws : Char → Bool) {a s : SState} (h : Sim a s) (l : Text) :
    Sim (addLine ws a l).1 (addLine ws s l).1 ∧ (addLine ws a l).2 = (addLine ws s l).2 := by
  unfold addLine
  rw [refused_sim ws h l]
  cases refused ws s l
  · simp only [Bool.false_eq_true, if_false, and_true]
    obtain ⟨f, h1, h2, h3⟩ := h.ex
    have hsub : ∀ x ∈ (if s.ignoreDups = true then s.entries.filter (· != (s.epoch, l)) else s.entries),
        x ∈ s.entries := by
      intro x hx; split at hx
      · exact (List.mem_filter.mp hx).1
      · exact hx
    refine ⟨h.max, h.space, h.dups, ?_, f, ?_, h2, ?_, ?_⟩
    · intro x hx
      rcases List.mem_append.mp hx with hx | hx
      · exact h.le x (hsub x hx)
      · simp at hx; subst hx; exact Nat.le_refl _
    · simp only [h.dups, h1, ← h2]
      cases s.ignoreDups
      · simp [ren]
      · simp only [if_true, ren_filter h3]; simp [ren]
    · intro x hx y hy he
      rcases List.mem_append.mp hx with hx | hx <;> rcases List.mem_append.mp hy with hy | hy
      · exact h3.1 x (hsub x hx) y (hsub y hy) he
      · simp at hy; subst hy; exact h3.2 x (hsub x hx) he
      · simp at hx; subst hx; exact (h3.2 y (hsub y hy) he.symm).symm
      · simp at hx hy; subst hx; subst hy; rfl
    · intro x hx he
      rcases List.mem_append.mp hx with hx | hx
      · exact h3.2 x (hsub x hx) he
      · simp at hx; subst hx; rfl
  · simp only [if_true, and_true]; exact h

theorem sim_addLines (ws : Char → Bool) {a s : SState} (h : Sim a s) (ls : List Text) :
    Sim (addLines ws a ls).1 (addLines ws s ls).1 ∧ (addLines ws a ls).2 = (addLines ws s ls).2 := by
  induction ls generalizing a s with
  | nil => exact ⟨h, rfl⟩
  | cons l ls ih =>
    obtain ⟨h1, h2⟩ := sim_addLine ws h l
    obtain ⟨h3, h4⟩ := ih h1
    simp only [addLines]
    exact ⟨h3, by rw [h2, h4]⟩

theorem sim_takeLast {a s : SState} (h : Sim a s) (n : Nat) :
    Sim { a with max := n, entries := takeLast n a.entries } { s with max := n, entries := takeLast n s.entries } := by
  obtain ⟨f, h1, h2, h3⟩ := h.ex
  have hsub : ∀ x ∈ takeLast n s.entries, x ∈ s.entries := fun x hx => List.mem_of_mem_drop hx
  exact ⟨rfl, h.space, h.dups, fun x hx => h.le x (hsub x hx), f, by simp only [h1, ren_takeLast], h2, h3.mono hsub⟩

theorem sim_collapse {a s : SState} (h : Sim a s) (b : Bool) :
    Sim { a with entries := (if b && !a.ignoreDups then collapse a.entries else a.entries), ignoreDups := b }
        { s with ignoreDups := b, entries := (if b && !s.ignoreDups then collapse s.entries else s.entries) } := by
  obtain ⟨f, h1, h2, h3⟩ := h.ex
  have hsub : ∀ x ∈ (if (b && !s.ignoreDups) = true then collapse s.entries else s.entries), x ∈ s.entries := by
    intro x hx; split at hx
    · exact mem_collapse _ _ hx
    · exact hx
  refine ⟨h.max, h.space, rfl, fun x hx => h.le x (hsub x hx), f, ?_, h2, h3.mono hsub⟩
  simp only [h.dups, h1]
  split
  · exact ren_collapse _ h3.1
  · rfl

theorem sim_space {a s : SState} (h : Sim a s) (b : Bool) :
    Sim { a with ignoreSpace := b } { s with ignoreSpace := b } :=
  ⟨h.max, rfl, h.dups, h.le, h.ex⟩

/-- reopening: the model's next session id `k + 1` is above every stored session id -/
theorem sim_reopen {a s : SState} (h : Sim a s) (c : Cfg) (k : Nat) (hk : ∀ x ∈ a.entries, x.1 ≤ k) :
    Sim { entries := if c.ignoreDups then collapse a.entries else a.entries, epoch := k + 1,
          max := c.maxLen, ignoreSpace := c.ignoreSpace, ignoreDups := c.ignoreDups } (reopen s c) := by
  obtain ⟨f, h1, h2, h3⟩ := h.ex
  unfold reopen
  have hsub : ∀ x ∈ (if c.ignoreDups = true then collapse s.entries else s.entries), x ∈ s.entries := by
    intro x hx; split at hx
    · exact mem_collapse _ _ hx
    · exact hx
  let g : Nat → Nat := fun e => if e = s.epoch + 1 then k + 1 else f e
  have hg : ∀ x ∈ s.entries, g x.1 = f x.1 := by
    intro x hx
    have := h.le x hx
    simp only [g]
    rw [if_neg (by omega)]
  have hren : ∀ es : List (Nat × Text), (∀ x ∈ es, x ∈ s.entries) → ren g es = ren f es := by
    intro es hes
    unfold ren
    apply List.map_congr_left
    intro x hx
    rw [hg x (hes x hx)]
  have hfk : ∀ x ∈ s.entries, f x.1 ≤ k := by
    intro x hx
    have : (f x.1, x.2) ∈ a.entries := by rw [h1]; exact List.mem_map.mpr ⟨x, hx, rfl⟩
    exact hk _ this
  refine ⟨rfl, rfl, rfl, ?_, g, ?_, by simp [g], ?_, ?_⟩
  · intro x hx
    have := h.le x (hsub x hx)
    simp only; omega
  · simp only
    rw [hren _ hsub, h1]
    split
    · exact ren_collapse _ h3.1
    · rfl
  · intro x hx y hy he
    rw [hg x (hsub x hx), hg y (hsub y hy)] at he
    exact h3.1 x (hsub x hx) y (hsub y hy) he
  · intro x hx he
    have h5 := hfk x (hsub x hx)
    rw [hg x (hsub x hx)] at he
    simp [g] at he
    omega

theorem fresh_sim (c : Cfg) :
    Sim (Hist.openDb c {}).abs { max := c.maxLen, ignoreSpace := c.ignoreSpace, ignoreDups := c.ignoreDups } := by
  rw [openDb_fresh]
  exact ⟨rfl, rfl, rfl, fun _ hx => (nomatch hx), ⟨fun _ => 1, rfl, rfl, fun _ hx => (nomatch hx),
    fun _ hx => (nomatch hx)⟩⟩

theorem openDb_sim {h : Hist} {s : SState} (hg : Good2 h) (hs : Sim h.abs s) (c : Cfg) :
    Sim (Hist.openDb c h.db).abs (reopen s c) := by
  rw [openDb_abs hg.good.inv hg.nodup c]
  exact sim_reopen hs c h.db.sessions hg.sess

/-- operations that change the store (and `len`) -/
def isStore : QOp → Bool
  | .add _ | .setMax _ | .dups _ | .space _ | .reopen _ | .crash _ _ | .len => true
  | _ => false

/-- One operation of the model against the spec's judge: `Good2` and `Sim` are kept and the judge
    has no complaint on a store operation.  The store operations go through their `_abs` equation
    (the model's content after the operation is the spec's operation on `h.abs`) and the matching
    `sim_` lemma; the read operations only move the cached rowid (`Reads`), which `abs` forgets. -/
theorem step_sim (ws : Char → Bool) (fts : Text → Text → Bool) {h : Hist} {s : SState}
    (hg : Good2 h) (hs : Sim h.abs s) (op : QOp) :
    Good2 (h.step ws fts op).1 ∧ Sim (h.step ws fts op).1.abs (judge ws s op (h.step ws fts op).2).1 ∧
    (isStore op = true → (judge ws s op (h.step ws fts op).2).2 = none) := by
  have read : ∀ {h'} (P : Prop), Reads h h' → Good2 h' ∧ Sim h'.abs s ∧ (false = true → P) :=
    fun _ hr => ⟨hr.good2 hg, by rw [hr.abs]; exact hs, fun h0 => nomatch h0⟩
  cases op with
  | add l =>
    obtain ⟨a1, a2, _⟩ := add_abs ws hg.good l
    obtain ⟨s1, s2⟩ := sim_addLine ws hs l
    rw [← a1] at s1
    refine ⟨add_good2 ws hg l, s1, fun _ => ?_⟩
    have : (h.add ws l).2 = (addLine ws s l).2 := by rw [a2, s2]
    show (if QObs.bool (h.add ws l).2 = QObs.bool (addLine ws s l).2 then none else some "add-verdict") = none
    rw [this]; simp
  | setMax n =>
    refine ⟨setMaxLen_good2 hg n, ?_, fun _ => rfl⟩
    show Sim (h.setMaxLen n).abs _
    rw [setMaxLen_abs]; exact sim_takeLast hs n
  | dups b =>
    refine ⟨setIgnoreDups_good2 hg b, ?_, fun _ => rfl⟩
    show Sim (h.setIgnoreDups b).abs _
    rw [setIgnoreDups_abs hg.good]; exact sim_collapse hs b
  | space b =>
    have hi := hg.good.inv
    exact ⟨⟨⟨⟨hi.sorted, hi.pos, hi.bound, hi.init⟩, hg.good.idx⟩, hg.nodup, hg.sid, hg.sess⟩,
      sim_space hs b, fun _ => rfl⟩
  | reopen c => exact ⟨openDb_good2 c hg, openDb_sim hg hs c, fun _ => rfl⟩
  | crash c ls =>
    have g1 := openDb_good2 c hg
    have g2 := addAll_good2 ws g1 ls
    obtain ⟨b1, b2, _⟩ := addAll_abs ws g1.good ls
    obtain ⟨s2, s2'⟩ := sim_addLines ws (openDb_sim hg hs c) ls
    rw [← b1] at s2
    refine ⟨openDb_good2 c g2, openDb_sim g2 s2 c, fun _ => ?_⟩
    have : (addAll ws (Hist.openDb c h.db) ls).2 = (addLines ws (reopen s c) ls).2 := by rw [b2, s2']
    show (if QObs.bools (addAll ws (Hist.openDb c h.db) ls).2 = QObs.bools (addLines ws (reopen s c) ls).2
      then none else some "crash-adds") = none
    rw [this]; simp
  | len => exact ⟨hg, hs, fun _ => rfl⟩
  | get i d => exact read _ (get_reads h i d)
  | walk => exact ⟨hg, hs, fun h0 => nomatch h0⟩
  | search t st d => exact read _ (searchMatch_reads fts h t st d false)
  | startsWith t st d => exact read _ (searchMatch_reads fts h t st d true)
  | hint t => exact read _ (hint_reads fts h t (blen t))

/-- the spec state after the judge has followed the operations with the given answers -/
def specAfter (ws : Char → Bool) (s : SState) : List QOp → List QObs → SState
  | op :: ops, o :: os => specAfter ws (judge ws s op o).1 ops os
  | _, _ => s

theorem run_sim (ws : Char → Bool) (fts : Text → Text → Bool) {h : Hist} {s : SState}
    (hg : Good2 h) (hs : Sim h.abs s) (ops : List QOp) :
    Good2 (h.run ws fts ops).1 ∧ Sim (h.run ws fts ops).1.abs (specAfter ws s ops (h.run ws fts ops).2) := by
  induction ops generalizing h s with
  | nil => exact ⟨hg, hs⟩
  | cons op ops ih =>
    obtain ⟨g1, s1, _⟩ := step_sim ws fts hg hs op
    exact ih g1 s1

theorem lines_abs (h : Hist) : Spec.Sq.lines h.abs = h.db.rows.map (·.entry) := by
  simp [Spec.Sq.lines, Hist.abs, key, List.map_map, Function.comp_def]

theorem mem_lines {h : Hist} {s : SState} (hs : Sim h.abs s) {r : Row} (hr : r ∈ h.db.rows) :
    r.entry ∈ Spec.Sq.lines s := by
  rw [← hs.lines, lines_abs]
  exact List.mem_map.mpr ⟨r, hr, rfl⟩

theorem getRow_mem {h : Hist} {i : Nat} {d : Dir} {r : Row} (hg : h.getRow i d = some r) : r ∈ h.db.rows := by
  cases d with
  | forward => exact List.mem_of_find?_eq_some hg
  | reverse =>
    simp only [Hist.getRow] at hg
    exact (List.mem_filter.mp (List.mem_of_getLast? hg)).1

theorem get_verdict (ws : Char → Bool) {h : Hist} {s : SState} (hs : Sim h.abs s) (i : Nat) (d : Dir) :
    (judge ws s (.get i d) (.got (h.get i d).2)).2 = none := by
  cases hr : (h.get i d).2 with
  | none => rfl
  | some p =>
    obtain ⟨k, e⟩ := p
    unfold Hist.get at hr
    split at hr
    · simp at hr
    · split at hr
      · rename_i r hrow
        simp at hr
        obtain ⟨_, rfl⟩ := hr
        show (if (Spec.Sq.lines s).contains r.entry = true then none else some "get-unknown-entry") = none
        rw [if_pos (List.contains_iff_mem.mpr (mem_lines hs (getRow_mem hrow)))]
      · simp at hr

theorem search_verdict (ws : Char → Bool) (fts : Text → Text → Bool) {h : Hist} {s : SState} (hs : Sim h.abs s)
    (t : Text) (st : Nat) (d : Dir) :
    (judge ws s (.search t st d) (.found (h.search fts t st d).2)).2 = none := by
  cases hr : (h.search fts t st d).2 with
  | none => rfl
  | some p =>
    obtain ⟨i, e, pos⟩ := p
    obtain ⟨ht, r, hrm, he, _, hp, _, _⟩ := searchMatch_some hr
    obtain ⟨a, b, rfl, rfl, hpre⟩ := matchPos_search hp
    have hl := mem_lines hs hrm
    rw [he] at hl
    have hte : t.isEmpty = false := by cases t <;> simp_all
    show (if (!(Spec.Sq.lines s).contains (a ++ b)) = true then some "search-unknown-entry"
      else if t.isEmpty = true then some "search-empty-text"
      else if containsAt t (a ++ b) (blen a) = true then none else some "search-not-contained") = none
    simp [hl, hte, containsAt_append hpre]

theorem startsWith_verdict (ws : Char → Bool) (fts : Text → Text → Bool) {h : Hist} {s : SState}
    (hs : Sim h.abs s) (t : Text) (st : Nat) (d : Dir) :
    (judge ws s (.startsWith t st d) (.found (h.startsWith fts t st d).2)).2 = none := by
  cases hr : (h.startsWith fts t st d).2 with
  | none => rfl
  | some p =>
    obtain ⟨i, e, pos⟩ := p
    obtain ⟨ht, r, hrm, he, _, hp, _, _⟩ := searchMatch_some hr
    obtain ⟨a, b, rfl, rfl, hlo⟩ := matchPos_startsWith hp
    have hl := mem_lines hs hrm
    rw [he] at hl
    have hte : t.isEmpty = false := by cases t <;> simp_all
    show (if (!(Spec.Sq.lines s).contains (a ++ b)) = true then some "starts-with-unknown-entry"
      else if t.isEmpty = true then some "starts-with-empty-text"
      else if startsAt t (a ++ b) (blen a) = true then none else some "starts-with-not-prefix") = none
    simp [hl, hte, startsAt_append hlo]

theorem hint_verdict (ws : Char → Bool) (fts : Text → Text → Bool) {h : Hist} {s : SState}
    (hs : Sim h.abs s) (t : Text) :
    (judge ws s (.hint t) (.hint (h.hint fts t (blen t)).2)).2 = none := by
  rcases hint_cases fts h t with e | ⟨r, a, b, hr, hab, hlo, e⟩ <;> rw [e]
  · rfl
  · show (if ((Spec.Sq.lines s).any (fun e => match splitAtByte e (blen t) with
        | some (a, b') => Spec.Sq.fold a == Spec.Sq.fold t && b' == b
        | none => false)) = true then none else some "hint-not-a-completion") = none
    rw [if_pos]
    rw [List.any_eq_true]
    refine ⟨r.entry, mem_lines hs hr, ?_⟩
    have hsp : splitAtByte r.entry (blen t) = some (a, b) := by
      rw [hab, ← blen_eq_of_lower_eq hlo]; exact splitAtByte_append a b
    simp only [hsp]
    exact Bool.and_eq_true_iff.mpr ⟨beq_iff_eq.mpr hlo, beq_self_eq_true b⟩

/-- the operations that answer with one stored line or nothing -/
def isRead : QOp → Bool
  | .get _ _ | .search _ _ _ | .startsWith _ _ _ | .hint _ => true
  | _ => false

theorem strictlyDecreasing_of_pairwise : ∀ (l : List Nat), l.Pairwise (fun a b => b < a) → strictlyDecreasing l = true
  | [], _ => rfl
  | [_], _ => rfl
  | a :: b :: l, h => by
    have h1 := List.pairwise_cons.mp h
    have := h1.1 b (by simp)
    simp [strictlyDecreasing, this, strictlyDecreasing_of_pairwise (b :: l) h1.2]

theorem walk_verdict (ws : Char → Bool) {h : Hist} {s : SState} (hi : Inv h) (hs : Sim h.abs s)
    (hf : h.db.rows.length < walkFuel) :
    (judge ws s .walk (.walk (walk h walkFuel).1 (walk h walkFuel).2)).2 = none := by
  rw [walk_eq hi hf]
  have h1 : (h.db.rows.reverse.map shown).map (·.2) = (Spec.Sq.lines s).reverse := by
    rw [← hs.lines, lines_abs]
    simp only [List.map_reverse, List.map_map]
    congr 1
  have h2 : strictlyDecreasing ((h.db.rows.reverse.map shown).map (·.1)) = true := by
    apply strictlyDecreasing_of_pairwise
    rw [List.map_map, List.pairwise_map, List.pairwise_reverse]
    refine List.Pairwise.imp_of_mem ?_ hi.sorted
    intro a b ha hb hab
    have := hi.pos a ha
    simp only [Function.comp, shown]
    omega
  have h3 : h.db.rows.tail.map shown = (h.db.rows.reverse.map shown).reverse.drop 1 := by
    simp only [← List.map_reverse, List.reverse_reverse, ← List.map_drop, List.drop_one]
  show (if ((h.db.rows.reverse.map shown).map (·.2) != (Spec.Sq.lines s).reverse) = true then some "walk-down-lines"
    else if (!strictlyDecreasing ((h.db.rows.reverse.map shown).map (·.1))) = true then some "walk-down-order"
    else if (h.db.rows.tail.map shown != (h.db.rows.reverse.map shown).reverse.drop 1) = true then some "walk-up"
    else none) = none
  rw [h1, h2, ← h3]
  simp

theorem step_verdict (ws : Char → Bool) (fts : Text → Text → Bool) {h : Hist} {s : SState}
    (hg : Good2 h) (hs : Sim h.abs s) (op : QOp) (hw : op = .walk → h.db.rows.length < walkFuel) :
    (judge ws s op (h.step ws fts op).2).2 = none := by
  cases op with
  | get i d => exact get_verdict ws hs i d
  | search t st d => exact search_verdict ws fts hs t st d
  | startsWith t st d => exact startsWith_verdict ws fts hs t st d
  | hint t => exact hint_verdict ws fts hs t
  | walk => exact walk_verdict ws hg.good.inv hs (hw rfl)
  | _ => exact (step_sim ws fts hg hs _).2.2 rfl

theorem run_judge (ws : Char → Bool) (fts : Text → Text → Bool) {h : Hist} {s : SState}
    (hg : Good2 h) (hs : Sim h.abs s) (ops : List QOp)
    (hw : ∀ n, ops[n]? = some .walk → (h.run ws fts (ops.take n)).1.db.rows.length < walkFuel) (k : Nat) :
    judgeAll ws s k (ops.zip (h.run ws fts ops).2) = none := by
  induction ops generalizing h s k with
  | nil => rfl
  | cons op ops ih =>
    obtain ⟨g1, s1, _⟩ := step_sim ws fts hg hs op
    have hv := step_verdict ws fts hg hs op (fun e => hw 0 (congrArg some e))
    have e : (op :: ops).zip (h.run ws fts (op :: ops)).2 =
        (op, (h.step ws fts op).2) :: ops.zip ((h.step ws fts op).1.run ws fts ops).2 := rfl
    rw [e]
    unfold judgeAll
    generalize hj : judge ws s op (h.step ws fts op).2 = j at hv s1
    obtain ⟨s', v⟩ := j
    simp only at hv s1
    subst hv
    exact ih g1 s1 (fun n hn => hw (n + 1) hn) (k + 1)

theorem not_walk_of_all {p : QOp → Bool} (hp : p .walk = false) {ops : List QOp}
    (hall : ops.all p = true) (n : Nat) : ops[n]? ≠ some .walk := by
  intro hn
  have := List.all_eq_true.mp hall _ (List.mem_of_getElem? hn)
  rw [hp] at this; cases this

/-- how many lines the operation hands to `add`: a bound on the growth of the table -/
def offered : QOp → Nat
  | .add _ => 1
  | .crash _ ls => ls.length
  | _ => 0

def offeredAll (ops : List QOp) : Nat := (ops.map offered).sum

theorem add_len (ws : Char → Bool) {h : Hist} (hg : Good2 h) (l : Text) :
    (h.add ws l).1.db.rows.length ≤ h.db.rows.length + 1 := by
  have a1 := congrArg (fun a => a.entries.length) (add_abs ws hg.good l).1
  simp only [Hist.abs, List.length_map] at a1
  rw [a1]
  unfold addLine
  split
  · simp
  · simp only [List.length_append, List.length_cons, List.length_nil]
    split
    · have := List.length_filter_le (fun x => x != (h.sidOf, l)) (h.db.rows.map key)
      simp only [List.length_map] at this ⊢
      omega
    · simp

theorem addAll_len (ws : Char → Bool) {h : Hist} (hg : Good2 h) (ls : List Text) :
    (addAll ws h ls).1.db.rows.length ≤ h.db.rows.length + ls.length := by
  induction ls generalizing h with
  | nil => exact Nat.le_refl _
  | cons l ls ih =>
    have h1 := add_len ws hg l
    have h2 := ih (add_good2 ws hg l)
    simp only [addAll, List.length_cons]
    omega

theorem openDb_len (c : Cfg) {h : Hist} (hi : Inv h) :
    (Hist.openDb c h.db).db.rows.length ≤ h.db.rows.length := by
  rw [openDb_eq c h.db hi.init]
  exact (ite_dedupe_sublist _ _).length_le

theorem step_len (ws : Char → Bool) (fts : Text → Text → Bool) {h : Hist} (hg : Good2 h) (op : QOp) :
    (h.step ws fts op).1.db.rows.length ≤ h.db.rows.length + offered op := by
  have read : ∀ {h'}, Reads h h' → h'.db.rows.length ≤ h.db.rows.length + 0 :=
    fun hr => by obtain ⟨k, _, rfl⟩ := hr; exact Nat.le_refl _
  cases op with
  | add l => exact add_len ws hg l
  | setMax n =>
    show (h.setMaxLen n).db.rows.length ≤ _
    rw [setMaxLen_eq]; exact (List.drop_sublist _ _).length_le
  | dups b =>
    show (h.setIgnoreDups b).db.rows.length ≤ _
    rw [setIgnoreDups_eq hg.good.idx]; exact (ite_dedupe_sublist _ _).length_le
  | space b => exact Nat.le_refl _
  | reopen c => exact openDb_len c hg.good.inv
  | crash c ls =>
    have g1 := openDb_good2 c hg
    have l1 := openDb_len c hg.good.inv
    have l2 := addAll_len ws g1 ls
    have l3 := openDb_len c (addAll_good2 ws g1 ls).good.inv
    show (Hist.openDb c (addAll ws (Hist.openDb c h.db) ls).1.db).db.rows.length ≤ h.db.rows.length + ls.length
    omega
  | len => exact Nat.le_refl _
  | get i d => exact read (get_reads h i d)
  | walk => exact Nat.le_refl _
  | search t st d => exact read (searchMatch_reads fts h t st d false)
  | startsWith t st d => exact read (searchMatch_reads fts h t st d true)
  | hint t => exact read (hint_reads fts h t (blen t))

theorem run_len (ws : Char → Bool) (fts : Text → Text → Bool) {h : Hist} {s : SState} (hg : Good2 h)
    (hs : Sim h.abs s) (ops : List QOp) :
    (h.run ws fts ops).1.db.rows.length ≤ h.db.rows.length + offeredAll ops := by
  induction ops generalizing h s with
  | nil => exact Nat.le_refl _
  | cons op ops ih =>
    obtain ⟨g1, s1, _⟩ := step_sim ws fts hg hs op
    have h1 := step_len ws fts hg op
    have h2 := ih g1 s1
    simp only [offeredAll, List.map_cons, List.sum_cons] at h2 ⊢
    show ((h.step ws fts op).1.run ws fts ops).1.db.rows.length ≤ _
    omega

theorem offeredAll_take (ops : List QOp) (n : Nat) : offeredAll (ops.take n) ≤ offeredAll ops := by
  induction ops generalizing n with
  | nil => simp [offeredAll]
  | cons op ops ih =>
    cases n with
    | zero => simp [offeredAll]
    | succ n =>
      have := ih n
      simp only [offeredAll, List.take_succ_cons, List.map_cons, List.sum_cons] at this ⊢
      omega

end Rl.Sq
