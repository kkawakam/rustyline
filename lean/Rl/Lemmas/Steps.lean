/-
  The shapes the line-buffer operations share, on variables: `drain` between boundaries, "look a position
  up, then go there / drain up to it / copy up to it", wrapping an answer into `Ret`, closed forms of
  `start_of_line`, `end_of_line`, `move_end`, `move_buffer_end`, `update`, and insertion under a fixed capacity.
-/
import Rl.Lemmas.Motion
import Rl.Lemmas.LineBufferSeq
import Rl.Lemmas.Span
namespace Rl
open Rl.Spec

theorem drain_wf {lb : LB} {a b : Nat} (d : Direction) (ha : IsBoundary lb.buf a) (hb : IsBoundary lb.buf b)
    (hab : a ≤ b) :
    ∃ y buf', LB.drain a b d lb = .ok (y, { lb with buf := buf' }, [.del a y d]) ∧ IsBoundary buf' a ∧
      b = a + blen y := by
  obtain ⟨x, y, z, hd, _, hx, hy⟩ := drain_ok d ha hb hab
  exact ⟨y, x ++ z, hd, by rw [hx]; exact isBoundary_mid x z, by omega⟩

theorem drain_cut {lb : LB} {a b : Nat} (d : Direction) (ha : IsBoundary lb.buf a) (hb : IsBoundary lb.buf b)
    (hab : a ≤ b) :
    ∃ y buf', LB.drain a b d lb = .ok (y, { lb with buf := buf' }, [.del a y d]) ∧
      Cut lb { lb with buf := buf', pos := a } [.del a y d] a b := by
  obtain ⟨x, y, z, hd, hbuf, hx, hy⟩ := drain_ok d ha hb hab
  exact ⟨y, x ++ z, hd, x, y, z, hbuf, hx, hy, rfl, by simp [killedText]⟩

/-- `set_pos(a)`, then `drain_around(a..b)` reported around the old cursor `c` (`dd`, `dk`, `dj`, whole buffer) -/
theorem drainAround_cut (S : Segmenter) (U : UData) {lb : LB} {a b : Nat} (c : Nat) (ha : IsBoundary lb.buf a)
    (hb : IsBoundary lb.buf b) (hc : IsBoundary lb.buf c) (hab : a ≤ b) :
    ∃ y l ns, LB.setPosChecked S U a lb = .ok ((), { lb with pos := a }, []) ∧
      LB.drainAround a b c { lb with pos := a } = .ok (y, l, ns) ∧ Cut lb l ns a b := by
  obtain ⟨x, y, z, d, hd, hbuf, hx, hy⟩ := drainAround_ok (lb := { lb with pos := a }) c ha hb hc hab
  have hle : a ≤ lb.len := ha.le_len
  exact ⟨y, _, _, by simp [LB.setPosChecked, hle], hd, x, y, z, hbuf, hx, hy, rfl, by simp [killedText]⟩

section lookup
variable {f : LB → Except Panic (Option Nat)} {lb : LB} {r : Option Nat}

open LM in
/-- `LM.goto_run` read as "total, cursor on a boundary, text untouched" (`move_forward`, `move_backward`,
    `move_to_next_word`, `move_to_prev_word`, `move_to`) -/
theorem goto_total_wf (h : WF lb) (hr : f lb = .ok r) (hp : ∀ p, r = some p → IsBoundary lb.buf p) :
    ∃ b lb', (do match ← ro f with
                 | some p => setPos p; return true
                 | none => return false : LM Bool) lb = .ok (b, lb', []) ∧ WF lb' ∧ lb'.buf = lb.buf := by
  obtain ⟨b, p, h1, h2, _⟩ := LM.goto_run (Q := fun _ => True) ⟨r, hr, fun p e => ⟨hp p e, trivial⟩⟩ h trivial
  exact ⟨b, _, h1, h2, rfl⟩

open LM LB in
/-- the shape of `delete` and `delete_word`: remove from the cursor to the position found; the cursor
    does not move -/
theorem drainTo_eval {α : Type} (g : Text → α) (a0 : α) (h : WF lb) (hr : f lb = .ok r)
    (hp : ∀ p, r = some p → IsBoundary lb.buf p ∧ lb.pos ≤ p) :
    ∃ v l ns, (do match ← ro f with
                  | some p =>
                    let lb ← get
                    let chars ← drain lb.pos p .forward
                    return g chars
                  | none => return a0 : LM α) lb = .ok (v, l, ns) ∧ Killed lb l ns (r.map (lb.pos, ·)) := by
  simp only [LM.bind_apply, LM.ro, hr]
  cases r with
  | none => exact ⟨a0, lb, [], rfl, rfl⟩
  | some p =>
    obtain ⟨y, buf', hd, hc⟩ := drain_cut .forward h (hp p rfl).1 (hp p rfl).2
    exact ⟨g y, _, _, by simp [LM.bind_apply, LM.get, hd], Nat.le_refl _, (hp p rfl).2, hc⟩

open LM LB in
/-- the shape of `backspace` and `delete_prev_word`: remove from the position found to the cursor; the
    cursor goes to the position found -/
theorem drainFrom_eval (h : WF lb) (hr : f lb = .ok r)
    (hp : ∀ p, r = some p → IsBoundary lb.buf p ∧ p ≤ lb.pos) :
    ∃ v l ns, (do match ← ro f with
                  | some p =>
                    let lb ← get
                    let _ ← drain p lb.pos .backward
                    setPos p
                    return true
                  | none => return false : LM Bool) lb = .ok (v, l, ns) ∧ Killed lb l ns (r.map (·, lb.pos)) := by
  simp only [LM.bind_apply, LM.ro, hr]
  cases r with
  | none => exact ⟨false, lb, [], rfl, rfl⟩
  | some p =>
    obtain ⟨y, buf', hd, hc⟩ := drain_cut .backward (hp p rfl).1 h (hp p rfl).2
    exact ⟨true, _, _, by simp [LM.bind_apply, LM.get, hd, LM.setPos], (hp p rfl).2, Nat.le_refl _, hc⟩

end lookup

theorem slice_cut {lb : LB} {a b : Nat} (ha : IsBoundary lb.buf a) (hb : IsBoundary lb.buf b) (hab : a ≤ b) :
    ∃ y, slice lb.buf a b = .ok y ∧ Copied lb (some y) (some (a, b)) := by
  obtain ⟨x, y, z, hs, hbuf, hx, hy⟩ := split3_of_boundaries ha hb hab
  exact ⟨y, by simp [slice, hs], x, y, z, hbuf, hx, hy, rfl⟩

/-- the shape of the word and character arms of `copy`: a position is looked up, and the text between two
    boundaries computed from it is returned -/
theorem lookup_slice_eval {lb : LB} {e : Except Panic (Option Nat)} {q : Option Nat} (hq : e = .ok q)
    (lo hi : Nat → Nat)
    (hb : ∀ p, q = some p → IsBoundary lb.buf (lo p) ∧ IsBoundary lb.buf (hi p) ∧ lo p ≤ hi p) :
    ∃ r, (do match ← e with
             | none => pure none
             | some p => do
               let y ← slice lb.buf (lo p) (hi p)
               pure (some y) : Except Panic (Option Text)) = .ok r ∧
      Copied lb r (q.map fun p => (lo p, hi p)) := by
  subst hq
  cases q with
  | none => exact ⟨none, rfl, rfl⟩
  | some p =>
    obtain ⟨h1, h2, h3⟩ := hb p rfl
    obtain ⟨y, hy, hc⟩ := slice_cut h1 h2 h3
    exact ⟨some y, by simp only [bind, Except.bind, hy]; rfl, hc⟩

/-- the shape of the `LineUp` / `LineDown` arms of `copy`: both ends are looked up -/
theorem lookup_range_slice_eval {lb : LB} {e : Except Panic (Option (Nat × Nat))} {q : Option (Nat × Nat)}
    (hq : e = .ok q) (hb : ∀ a b, q = some (a, b) → IsBoundary lb.buf a ∧ IsBoundary lb.buf b ∧ a ≤ b) :
    ∃ r, (do match ← e with
             | none => pure none
             | some (a, b) => do
               let y ← slice lb.buf a b
               pure (some y) : Except Panic (Option Text)) = .ok r ∧ Copied lb r q := by
  subst hq
  cases q with
  | none => exact ⟨none, rfl, rfl⟩
  | some ab =>
    obtain ⟨h1, h2, h3⟩ := hb ab.1 ab.2 rfl
    obtain ⟨y, hy, hc⟩ := slice_cut h1 h2 h3
    exact ⟨some y, by simp only [bind, Except.bind, hy]; rfl, hc⟩

/-- the shape of the line arms of `copy`: nothing if the range is empty, else the text between its ends -/
theorem slice_unless_eval {lb : LB} {a b : Nat} (c : Bool) (ha : IsBoundary lb.buf a) (hb : IsBoundary lb.buf b)
    (hab : a ≤ b) :
    ∃ r, (if c = true then pure none else do
            let y ← slice lb.buf a b
            pure (some y) : Except Panic (Option Text)) = .ok r ∧
      Copied lb r (if c = true then none else some (a, b)) := by
  obtain ⟨y, hy, hc⟩ := slice_cut ha hb hab
  cases c with
  | true => exact ⟨none, rfl, rfl⟩
  | false => exact ⟨some y, by simp only [Bool.false_eq_true, if_false, bind, Except.bind, hy]; rfl, hc⟩

section wrap
variable {α β : Type} {m : LM α} {g : α → β} {lb lb' : LB} {ns : List Notif}

theorem map_total_wf (g : α → β) (h : ∃ r lb' ns, m lb = .ok (r, lb', ns) ∧ WF lb') :
    ∃ r lb' ns, (do return g (← m) : LM β) lb = .ok (r, lb', ns) ∧ WF lb' := by
  obtain ⟨r, lb', ns, h1, h2⟩ := h
  exact ⟨g r, lb', ns, by simp [LM.bind_apply, h1], h2⟩

theorem map_ok_inv {r : β} (h : (do return g (← m) : LM β) lb = .ok (r, lb', ns)) :
    ∃ a, m lb = .ok (a, lb', ns) ∧ r = g a := by
  obtain ⟨a, lb1, n1, n2, hm, hp, rfl⟩ := LM.bind_ok h
  cases hp
  exact ⟨a, by rw [List.append_nil]; exact hm, rfl⟩

theorem total_wf_of_motion {lb : LB} (h : ∃ r lb', m lb = .ok (r, lb', []) ∧ WF lb' ∧ lb'.buf = lb.buf) :
    ∃ r lb' ns, m lb = .ok (r, lb', ns) ∧ WF lb' := by
  obtain ⟨r, lb', h1, h2, _⟩ := h
  exact ⟨r, lb', [], h1, h2⟩

end wrap

theorem startOfLine_eq (lb : LB) (h : WF lb) : LB.startOfLine lb = .ok (lineStartOf lb.buf lb.pos) := by
  obtain ⟨x, s, hb, hp, hsp, hst, _⟩ := h.cut
  unfold LB.startOfLine lineStartOf splitAt?
  simp only [hst, hsp, bind, Except.bind, pure, Except.pure]
  cases rfindChar '\n' x <;> rfl

theorem endOfLine_eq (lb : LB) (h : WF lb) : LB.endOfLine lb = .ok (lineEndOf lb.buf lb.pos) := by
  obtain ⟨x, s, hb, hp, hsp, _, hsf⟩ := h.cut
  unfold LB.endOfLine lineEndOf splitAt?
  simp only [hsf, hsp, bind, Except.bind, pure, Except.pure]
  cases findChar '\n' s with
  | none => rfl
  | some k => simp [Nat.add_comm]

theorem pos_eq_len_of_empty {lb : LB} (h : WF lb) (hemp : lb.buf.isEmpty = true) : lb.pos = 0 ∧ lb.len = 0 := by
  have hb : lb.buf = [] := by simpa using hemp
  have := h.le_len
  simp [hb] at this
  exact ⟨this, by simp [LB.len, hb]⟩

/-- the tail of `move_end` and `move_buffer_end`: go to `e` unless the cursor is there -/
theorem setPos_unless_eval (lb : LB) (e : Nat) :
    (if (lb.pos == e) = true then return false else (do LM.setPos e; return true) : LM Bool) lb =
      .ok (lb.pos != e, { lb with pos := e }, []) := by
  by_cases he : lb.pos = e
  · subst he; simp
  · simp [he, LM.bind_apply, LM.setPos]

theorem moveBufferEnd_eval (S : Segmenter) (U : UData) (lb : LB) :
    LB.moveBufferEnd S U lb = .ok (lb.pos != lb.len, { lb with pos := lb.len }, []) := by
  have := setPos_unless_eval lb lb.len
  unfold LB.moveBufferEnd
  simp only [LM.bind_apply, LM.get, this, List.nil_append]

theorem moveEnd_eval (S : Segmenter) (U : UData) {lb : LB} {e : Nat} (he : LB.endOfLine lb = .ok e) :
    LB.moveEnd S U lb = .ok (lb.pos != e, { lb with pos := e }, []) := by
  have := setPos_unless_eval lb e
  unfold LB.moveEnd
  simp only [LM.bind_apply, LM.ro, he, LM.get, this, List.nil_append]

/-- `update` stores `b` or, if a fixed capacity is too small, its longest prefix that fits and ends on a
    character boundary; the cursor is `p` or the end of that prefix -/
theorem update_ok (S : Segmenter) (U : UData) {b : Text} {p : Nat} (lb : LB) (hp : IsBoundary b p) :
    ∃ b' p', LB.update S U b p lb = .ok ((), { lb with buf := b', pos := p', cap := growCap lb.cap (blen b') },
        [.del 0 lb.buf .forward, .insStr 0 b']) ∧ IsBoundary b' p' ∧ (lb.canGrow = false → blen b' ≤ lb.cap) := by
  have hple : p ≤ blen b := hp.le_len
  unfold LB.update
  by_cases ht : ({ lb with buf := [] } : LB).mustTruncate (blen b) = true
  · obtain ⟨⟨cut, rest, hcr, hcl⟩, hfle⟩ := floorBoundary_spec b lb.cap
    have hs : sliceTo b (floorBoundary b lb.cap) = .ok cut := by
      rw [hcl]; conv => lhs; rw [hcr]
      exact sliceTo_mid cut rest
    refine ⟨cut, min (floorBoundary b lb.cap) p,
      by simp [LM.bind_apply, LM.get, hple, drain_all, ht, LM.lift, hs, insertStr_empty, LM.setPos], ?_,
      fun _ => by omega⟩
    by_cases hle : floorBoundary b lb.cap ≤ p
    · rw [Nat.min_eq_left hle, hcl]; exact isBoundary_len cut
    · rw [Nat.min_eq_right (by omega)]
      exact isBoundary_prefix (by rw [← hcr]; exact hp) (by omega)
  · refine ⟨b, p, by simp [LM.bind_apply, LM.get, hple, drain_all, ht, insertStr_empty, LM.setPos], hp, ?_⟩
    intro hfix
    simpa [LB.mustTruncate, hfix] using ht

/-- what `insert` and `yank` (after `insert_eval`, `yank_eval`) do to a buffer that cannot grow, `t` being the
    inserted text and `c` the refusal test: they refuse, or the text still fits and the capacity is kept -/
theorem insertAtCursor_fixed {lb lb' : LB} {t : Text} {k pos' : Nat} {c : Prop} [Decidable c]
    {r r0 : Option Bool} {ns ns0 : List Notif} (hfix : lb.canGrow = false) (hk : blen t = k)
    (hc : ¬c → lb.mustTruncate (lb.len + k) = false)
    (h : (if c then .ok (none, lb, [])
          else match splitAtByte lb.buf lb.pos with
            | none => .error .panic
            | some (x, z) => .ok (r0, { lb with buf := x ++ t ++ z, pos := pos',
                                                cap := growCap lb.cap (blen lb.buf + k) }, ns0)) =
        (.ok (r, lb', ns) : Except Panic (Option Bool × LB × List Notif))) :
    (r = none ∧ lb' = lb ∧ ns = []) ∨ (lb'.canGrow = false ∧ lb'.cap = lb.cap ∧ blen lb'.buf ≤ lb.cap) := by
  split at h
  · cases h; exact Or.inl ⟨rfl, rfl, rfl⟩
  · rename_i hn
    have hfit : blen lb.buf + k ≤ lb.cap := by
      have := hc hn
      simpa [LB.mustTruncate, hfix, LB.len] using this
    split at h
    · cases h
    · rename_i x z hs
      cases h
      obtain ⟨hb, _⟩ := splitAtByte_some hs
      refine Or.inr ⟨hfix, growCap_fit hfit, ?_⟩
      show blen (x ++ t ++ z) ≤ lb.cap
      rw [hb] at hfit
      simp only [blen_append] at hfit ⊢
      omega

theorem insert_fixed (S : Segmenter) (U : UData) (ch : Char) (n : Nat) {lb lb' : LB} {r : Option Bool}
    {ns : List Notif} (hfix : lb.canGrow = false) (h : LB.insert S U ch n lb = .ok (r, lb', ns)) :
    (r = none ∧ lb' = lb ∧ ns = []) ∨ (lb'.canGrow = false ∧ lb'.cap = lb.cap ∧ blen lb'.buf ≤ lb.cap) := by
  rw [insert_eval] at h
  exact insertAtCursor_fixed hfix (blen_replicate n ch) (fun hn => by simpa using hn) h

theorem yank_fixed (S : Segmenter) (U : UData) (t : Text) (n : Nat) {lb lb' : LB} {r : Option Bool}
    {ns : List Notif} (hfix : lb.canGrow = false) (h : LB.yank S U t n lb = .ok (r, lb', ns)) :
    (r = none ∧ lb' = lb ∧ ns = []) ∨ (lb'.canGrow = false ∧ lb'.cap = lb.cap ∧ blen lb'.buf ≤ lb.cap) := by
  rw [yank_eval] at h
  exact insertAtCursor_fixed hfix (blen_yankText t n) (fun hn => by simp at hn; exact hn.2) h

end Rl
