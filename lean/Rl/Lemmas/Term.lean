/-
  Lemmas about the terminal emulator (`Rl/Term.lean`) for the C02 screen-content theorems: the canonical view
  of a grid is its pointwise visible content (`canon_eq_iff`); printing a text over a visibly blank screen
  gives the screen that printing it on a blank terminal gives (`Rel`, `rel_feed`); a character that occupies
  cells keeps two visibly equal screens visibly equal (`VRel`).
-/
import Rl.Term
namespace Rl

theorem getD_append_default {α : Type} (l : List α) (d : α) (i : Nat) :
    (l ++ [d]).getD i d = l.getD i d := by
  simp only [List.getD_eq_getElem?_getD]
  by_cases h : i < l.length
  · rw [List.getElem?_append_left h]
  · have h1 : l.length ≤ i := by omega
    rw [List.getElem?_append_right h1, List.getElem?_eq_none h1]
    cases hk : i - l.length with
    | zero => simp
    | succ k => simp

theorem dropTrailing_getD {α : Type} (p : α → Bool) (d : α) (hp : ∀ x, p x = true → x = d)
    (l : List α) (i : Nat) : (dropTrailing p l).getD i d = l.getD i d := by
  unfold dropTrailing
  have key : ∀ m : List α, ((m.dropWhile p).reverse).getD i d = m.reverse.getD i d := by
    intro m
    induction m with
    | nil => rfl
    | cons x m ih =>
      rw [List.dropWhile_cons]
      by_cases hx : p x = true
      · rw [if_pos hx, ih, List.reverse_cons, hp x hx, getD_append_default]
      · rw [if_neg hx]
  have := key l.reverse
  rwa [List.reverse_reverse] at this

theorem dropTrailing_last {α : Type} (p : α → Bool) (l : List α) (x : α)
    (h : (dropTrailing p l).getLast? = some x) : p x = false := by
  unfold dropTrailing at h
  rw [List.getLast?_reverse] at h
  have := List.head?_dropWhile_not p l.reverse
  rw [h] at this
  exact this

theorem eq_of_getD_eq {α : Type} (d : α) (l1 l2 : List α)
    (h1 : ∀ x, l1.getLast? = some x → x ≠ d) (h2 : ∀ x, l2.getLast? = some x → x ≠ d)
    (h : ∀ i, l1.getD i d = l2.getD i d) : l1 = l2 := by
  have hlen : ∀ (a b : List α), (∀ x, b.getLast? = some x → x ≠ d) →
      (∀ i, a.getD i d = b.getD i d) → b.length ≤ a.length := by
    intro a b hb hab
    by_cases hlt : a.length < b.length
    · exfalso
      have hi := hab (b.length - 1)
      have hb1 : b.length - 1 < b.length := by omega
      rw [List.getD_eq_getElem?_getD, List.getD_eq_getElem?_getD,
        List.getElem?_eq_none (by omega), List.getElem?_eq_getElem hb1] at hi
      simp only [Option.getD_none, Option.getD_some] at hi
      have := hb (b[b.length - 1]) (by rw [List.getLast?_eq_getElem?, List.getElem?_eq_getElem hb1])
      exact this hi.symm
    · omega
  have hl : l1.length = l2.length :=
    Nat.le_antisymm (hlen l2 l1 h1 (fun i => (h i).symm)) (hlen l1 l2 h2 h)
  apply List.ext_getElem hl
  intro i hi1 hi2
  have := h i
  rw [List.getD_eq_getElem?_getD, List.getD_eq_getElem?_getD,
    List.getElem?_eq_getElem hi1, List.getElem?_eq_getElem hi2] at this
  simpa using this

theorem dropTrailing_eq_iff {α : Type} (p : α → Bool) (d : α) (hp : ∀ x, p x = true ↔ x = d)
    (l1 l2 : List α) :
    dropTrailing p l1 = dropTrailing p l2 ↔ ∀ i, l1.getD i d = l2.getD i d := by
  have hg := dropTrailing_getD p d (fun x hx => (hp x).1 hx)
  constructor
  · intro h i
    rw [← hg l1 i, ← hg l2 i, h]
  · intro h
    have hlast : ∀ l x, (dropTrailing p l).getLast? = some x → x ≠ d := by
      intro l x hx hd
      have := dropTrailing_last p l x hx
      rw [(hp x).2 hd] at this
      exact Bool.noConfusion this
    apply eq_of_getD_eq d _ _ (hlast l1) (hlast l2)
    intro i
    rw [hg l1 i, hg l2 i, h]

/-- what an observer sees of a cell -/
def vcell (x : Cell) : Text × Bool := (x.vis, x.cont)

theorem vcell_default : vcell {} = ([], false) := by decide

theorem map_getD {α β : Type} (f : α → β) (l : List α) (d : α) (i : Nat) :
    (l.map f).getD i (f d) = f (l.getD i d) := by
  simp only [List.getD_eq_getElem?_getD, List.getElem?_map]
  cases l[i]? <;> rfl

theorem rowCanon_eq_iff (r1 r2 : List Cell) :
    rowCanon r1 = rowCanon r2 ↔ ∀ c, vcell (r1.getD c {}) = vcell (r2.getD c {}) := by
  unfold rowCanon
  rw [dropTrailing_eq_iff _ (([], false) : Text × Bool)]
  · have e : ∀ (r : List Cell) c, (r.map fun x => (x.vis, x.cont)).getD c ([], false) = vcell (r.getD c {}) :=
      fun r c => map_getD vcell r {} c
    simp only [e]
  · intro x
    obtain ⟨a, b⟩ := x
    cases a <;> cases b <;> simp

theorem rowCanon_nil : rowCanon [] = [] := by decide

theorem Grid.get_eq (g : Grid) (r c : Nat) : g.get r c = (g.getD r []).getD c {} := by
  simp [Grid.get, List.getD_eq_getElem?_getD]

theorem canon_eq_iff (g1 g2 : Grid) :
    g1.canon = g2.canon ↔ ∀ r c, vcell (g1.get r c) = vcell (g2.get r c) := by
  unfold Grid.canon
  rw [dropTrailing_eq_iff _ ([] : List (Text × Bool))]
  · have hrow : ∀ (g : Grid) r, (g.map rowCanon).getD r [] = rowCanon (g.getD r []) :=
      fun g r => map_getD rowCanon g [] r
    simp only [hrow, rowCanon_eq_iff, Grid.get_eq]
  · intro x
    cases x <;> simp

theorem rowSet_get (row : List Cell) (c : Nat) (x : Cell) (c' : Nat) :
    (rowSet row c x)[c']?.getD {} = if c' = c then x else row[c']?.getD {} := by
  fun_induction rowSet row c x generalizing c' with
  | case1 x => cases c' <;> rfl
  | case2 c x ih =>
    cases c' with
    | zero => rfl
    | succ k => simpa using ih k
  | case3 y t x => cases c' <;> rfl
  | case4 y t c x ih =>
    cases c' with
    | zero => rfl
    | succ k => simpa using ih k

theorem modifyRow_get (g : Grid) (r : Nat) (f : List Cell → List Cell) (r' : Nat) :
    ((g.modifyRow r f)[r']?).getD [] = if r' = r then f ((g[r]?).getD []) else (g[r']?).getD [] := by
  fun_induction Grid.modifyRow g r f generalizing r' with
  | case1 f => cases r' <;> rfl
  | case2 r f ih =>
    cases r' with
    | zero => rfl
    | succ k => simpa using ih k
  | case3 row t f => cases r' <;> rfl
  | case4 row t r f ih =>
    cases r' with
    | zero => rfl
    | succ k => simpa using ih k

theorem Grid.get_set (g : Grid) (r c : Nat) (x : Cell) (r' c' : Nat) :
    (g.set r c x).get r' c' = if r' = r ∧ c' = c then x else g.get r' c' := by
  unfold Grid.set Grid.get
  rw [modifyRow_get]
  by_cases hr : r' = r
  · subst hr
    rw [if_pos rfl, rowSet_get]
    by_cases hc : c' = c <;> simp [hc]
  · simp [hr]

theorem take_get (row : List Cell) (c c' : Nat) :
    (row.take c)[c']?.getD {} = if c ≤ c' then {} else row[c']?.getD {} := by
  rw [List.getElem?_take]
  by_cases hc : c ≤ c'
  · rw [if_pos hc, if_neg (by omega)]; rfl
  · rw [if_neg hc, if_pos (by omega)]

theorem Grid.get_eraseLineFrom (g : Grid) (r c r' c' : Nat) :
    (g.eraseLineFrom r c).get r' c' = if r' = r ∧ c ≤ c' then {} else g.get r' c' := by
  unfold Grid.eraseLineFrom Grid.get
  rw [modifyRow_get]
  by_cases hr : r' = r
  · rw [if_pos hr, take_get, hr]
    simp only [true_and]
  · rw [if_neg hr, if_neg (fun h => hr h.1)]

theorem Grid.get_eraseBelow (g : Grid) (r c r' c' : Nat) :
    (g.eraseBelow r c).get r' c' = if r < r' ∨ (r' = r ∧ c ≤ c') then {} else g.get r' c' := by
  unfold Grid.eraseBelow Grid.get
  rw [modifyRow_get, List.getElem?_take, List.getElem?_take, if_pos (Nat.lt_succ_self r)]
  by_cases hr : r' = r
  · rw [if_pos hr, take_get, hr]
    simp only [Nat.lt_irrefl, false_or, true_and]
  · rw [if_neg hr]
    by_cases hlt : r < r'
    · rw [if_neg (by omega), if_pos (Or.inl hlt)]; rfl
    · rw [if_pos (by omega), if_neg (by omega)]

theorem setCont_get (g : Grid) (r c k r' c' : Nat) :
    (setCont g r c k).get r' c' =
      if r' = r ∧ c ≤ c' ∧ c' < c + k then { cont := true } else g.get r' c' := by
  induction k generalizing g c with
  | zero =>
    have : ¬ (r' = r ∧ c ≤ c' ∧ c' < c + 0) := by omega
    rw [setCont, if_neg this]
  | succ k ih =>
    rw [setCont, ih, Grid.get_set]
    by_cases hr : r' = r
    · by_cases h1 : c' = c
      · simp [hr, h1]
      · by_cases h2 : c + 1 ≤ c' ∧ c' < c + 1 + k
        · have : c ≤ c' ∧ c' < c + (k + 1) := by omega
          simp [hr, h2, this]
        · have : ¬ (c ≤ c' ∧ c' < c + (k + 1)) := by omega
          simp [hr, h1, h2, this]
    · simp [hr]

theorem get_printed (g : Grid) (r c k : Nat) (x : Cell) (r' c' : Nat) :
    (setCont (g.set r c x) r (c + 1) k).get r' c' =
      if r' = r ∧ c ≤ c' ∧ c' ≤ c + k then (if c' = c then x else { cont := true }) else g.get r' c' := by
  rw [setCont_get, Grid.get_set]
  by_cases hA : r' = r ∧ c + 1 ≤ c' ∧ c' < c + 1 + k
  · rw [if_pos hA, if_pos (by omega), if_neg (by omega)]
  · rw [if_neg hA]
    by_cases hB : r' = r ∧ c' = c
    · rw [if_pos hB, if_pos (by omega), if_pos hB.2]
    · rw [if_neg hB, if_neg (by omega)]

theorem Term.feed_append (cw : Char → Nat) (t : Term) (a b : Text) :
    t.feed cw (a ++ b) = (t.feed cw a).feed cw b := by
  simp [Term.feed, List.foldl_append]

theorem Term.feed_cons (cw : Char → Nat) (t : Term) (c : Char) (s : Text) :
    t.feed cw (c :: s) = (t.step cw c).feed cw s := rfl

theorem Term.feed_nil (cw : Char → Nat) (t : Term) : t.feed cw [] = t := rfl

theorem Term.with_ps_ground (t : Term) (h : t.ps = .ground) : { t with ps := .ground } = t := by
  cases t; simp at h; subst h; rfl

theorem step_newline (cw : Char → Nat) (t : Term) (h : t.ps = .ground) :
    t.step cw '\n' = { t with cr := t.cr + 1, cc := 0, pending := false } := by
  simp [Term.step, h, isC0Control, Term.control]

theorem step_cr (cw : Char → Nat) (t : Term) (h : t.ps = .ground) :
    t.step cw '\r' = { t with cc := 0, pending := false } := by
  simp [Term.step, h, isC0Control, Term.control]

theorem step_plain (cw : Char → Nat) (t : Term) (ch : Char) (h : t.ps = .ground)
    (hc : isC0Control ch = false) : t.step cw ch = t.print (cw ch) ch := by
  simp [Term.step, h, hc]

theorem step_digit (cw : Char → Nat) (t : Term) (priv : Bool) (params : List Nat) (cur : Option Nat) (d : Char)
    (hd : d.isDigit = true) :
    ({ t with ps := .csi priv params cur } : Term).step cw d =
      { t with ps := .csi priv params (some (cur.getD 0 * 10 + (d.toNat - '0'.toNat))) } := by
  simp only [Char.isDigit, Bool.and_eq_true, decide_eq_true_eq] at hd
  have h1 : ('0' ≤ d && d ≤ '9') = true := by
    simp only [Bool.and_eq_true, decide_eq_true_eq, Char.le_def]
    exact hd
  have h2 : d ≠ '?' := by rintro rfl; revert hd; decide
  simp [Term.step, h1, h2]

/-- the parameter accumulator reads decimal digits (`Nat.ofDigitChars` is core's left fold) -/
theorem feed_digits (cw : Char → Nat) (ds : Text) (hd : ∀ c ∈ ds, c.isDigit = true) :
    ∀ (t : Term) (priv : Bool) (params : List Nat) (n : Nat),
      ({ t with ps := .csi priv params (some n) } : Term).feed cw ds =
        { t with ps := .csi priv params (some (Nat.ofDigitChars 10 ds n)) } := by
  induction ds with
  | nil => intro t priv params n; rfl
  | cons d ds ih =>
    intro t priv params n
    rw [Term.feed_cons, step_digit cw t priv params (some n) d (hd d List.mem_cons_self),
      ih (fun c hc => hd c (List.mem_cons_of_mem _ hc)), Nat.ofDigitChars_cons, Nat.mul_comm 10 n]
    rfl

theorem Term.print_zero (t : Term) (ch : Char) : t.print 0 ch = t.attach ch := rfl

/-- the cell that receives a character of width `w`: the cursor cell, or the start of the next row when a
    wrap is pending or the character does not fit -/
def Term.printCell (t : Term) (w : Nat) : Nat × Nat :=
  if t.pending || t.cc + w > t.cols then (t.cr + 1, 0) else (t.cr, t.cc)

theorem Term.printCell_cases (t : Term) (w : Nat) :
    (t.pending = true ∨ t.cols < t.cc + w) ∧ t.printCell w = (t.cr + 1, 0) ∨
    (t.pending = false ∧ t.cc + w ≤ t.cols) ∧ t.printCell w = (t.cr, t.cc) := by
  unfold Term.printCell
  by_cases h : (t.pending || decide (t.cc + w > t.cols)) = true
  · rw [if_pos h]
    rw [Bool.or_eq_true, decide_eq_true_eq] at h
    exact Or.inl ⟨h, rfl⟩
  · rw [if_neg h]
    rw [Bool.or_eq_true, decide_eq_true_eq, not_or, Bool.not_eq_true, Nat.not_lt] at h
    exact Or.inr ⟨h, rfl⟩

theorem Term.printCell_congr {t1 t2 : Term} (hcols : t1.cols = t2.cols) (hcr : t1.cr = t2.cr)
    (hcc : t1.cc = t2.cc) (hpend : t1.pending = t2.pending) (w : Nat) : t2.printCell w = t1.printCell w := by
  unfold Term.printCell
  rw [hcols, hcr, hcc, hpend]

theorem Term.print_eq (t : Term) {w : Nat} (hw : w ≠ 0) (ch : Char) {r c : Nat} (h : t.printCell w = (r, c)) :
    t.print w ch =
      { t with grid := setCont (t.grid.set r c { g := [ch] }) r (c + 1) (w - 1), cr := r,
               cc := if c + w ≥ t.cols then t.cols - 1 else c + w, pending := decide (c + w ≥ t.cols) } := by
  unfold Term.printCell at h
  unfold Term.print
  rw [if_neg (by simpa using hw)]
  generalize (t.pending || decide (t.cc + w > t.cols)) = wrap at h ⊢
  have hr : (if wrap = true then t.cr + 1 else t.cr) = r :=
    (apply_ite Prod.fst _ _ _).symm.trans (congrArg Prod.fst h)
  have hc : (if wrap = true then 0 else t.cc) = c :=
    (apply_ite Prod.snd _ _ _).symm.trans (congrArg Prod.snd h)
  simp only [hr, hc]
  by_cases hf : c + w ≥ t.cols
  · rw [if_pos hf, if_pos hf, decide_eq_true hf]
  · rw [if_neg hf, if_neg hf, decide_eq_false hf]

/-- a character of the texts the property quantifies over: a line break or a non-control character -/
def PlainC (c : Char) : Prop := c = '\n' ∨ isC0Control c = false

def PlainT (s : Text) : Prop := ∀ c ∈ s, PlainC c

/-- columns `< lim` of the cursor row are the ones the cursor has passed over -/
def Term.lim (t : Term) : Nat := t.cc + (if t.pending then 1 else 0)

/-- the row where following output goes: a pending wrap counts as the next row -/
def Term.orow (t : Term) : Nat := t.cr + (if t.pending then 1 else 0)

/-- `t1` is `t2` except that cells which are blank in `t2` may be *visibly* blank in `t1` (a written
    space, say) — but not in the cursor row left of the cursor, where zero-width characters attach -/
structure Rel (t1 t2 : Term) : Prop where
  cols : t1.cols = t2.cols
  cr : t1.cr = t2.cr
  cc : t1.cc = t2.cc
  pending : t1.pending = t2.pending
  ps1 : t1.ps = .ground
  ps2 : t2.ps = .ground
  cells : ∀ r c, t1.grid.get r c = t2.grid.get r c ∨
    (vcell (t1.grid.get r c) = ([], false) ∧ vcell (t2.grid.get r c) = ([], false) ∧
      ¬ (r = t1.cr ∧ c < t1.lim))

/-- printing a character that occupies cells keeps `Rel`: both terminals write the same cells `(r, c … c + w - 1)`,
    which become equal; every other cell keeps its old relation, and an "only visibly blank" one is still not
    left of the cursor in the cursor row — the cells newly passed over are exactly the written ones -/
theorem rel_print {t1 t2 : Term} (h : Rel t1 t2) (w : Nat) (hw : w ≠ 0) (ch : Char) :
    Rel (t1.print w ch) (t2.print w ch) := by
  obtain ⟨hcols, hcr, hcc, hpend, hps1, hps2, hcells⟩ := h
  generalize e : t1.printCell w = rc
  obtain ⟨r, c⟩ := rc
  -- two bounds for the end of the proof; `omega` is much cheaper here, before the context fills up
  have hfull : ∀ n, n ≤ c + w → n - 1 + 1 ≤ c + w := fun n h => by omega
  have hlast : ∀ c', c' < c + w → c' ≤ c + (w - 1) := fun c' h => by omega
  -- the cells of row `r` left of the receiving cell are cells the cursor has passed over
  have hleft : ∀ c', c' < c → r = t1.cr ∧ c' < t1.lim := by
    intro c' hc'
    rcases t1.printCell_cases w with ⟨_, e'⟩ | ⟨⟨hp, _⟩, e'⟩
    · rw [e] at e'; cases e'; exact absurd hc' (Nat.not_lt_zero _)
    · rw [e] at e'; cases e'; unfold Term.lim; rw [hp]; exact ⟨rfl, hc'⟩
  rw [t1.print_eq hw ch e, t2.print_eq hw ch ((Term.printCell_congr hcols hcr hcc hpend w).trans e), ← hcols]
  refine ⟨rfl, rfl, rfl, rfl, hps1, hps2, ?_⟩
  intro r' c'
  simp only [Term.lim]
  rw [get_printed, get_printed]
  by_cases hW : r' = r ∧ c ≤ c' ∧ c' ≤ c + (w - 1)
  · left; rw [if_pos hW, if_pos hW]
  · rw [if_neg hW, if_neg hW]
    rcases hcells r' c' with heq | ⟨b1, b2, hex⟩
    · left; exact heq
    · right
      refine ⟨b1, b2, ?_⟩
      rintro ⟨hr', hlt⟩
      have hlt' : c' < c + w := by
        by_cases hf : c + w ≥ t1.cols
        · rw [if_pos hf, decide_eq_true hf, if_pos rfl] at hlt; exact Nat.lt_of_lt_of_le hlt (hfull _ hf)
        · rw [if_neg hf, decide_eq_false hf, if_neg Bool.false_ne_true] at hlt; exact hlt
      obtain ⟨e1, e2⟩ := hleft c' (Nat.lt_of_not_le fun hle => hW ⟨hr', hle, hlast c' hlt'⟩)
      exact hex ⟨hr'.trans e1, e2⟩

theorem rel_attach {t1 t2 : Term} (h : Rel t1 t2) (ch : Char) :
    Rel (t1.attach ch) (t2.attach ch) := by
  obtain ⟨hcols, hcr, hcc, hpend, hps1, hps2, hcells⟩ := h
  have hac : t2.attachCol = t1.attachCol := by unfold Term.attachCol; rw [hcc, hpend]
  unfold Term.attach
  rw [hac]
  cases hcol : t1.attachCol with
  | none => exact ⟨hcols, hcr, hcc, hpend, hps1, hps2, hcells⟩
  | some c0 =>
    have hc0 : c0 < t1.lim := by
      unfold Term.attachCol at hcol
      unfold Term.lim
      by_cases hp : t1.pending = true
      · simp [hp] at hcol ⊢; omega
      · by_cases hz : t1.cc = 0
        · simp [hp, hz] at hcol
        · simp [hp, hz] at hcol ⊢; omega
    have exact_of : ∀ c, c ≤ c0 → t1.grid.get t1.cr c = t2.grid.get t1.cr c := by
      intro c hc
      rcases hcells t1.cr c with heq | ⟨_, _, hex⟩
      · exact heq
      · exact absurd ⟨rfl, by omega⟩ hex
    simp only []
    rw [← hcr, ← exact_of c0 (Nat.le_refl _)]
    generalize hcdef : (if ((t1.grid.get t1.cr c0).cont && decide (c0 > 0)) = true then c0 - 1 else c0) = c
    have hcle : c ≤ c0 := by rw [← hcdef]; split <;> omega
    rw [← exact_of c hcle]
    refine ⟨hcols, rfl, hcc, hpend, hps1, hps2, ?_⟩
    intro r' c'
    rw [Grid.get_set, Grid.get_set]
    by_cases hB : r' = t1.cr ∧ c' = c
    · left; rw [if_pos hB, if_pos hB]
    · rw [if_neg hB, if_neg hB]; exact hcells r' c'

theorem rel_step (cw : Char → Nat) {t1 t2 : Term} (h : Rel t1 t2) (ch : Char) (hp : PlainC ch) :
    Rel (t1.step cw ch) (t2.step cw ch) := by
  rcases hp with rfl | hc
  · rw [step_newline cw t1 h.ps1, step_newline cw t2 h.ps2]
    obtain ⟨hcols, hcr, hcc, hpend, hps1, hps2, hcells⟩ := h
    refine ⟨hcols, by simp [hcr], rfl, rfl, hps1, hps2, ?_⟩
    intro r c
    rcases hcells r c with heq | ⟨b1, b2, _⟩
    · left; exact heq
    · right; exact ⟨b1, b2, by simp [Term.lim]⟩
  · rw [step_plain cw t1 ch h.ps1 hc, step_plain cw t2 ch h.ps2 hc]
    by_cases hw : cw ch = 0
    · rw [hw, Term.print_zero, Term.print_zero]
      exact rel_attach h ch
    · exact rel_print h _ hw ch

theorem rel_feed (cw : Char → Nat) (s : Text) (hs : PlainT s) :
    ∀ {t1 t2 : Term}, Rel t1 t2 → Rel (t1.feed cw s) (t2.feed cw s) := by
  induction s with
  | nil => intro t1 t2 h; exact h
  | cons c s ih =>
    intro t1 t2 h
    exact ih (fun x hx => hs x (List.mem_cons_of_mem _ hx)) (rel_step cw h c (hs c List.mem_cons_self))

theorem Rel.canon {t1 t2 : Term} (h : Rel t1 t2) : t1.grid.canon = t2.grid.canon := by
  rw [canon_eq_iff]
  intro r c
  rcases h.cells r c with heq | ⟨b1, b2, _⟩
  · rw [heq]
  · rw [b1, b2]

def BelowBlank (t : Term) : Prop := ∀ r c, t.cr < r → t.grid.get r c = {}

/-- `t'` after a plain text printed on `t`: nothing below the cursor row, and the output row has not gone up -/
structure PlainInv (t t' : Term) : Prop where
  ps : t'.ps = .ground
  below : BelowBlank t'
  orow : t.orow ≤ t'.orow
  cols : t'.cols = t.cols

/-- one plain character never moves the output row up and leaves the rows below the cursor blank: a line break
    goes down; a non-control character is printed at or below the output row, which becomes the cursor row, or
    (width zero) attached in the cursor row -/
theorem plainInv_step (cw : Char → Nat) (t : Term) (hps : t.ps = .ground) (hb : BelowBlank t)
    (ch : Char) (hp : PlainC ch) : PlainInv t (t.step cw ch) := by
  rcases hp with rfl | hc
  · rw [step_newline cw t hps]
    refine ⟨hps, ?_, ?_, rfl⟩
    · intro r c hr
      exact hb r c (by simp at hr; omega)
    · simp only [Term.orow]; split <;> simp
  · rw [step_plain cw t ch hps hc]
    by_cases hw : cw ch = 0
    · rw [hw, Term.print_zero]
      unfold Term.attach
      cases t.attachCol with
      | none => exact ⟨hps, hb, Nat.le_refl _, rfl⟩
      | some c0 =>
        refine ⟨hps, ?_, Nat.le_refl _, rfl⟩
        intro r c hr
        simp only [] at hr ⊢
        rw [Grid.get_set, if_neg (by omega)]
        exact hb r c hr
    · generalize e : t.printCell (cw ch) = rc
      obtain ⟨r, c⟩ := rc
      have hr : t.orow ≤ r := by
        unfold Term.orow
        rcases t.printCell_cases (cw ch) with ⟨_, e'⟩ | ⟨⟨hp, _⟩, e'⟩
        · rw [e] at e'; cases e'; split <;> omega
        · rw [e] at e'; cases e'; rw [hp]; exact Nat.le_refl _
      have hr0 : t.cr ≤ r := Nat.le_trans (Nat.le_add_right _ _) hr
      rw [t.print_eq hw ch e]
      refine ⟨hps, ?_, Nat.le_trans hr (Nat.le_add_right _ _), rfl⟩
      intro r' c' h
      simp only [] at h ⊢
      rw [get_printed, if_neg (by omega)]
      exact hb r' c' (by omega)

theorem plainInv_feed (cw : Char → Nat) (s : Text) (hs : PlainT s) :
    ∀ (t : Term), t.ps = .ground → BelowBlank t → PlainInv t (t.feed cw s) := by
  induction s with
  | nil => intro t hps hb; exact ⟨hps, hb, Nat.le_refl _, rfl⟩
  | cons c s ih =>
    intro t hps hb
    have h1 := plainInv_step cw t hps hb c (hs c List.mem_cons_self)
    have h2 := ih (fun x hx => hs x (List.mem_cons_of_mem _ hx)) _ h1.ps h1.below
    exact ⟨h2.ps, h2.below, Nat.le_trans h1.orow h2.orow, h2.cols.trans h1.cols⟩

theorem belowBlank_blank (cols : Nat) : BelowBlank (Term.blank cols) := by
  intro r c _
  simp [Term.blank, Grid.get]

/-! visibly equal screens: kept by a character that occupies cells, not by a zero-width one, which joins a
    written space and a blank cell to different clusters -/

structure VRel (t1 t2 : Term) : Prop where
  cols : t1.cols = t2.cols
  cr : t1.cr = t2.cr
  cc : t1.cc = t2.cc
  pending : t1.pending = t2.pending
  ps1 : t1.ps = .ground
  ps2 : t2.ps = .ground
  cells : ∀ r c, vcell (t1.grid.get r c) = vcell (t2.grid.get r c)

theorem vrel_print {t1 t2 : Term} (h : VRel t1 t2) (w : Nat) (hw : w ≠ 0) (ch : Char) :
    VRel (t1.print w ch) (t2.print w ch) := by
  obtain ⟨hcols, hcr, hcc, hpend, hps1, hps2, hcells⟩ := h
  generalize e : t1.printCell w = rc
  obtain ⟨r, c⟩ := rc
  rw [t1.print_eq hw ch e, t2.print_eq hw ch ((Term.printCell_congr hcols hcr hcc hpend w).trans e), ← hcols]
  refine ⟨rfl, rfl, rfl, rfl, hps1, hps2, ?_⟩
  intro r' c'
  simp only []
  rw [get_printed, get_printed]
  by_cases hW : r' = r ∧ c ≤ c' ∧ c' ≤ c + (w - 1)
  · rw [if_pos hW, if_pos hW]
  · rw [if_neg hW, if_neg hW]; exact hcells r' c'

theorem vrel_step (cw : Char → Nat) {t1 t2 : Term} (h : VRel t1 t2) (ch : Char)
    (hp : ch = '\n' ∨ (isC0Control ch = false ∧ cw ch ≠ 0)) :
    VRel (t1.step cw ch) (t2.step cw ch) := by
  rcases hp with rfl | ⟨hc, hw⟩
  · rw [step_newline cw t1 h.ps1, step_newline cw t2 h.ps2]
    exact ⟨h.cols, by simp [h.cr], rfl, rfl, h.ps1, h.ps2, h.cells⟩
  · rw [step_plain cw t1 ch h.ps1 hc, step_plain cw t2 ch h.ps2 hc]
    exact vrel_print h _ hw ch

theorem VRel.canon {t1 t2 : Term} (h : VRel t1 t2) : t1.grid.canon = t2.grid.canon :=
  (canon_eq_iff _ _).2 h.cells

end Rl
