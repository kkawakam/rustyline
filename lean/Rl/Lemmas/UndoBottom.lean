/-
  The bottom of the undo stack under the operations of a sub-loop (completion, search), as facts
  about the list of changes: `BotGood` — the bottom `m` entries replay some text to a prefix of a given
  text — and `AboveNB` — something that is not a `Begin` lies above a given `Begin`.
-/
import Rl.Lemmas.Undo
import Rl.Lemmas.EditorOps
namespace Rl

/-- the bottom `m` entries of the stack `us` (most recent first) replay some text to a prefix of `bk`
    (in the uses: `bk` is the line saved by `backup` when the sub-loop was entered, `m` the length of
    the stack then) -/
def BotGood (bk : Text) (m : Nat) (us : List Change) : Prop :=
  ∃ t0 p w, replayLog (us.drop (us.length - m)).reverse t0 = some p ∧ bk = p ++ w

theorem botGood_push {bk : Text} {m : Nat} (x : Change) {us : List Change} (hm : m ≤ us.length) :
    BotGood bk m (x :: us) ↔ BotGood bk m us := by
  unfold BotGood
  rw [List.length_cons, Nat.succ_sub hm, List.drop_succ_cons]

theorem botGood_marker {bk : Text} {m : Nat} {x : Change} (hx : x.isMarker = true) (us : List Change) :
    BotGood bk m (x :: us) ↔ BotGood bk m us := by
  by_cases hm : m ≤ us.length
  · exact botGood_push x hm
  · have hm : us.length + 1 ≤ m := Nat.lt_of_not_le hm
    unfold BotGood
    rw [List.length_cons, Nat.sub_eq_zero_of_le hm, Nat.sub_eq_zero_of_le (Nat.le_of_succ_le hm), List.drop_zero,
      List.drop_zero]
    simp only [replay_marker hx]

theorem botGood_min {bk : Text} {m : Nat} {us : List Change} :
    BotGood bk (min m us.length) us ↔ BotGood bk m us := by
  unfold BotGood
  rcases Nat.le_total m us.length with h | h
  · rw [Nat.min_eq_left h]
  · rw [Nat.min_eq_right h, Nat.sub_self, Nat.sub_eq_zero_of_le h]

theorem botGood_endLoop {bk : Text} {m : Nat} : ∀ (n : Nat) (us : List Change) (b : Bool),
    BotGood bk m us → BotGood bk m (Changeset.endLoop n us b).1 :=
  endLoop_induct (fun _ => (botGood_marker rfl _).mp) (fun _ => (botGood_marker rfl _).mpr)

/-- **`update` and the bottom of the log**: the only way `update(new)` touches the bottom `m` entries is
    the merge of its `Delete(0, line)` into a `Delete` on top of them (nothing above the mark); then the
    bottom replays to the empty text, a prefix of anything -/
theorem botGood_update (S : Segmenter) (alnum : Char → Bool) {bk : Text} {m : Nat} (c : Changeset)
    (old new t0 : Text) (hA : replayLog c.undos.reverse t0 = some old) (hm : m ≤ c.undos.length)
    (hB : BotGood bk m c.undos) :
    m ≤ (c.onNotifs S alnum (updNotifs old new)).undos.length ∧
      BotGood bk m (c.onNotifs S alnum (updNotifs old new)).undos := by
  have e : c.onNotifs S alnum (updNotifs old new)
      = ((c.onNotif S alnum (.del 0 old .forward)).insertStr 0 new) := rfl
  rw [e, Changeset.insertStr_undos]
  have hd : applyNotif (.del 0 old .forward) old = some [] :=
    applyFwd_delete.mpr ⟨[], [], by simp, rfl, rfl⟩
  have h1 := onNotif_replay S alnum c (.del 0 old .forward) t0 old [] hA hd
  have step1 : m ≤ (c.onNotif S alnum (.del 0 old .forward)).undos.length ∧
      BotGood bk m (c.onNotif S alnum (.del 0 old .forward)).undos := by
    rcases Changeset.onNotif_shape S alnum c (.del 0 old .forward) with h | ⟨ch, _, h⟩ | ⟨hd, rest, ch, hu, _, _, h⟩
    · rw [h]; exact ⟨hm, hB⟩
    · rw [h]; exact ⟨Nat.le_succ_of_le hm, (botGood_push ch hm).mpr hB⟩
    · rw [h] at h1 ⊢
      rw [hu] at hm hB
      simp only [List.length_cons] at hm ⊢
      refine ⟨hm, ?_⟩
      by_cases hr : m ≤ rest.length
      · exact (botGood_push ch hr).mpr ((botGood_push hd hr).mp hB)
      · refine ⟨t0, [], bk, ?_, rfl⟩
        rw [List.length_cons, Nat.sub_eq_zero_of_le (Nat.lt_of_not_le hr), List.drop_zero]; exact h1
  split
  · exact step1
  · exact ⟨Nat.le_succ_of_le step1.1, (botGood_push _ step1.1).mpr step1.2⟩

/-- `l` has an entry that is not a `Begin` -/
def HasNB (l : List Change) : Prop := ∃ x ∈ l, x ≠ Change.begin

/-- the stack is `above ++ Begin :: base` and `above` has an entry that is not a `Begin` -/
def AboveNB (base us : List Change) : Prop := ∃ above, us = above ++ Change.begin :: base ∧ HasNB above

theorem aboveNB_endLoop {base : List Change} : ∀ (n : Nat) (above : List Change) (b : Bool), HasNB above →
    AboveNB base (Changeset.endLoop n (above ++ Change.begin :: base) b).1 := by
  intro n above b h
  refine endLoop_induct (P := AboveNB base) (fun rest h => ?_) (fun us h => ?_) n _ b ⟨above, rfl, h⟩
  · obtain ⟨above, hu, x, hx, hne⟩ := h
    cases above with
    | nil => cases hx
    | cons a as =>
      cases hu
      exact ⟨as, rfl, x, (List.mem_cons.mp hx).resolve_left hne, hne⟩
  · obtain ⟨above, hu, _⟩ := h
    exact ⟨.end_ :: above, congrArg (Change.end_ :: ·) hu, .end_, List.mem_cons_self, nofun⟩

theorem aboveNB_onNotif (S : Segmenter) (alnum : Char → Bool) {base : List Change} (c : Changeset) (n : Notif)
    (h : AboveNB base c.undos) : AboveNB base (c.onNotif S alnum n).undos := by
  obtain ⟨above, hu, x, hx, hne⟩ := h
  obtain ⟨above', h1, h2⟩ := onNotif_above_marker S alnum n (m := .begin) rfl hu
  refine ⟨above', h1, ?_⟩
  rcases h2 with rfl | ⟨ch, _, rfl⟩ | ⟨hd, e, ch, rfl, _, hm, rfl⟩
  · exact ⟨x, hx, hne⟩
  · exact ⟨x, List.mem_cons_of_mem _ hx, hne⟩
  · exact ⟨ch, List.mem_cons_self, fun hc => by rw [hc] at hm; cases hm⟩

theorem aboveNB_onNotifs (S : Segmenter) (alnum : Char → Bool) {base : List Change} (ns : List Notif) :
    ∀ (c : Changeset), AboveNB base c.undos → AboveNB base (c.onNotifs S alnum ns).undos :=
  onNotifs_induct (P := fun c => AboveNB base c.undos) (aboveNB_onNotif S alnum) ns

theorem aboveNB_facts {base us : List Change} (h : AboveNB base us) :
    base.length < us.length ∧ us.drop (us.length - base.length) = base := by
  obtain ⟨above, rfl, _⟩ := h
  refine ⟨by simp only [List.length_append, List.length_cons]; omega, ?_⟩
  have := drop_length_sub_append (above ++ [Change.begin]) base
  rwa [List.append_assoc] at this

end Rl
