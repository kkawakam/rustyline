/-
  A stack whose markers are balanced (`depth us = some 0`) is well nested (`nested_of_depth_zero`);
  `C05_closed_stack_top_unit` concludes from it that the top of such a stack is one undo unit.
  `OpenN d us`: `us` (most recent first) has exactly `d` unmatched `Begin`s, everything between them
  well nested.
-/
import Rl.Lemmas.Undo
namespace Rl

inductive OpenN : Nat → List Change → Prop
  | closed (l : List Change) : Nested l → OpenN 0 l
  | opened (d : Nat) (a l : List Change) : Nested a → OpenN d l → OpenN (d + 1) (a ++ .begin :: l)

theorem openN_cons_change {ch : Change} (hm : ch.isMarker = false) {d : Nat} {l : List Change}
    (h : OpenN d l) : OpenN d (ch :: l) := by
  cases h with
  | closed l hn => exact .closed _ (.change ch l hm hn)
  | opened d a l ha hl => exact .opened d (ch :: a) l (.change ch a hm ha) hl

theorem openN_cons_end {d : Nat} {l : List Change} (h : OpenN (d + 1) l) : OpenN d (.end_ :: l) := by
  cases h with
  | opened _ a l ha hl =>
    cases hl with
    | closed l hn => exact .closed _ (.group a l ha hn)
    | opened d b l' hb hl' =>
      have : Change.end_ :: (a ++ Change.begin :: (b ++ Change.begin :: l')) =
          (Change.end_ :: a ++ Change.begin :: b) ++ Change.begin :: l' := by simp
      rw [this]
      exact .opened d _ l' (.group a b ha hb) hl'

theorem openN_of_depth : ∀ (us : List Change) (d : Nat), depth us = some d → OpenN d us := by
  intro us
  induction us with
  | nil => intro d h; cases h; exact .closed _ .nil
  | cons ch rest ih =>
    intro d h
    cases ch with
    | begin =>
      rw [depth_cons_begin] at h
      obtain ⟨d', hd, rfl⟩ := Option.map_eq_some_iff.mp h
      exact .opened d' [] rest .nil (ih d' hd)
    | end_ => exact openN_cons_end (ih _ (depth_cons_end.mp h))
    | _ => rw [depth_cons_nonmarker rfl] at h; exact openN_cons_change rfl (ih d h)

theorem nested_of_depth_zero {us : List Change} (h : depth us = some 0) : Nested us := by
  have := openN_of_depth us 0 h
  cases this with
  | closed _ hn => exact hn

theorem depth_nested_append {a : List Change} (ha : Nested a) : ∀ k : List Change, depth (a ++ k) = depth k := by
  induction ha with
  | nil => intro k; rfl
  | change ch l hm _ ih => intro k; rw [List.cons_append, depth_cons_nonmarker hm]; exact ih k
  | group x y _ _ ihx ihy =>
    intro k
    rw [List.cons_append, List.cons_append, List.append_assoc, List.cons_append, depth_cons_end_eq, ihx,
      depth_cons_begin, ihy]
    cases depth k <;> rfl

theorem depth_of_nested {a : List Change} (ha : Nested a) : depth a = some 0 := by
  have := depth_nested_append ha []
  rwa [List.append_nil] at this

end Rl
