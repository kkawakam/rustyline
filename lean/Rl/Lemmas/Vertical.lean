/-
  C04, vertical motion: `move_to_line_up` / `move_to_line_down` land in the n-th line above / below
  (or the first / last line) — and on which column.

  `vm_Line buf ds de line` names a whole line inside the buffer; it is the invariant of both `for` loops
  (`vm_luLoop_eq`, `vm_ldLoop_eq`).  Both motions then have the same closed form `vm_Lands`
  (`vm_moveToLineUp_eval`, `vm_moveToLineDown_eval`), from which totality, the destination line and the
  column check follow for both directions at once.
-/
import Rl.Lemmas.Motion

namespace Rl
open Rl.Spec

/-- `X` is empty or ends with a line break: the text in front of a line start -/
def vm_Pre (X : Text) : Prop := X = [] ∨ ∃ u, X = u ++ ['\n']
/-- `R` is empty or starts with a line break: the text from a line end on -/
def vm_Suf (R : Text) : Prop := R = [] ∨ ∃ q, R = '\n' :: q

theorem vm_prefix_line (u : Text) : ∃ X a, u = X ++ a ∧ '\n' ∉ a ∧ vm_Pre X := by
  induction u with
  | nil => exact ⟨[], [], rfl, by simp, Or.inl rfl⟩
  | cons c t ih =>
    obtain ⟨X, a, rfl, ha, hX⟩ := ih
    rcases hX with rfl | ⟨w, rfl⟩
    · by_cases hc : c = '\n'
      · subst hc
        exact ⟨['\n'], a, rfl, ha, Or.inr ⟨[], rfl⟩⟩
      · exact ⟨[], c :: a, rfl, fun hm => (List.mem_cons.mp hm).elim (fun e => hc e.symm) ha, Or.inl rfl⟩
    · exact ⟨c :: w ++ ['\n'], a, by simp, ha, Or.inr ⟨c :: w, rfl⟩⟩

theorem vm_suffix_line (s : Text) : ∃ m R, s = m ++ R ∧ '\n' ∉ m ∧ vm_Suf R := by
  induction s with
  | nil => exact ⟨[], [], rfl, by simp, Or.inl rfl⟩
  | cons c t ih =>
    by_cases hc : c = '\n'
    · subst hc
      exact ⟨[], '\n' :: t, rfl, by simp, Or.inr ⟨t, rfl⟩⟩
    · obtain ⟨m, R, rfl, hm, hR⟩ := ih
      exact ⟨c :: m, R, rfl, fun h => (List.mem_cons.mp h).elim (fun e => hc e.symm) hm, hR⟩

theorem vm_lineStartOf_eq {buf x s : Text} {p : Nat} (hb : buf = x ++ s) (hp : p = blen x) :
    lineStartOf buf p = match rfindChar '\n' x with | some i => i + 1 | none => 0 := by
  subst hb hp
  exact lineStartOf_mid x s

theorem vm_lineEndOf_eq {buf x s : Text} {p : Nat} (hb : buf = x ++ s) (hp : p = blen x) :
    lineEndOf buf p = match findChar '\n' s with | some i => p + i | none => blen buf := by
  subst hb hp
  exact lineEndOf_mid x s

theorem vm_lineStartOf_in {buf X a b : Text} {p : Nat} (hb : buf = X ++ a ++ b) (hp : p = blen X + blen a)
    (hX : vm_Pre X) (ha : '\n' ∉ a) : lineStartOf buf p = blen X := by
  rw [vm_lineStartOf_eq (x := X ++ a) (s := b) hb (by simp [hp]), vm_rfindChar_append X ha]
  rcases hX with rfl | ⟨u, rfl⟩
  · rfl
  · rw [vm_rfindChar_snoc]; simp [utf8Size_newline]

theorem vm_lineEndOf_in {buf Y b R : Text} {p : Nat} (hb : buf = Y ++ b ++ R) (hp : p = blen Y)
    (hR : vm_Suf R) (hb' : '\n' ∉ b) : lineEndOf buf p = blen Y + blen b := by
  rw [vm_lineEndOf_eq (x := Y) (s := b ++ R) (by simp [hb]) hp, findChar_append_left R hb']
  rcases hR with rfl | ⟨q, rfl⟩
  · simp [findChar, hb]
  · simp [findChar, hp]

/-- `[ds, de)` is a whole line of `buf` with text `line` -/
def vm_Line (buf : Text) (ds de : Nat) (line : Text) : Prop :=
  ∃ X R, buf = X ++ line ++ R ∧ ds = blen X ∧ de = blen X + blen line ∧ '\n' ∉ line ∧ vm_Pre X ∧ vm_Suf R

theorem vm_Line.slice {buf : Text} {ds de : Nat} {line : Text} (h : vm_Line buf ds de line) :
    slice buf ds de = .ok line := by
  obtain ⟨X, R, rfl, rfl, rfl, _, _, _⟩ := h
  exact slice_mid X line R

theorem vm_Line.le {buf : Text} {ds de : Nat} {line : Text} (h : vm_Line buf ds de line) :
    de = ds + blen line := by
  obtain ⟨X, R, rfl, rfl, rfl, _, _, _⟩ := h
  rfl

theorem vm_Line.start_in {buf : Text} {ds de : Nat} {line a b : Text} (h : vm_Line buf ds de line)
    (hl : line = a ++ b) : lineStartOf buf (ds + blen a) = ds := by
  obtain ⟨X, R, hb, rfl, rfl, hn, hX, hR⟩ := h
  subst hl
  exact vm_lineStartOf_in (X := X) (a := a) (b := b ++ R) (by simp [hb]) rfl hX
    (fun hm => hn (by simp [hm]))

theorem vm_Line.end_in {buf : Text} {ds de : Nat} {line a b : Text} (h : vm_Line buf ds de line)
    (hl : line = a ++ b) : lineEndOf buf (ds + blen a) = de := by
  obtain ⟨X, R, hb, rfl, rfl, hn, hX, hR⟩ := h
  subst hl
  have := vm_lineEndOf_in (buf := buf) (Y := X ++ a) (b := b) (R := R) (p := blen X + blen a)
    (by rw [hb]; simp) (by simp) hR
    (fun hm => hn (by simp [hm]))
  rw [this]; simp; omega

theorem vm_Line.slice_in {buf : Text} {ds de : Nat} {line a b : Text} (h : vm_Line buf ds de line)
    (hl : line = a ++ b) : Rl.slice buf ds (ds + blen a) = .ok a := by
  obtain ⟨X, R, hb, rfl, rfl, hn, hX, hR⟩ := h
  subst hl
  have := slice_mid X a (b ++ R)
  rw [hb]
  simpa using this

theorem vm_Line.boundary_in {buf : Text} {ds de : Nat} {line a b : Text} (h : vm_Line buf ds de line)
    (hl : line = a ++ b) : IsBoundary buf (ds + blen a) := by
  obtain ⟨X, R, hb, rfl, rfl, hn, hX, hR⟩ := h
  subst hl
  exact ⟨X ++ a, b ++ R, by simp [hb], by simp⟩

theorem vm_Line.isLineStart {buf : Text} {ds de : Nat} {line : Text} (h : vm_Line buf ds de line) :
    IsLineStart buf ds := by
  obtain ⟨X, R, hb, rfl, rfl, hn, hX, hR⟩ := h
  rcases hX with rfl | ⟨u, rfl⟩
  · exact Or.inl rfl
  · exact Or.inr ⟨u, line ++ R, by simp [hb], by simp [utf8Size_newline]⟩

theorem vm_Line.isLineEnd {buf : Text} {ds de : Nat} {line : Text} (h : vm_Line buf ds de line) :
    IsLineEnd buf de := by
  obtain ⟨X, R, hb, rfl, rfl, hn, hX, hR⟩ := h
  rcases hR with rfl | ⟨q, rfl⟩
  · exact Or.inl (by simp [hb])
  · exact Or.inr ⟨X ++ line, q, by simp [hb], by simp⟩

/-- the line around a boundary: `x = X ++ v`, `s = m ++ R`, the line is `v ++ m` -/
theorem vm_line_at {buf x s : Text} (hb : buf = x ++ s) :
    ∃ X v m R, x = X ++ v ∧ s = m ++ R ∧ vm_Pre X ∧ vm_Suf R ∧ '\n' ∉ v ∧ '\n' ∉ m ∧
      vm_Line buf (blen X) (blen x + blen m) (v ++ m) ∧
      lineStartOf buf (blen x) = blen X ∧ lineEndOf buf (blen x) = blen x + blen m := by
  obtain ⟨X, v, rfl, hv, hX⟩ := vm_prefix_line x
  obtain ⟨m, R, rfl, hm, hR⟩ := vm_suffix_line s
  have hvm : '\n' ∉ v ++ m := fun h => (List.mem_append.mp h).elim hv hm
  have hL : vm_Line buf (blen X) (blen (X ++ v) + blen m) (v ++ m) :=
    ⟨X, R, by simp [hb], rfl, by simp; omega, hvm, hX, hR⟩
  refine ⟨X, v, m, R, rfl, rfl, hX, hR, hv, hm, hL, ?_, ?_⟩
  · have := hL.start_in (a := v) (b := m) rfl
    simpa using this
  · have := hL.end_in (a := v) (b := m) rfl
    simpa using this

theorem vm_Line.end_start {buf : Text} {ds de : Nat} {line : Text} (h : vm_Line buf ds de line) :
    lineEndOf buf ds = de := by
  have := h.end_in (a := []) (b := line) rfl
  simpa using this

theorem vm_Line.start_end {buf : Text} {ds de : Nat} {line : Text} (h : vm_Line buf ds de line) :
    lineStartOf buf de = ds := by
  have := h.start_in (a := line) (b := []) (by simp)
  rw [← h.le] at this
  exact this

theorem vm_line_above {buf w rest : Text} (hb : buf = w ++ '\n' :: rest) :
    ∃ line, vm_Line buf (lineStartOf buf (blen w)) (blen w) line := by
  obtain ⟨X, a, hw, ha, hX⟩ := vm_prefix_line w
  have hL : vm_Line buf (blen X) (blen w) a :=
    ⟨X, '\n' :: rest, by rw [hb, hw], rfl, by rw [hw, blen_append], ha, hX, Or.inr ⟨rest, rfl⟩⟩
  rw [hL.start_end]
  exact ⟨a, hL⟩

theorem vm_line_below {buf w rest : Text} (hb : buf = w ++ '\n' :: rest) :
    ∃ line, vm_Line buf (blen w + 1) (lineEndOf buf (blen w + 1)) line := by
  obtain ⟨m, R, hr, hm, hR⟩ := vm_suffix_line rest
  have hL : vm_Line buf (blen w + 1) (blen w + 1 + blen m) m :=
    ⟨w ++ ['\n'], R, by rw [hb, hr]; simp, by simp [utf8Size_newline], by simp [utf8Size_newline], hm,
      Or.inr ⟨w, rfl⟩, hR⟩
  rw [hL.end_start]
  exact ⟨m, hL⟩

theorem vm_sliceFrom_below {buf w rest : Text} (hb : buf = w ++ '\n' :: rest) :
    sliceFrom buf (blen w + 1) = .ok rest := by
  have := sliceFrom_mid (w ++ ['\n']) rest
  rw [hb]
  simpa [utf8Size_newline] using this

theorem vm_lineEndOf_below {buf w rest : Text} (hb : buf = w ++ '\n' :: rest) :
    lineEndOf buf (blen w + 1) = match findChar '\n' rest with | some i => blen w + 1 + i | none => blen buf :=
  vm_lineEndOf_eq (x := w ++ ['\n']) (s := rest) (by simp [hb]) (by simp [utf8Size_newline])

theorem vm_upStart_succ (buf : Text) (k : Nat) (u : Text) :
    upStart buf (k + 1) (blen u + 1) = upStart buf k (lineStartOf buf (blen u)) := by
  simp [upStart]

/-- `for _ in 1..n` of `move_to_line_up`: from a line `[ds, de)`, `k` steps up reach the line that starts at
    the declarative `upStart` -/
theorem vm_luLoop_eq (buf : Text) (k : Nat) {ds de : Nat} {line : Text} (hL : vm_Line buf ds de line) :
    ∃ de' line', LB.luLoop buf k ds de = .ok (upStart buf k ds, de') ∧
      vm_Line buf (upStart buf k ds) de' line' := by
  induction k generalizing ds de line with
  | zero => exact ⟨de, line, rfl, hL⟩
  | succ k ih =>
    rcases hL.isLineStart with rfl | ⟨u, v, hb, rfl⟩
    · rw [upStart_zero]
      exact ⟨de, line, rfl, hL⟩
    · obtain ⟨l0, hL0⟩ := vm_line_above hb
      obtain ⟨de', line', hi, hL'⟩ := ih hL0
      have hst : sliceTo buf (blen u) = .ok u := by rw [hb]; exact sliceTo_mid u _
      rw [vm_upStart_succ]
      refine ⟨de', line', ?_, hL'⟩
      rw [vm_lineStartOf_eq (x := u) hb rfl] at hi ⊢
      unfold LB.luLoop
      simp only [Nat.add_sub_cancel, hst, bind, Except.bind, beq_iff_eq, Nat.add_one_ne_zero, if_false]
      exact hi

/-- `for _ in 1..n` of `move_to_line_down`: `k` steps down reach the line that ends at the declarative
    `downEnd`; the walk never goes back -/
theorem vm_ldLoop_eq (buf : Text) (k : Nat) {ds de : Nat} {line : Text} (hL : vm_Line buf ds de line) :
    ∃ ds' line', LB.ldLoop buf k ds de = .ok (ds', downEnd buf k de) ∧
      vm_Line buf ds' (downEnd buf k de) line' ∧ ds ≤ ds' := by
  induction k generalizing ds de line with
  | zero => exact ⟨ds, line, rfl, hL, Nat.le_refl _⟩
  | succ k ih =>
    rcases hL.isLineEnd with rfl | ⟨p, q, hb, rfl⟩
    · rw [downEnd_len]
      exact ⟨ds, line, by simp [LB.ldLoop]; rfl, hL, Nat.le_refl _⟩
    · have hlt : blen p < blen buf := by rw [hb]; simp [utf8Size_newline]; omega
      obtain ⟨l0, hL0⟩ := vm_line_below hb
      obtain ⟨ds', line', hi, hL', hle⟩ := ih hL0
      rw [downEnd_succ buf k hlt]
      refine ⟨ds', line', ?_, hL', ?_⟩
      · rw [vm_lineEndOf_below hb] at hi ⊢
        unfold LB.ldLoop
        simp only [vm_sliceFrom_below hb, bind, Except.bind, beq_iff_eq, Nat.ne_of_lt hlt, if_false]
        exact hi
      · have := hL.le
        omega

theorem vm_gidx_none {S : Segmenter} {line : Text} {c : Nat} (h : (gidx S line)[c]? = none) :
    (S.seg line).length ≤ c := by
  rw [gidx, gidxGo_getElem?] at h
  cases hg : (S.seg line)[c]? with
  | none => exact List.getElem?_eq_none_iff.mp hg
  | some g => simp [hg] at h

theorem vm_gidx_some {S : Segmenter} {line : Text} {c idx : Nat} {g : Text}
    (h : (gidx S line)[c]? = some (idx, g)) : c < (S.seg line).length ∧ idx = offOf (S.seg line) c := by
  rw [gidx, gidxGo_getElem?] at h
  cases hg : (S.seg line)[c]? with
  | none => simp [hg] at h
  | some g' =>
    rw [hg, Option.map_some, Option.some.injEq, Prod.mk.injEq, Nat.zero_add] at h
    exact ⟨(List.getElem?_eq_some_iff.mp hg).1, h.1.symm⟩

theorem vm_offOf_length (S : Segmenter) (line : Text) : offOf (S.seg line) (S.seg line).length = blen line := by
  simp [offOf, S.flatten_eq]

theorem vm_take_drop (S : Segmenter) (line : Text) (k : Nat) :
    line = ((S.seg line).take k).flatten ++ ((S.seg line).drop k).flatten := by
  rw [← List.flatten_append, List.take_append_drop, S.flatten_eq]

theorem vm_offOf_le (S : Segmenter) (line : Text) (k : Nat) : offOf (S.seg line) k ≤ blen line := by
  have := congrArg blen (vm_take_drop S line k)
  rw [blen_append] at this
  unfold offOf; omega

/-- first `k` in `[j, j + f)` with `P k`, else `j + f` -/
def vm_landFrom (P : Nat → Bool) : Nat → Nat → Nat
  | 0, k => k
  | f + 1, k => if P k then k else vm_landFrom P f (k + 1)

/-- index of the cluster boundary the model lands on: the first `k < |gs|` whose prefix of `k` clusters
    is at least `w` columns wide, else `|gs|` (the line end) -/
def vm_landK (U : UData) (gs : List Text) (w : Nat) : Nat :=
  vm_landFrom (fun k => decide (U.width (gs.take k).flatten ≥ w)) gs.length 0

theorem vm_landFrom_bounds (P : Nat → Bool) (f j : Nat) : j ≤ vm_landFrom P f j ∧ vm_landFrom P f j ≤ j + f := by
  induction f generalizing j with
  | zero => simp [vm_landFrom]
  | succ f ih =>
    unfold vm_landFrom
    split
    · omega
    · have := ih (j + 1); omega

theorem vm_landK_le (U : UData) (gs : List Text) (w : Nat) : vm_landK U gs w ≤ gs.length := by
  have := (vm_landFrom_bounds (fun k => decide (U.width (gs.take k).flatten ≥ w)) gs.length 0).2
  unfold vm_landK; omega

theorem vm_find_range' (P : Nat → Bool) (m j : Nat) :
    ((List.range' j m).find? P).getD (j + m) = vm_landFrom P m j := by
  induction m generalizing j with
  | zero => simp [vm_landFrom]
  | succ m ih =>
    rw [List.range'_succ, List.find?_cons]
    unfold vm_landFrom
    cases hP : P j with
    | true => simp
    | false =>
      simp only [Bool.false_eq_true, if_false]
      have := ih (j + 1)
      rw [show j + 1 + m = j + (m + 1) by omega] at this
      exact this

theorem vm_colFind_go (U : UData) (line : Text) (w : Nat) (all : List Text) (hl : line = all.flatten) :
    ∀ (f j : Nat), j + f = all.length →
      LB.colFind U line w (gidxGo (offOf all j) (all.drop j)) =
        .ok (if vm_landFrom (fun k => decide (U.width (all.take k).flatten ≥ w)) f j < all.length
             then some (offOf all (vm_landFrom (fun k => decide (U.width (all.take k).flatten ≥ w)) f j))
             else none) := by
  intro f
  induction f with
  | zero =>
    intro j hj
    have : all.drop j = [] := List.drop_eq_nil_of_le (by omega)
    rw [this]
    have hj' : ¬ j < all.length := by omega
    simp [gidxGo, LB.colFind, vm_landFrom, pure, Except.pure, hj']
  | succ f ih =>
    intro j hj
    have hjl : j < all.length := by omega
    rw [List.drop_eq_getElem_cons hjl]
    simp only [gidxGo]
    have hpre : sliceTo line (offOf all j) = .ok (all.take j).flatten := by
      have e : line = (all.take j).flatten ++ (all.drop j).flatten := by
        rw [← List.flatten_append, List.take_append_drop, hl]
      conv => lhs; rw [e]
      exact sliceTo_mid _ _
    unfold LB.colFind vm_landFrom
    simp only [hpre, bind, Except.bind]
    by_cases hc : U.width (all.take j).flatten ≥ w
    · simp [hc, hjl, pure, Except.pure]
    · have := ih (j + 1) (by omega)
      rw [offOf_succ all j hjl] at this
      simp only [hc, decide_false, Bool.false_eq_true, if_false]
      exact this

theorem vm_colFind (S : Segmenter) (U : UData) (line : Text) (w : Nat) :
    LB.colFind U line w (gidx S line) =
      .ok (if vm_landK U (S.seg line) w < (S.seg line).length then some (offOf (S.seg line) (vm_landK U (S.seg line) w))
           else none) := by
  have := vm_colFind_go U line w (S.seg line) (S.flatten_eq line).symm (S.seg line).length 0 (by omega)
  simpa [gidx, offOf, vm_landK] using this

theorem vm_colFind_land (S : Segmenter) (U : UData) {buf : Text} {ds de : Nat} {line : Text}
    (hL : vm_Line buf ds de line) (w : Nat) :
    ∃ r, LB.colFind U line w (gidx S line) = .ok r ∧
      (match r with | some idx => ds + idx | none => de) =
        ds + offOf (S.seg line) (vm_landK U (S.seg line) w) := by
  refine ⟨_, vm_colFind S U line w, ?_⟩
  have hkle := vm_landK_le U (S.seg line) w
  by_cases hlt : vm_landK U (S.seg line) w < (S.seg line).length
  · rw [if_pos hlt]
  · rw [if_neg hlt, show vm_landK U (S.seg line) w = (S.seg line).length by omega, vm_offOf_length, hL.le]

theorem vm_displayCol_in (S : Segmenter) (U : UData) {buf : Text} {ds de : Nat} {line : Text} (pc k : Nat)
    (hL : vm_Line buf ds de line) :
    displayCol U buf (ds + offOf (S.seg line) k) pc =
      U.width ((S.seg line).take k).flatten + (if ds = 0 then pc else 0) := by
  have h1 := hL.start_in (vm_take_drop S line k)
  have h2 := hL.slice_in (vm_take_drop S line k)
  unfold displayCol offOf
  simp only [h1, h2]

theorem vm_find_snoc {α : Type} (p : α → Bool) (l : List α) (x : α) :
    ((l ++ [x]).find? p).getD x = (l.find? p).getD x := by
  rw [List.find?_append]
  cases l.find? p with
  | some y => rfl
  | none =>
    rw [Option.none_or, List.find?_cons]
    split <;> rfl

/-- the declarative landing position is the model's: cluster boundary number `vm_landK` -/
theorem vm_target (S : Segmenter) (U : UData) {buf : Text} {ds de : Nat} {line : Text} (pc c : Nat)
    (hL : vm_Line buf ds de line) :
    verticalTarget S U buf ds de line pc c =
      ds + offOf (S.seg line) (vm_landK U (S.seg line) (c - (if ds = 0 then pc else 0))) := by
  -- the predicate of the spec on boundary number `k` is the predicate of the model on `k`
  have hPQ : ((fun q => decide (displayCol U buf q pc ≥ c)) ∘ fun k => ds + offOf (S.seg line) k) =
      fun k => decide (U.width ((S.seg line).take k).flatten ≥ c - (if ds = 0 then pc else 0)) := by
    funext k
    rw [Function.comp_apply, vm_displayCol_in S U pc k hL]
    exact decide_eq_decide.mpr (by omega)
  -- the last boundary is the line end, the default of the search
  have hde : de = ds + offOf (S.seg line) (S.seg line).length := by rw [vm_offOf_length, hL.le]
  have hr := vm_find_range' (fun k => decide (U.width ((S.seg line).take k).flatten ≥ c - (if ds = 0 then pc else 0)))
    (S.seg line).length 0
  rw [← List.range_eq_range', Nat.zero_add] at hr
  unfold verticalTarget bounds vm_landK
  rw [List.range_succ, List.map_append, List.map_singleton, hde, vm_find_snoc, List.find?_map, hPQ, ← hr]
  cases List.find? _ (List.range (S.seg line).length) <;> rfl

/-- What a vertical motion returns on `lb` when the specification is read with count `j`: without a
    destination line nothing happens; otherwise the cursor goes to cluster boundary number `vm_landK` of the
    destination line, for the display column it came from. -/
def vm_Lands (S : Segmenter) (U : UData) (j pc : Nat) (lb : LB) (up : Bool)
    (res : Except Panic (Bool × LB × List Notif)) : Prop :=
  (verticalDest lb.buf lb.pos j up = none ∧ res = .ok (false, lb, [])) ∨
  ∃ ds de line, verticalDest lb.buf lb.pos j up = some (ds, de) ∧ vm_Line lb.buf ds de line ∧
    res = .ok (true, { lb with pos := ds + offOf (S.seg line) (vm_landK U (S.seg line)
      (displayCol U lb.buf lb.pos pc - (if ds = 0 then pc else 0))) }, [])

/-- `for _ in 1..n`: a count of 0 acts as 1, every other count as itself -/
theorem vm_Lands.count {S : Segmenter} {U : UData} {n pc : Nat} {lb : LB} {up : Bool}
    {res : Except Panic (Bool × LB × List Notif)} (hl : vm_Lands S U (n - 1 + 1) pc lb up res) (hn : n ≠ 0) :
    vm_Lands S U n pc lb up res := by
  rw [Nat.sub_add_cancel (Nat.pos_of_ne_zero hn)] at hl
  exact hl

theorem vm_Lands.wf {S : Segmenter} {U : UData} {j pc : Nat} {lb : LB} {up : Bool}
    {res : Except Panic (Bool × LB × List Notif)} (hl : vm_Lands S U j pc lb up res) (h : WF lb) :
    ∃ r lb', res = .ok (r, lb', []) ∧ WF lb' ∧ lb'.buf = lb.buf := by
  rcases hl with ⟨_, he⟩ | ⟨ds, de, line, _, hL, he⟩
  · exact ⟨false, lb, he, h, rfl⟩
  · exact ⟨true, _, he, hL.boundary_in (vm_take_drop S line _), rfl⟩

/-- the destination line is the declarative one and the cursor lands on the declarative `verticalTarget` -/
theorem vm_Lands.dest {S : Segmenter} {U : UData} {n pc : Nat} {lb lb' : LB} {up r : Bool} {ns : List Notif}
    {res : Except Panic (Bool × LB × List Notif)} (hl : vm_Lands S U n pc lb up res)
    (hrun : res = .ok (r, lb', ns)) :
    (verticalDest lb.buf lb.pos n up = none ∧ r = false ∧ lb' = lb) ∨
    ∃ ds de line, verticalDest lb.buf lb.pos n up = some (ds, de) ∧ r = true ∧
      slice lb.buf ds de = .ok line ∧ lb'.buf = lb.buf ∧ ds ≤ lb'.pos ∧ lb'.pos ≤ de ∧
      lb'.pos = verticalTarget S U lb.buf ds de line pc (displayCol U lb.buf lb.pos pc) := by
  rcases hl with ⟨hvd, he⟩ | ⟨ds, de, line, hvd, hL, he⟩
  · rw [he] at hrun
    cases hrun
    exact Or.inl ⟨hvd, rfl, rfl⟩
  · rw [he] at hrun
    cases hrun
    refine Or.inr ⟨ds, de, line, hvd, rfl, hL.slice, rfl, Nat.le_add_right _ _, ?_,
      (vm_target S U pc _ hL).symm⟩
    have := vm_offOf_le S line
      (vm_landK U (S.seg line) (displayCol U lb.buf lb.pos pc - (if ds = 0 then pc else 0)))
    have := hL.le
    show ds + offOf _ _ ≤ de
    omega

theorem vm_Lands.column {S : Segmenter} {U : UData} {n pc : Nat} {lb lb' : LB} {up r : Bool} {ns : List Notif}
    {res : Except Panic (Bool × LB × List Notif)} (hl : vm_Lands S U n pc lb up res) (hn : n ≠ 0)
    (hrun : res = .ok (r, lb', ns)) : checkVerticalCol S U lb n up pc lb'.pos = none := by
  have hn' : (n == 0) = false := by simp [hn]
  rcases hl.dest hrun with ⟨hvd, _, rfl⟩ | ⟨ds, de, line, hvd, _, hline, _, _, _, hpos⟩
  · simp [checkVerticalCol, hn', hvd]
  · simp [checkVerticalCol, hn', hvd, hline, hpos]

/-- Idea (both directions): cut the buffer at the cursor as `X ++ v | m ++ R` with `v ++ m` the cursor's line
    (`vm_line_at`).  On the first / last line nothing happens.  Otherwise one explicit step gives the
    neighbouring line as a `vm_Line` (`vm_line_above` / `vm_line_below`), the loop lemma (`vm_luLoop_eq` /
    `vm_ldLoop_eq`) walks the remaining `n - 1` lines keeping `vm_Line`, and `vm_colFind_land` says where in that
    line the column search stops.  The display column the cursor came from is `U.width v`. -/
theorem vm_moveToLineUp_eval (S : Segmenter) (U : UData) (n pc : Nat) (lb : LB) (h : WF lb) :
    vm_Lands S U (n - 1 + 1) pc lb true (LB.moveToLineUp S U n pc lb) := by
  obtain ⟨x, s, hb, hp⟩ := h.split
  obtain ⟨X, v, m, R, hx, hs, hX, hR, hv, hm, hL, h1, h2⟩ := vm_line_at hb
  rw [← hp] at h1
  have hst : sliceTo lb.buf lb.pos = .ok x := by rw [hb, hp]; exact sliceTo_mid x s
  rcases hX with rfl | ⟨w, rfl⟩
  · -- the cursor is on the first line
    have hf : rfindChar '\n' x = none := by rw [hx]; exact vm_rfindChar_none (by simpa using hv)
    refine Or.inl ⟨by simp [verticalDest, h1], ?_⟩
    unfold LB.moveToLineUp
    simp only [LM.bind_apply, LM.get, LM.lift, hst, hf]
    rfl
  · have hf : rfindChar '\n' x = some (blen w) := by
      rw [hx, vm_rfindChar_append _ hv, vm_rfindChar_snoc]
    have hls1 : lineStartOf lb.buf lb.pos = blen w + 1 := by
      rw [h1]; simp [utf8Size_newline]
    have hbuf : lb.buf = w ++ '\n' :: (v ++ s) := by rw [hb, hx]; simp
    have hcur : slice lb.buf (blen w + 1) lb.pos = .ok v := by
      have := slice_mid (w ++ ['\n']) v s
      rw [hb, hp, hx]
      simpa [utf8Size_newline, Nat.add_assoc] using this
    have hpre2 : sliceTo lb.buf (blen w) = .ok w := by rw [hbuf]; exact sliceTo_mid w _
    -- the line above the cursor's, then `n - 1` more steps up
    obtain ⟨l0, hL0⟩ := vm_line_above hbuf
    obtain ⟨de, line, hlu, hLd⟩ := vm_luLoop_eq lb.buf (n - 1) hL0
    rw [← vm_upStart_succ] at hlu hLd
    have hvd : verticalDest lb.buf lb.pos (n - 1 + 1) true = some (upStart lb.buf (n - 1 + 1) (blen w + 1), de) := by
      simp [verticalDest, hls1, hLd.end_start]
    generalize upStart lb.buf (n - 1 + 1) (blen w + 1) = ds at hlu hLd hvd
    have hc : displayCol U lb.buf lb.pos pc = U.width v := by
      simp [displayCol, hls1, hcur]
    obtain ⟨r, hcf, hpos⟩ := vm_colFind_land S U hLd (U.width v - (if ds = 0 then pc else 0))
    refine Or.inr ⟨ds, de, line, hvd, hLd, ?_⟩
    rw [hc, ← hpos]
    rw [vm_lineStartOf_eq (x := w) hbuf rfl] at hlu
    unfold LB.moveToLineUp
    simp only [LM.bind_apply, LM.get, LM.lift, hst, hf, hcur, hpre2]
    cases hfw : rfindChar '\n' w <;>
      (simp only [hfw] at hlu
       simp only [hlu, hLd.slice, hcf, beq_iff_eq]
       cases r <;> rfl)

theorem vm_moveToLineDown_eval (S : Segmenter) (U : UData) (n pc : Nat) (lb : LB) (h : WF lb) :
    vm_Lands S U (n - 1 + 1) pc lb false (LB.moveToLineDown S U n pc lb) := by
  obtain ⟨x, s, hb, hp⟩ := h.split
  obtain ⟨X, v, m, R, hx, hs, hX, hR, hv, hm, hL, h1, h2⟩ := vm_line_at hb
  rw [← hp] at h1 h2
  have hst : sliceTo lb.buf lb.pos = .ok x := by rw [hb, hp]; exact sliceTo_mid x s
  have hsf : sliceFrom lb.buf lb.pos = .ok s := by rw [hb, hp]; exact sliceFrom_mid x s
  rcases hR with rfl | ⟨q, rfl⟩
  · -- the cursor is on the last line
    have hf : findChar '\n' s = none := by rw [hs]; exact vm_findChar_none (by simpa using hm)
    have hge : lineEndOf lb.buf lb.pos ≥ blen lb.buf := by rw [h2, hb, hs, hp]; simp
    refine Or.inl ⟨by simp [verticalDest, hge], ?_⟩
    unfold LB.moveToLineDown
    simp only [LM.bind_apply, LM.get, LM.lift, hsf, hf]
    rfl
  · have hf : findChar '\n' s = some (blen m) := by
      rw [hs, findChar_append_left _ hm]; simp [findChar]
    have hbuf : lb.buf = (x ++ m) ++ '\n' :: q := by rw [hb, hs]; simp
    have hxm : blen (x ++ m) = lb.pos + blen m := by rw [hp, blen_append]
    have hlt : lineEndOf lb.buf lb.pos < blen lb.buf := by
      rw [h2, hbuf, hp]; simp [utf8Size_newline]; omega
    have hcur : slice lb.buf (lineStartOf lb.buf lb.pos) lb.pos = .ok v := by
      have := slice_mid X v s
      rw [h1, hb, hp, hx]
      simpa using this
    have hs2 := vm_sliceFrom_below hbuf
    have hle2 := vm_lineEndOf_below hbuf
    -- the line below the cursor's, then `n - 1` more steps down; it is not the first line
    obtain ⟨l0, hL0⟩ := vm_line_below hbuf
    obtain ⟨ds, line, hld, hLd, hle⟩ := vm_ldLoop_eq lb.buf (n - 1) hL0
    rw [hxm] at hs2 hle2 hld hLd hle
    have hds0 : ds ≠ 0 := by omega
    rw [← h2, ← downEnd_succ lb.buf (n - 1) hlt] at hLd
    have hvd : verticalDest lb.buf lb.pos (n - 1 + 1) false =
        some (ds, downEnd lb.buf (n - 1 + 1) (lineEndOf lb.buf lb.pos)) := by
      simp [verticalDest, Nat.not_le.mpr hlt, hLd.start_end]
    have hde : downEnd lb.buf (n - 1) (lineEndOf lb.buf (lb.pos + blen m + 1)) =
        downEnd lb.buf (n - 1 + 1) (lineEndOf lb.buf lb.pos) := by
      rw [downEnd_succ lb.buf (n - 1) hlt, h2]
    rw [hde] at hld
    generalize downEnd lb.buf (n - 1 + 1) (lineEndOf lb.buf lb.pos) = de at hld hLd hvd
    have hc : displayCol U lb.buf lb.pos pc =
        U.width v + (if lineStartOf lb.buf lb.pos = 0 then pc else 0) := by
      simp [displayCol, hcur]
    obtain ⟨r, hcf, hpos⟩ := vm_colFind_land S U hLd
      (U.width v + (if lineStartOf lb.buf lb.pos = 0 then pc else 0))
    refine Or.inr ⟨ds, de, line, hvd, hLd, ?_⟩
    rw [if_neg hds0, Nat.sub_zero, hc, ← hpos]
    rw [vm_lineStartOf_eq hb hp] at hcur hcf
    rw [hle2] at hld
    have hlen : lb.len = blen lb.buf := rfl
    unfold LB.moveToLineDown
    simp only [LM.bind_apply, LM.get, LM.lift, hst, hsf, hf, hs2, hlen]
    cases hfx : rfindChar '\n' x <;> cases hfq : findChar '\n' q <;>
      (simp only [hfx, hfq] at hcur hld hcf
       simp only [hcur, hld, hLd.slice, hcf, beq_iff_eq]
       cases r <;> rfl)

end Rl
