/-
  `At::BeforeEnd` word targets (vi `e` / `E`) for a count of 1: the model's `next_word_pos` computes the
  declarative target.  (Counts > 1 are the known finding F-C04-vi-e-count.)
-/
import Rl.Lemmas.Motion
namespace Rl
open Rl.Spec

/-- offsets of the clusters `x` with `P x y` for adjacent clusters `x y` (`L`: the offset of the pair's LEFT
    cluster, where `pairOffs` gives that of the right one) -/
def pairOffsL (P : Text → Text → Bool) : List (Nat × Text) → List Nat
  | [] => []
  | [_] => []
  | (i, x) :: (j, y) :: r => if P x y then i :: pairOffsL P ((j, y) :: r) else pairOffsL P ((j, y) :: r)

/-- inner loop of `next_word_pos` for `At::BeforeEnd`, Vi / Big words: finds the first pair, answers the
    offset of its first cluster -/
theorem nwInner_beforeEnd (U : UData) (d : Word) (hd : d ≠ .emacs) (g : Nat × Text) (L : List (Nat × Text)) :
    match pairOffsL (isEndOfWord U d) (g :: L) with
    | [] => ∃ gi, LB.nwInner U .beforeEnd d g L = .out gi ∧ some gi = (g :: L).getLast?
    | i :: _ => ∃ gi rest, LB.nwInner U .beforeEnd d g L = .found i gi rest := by
  have hde : (d == Word.emacs) = false := by cases d <;> simp at hd ⊢
  induction L generalizing g with
  | nil => simp [pairOffsL, LB.nwInner]
  | cons h r ih =>
    obtain ⟨i, x⟩ := g
    obtain ⟨j, y⟩ := h
    by_cases hp : isEndOfWord U d x y = true
    · simp only [pairOffsL, hp, if_true]
      exact ⟨(i, x), r, by simp [LB.nwInner, hp, hde]⟩
    · have hp' : isEndOfWord U d x y = false := by simpa using hp
      have := ih (j, y)
      simp only [pairOffsL, hp', Bool.false_eq_true, if_false]
      cases hq : pairOffsL (isEndOfWord U d) ((j, y) :: r) with
      | nil =>
        rw [hq] at this
        simp only at this ⊢
        obtain ⟨gi, h1, h2⟩ := this
        exact ⟨gi, by simp [LB.nwInner, hp', h1], by rw [h2]; simp⟩
      | cons j' js =>
        rw [hq] at this
        simp only at this ⊢
        obtain ⟨gi, rest, h1⟩ := this
        exact ⟨gi, rest, by simp [LB.nwInner, hp', h1]⟩

theorem pairOffsL_gidxGo (P : Text → Text → Bool) (o k : Nat) (gs : List Text) :
    pairOffsL P (gidxGo o gs) = (pairIdx P k gs).map (fun j => o + offOf gs (j - k - 1)) := by
  induction gs generalizing o k with
  | nil => simp [pairIdx, gidxGo, pairOffsL]
  | cons x t ih =>
    cases t with
    | nil => simp [pairIdx, gidxGo, pairOffsL]
    | cons y r =>
      have hih := ih (o + blen x) (k + 1)
      have hmap : (pairIdx P (k + 1) (y :: r)).map (fun j => o + blen x + offOf (y :: r) (j - (k + 1) - 1)) =
          (pairIdx P (k + 1) (y :: r)).map (fun j => o + offOf (x :: y :: r) (j - k - 1)) := by
        apply List.map_congr_left
        intro j hj
        have := pairIdx_ge P (k + 1) (y :: r) j hj
        have he : j - k - 1 = (j - (k + 1) - 1) + 1 := by omega
        rw [he, offOf_cons_succ]; omega
      simp only [gidxGo] at hih ⊢
      simp only [pairOffsL, pairIdx]
      split
      · simp only [List.map_cons, hih, hmap]
        congr 1
        have : k + 1 - k - 1 = 0 := by omega
        rw [this]; simp [offOf]
      · rw [hih, hmap]

theorem pairIdx_filter_ge2 (P : Text → Text → Bool) (g0 : Text) (t : List Text) :
    (pairIdx P 0 (g0 :: t)).filter (· ≥ 2) = pairIdx P 1 t := by
  have hall : (pairIdx P 1 t).filter (· ≥ 2) = pairIdx P 1 t := by
    apply List.filter_eq_self.mpr
    intro j hj
    have := pairIdx_ge P 1 t j hj
    simp; omega
  cases t with
  | nil => simp [pairIdx]
  | cons y r =>
    simp only [pairIdx]
    split
    · simp only [Nat.zero_add]
      rw [List.filter_cons_of_neg (by simp), hall]
    · simpa using hall

/-- vi `e` / `E` with a count of 1: the model's `next_word_pos(pos, BeforeEnd, Vi|Big, 1)` is the declarative
    target — the start of the last cluster of the first word that ends at least one cluster after the cursor
    cluster; with no such word end, the start of the last cluster of the text; nowhere when the cursor is on
    the last cluster or at the end.

    Idea: the code drops the cluster under the cursor (`gidx.drop 1`) and answers the offset of the FIRST cluster
    of the first end-of-word pair (`pairOffsL`); the oracle numbers pairs by their second cluster over the whole
    suffix (`pairIdx`) and discards index 1.  `pairOffsL_gidxGo` turns the one into the other shifted by one
    cluster, `pairIdx_filter_ge2` accounts for the dropped pair. -/
theorem nextWordPos_beforeEnd_one (S : Segmenter) (U : UData) (lb : LB) (d : Word) (h : WF lb)
    (hd : d ≠ .emacs) :
    LB.nextWordPos S U lb lb.pos .beforeEnd d 1 =
      .ok (wordTargetFwd S U lb.buf lb.pos .beforeEnd d 1 true) := by
  obtain ⟨x, s, hb, hp, hsp, -, hsf⟩ := h.cut
  have hde : (d == Word.emacs) = false := by cases d <;> simp at hd ⊢
  unfold LB.nextWordPos LB.nextWordPosR wordTargetFwd splitAt?
  by_cases hs : s = []
  · have hlen : lb.pos = lb.len := by simp [LB.len, hb, hp, hs]
    have hsp' : splitAtByte lb.buf lb.len = some (x, []) := by rw [← hlen, ← hs]; exact hsp
    simp [hlen, hsp']
    rfl
  · have hne : (lb.pos == lb.len) = false := by
      have : lb.pos ≠ lb.len := by
        intro he; apply hs
        have : blen s = 0 := by simp [LB.len, hb, hp] at he; omega
        exact blen_eq_zero.mp this
      simpa using this
    have hgne : ∀ g ∈ S.seg s, g ≠ [] := S.ne_nil s
    have hse : s.isEmpty = false := by simpa using hs
    have e1 : (At.beforeEnd == At.beforeEnd) = true := by decide
    have e2 : (At.beforeEnd == At.afterEnd) = false := by decide
    cases hseg : S.seg s with
    | nil => exact absurd hseg (seg_ne_nil S hs)
    | cons g0 t =>
      have hg0 : 0 < blen g0 := blen_pos_of_ne_nil (hgne g0 (by rw [hseg]; simp))
      simp only [hne, hsf, hsp, bind, Except.bind, pure, Except.pure, hse, gidx, hseg, gidxGo, e1, e2, hde,
        if_true, List.head?_cons, List.drop_succ_cons, List.drop_zero, pairIdx_filter_ge2,
        Bool.false_eq_true, if_false, Bool.or_false, Bool.not_true]
      cases t with
      | nil => simp [LB.nwOuter, pairIdx, gidxGo]
      | cons g1 t' =>
        have hin := nwInner_beforeEnd U d hd (0 + blen g0, g1) (gidxGo (0 + blen g0 + blen g1) t')
        have hC := pairOffsL_gidxGo (isEndOfWord U d) (0 + blen g0) 1 (g1 :: t')
        simp only [gidxGo] at hC
        rw [hC] at hin
        cases hpi : pairIdx (isEndOfWord U d) 1 (g1 :: t') with
        | nil =>
          rw [hpi] at hin
          simp only [List.map_nil] at hin
          obtain ⟨gi, h1, h2⟩ := hin
          simp only [LB.nwOuter, h1, gidxGo]
          have hl := gidxGo_getLast? (0 + blen g0) (g1 :: t')
          simp only [gidxGo] at hl
          rw [hl] at h2
          cases hlast : (g1 :: t').getLast? with
          | none => simp at hlast
          | some gl =>
            rw [hlast] at h2
            simp only [Option.map_some, Option.some.injEq] at h2
            subst h2
            have hoff : offOf (g0 :: g1 :: t') (t'.length + 1) = blen g0 + offOf (g1 :: t') t'.length :=
              offOf_cons_succ _ _ _
            have hg0' : blen g0 ≠ 0 := by omega
            simp [hoff, hg0']
            omega
        | cons j js =>
          rw [hpi] at hin
          simp only [List.map_cons] at hin
          obtain ⟨gi, rest, h1⟩ := hin
          simp only [LB.nwOuter, h1, gidxGo]
          have hj : 2 ≤ j := pairIdx_ge _ 1 _ j (by rw [hpi]; simp)
          have he : j - 1 = (j - 1 - 1) + 1 := by omega
          have hoff : offOf (g0 :: g1 :: t') (j - 1) = blen g0 + offOf (g1 :: t') (j - 1 - 1) := by
            rw [he, offOf_cons_succ]; simp
          have hg0' : blen g0 ≠ 0 := by omega
          simp [hoff, hg0']
          omega

end Rl
