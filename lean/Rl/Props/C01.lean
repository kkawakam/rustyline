/-
  Property C01 — keystrokes produce the documented edit.
  Spec: `Rl/Spec/Doc.lean` (README tables as data + declarative meaning of every action),
  oracle `Rl/Spec/OracleDoc.lean` (run on the implementation's callbacks by `./check C01`).
  Model: `Rl/Editor.lean` (keymaps `emacs` / `viCommand` / `viInsert` / `viCmdMotion` / `common`,
  numeric arguments, `execute`).  Helper lemmas: `Rl/Lemmas/Keymap.lean`, `KeymapVi.lean`, `ArgKeys.lean`,
  `ExecRefines*.lean`.
-/
import Rl.Editor
import Rl.Spec.Doc
import Rl.Lemmas.Keymap
import Rl.Lemmas.KeymapVi
import Rl.Lemmas.ExecRefines
import Rl.Lemmas.ExecRefines2
import Rl.Lemmas.ExecRefines3
import Rl.Props.C07
import Rl.Lemmas.EditorFrame
import Rl.Lemmas.LineBuffer
import Rl.Lemmas.LineBufferSafe
import Rl.Lemmas.EditorM
import Rl.Lemmas.EditorOps
import Rl.Props.C03
import Rl.Lemmas.ArgKeys
open Rl Rl.Spec Rl.Spec.Doc

/-! ### C01_binding_table — every (key, action) of the README tables is what the keymap returns

  For every entry of the table of a mode whose action needs no further key, every state, every
  pending count `n` and direction `p`: the model's keymap function returns the `Cmd` that denotes
  the action resolved with the GNU count / direction conventions (`DocAction.resolve`,
  `Act.toCmd`), and leaves the text alone.  Entries that read more keys (operators, `f t F T r`,
  `C-v`, digit arguments) are covered by `C01_vi_operator_motion`, `C01_numeric_argument` and the
  correspondence; entries judged by other properties (`other`) denote no command here. -/

/-- Emacs mode, the mode's own table. -/
theorem C01_binding_table_emacs (S : Segmenter) (U : UData) (cfg : EdCfg) (hvi : cfg.vi = false)
    (hb : cfg.binds = []) (fuel : Nat) (s : Ed) (e : KeyEvent × DocAction) (he : e ∈ emacsTable) (cmd : Cmd)
    (hc : (e.2.resolve (countOf s.inp.numArgs).1 (countOf s.inp.numArgs).2 s.line.buf.isEmpty false).toCmd = some cmd)
    (hr : ¬ (e.1 = key .right ∧ s.hint.isSome = true ∧ s.line.pos = blen s.line.buf)) :
    ∃ s', emacs S U cfg fuel e.1 s = .ok (cmd, s') ∧ s'.line = s.line := by
  obtain ⟨s', h⟩ := emacs_yields S U cfg hb fuel e.1 s cmd (by rw [hvi]; exact emacsTable_pure e he _ _ _ _ cmd hc)
  exact ⟨s', h, (Ed.core_eq ((keeps_emacs S U cfg fuel e.1).ok h)).1⟩

/-- Emacs mode, the "For all modes" table (`Right` with a hint at the end of the line completes the hint instead). -/
theorem C01_binding_table_emacs_common (S : Segmenter) (U : UData) (cfg : EdCfg) (hvi : cfg.vi = false)
    (hb : cfg.binds = []) (fuel : Nat) (s : Ed) (e : KeyEvent × DocAction) (he : e ∈ commonTable) (cmd : Cmd)
    (hc : (e.2.resolve (countOf s.inp.numArgs).1 (countOf s.inp.numArgs).2 s.line.buf.isEmpty false).toCmd = some cmd)
    (hr : ¬ (e.1 = key .right ∧ s.hint.isSome = true ∧ s.line.pos = blen s.line.buf)) :
    ∃ s', emacs S U cfg fuel e.1 s = .ok (cmd, s') ∧ s'.line = s.line := by
  have hr' : e.1 = key .right → (s.hint.isSome && s.line.pos == blen s.line.buf) = false :=
    fun hk => Bool.eq_false_iff.2 fun h => hr ⟨hk, by simpa using h⟩
  obtain ⟨s', h⟩ := emacs_yields S U cfg hb fuel e.1 s cmd
    (by rw [hvi]; exact commonTable_emacsPure e he _ _ _ _ cmd hr' hc)
  exact ⟨s', h, (Ed.core_eq ((keeps_emacs S U cfg fuel e.1).ok h)).1⟩

/-- vi command mode: every entry of the mode's table and of the "For all modes" table that needs
    no further key, every state, every pending count `n` (vi counts are never negative): `viCommand`
    returns the `Cmd` denoting the documented action, the line is untouched. -/
theorem C01_binding_table_vi_command (S : Segmenter) (U : UData) (cfg : EdCfg) (hb : cfg.binds = [])
    (fuel : Nat) (s : Ed) (h0 : 0 ≤ s.inp.numArgs) (e : KeyEvent × DocAction) (he : e ∈ table .viCommand) (cmd : Cmd)
    (hc : (e.2.resolve (countOf s.inp.numArgs).1 true s.line.buf.isEmpty true).toCmd = some cmd) :
    ∃ s', viCommand S U cfg fuel e.1 s = .ok (cmd, s') ∧ s'.line = s.line := by
  obtain ⟨s', h⟩ := viCommand_yields S U cfg hb fuel e.1 s h0 cmd (viCommandTable_pure cfg.vi e he _ _ cmd hc)
  exact ⟨s', h, (Ed.coreNC_eq ((keeps_viCommand S U cfg fuel e.1).ok h)).1⟩

/-- vi insert mode (count 1, as `viInsert` hands to `common`): the mode's table and the "For all
    modes" table; `Right` with a hint at the end of the line completes the hint instead. -/
theorem C01_binding_table_vi_insert (S : Segmenter) (U : UData) (cfg : EdCfg) (hb : cfg.binds = [])
    (fuel : Nat) (s : Ed) (e : KeyEvent × DocAction) (he : e ∈ table .viInsert) (cmd : Cmd)
    (hc : (e.2.resolve 1 true s.line.buf.isEmpty true).toCmd = some cmd)
    (hr : ¬ (e.1 = key .right ∧ s.hint.isSome = true ∧ s.line.pos = blen s.line.buf)) :
    ∃ s', viInsert S U cfg fuel e.1 s = .ok (cmd, s') ∧ s'.line = s.line := by
  have hr' : e.1 = key .right → (s.hint.isSome && s.line.pos == blen s.line.buf) = false :=
    fun hk => Bool.eq_false_iff.2 fun h => hr ⟨hk, by simpa using h⟩
  obtain ⟨s', h⟩ := viInsert_yields S U cfg hb fuel e.1 s cmd (viInsertTable_pure cfg.vi e he _ _ _ cmd hr' hc)
  exact ⟨s', h, (Ed.coreNC_eq ((keeps_viInsert S U cfg fuel e.1).ok h)).1⟩

/-! ### C01_vi_operator_motion — `d` / `c` / `y` + [count] motion

  `docMotion` (Rl/Lemmas/KeymapVi.lean) is the documented movement of a `viMotionTable` entry:
  `operatorMovement` for the plain motions (`e`/`E` inclusive, `cw` = `ce`), the character search
  for `f t F T` + char, the remembered search for `;` `,`.  The count is the count typed before the
  operator (`n0`) times the count typed before the motion. -/

/-- every operator, every argument-free entry of the motion table, no count before the motion -/
theorem C01_vi_operator_motion (S : Segmenter) (U : UData) (cfg : EdCfg) (fuel : Nat) (op : KeyEvent)
    (hop : isOperatorKey op) (n0 : Nat) (s s1 : Ed) (e : KeyEvent × DocAction) (he : e ∈ viMotionTable)
    (hcs : ∀ k, e.2 ≠ .charSearch k) (hk : nextKey false s = .ok (e.1, s1)) :
    viCmdMotion S U cfg fuel op n0 s =
      .ok (docMotion e.2 n0 (op == plain 'c') s1.inp.lastCharSearch none, s1) := by
  obtain ⟨hne, hnc⟩ := viMotionTable_keys op hop e he
  exact viCmdMotion_reads S U cfg fuel op n0 s s1 s1 e.1 e.1 n0 hk hne
    (congrFun (startsCount_false hnc _ _) s1) _ (viMotionTable_pure e he hcs _ _ _)

/-- with a count `c₂` between operator and motion: count `min (c₂ · n0) 65535` -/
theorem C01_vi_operator_motion_counts (S : Segmenter) (U : UData) (cfg : EdCfg) (fuel : Nat) (op : KeyEvent)
    (hop : isOperatorKey op) (n0 : Nat) (s s1 s2 : Ed) (d : Char) (hd1 : '1' ≤ d) (hd9 : d ≤ '9')
    (e : KeyEvent × DocAction) (he : e ∈ viMotionTable) (hcs : ∀ k, e.2 ≠ .charSearch k)
    (hk : nextKey false s = .ok (⟨.char d, 0⟩, s1))
    (hdig : viArgDigit S U cfg fuel d s1 = .ok (e.1, s2)) (h0 : 0 ≤ s2.inp.numArgs) :
    viCmdMotion S U cfg fuel op n0 s =
      .ok (docMotion e.2 (min ((countOf s2.inp.numArgs).1 * n0) 65535) (op == plain 'c') s2.inp.lastCharSearch none,
           { s2 with inp := { s2.inp with numArgs := 0 } }) := by
  have hne : ((⟨.char d, 0⟩ : KeyEvent) == op) = false := by
    rcases hop with rfl | rfl | rfl <;> refine beq_eq_false_iff_ne.2 fun h => ?_ <;> cases h <;> revert hd9 <;> decide
  refine viCmdMotion_reads S U cfg fuel op n0 s s1 _ _ e.1 _ hk hne ?_ _ (viMotionTable_pure e he hcs _ _ _)
  dsimp only
  rw [if_pos (by simp only [hd1, hd9, beq_self_eq_true, decide_true, Bool.and_self])]
  exact (EM.bind_ok hdig).trans ((EM.bind_ok (viNumArgs_eq s2 h0)).trans rfl)

/-- `f t F T` + a plain character as the motion: the documented search, which is also remembered -/
theorem C01_vi_operator_char_search (S : Segmenter) (U : UData) (cfg : EdCfg) (fuel : Nat) (op : KeyEvent)
    (hop : isOperatorKey op) (n0 : Nat) (s s1 s2 : Ed) (k : KeyEvent) (kind ch : Char)
    (he : (k, DocAction.charSearch kind) ∈ viMotionTable)
    (hk : nextKey false s = .ok (k, s1)) (hk2 : nextKey false s1 = .ok (⟨.char ch, 0⟩, s2)) :
    viCmdMotion S U cfg fuel op n0 s =
      .ok (docMotion (.charSearch kind) n0 (op == plain 'c') s1.inp.lastCharSearch (some ch),
           { s2 with inp := { s2.inp with lastCharSearch := some (charSearchOf kind ch) } }) := by
  obtain ⟨hne, _⟩ := viMotionTable_keys op hop _ he
  unfold viCmdMotion
  refine (EM.bind_ok hk).trans ?_
  dsimp only
  rw [hne, if_neg Bool.false_ne_true]
  simp only [viMotionTable, List.mem_cons, Prod.mk.injEq, DocAction.charSearch.injEq, reduceCtorEq, and_false,
    false_or, or_false, List.not_mem_nil] at he
  rcases he with ⟨rfl, rfl⟩ | ⟨rfl, rfl⟩ | ⟨rfl, rfl⟩ | ⟨rfl, rfl⟩ <;>
    exact (EM.bind_ok (b := (_, n0)) (s1 := s1) rfl).trans ((EM.bind_ok (viCharSearch_plain _ ch s1 s2 hk2)).trans rfl)

/-- the operator key typed twice (`dd` `cc` `yy`) is the whole line -/
theorem C01_vi_operator_doubled (S : Segmenter) (U : UData) (cfg : EdCfg) (fuel : Nat) (op : KeyEvent)
    (n0 : Nat) (s s1 : Ed) (hk : nextKey false s = .ok (op, s1)) :
    viCmdMotion S U cfg fuel op n0 s = .ok (some .wholeLine, s1) := by
  unfold viCmdMotion
  refine (EM.bind_ok hk).trans ?_
  dsimp only
  rw [if_pos (beq_self_eq_true op)]
  rfl

/-- Spec: a typed argument of at most four digits has its decimal value (`src/keymap.rs`,
    `emacs_digit_argument` / `vi_arg_digit`: a digit is taken only while the value is `< 1000`,
    "shouldn't ever need more than 4 digits"). -/
theorem C01_arg_value_four_digits (a b c d : Nat) (ha : a < 10) (hb : b < 10) (hc : c < 10) (hd : d < 10) :
    argValue [a, b, c, d] = 1000 * a + 100 * b + 10 * c + d := by
  have h0 : a < 1000 := by omega
  have h1 : 10 * a + b < 1000 := by omega
  have h2 : 10 * (10 * a + b) + c < 1000 := by omega
  simp [argValue, h0, h1, h2]
  omega

/-- Spec: digits after the fourth significant one are ignored. -/
theorem C01_arg_value_saturates (ds : List Nat) (v : Nat) (hv : 1000 ≤ v) :
    ds.foldl (fun v d => if v < 1000 then 10 * v + d else v) v = v := by
  induction ds with
  | nil => rfl
  | cons d ds ih => simp only [List.foldl_cons]; rw [if_neg (by omega)]; exact ih

/-- Model: typing `M-[-]d₁…d_k` and then a command gives the command the signed decimal value
    (first four significant digits) as count and direction — the count `emacsNumArgs` hands to the
    keymap equals the documented `emacsArg`.  `negative` = the argument was started with `M--`;
    the loop of `emacs_digit_argument` keeps `num_args = argOf negative (fold of digitAccum)`. -/
theorem C01_numeric_argument (negative : Bool) (ds : List Nat) (s : Ed) (n : Nat) (p : Bool)
    (hdoc : emacsArg negative ds = some (n, p))
    (hs : s.inp.numArgs = argOf negative (ds.foldl digitAccum none)) :
    emacsNumArgs s = .ok ((n, p), { s with inp := { s.inp with numArgs := 0 } }) := by
  rw [emacsNumArgs_eq]
  congr 2
  rw [hs]
  cases ds with
  | nil =>
    cases negative <;> simp [emacsArg] at hdoc
    obtain ⟨rfl, rfl⟩ := hdoc
    simp [argOf, countOf]
  | cons d ds =>
    rw [foldl_digitAccum_none]
    simp only [emacsArg, List.isEmpty_cons, Bool.false_eq_true, if_false] at hdoc
    by_cases hv : argValue (d :: ds) = 0
    · simp [hv] at hdoc
    · cases negative
      · simp [hv] at hdoc
        obtain ⟨rfl, rfl⟩ := hdoc
        simp only [argOf, countOf]
        have h1 : ((argValue (d :: ds) : Nat) : Int) ≠ 0 := by omega
        have h2 : ¬ ((argValue (d :: ds) : Nat) : Int) < 0 := by omega
        simp [h2, hv]
      · simp [hv] at hdoc
        obtain ⟨rfl, rfl⟩ := hdoc
        simp only [argOf, countOf]
        have h1 : (-((argValue (d :: ds) : Nat) : Int)) ≠ 0 := by omega
        have h2 : (-((argValue (d :: ds) : Nat) : Int)) < 0 := by omega
        simp [h1, hv]

/-- the numeric argument on concrete keys: `M-- 1 2` is −12, `M-- 2 1` is −21, `M--` alone is −1,
    a fifth digit is ignored. -/
theorem C01_numeric_argument_minus_12 :
    argOf true ([1, 2].foldl digitAccum none) = -12 ∧ argOf true ([2, 1].foldl digitAccum none) = -21
      ∧ argOf true ([].foldl digitAccum none) = -1 ∧ argOf false ([1, 2, 3, 4, 5].foldl digitAccum none) = 1234 := by
  decide

/-- The statement without a condition on the helper: `execute (SelfInsert 1 c)` on a growable buffer with the cursor on a
    boundary inserts `c` exactly once at the cursor, puts the cursor just after it, and proceeds.
    It quantifies over every helper, including a hinter that panics when it is asked for the hint of
    the new text (`cfg.hinterPanicAt`, the scripted panic of property C17): for that helper the read
    ends with the panic outcome, so the statement in this form is FALSE (counter-example below); the
    theorem is `C01_self_insert_once` with the hinter's panic excluded. -/
def C01_self_insert_once_statement : Prop :=
  ∀ (S : Segmenter) (U : UData) (cfg : EdCfg) (c : Char) (s : Ed) (x z : Text),
    s.line.buf = x ++ z → s.line.pos = blen x → s.line.canGrow = true →
    ∃ s', execute S U cfg (.selfInsert 1 c) s = .ok (.proceed, s') ∧
      s'.line.buf = x ++ [c] ++ z ∧ s'.line.pos = blen x + c.utf8Size

/-- **A printable character is inserted exactly once at the cursor**, with or without a helper
    (hinter, highlighter, fast path or full refresh): the only excluded case is a hinter scripted to
    panic.  The new text is the old one with `c` at the cursor, the cursor is just after it, and the
    command proceeds (no submit, no exit). -/
theorem C01_self_insert_once (S : Segmenter) (U : UData) (cfg : EdCfg)
    (hh : cfg.hasHelper = false ∨ cfg.hinterPanicAt = none)
    (c : Char) (s : Ed) (x z : Text)
    (hb : s.line.buf = x ++ z) (hp : s.line.pos = blen x) (hg : s.line.canGrow = true) :
    ∃ s', execute S U cfg (.selfInsert 1 c) s = .ok (.proceed, s') ∧
      s'.line.buf = x ++ [c] ++ z ∧ s'.line.pos = blen x + c.utf8Size := by
  have hx : execute S U cfg (.selfInsert 1 c) = (do pure (); editInsert S U cfg c 1; pure .proceed) := rfl
  have hins := insert_eval S U c 1 s.line
  have hmt : s.line.mustTruncate (s.line.len + c.utf8Size * 1) = false := by simp [LB.mustTruncate, hg]
  rw [hmt, hb, hp, splitAtByte_append] at hins
  simp only [Bool.false_eq_true, if_false] at hins
  rw [hx]
  have hw : wp (do pure (); editInsert S U cfg c 1; pure Status.proceed : EM Status)
      (fun st s' => st = .proceed ∧ s'.line.buf = x ++ [c] ++ z ∧ s'.line.pos = blen x + c.utf8Size)
      (fun _ _ => False) s := by
    simp only [wp_bind, wp_pure]
    refine wp_mono (editInsert_spec S U cfg c 1 s) ?_ ?_
    · intro _ s' ⟨r, l, ns, hi, hc⟩
      rw [hins] at hi
      cases hi
      obtain ⟨hl, _⟩ := Ed.core_eq hc
      rw [hl]
      simp
    · intro o s' ⟨_, hd⟩
      rcases hd with ⟨_, e, he⟩ | ⟨h1, h2⟩
      · rw [hins] at he; cases he
      · rcases hh with hh | hh
        · rw [hh] at h1; cases h1
        · exact h2 hh
  obtain ⟨st, s', h1, h2, h3⟩ := returns_iff_wp.mpr hw
  subst h2
  exact ⟨s', h1, h3⟩

/-- the special case without a helper -/
theorem C01_self_insert_once_partial (S : Segmenter) (U : UData) (cfg : EdCfg) (hh : cfg.hasHelper = false)
    (c : Char) (s : Ed) (x z : Text)
    (hb : s.line.buf = x ++ z) (hp : s.line.pos = blen x) (hg : s.line.canGrow = true) :
    ∃ s', execute S U cfg (.selfInsert 1 c) s = .ok (.proceed, s') ∧
      s'.line.buf = x ++ [c] ++ z ∧ s'.line.pos = blen x + c.utf8Size :=
  C01_self_insert_once S U cfg (.inl hh) c s x z hb hp hg

/-- the helper of the counter-example: installed, its hinter panics at the first call -/
def C01_cexU : UData :=
  { alnum := fun _ => true, ws := fun _ => false, upper := fun c => [c], lower := fun c => [c],
    width := fun t => t.length, cwidth := fun _ => 1 }
def C01_cexCfg : EdCfg := { vi := false, hasHelper := true, hinterPanicAt := some 1 }
def C01_cexEd : Ed := initEd C01_cexCfg (KillRing.new 60) { buf := [], avail := [], future := [] }

/-- The unrestricted statement is false: with a hinter that panics, typing `a` on the empty line
    does not return (the model exits with the panic outcome — what `catch_unwind` shows in the
    harness for `ed17` requests with a panicking helper). -/
theorem C01_self_insert_once_counterexample : ¬ C01_self_insert_once_statement := by
  intro h
  obtain ⟨s', hs, _⟩ := h charSeg C01_cexU C01_cexCfg 'a' C01_cexEd [] [] rfl rfl rfl
  have hk : (execute charSeg C01_cexU C01_cexCfg (.selfInsert 1 'a') C01_cexEd).isOk = false := by rfl
  rw [hs] at hk
  cases hk

/-- Statement: no `Move` command changes the text, for every movement, every state, whether the
    command returns or exits. -/
def C01_motion_pure_statement : Prop :=
  ∀ (S : Segmenter) (U : UData) (cfg : EdCfg) (m : Movement), TextPure (execute S U cfg (.move m))

/-- `execute (Move m)` never changes the text (lifted from the `PosOnly` lemmas behind
    `C03_motion_copy_pure`; `^` is two chained motions with a branch on the first character). -/
theorem C01_motion_pure : C01_motion_pure_statement := by
  intro S U cfg m
  have em {op : LM Bool} (h : PosOnly op) : TextPure (do editMove S U cfg op; pure Status.proceed : EM Status) :=
    TextPure.bind (TextPure.editMove S U cfg h) (fun _ => TextPure.pure _)
  cases m
  case wholeLine => exact TextPure.pure _
  case wholeBuffer => exact TextPure.pure _
  case beginningOfLine => exact em (PosOnly.moveHome S U)
  case endOfLine => exact em (PosOnly.moveEnd S U)
  case backwardWord n w => exact em (PosOnly.moveToPrevWord S U w n)
  case forwardWord n a w => exact em (PosOnly.moveToNextWord S U a w n)
  case viCharSearch n cs => exact em (PosOnly.moveTo S U cs n)
  case backwardChar n => exact em (PosOnly.moveBackward S U n)
  case forwardChar n => exact em (PosOnly.moveForward S U n)
  case beginningOfBuffer => exact em (PosOnly.moveBufferStart S U)
  case endOfBuffer => exact em (PosOnly.moveBufferEnd S U)
  case lineUp n =>
    exact TextPure.bind TextPure.getPromptCol (fun pc => em (PosOnly.moveToLineUp S U n pc))
  case lineDown n =>
    exact TextPure.bind TextPure.getPromptCol (fun pc => em (PosOnly.moveToLineDown S U n pc))
  case viFirstPrint => exact em (PosOnly.moveToFirstPrint S U)

/-- in particular: a step that returns keeps the text -/
theorem C01_motion_pure_ok (S : Segmenter) (U : UData) (cfg : EdCfg) (m : Movement)
    (s s' : Ed) (st : Status)
    (h : execute S U cfg (.move m) s = .ok (st, s')) : s'.line.buf = s.line.buf := by
  have := C01_motion_pure S U cfg m s
  rw [h] at this
  exact this

/-- `Interrupt` ends the read with the interrupted outcome, whatever the state. -/
theorem C01_outcome_interrupt (S : Segmenter) (U : UData) (cfg : EdCfg) (s : Ed) :
    ∃ s', execute S U cfg .interrupt s = .error (.interrupted, s') ∧ s'.line = s.line := by
  have hx : execute S U cfg .interrupt = (do pure (); logRender (fun _ => .moveToEnd); EM.exit .interrupted) := rfl
  rw [hx]
  simp [EM.bind_apply, logRender, EM.modify, EM.exit]

/-- **Step level** (one command, any state): `Interrupt` exits with the interrupted outcome;
    `EndOfFile` on the empty line exits with end-of-file; Enter (`AcceptOrInsertLine`) on a text the
    validator accepts — or with no helper installed (`verdictOf`) — submits; in all three the line is
    the one the command found. -/
theorem C01_outcome_step (S : Segmenter) (U : UData) (cfg : EdCfg) (s : Ed) :
    wp (execute S U cfg .interrupt) (fun _ _ => False) (fun o s' => o = .interrupted ∧ s'.line = s.line) s ∧
    (s.line.buf = [] →
      wp (execute S U cfg .endOfFile) (fun _ _ => False) (fun o s' => o = .eof ∧ s'.line = s.line) s) ∧
    (∀ m, verdictOf cfg s.line.buf = .valid m →
      wp (execute S U cfg (.acceptOrInsertLine true)) (fun st s' => st = .submit ∧ s'.line = s.line) (fun _ _ => False) s) := by
  refine ⟨?_, ?_, ?_⟩
  · have hx : execute S U cfg .interrupt = (do logRender (fun _ => .moveToEnd); EM.exit .interrupted) := rfl
    rw [hx]
    simp only [wp_bind, wp_logRender, wp_exit]
    constructor <;> first | rfl | trivial
  · intro he
    rw [execute_endOfFile]
    refine wp_withPreAccept S U cfg fun s1 hc => ?_
    obtain ⟨hl, _⟩ := Ed.core_eq hc
    simp only [wp_bind, wp_lineEmpty, hl, he, List.isEmpty_nil, if_true, wp_exit]
    constructor <;> first | exact hl | rfl | trivial
  · intro m hv
    rw [execute_acceptOrInsertLine]
    refine wp_withPreAccept S U cfg fun s1 hc => ?_
    obtain ⟨hl, _⟩ := Ed.core_eq hc
    have hv1 : verdictOf cfg s1.line.buf = .valid m := by rw [hl]; exact hv
    have hact : acceptActOf U cfg true s1 = .submit := by
      simp [acceptActOf, hv1, Verdict.isValid, acceptDecision]
    refine wp_mono (execAccept_spec S U cfg true s1) ?_ ?_
    · intro st s2 ⟨_, _, _, _, _, h⟩
      rw [hact] at h
      exact ⟨h.1, h.2.trans hl⟩
    · intro o s2 h
      rcases h with ⟨_, h | h | h⟩ | h
      · have := h.2.2; simp [verdictOf, h.2.1] at hv1; rw [this] at hv1; cases hv1
      · have := h.2.2; simp [verdictOf, h.2.1] at hv1; rw [this] at hv1; cases hv1
      · rw [hact] at h; exact absurd h.2.2.1 (by simp)
      · rw [hact] at h; exact absurd h.2.2.2 (by simp)

/-- **Loop level**: whatever key sequence made the keymap hand the main loop `Interrupt`,
    `EndOfFile` (empty line) or Enter's `AcceptOrInsertLine` (text accepted by the validator, or no
    helper), that iteration ends the read with the interrupted / end-of-file outcome, resp. returns
    from the loop, and the line is exactly the one the `Event::Any` handler was shown for that key
    (`s1`, the state after the keymap).  `C01_outcome_readline` then gives the value of the read. -/
def C01_outcome_statement : Prop :=
  ∀ (S : Segmenter) (U : UData) (cfg : EdCfg) (fuel : Nat) (s s1 : Ed) (cmd : Cmd),
    nextCmd S U cfg (fuel + 1) false false s = .ok (cmd, s1) →
    (cmd = .interrupt → ∃ s', mainLoop S U cfg (fuel + 2) s = .error (.interrupted, s') ∧ s'.line = s1.line) ∧
    (cmd = .endOfFile → s1.line.buf = [] →
      ∃ s', mainLoop S U cfg (fuel + 2) s = .error (.eof, s') ∧ s'.line = s1.line) ∧
    (cmd = .acceptOrInsertLine true → (∃ m, verdictOf cfg s1.line.buf = .valid m) →
      ∃ s', mainLoop S U cfg (fuel + 2) s = .ok ((), s') ∧ s'.line = s1.line)

theorem C01_outcome : C01_outcome_statement := by
  intro S U cfg fuel s s1 cmd hnext
  -- the iteration runs `execute cmd` from `s1` with the kill ring reset
  have step : cmd = .interrupt ∨ cmd = .endOfFile ∨ cmd = .acceptOrInsertLine true →
      mainLoop S U cfg (fuel + 2) s =
        (do match ← execute S U cfg cmd with
            | .proceed => mainLoop S U cfg (fuel + 1)
            | .submit => pure ()) { s1 with ring := s1.ring.reset } := by
    rintro (rfl | rfl | rfl) <;>
      exact mainLoop_step S U cfg fuel s s1 _ hnext (by simp) (by simp) (by simp) (by simp)
  have hs := C01_outcome_step S U cfg { s1 with ring := s1.ring.reset }
  refine ⟨?_, ?_, ?_⟩
  · rintro rfl
    obtain ⟨o, s', he, rfl, h2⟩ := exits_of_wp hs.1
    exact ⟨s', by rw [step (.inl rfl), EM.bind_apply, he], h2⟩
  · rintro rfl hem
    obtain ⟨o, s', he, rfl, h2⟩ := exits_of_wp (hs.2.1 hem)
    exact ⟨s', by rw [step (.inr (.inl rfl)), EM.bind_apply, he], h2⟩
  · rintro rfl ⟨m, hv⟩
    obtain ⟨st, s', he, rfl, h2⟩ := returns_iff_wp.mpr (hs.2.2 m hv)
    exact ⟨s', by rw [step (.inr (.inr rfl)), EM.bind_apply, he]; rfl, h2⟩

/-- **Key level, emacs mode**: a key press that decodes to an entry of the "For all modes" table
    documented as C-c / C-d / Enter (C-j, C-m) ends the read as documented — interrupted; end of file
    when the line is empty; returned from the loop when the validator accepts the text (or no helper
    is installed) — and the line is the one in place when the key was read.  (Table theorem +
    `C01_outcome`.) -/
theorem C01_outcome_emacs_keys (S : Segmenter) (U : UData) (cfg : EdCfg) (hvi : cfg.vi = false) (hb : cfg.binds = [])
    (fuel : Nat) (s s0 : Ed) (e : KeyEvent × DocAction) (he : e ∈ commonTable)
    (hk : nextKey false s = .ok (e.1, s0)) :
    (e.2 = .interrupt → ∃ s', mainLoop S U cfg (fuel + 2) s = .error (.interrupted, s') ∧ s'.line = s0.line) ∧
    (e.2 = .deleteOrEof → s0.line.buf = [] →
      ∃ s', mainLoop S U cfg (fuel + 2) s = .error (.eof, s') ∧ s'.line = s0.line) ∧
    (e.2 = .accept → (∃ m, verdictOf cfg s0.line.buf = .valid m) →
      ∃ s', mainLoop S U cfg (fuel + 2) s = .ok ((), s') ∧ s'.line = s0.line) := by
  have hnr : ∀ a, e.2 = a → a ≠ .move .charRight → ¬ (e.1 = key .right ∧ s0.hint.isSome = true ∧ s0.line.pos = blen s0.line.buf) :=
    fun a ha hne h => hne (ha ▸ commonTable_right e he h.1)
  have tbl := fun cmd hc hr => C01_binding_table_emacs_common S U cfg hvi hb (fuel + 1) s0 e he cmd hc hr
  refine ⟨?_, ?_, ?_⟩
  · intro ha
    obtain ⟨s1, h1, h2⟩ := tbl .interrupt (by rw [ha]; rfl) (hnr _ ha (by simp))
    have hn := nextCmd_emacs S U cfg hvi (fuel + 1) s s0 s1 _ _ hk h1 (by simp)
    obtain ⟨s', h3, h4⟩ := (C01_outcome S U cfg fuel s s1 _ hn).1 rfl
    exact ⟨s', h3, h4.trans h2⟩
  · intro ha hem
    obtain ⟨s1, h1, h2⟩ := tbl .endOfFile (by rw [ha]; simp [DocAction.resolve, hem, Doc.Act.toCmd]) (hnr _ ha (by simp))
    have hn := nextCmd_emacs S U cfg hvi (fuel + 1) s s0 s1 _ _ hk h1 (by simp)
    obtain ⟨s', h3, h4⟩ := (C01_outcome S U cfg fuel s s1 _ hn).2.1 rfl (by rw [h2]; exact hem)
    exact ⟨s', h3, h4.trans h2⟩
  · intro ha hv
    obtain ⟨s1, h1, h2⟩ := tbl (.acceptOrInsertLine true) (by rw [ha]; rfl) (hnr _ ha (by simp))
    have hn := nextCmd_emacs S U cfg hvi (fuel + 1) s s0 s1 _ _ hk h1 (by simp)
    obtain ⟨s', h3, h4⟩ := (C01_outcome S U cfg fuel s s1 _ hn).2.2 rfl (by rw [h2]; exact hv)
    exact ⟨s', h3, h4.trans h2⟩

/-- **Key level, vi modes**: the same from vi insert / replace mode and from vi command mode (the
    mode is the one in force when the key has been read). -/
theorem C01_outcome_vi_keys (S : Segmenter) (U : UData) (cfg : EdCfg) (hvi : cfg.vi = true) (hb : cfg.binds = [])
    (fuel : Nat) (s s0 : Ed) (e : KeyEvent × DocAction)
    (hk : nextKey false s = .ok (e.1, s0))
    (hmode : (s0.inp.inputMode ≠ .command ∧ e ∈ table .viInsert) ∨
             (s0.inp.inputMode = .command ∧ e ∈ table .viCommand ∧ 0 ≤ s0.inp.numArgs)) :
    (e.2 = .interrupt → ∃ s', mainLoop S U cfg (fuel + 2) s = .error (.interrupted, s') ∧ s'.line = s0.line) ∧
    (e.2 = .deleteOrEof → s0.line.buf = [] →
      ∃ s', mainLoop S U cfg (fuel + 2) s = .error (.eof, s') ∧ s'.line = s0.line) ∧
    (e.2 = .accept → (∃ m, verdictOf cfg s0.line.buf = .valid m) →
      ∃ s', mainLoop S U cfg (fuel + 2) s = .ok ((), s') ∧ s'.line = s0.line) := by
  -- the keymap step, for either mode
  have step : ∀ cmd, (∀ n, (e.2.resolve n true s0.line.buf.isEmpty true).toCmd = some cmd) → (∀ m t, cmd ≠ .replace m t) →
      e.2 ≠ .move .charRight →
      ∃ s1, nextCmd S U cfg (fuel + 1) false false s = .ok (cmd, s1) ∧ s1.line = s0.line := by
    intro cmd hc hnr hne
    rcases hmode with ⟨hm, he⟩ | ⟨hm, he, h0⟩
    · obtain ⟨s1, h1, h2⟩ := C01_binding_table_vi_insert S U cfg hb (fuel + 1) s0 e he cmd (hc 1)
        (fun h => hne (viInsertTable_right e he h.1))
      exact ⟨s1, nextCmd_vi_insert S U cfg hvi (fuel + 1) s s0 s1 _ _ hk hm h1 hnr, h2⟩
    · obtain ⟨s1, h1, h2⟩ := C01_binding_table_vi_command S U cfg hb (fuel + 1) s0 h0 e he cmd (hc _)
      exact ⟨s1, nextCmd_vi_command S U cfg hvi (fuel + 1) s s0 s1 _ _ hk hm h1 hnr, h2⟩
  refine ⟨?_, ?_, ?_⟩
  · intro ha
    obtain ⟨s1, hn, h2⟩ := step .interrupt (fun n => by rw [ha]; rfl) (by simp) (by rw [ha]; simp)
    obtain ⟨s', h3, h4⟩ := (C01_outcome S U cfg fuel s s1 _ hn).1 rfl
    exact ⟨s', h3, h4.trans h2⟩
  · intro ha hem
    obtain ⟨s1, hn, h2⟩ := step .endOfFile (fun n => by rw [ha]; simp [DocAction.resolve, hem, Doc.Act.toCmd]) (by simp)
      (by rw [ha]; simp)
    obtain ⟨s', h3, h4⟩ := (C01_outcome S U cfg fuel s s1 _ hn).2.1 rfl (by rw [h2]; exact hem)
    exact ⟨s', h3, h4.trans h2⟩
  · intro ha hv
    obtain ⟨s1, hn, h2⟩ := step (.acceptOrInsertLine true) (fun n => by rw [ha]; rfl) (by simp) (by rw [ha]; simp)
    obtain ⟨s', h3, h4⟩ := (C01_outcome S U cfg fuel s s1 _ hn).2.2 rfl (by rw [h2]; exact hv)
    exact ⟨s', h3, h4.trans h2⟩

/-- helper: the final `edit_move_buffer_end` of a read returns and keeps the text -/
theorem C01_editMove_bufferEnd (S : Segmenter) (U : UData) (cfg : EdCfg) (s : Ed) (h : WF s.line) :
    ∃ s', editMove S U cfg (LB.moveBufferEnd S U) s = .ok ((), s') ∧ s'.line.buf = s.line.buf := by
  obtain ⟨r, lb', h1, _, h3⟩ := C03_moveBufferEnd_total_wf S U s.line h
  unfold editMove
  rw [EM.bind_apply, lbQuiet_ok h1]
  cases r with
  | false => exact ⟨_, rfl, h3⟩
  | true =>
    obtain ⟨s', h4, h5⟩ := moveCursor_returns S U cfg { s with line := lb' }
    refine ⟨s', by simpa using h4, ?_⟩
    have := (Ed.core_eq h5).1
    rw [this]; exact h3

/-- **The value of the read**: when the main loop returns (a submit) in state `s'`, `readline`
    returns exactly the text of `s'` (the final move to the buffer end does not change it). -/
theorem C01_outcome_readline (S : Segmenter) (U : UData) (cfg : EdCfg) (ring : KillRing) (left right : Text) (inp : Input) (s' : Ed)
    (h : (do if !(left.isEmpty && right.isEmpty) then lb S U (LB.update S U (left ++ right) (blen left))
             refreshLine S U cfg
             mainLoop S U cfg (inp.size + 2) : EM Unit) (initEd cfg ring inp) = .ok ((), s'))
    (hwf : WF s'.line) : (readline S U cfg ring left right inp).1 = .line s'.line.buf := by
  obtain ⟨s'', h1, h2⟩ := C01_editMove_bufferEnd S U cfg s' hwf
  rw [readline_eq, EM.bind_apply, h]
  simp only [h1, h2]

/-- emacs mode: a key with a `Simple` binding (and not the start of a numeric argument) yields
    exactly the bound command — a repeatable one with the pending count in place of its own
    (`Cmd::redo`) — whatever the tables say about the key; the `Event::Any` handler is not called
    and only the pending argument is consumed. -/
theorem C01_custom_binding_emacs (S : Segmenter) (U : UData) (cfg : EdCfg) (fuel : Nat) (k : KeyEvent) (ks : List KeyEvent) (c : Cmd)
    (hfind : cfg.binds.find? (fun b => b.1 == [k]) = some (ks, c))
    (hk : ∀ d, k = ⟨.char d, 4⟩ → ¬ (d = '-' ∨ isDigit d = true)) (s : Ed) :
    emacs S U cfg fuel k s =
      (if c.isRepeatable then redoCmd c (some (countOf s.inp.numArgs).1) else pure c)
        { s with inp := { s.inp with numArgs := 0 } } := by
  have hk' : startsArg k = false := by
    obtain ⟨code, mods⟩ := k
    cases code <;> try rfl
    case char d =>
      by_cases hm : mods = 4
      · have := hk d (by rw [hm])
        simpa [startsArg] using fun _ => this
      · simp [startsArg, Mods.alt, hm]
  unfold emacs
  exact (congrFun (emacs_noArg hk' _ _) s).trans
    ((EM.bind_ok (emacsNumArgs_eq s)).trans ((EM.bind_ok (customBinding_bound cfg hfind _ _ _)).trans rfl))

/-- vi command mode: the same; the bound command keeps its own count when no count was typed -/
theorem C01_custom_binding_vi_command (S : Segmenter) (U : UData) (cfg : EdCfg) (fuel : Nat) (k : KeyEvent) (ks : List KeyEvent) (c : Cmd)
    (hfind : cfg.binds.find? (fun b => b.1 == [k]) = some (ks, c))
    (hk : ∀ d, k = ⟨.char d, 0⟩ → ¬ ('1' ≤ d ∧ d ≤ '9')) (s : Ed) (h0 : 0 ≤ s.inp.numArgs) :
    viCommand S U cfg fuel k s =
      (if c.isRepeatable then redoCmd c (if s.inp.numArgs = 0 then none else some (countOf s.inp.numArgs).1) else pure c)
        { s with inp := { s.inp with numArgs := 0 } } := by
  have hk' : startsCount k = false := by
    obtain ⟨code, mods⟩ := k
    cases code <;> try rfl
    case char d =>
      by_cases hm : mods = 0
      · have := hk d (by rw [hm])
        simpa [startsCount, hm] using this
      · simp [startsCount, hm]
  unfold viCommand
  refine (congrFun (vi_noCount hk' _ _) s).trans ((EM.bind_ok rfl).trans ((EM.bind_ok (viNumArgs_eq s h0)).trans
    ((EM.bind_ok (customBinding_bound cfg hfind _ _ _)).trans ?_)))
  show (if c.isRepeatable = true then redoCmd c (if (s.inp.numArgs == 0) = true then none else some _) else pure c) _ = _
  simp only [beq_iff_eq]

/-- vi insert / replace mode: the bound command as it is -/
theorem C01_custom_binding_vi_insert (S : Segmenter) (U : UData) (cfg : EdCfg) (fuel : Nat) (k : KeyEvent) (ks : List KeyEvent) (c : Cmd)
    (hfind : cfg.binds.find? (fun b => b.1 == [k]) = some (ks, c)) (s : Ed) :
    viInsert S U cfg fuel k s = (if c.isRepeatable then redoCmd c none else pure c) s := by
  unfold viInsert
  exact (EM.bind_ok (customBinding_bound cfg hfind _ _ _)).trans rfl

/-- what "runs the bound command" evaluates to: a non-repeatable command is returned as it is; a
    `Move` / `Kill` gets the typed count (`Movement::redo`) -/
theorem C01_custom_binding_runs (c : Cmd) (new : Option Nat) (s : Ed) :
    (c.isRepeatable = false → (if c.isRepeatable then redoCmd c new else pure c) s = .ok (c, s)) ∧
    (∀ m, c = .move m → (if c.isRepeatable then redoCmd c new else pure c) s = .ok (.move (m.redo new), s)) ∧
    (∀ m, c = .kill m → (if c.isRepeatable then redoCmd c new else pure c) s = .ok (.kill (m.redo new), s)) := by
  refine ⟨fun h => by simp [h], ?_, ?_⟩
  · rintro m rfl
    simp [Cmd.isRepeatable, redoCmd, lastInsert, EM.bind_apply, EM.liftP, Cmd.redo]
  · rintro m rfl
    simp [Cmd.isRepeatable, Cmd.isRepeatableChange, redoCmd, lastInsert, EM.bind_apply, EM.liftP, Cmd.redo]

/-- two-key sequences (`custom_seq_binding`): after a key that starts a bound sequence the second key
    is read; a bound pair yields its command, a key that completes nothing yields no command (no
    panic) and both keys are consumed -/
theorem C01_custom_seq_binding (cfg : EdCfg) (fuel : Nat) (k1 k2 : KeyEvent) (n : Nat) (p : Bool) (s s1 : Ed)
    (hd : hasDescendant cfg [k1] = true) (hk : nextKey true s = .ok (k2, s1)) :
    (∀ ks c, cfg.binds.find? (fun b => b.1 == [k1, k2]) = some (ks, c) →
      customSeqBinding cfg (fuel + 1) [k1] n p s = .ok ((some c, [k1, k2]), s1)) ∧
    (cfg.binds.find? (fun b => b.1 == [k1, k2]) = none → hasDescendant cfg [k1, k2] = false →
      customSeqBinding cfg (fuel + 2) [k1] n p s = .ok ((none, [k1, k2]), s1)) := by
  constructor
  · intro ks c hf
    simp [customSeqBinding, hd, EM.bind_apply, hk, hf]
  · intro hf hnd
    simp [customSeqBinding, hd, EM.bind_apply, hk, hf, hnd]

/-- … and for an otherwise unbound first key (the `common` fall-back) the bound command is what the
    keymap returns; a pair that completes nothing is `Unknown` -/
theorem C01_custom_seq_binding_fallback (cfg : EdCfg) (fuel : Nat) (k1 k2 : KeyEvent) (n : Nat) (p : Bool) (s s1 : Ed)
    (hd : hasDescendant cfg [k1] = true) (hk : nextKey true s = .ok (k2, s1)) :
    (∀ ks c, cfg.binds.find? (fun b => b.1 == [k1, k2]) = some (ks, c) →
      common.fallback cfg (fuel + 1) [k1] n p s = .ok (c, s1)) ∧
    (cfg.binds.find? (fun b => b.1 == [k1, k2]) = none → hasDescendant cfg [k1, k2] = false →
      common.fallback cfg (fuel + 2) [k1] n p s = .ok (.unknown, s1)) := by
  obtain ⟨h1, h2⟩ := C01_custom_seq_binding cfg fuel k1 k2 n p s s1 hd hk
  constructor
  · intro ks c hf
    simp [common.fallback, EM.bind_apply, h1 ks c hf]
  · intro hf hnd
    simp [common.fallback, EM.bind_apply, h2 hf hnd]

/-! ### C01_execute_refines — executing the denoted command has the documented effect

  `Want.holds w l`: the text and cursor components `Act.apply` judges are those of the line `l`
  (`holdsText`: the text component).  All theorems are `wp` statements with the exit condition
  `False`: from the stated hypotheses the command returns.  Lemmas: Rl/Lemmas/ExecRefines.lean
  (on top of C03's totality and C04's target / span theorems). -/

/-- **Motions**: every movement (`^` included) except the `BeforeEnd` word targets (known
    finding F-C04-vi-e-count): the text is untouched and the cursor is on the
    documented target, or stays where the documentation has no target. -/
theorem C01_execute_refines_move (S : Segmenter) (U : UData) (cfg : EdCfg) (hS : S.Stable) (mode : Mode)
    (m : Movement) (s : Ed) (hwf : WF s.line) (hbe : ∀ n w, m ≠ .forwardWord n .beforeEnd w) :
    wp (execute S U cfg (.move m)) (Refined S U (.move m) mode s) (fun _ _ => False) s :=
  execute_move_refines S U cfg hS mode m s hwf hbe

/-- **Kills** (incl. the character deletes C-d, C-h, `x`, `X`), every movement: exactly the
    documented span is removed and the cursor is at its start; with nothing to kill, text and cursor
    are unchanged (`kill_nothing_keeps_cursor`: for every movement a kill that leaves the text alone
    leaves the cursor alone). -/
theorem C01_execute_refines_kill (S : Segmenter) (U : UData) (cfg : EdCfg) (hS : S.Stable) (hnl : S.NlAlone)
    (hnp : cfg.hinterPanicAt = none) (mode : Mode) (m : Movement) (s : Ed) (hwf : WF s.line) (hr : RingOK s.ring) :
    wp (execute S U cfg (.kill m)) (Refined S U (.kill m) mode s) (fun _ _ => False) s :=
  execute_kill_refines S U cfg hS hnl hnp mode m s hwf hr

/-- **Change** (vi `c`+motion, `s`, `S`, `C`): the same removal. -/
theorem C01_execute_refines_change (S : Segmenter) (U : UData) (cfg : EdCfg) (hS : S.Stable) (hnl : S.NlAlone)
    (hnp : cfg.hinterPanicAt = none) (mode : Mode) (m : Movement) (s : Ed) (hwf : WF s.line) (hr : RingOK s.ring) :
    wp (execute S U cfg (.replace m none)) (Refined S U (.change m) mode s) (fun _ _ => False) s :=
  execute_change_refines S U cfg hS hnl hnp mode m s hwf hr

/-- **Yank over a movement** (vi `y`+motion): the line is not touched. -/
theorem C01_execute_refines_yank (S : Segmenter) (U : UData) (cfg : EdCfg) (mode : Mode) (m : Movement) (s : Ed)
    (hwf : WF s.line) (hr : RingOK s.ring) :
    wp (execute S U cfg (.viYankTo m))
      (fun st s' => st = .proceed ∧ s'.line = s.line ∧
        ((Act.yankOnly m).apply S U mode s.line.buf s.line.pos).holds s'.line) (fun _ _ => False) s :=
  execute_yank_refines S U cfg mode m s hwf hr

/-- **Self-insert with a count**: `n` copies at the cursor, the cursor after them. -/
theorem C01_execute_refines_insert (S : Segmenter) (U : UData) (cfg : EdCfg) (hnp : cfg.hinterPanicAt = none)
    (mode : Mode) (n : Nat) (c : Char) (s : Ed) (hwf : WF s.line) (hg : s.line.canGrow = true) :
    wp (execute S U cfg (.selfInsert n c)) (Refined S U (.insert n c) mode s) (fun _ _ => False) s :=
  execute_insert_refines S U cfg hnp mode n c s hwf hg

/-- **vi `r`** with a count: in the situations `Act.apply` judges (`JudgedReplace`: `n ≥ 1` clusters
    to replace, `n ≤ 65535`, and one cluster back from the end of the inserted copies is the start of
    the last copy) the `n` clusters are replaced by `n` copies and the cursor is on the last one. -/
theorem C01_execute_refines_replace_char (S : Segmenter) (U : UData) (cfg : EdCfg) (hS : S.Stable)
    (hnp : cfg.hinterPanicAt = none) (mode : Mode) (n : Nat) (c : Char) (s : Ed) (hwf : WF s.line)
    (hg : s.line.canGrow = true) (hj : JudgedReplace S s.line.buf s.line.pos n c) :
    wp (execute S U cfg (.replaceChar n c)) (Refined S U (.replaceChar n c) mode s) (fun _ _ => False) s :=
  execute_replaceChar_refines S U cfg hS hnp mode n c s hg hj

/-- **M-u / M-l / M-c**: `edit_word` is `editWordWant` — the first alphanumeric run at or after the
    cursor is case-mapped (capitalize: first cluster upper, rest lower), the cursor ends after the
    replacement; without a word nothing changes.  Stable segmenter; no further side condition. -/
theorem C01_execute_refines_case (S : Segmenter) (U : UData) (cfg : EdCfg) (hS : S.Stable)
    (hnp : cfg.hinterPanicAt = none) (mode : Mode) (a : WordAction) (s : Ed) (hwf : WF s.line) :
    wp (execute S U cfg (wordCmd a)) (Refined S U (.editWord a) mode s) (fun _ _ => False) s :=
  execute_case_refines S U cfg hS hnp mode a s hwf

/-- **C-t** in the situations of `JudgedTranspose` (nothing to transpose; or the cursor strictly
    inside the text between clusters `g1 | g2`, and `g1` still a cluster when the text after `g2`
    follows it directly): the clusters are exchanged, the cursor ends after the pair. -/
theorem C01_execute_refines_transpose (S : Segmenter) (U : UData) (cfg : EdCfg)
    (hnp : cfg.hinterPanicAt = none) (mode : Mode) (s : Ed) (hwf : WF s.line) (hg : s.line.canGrow = true)
    (hj : JudgedTranspose S s.line.buf s.line.pos) :
    wp (execute S U cfg .transposeChars) (Refined S U .transposeChars mode s) (fun _ _ => False) s :=
  execute_transpose_refines S U cfg hnp mode s hg hj

/-- **Summary over `Act`** (`CoveredFull`: insert, move, kill, change, yank, case changes, C-t and vi `r`
    where judged, the vi mode switches, no-op): executing `a.toCmd` returns with status `proceed` and the line (text and
    cursor, unconditionally) `Act.apply` documents. -/
theorem C01_execute_refines (S : Segmenter) (U : UData) (cfg : EdCfg) (hS : S.Stable) (hnl : S.NlAlone)
    (hnp : cfg.hinterPanicAt = none) (mode : Mode) (a : Act) (c : Cmd) (hc : a.toCmd = some c)
    (s : Ed) (hcov : CoveredFull S a s.line.buf s.line.pos) (hwf : WF s.line) (hg : s.line.canGrow = true)
    (hr : RingOK s.ring) :
    wp (execute S U cfg c) (RefinedAct S U a mode s) (fun _ _ => False) s :=
  execute_refines_full S U cfg hS hnl hnp mode a c hc s hcov hwf hg hr

/-- emacs mode: a key of the README tables, the pending count and direction: reading it through the
    keymap and executing the result has the effect `Act.apply` documents for the resolved action. -/
theorem C01_key_to_effect_emacs (S : Segmenter) (U : UData) (cfg : EdCfg) (hvi : cfg.vi = false)
    (hb : cfg.binds = []) (hS : S.Stable) (hnl : S.NlAlone) (hnp : cfg.hinterPanicAt = none)
    (fuel : Nat) (s : Ed) (hwf : WF s.line) (hg : s.line.canGrow = true) (hrg : RingOK s.ring)
    (e : KeyEvent × DocAction) (he : e ∈ table .emacs) (a : Act) (c : Cmd)
    (ha : a = e.2.resolve (countOf s.inp.numArgs).1 (countOf s.inp.numArgs).2 s.line.buf.isEmpty false)
    (hc : a.toCmd = some c) (hcov : CoveredFull S a s.line.buf s.line.pos)
    (hr : ¬ (e.1 = key .right ∧ s.hint.isSome = true ∧ s.line.pos = blen s.line.buf)) :
    wp (do let cmd ← emacs S U cfg fuel e.1; execute S U cfg cmd) (RefinedAct S U a .emacs s) (fun _ _ => False) s := by
  subst ha
  simp only [table, List.mem_append] at he
  obtain ⟨s1, h1, h2⟩ : ∃ s', emacs S U cfg fuel e.1 s = .ok (c, s') ∧ s'.line = s.line := by
    rcases he with he | he
    · exact C01_binding_table_emacs S U cfg hvi hb fuel s e he c hc hr
    · exact C01_binding_table_emacs_common S U cfg hvi hb fuel s e he c hc hr
  have hk := (Ed.core_eq ((keeps_emacs S U cfg fuel e.1).ok h1)).2.2.2.1
  exact key_to_effect_full S U cfg hS hnl hnp .emacs _ c hc s s1 hcov hwf hg hrg h1 h2 hk

theorem C01_key_to_effect_vi_command (S : Segmenter) (U : UData) (cfg : EdCfg)
    (hb : cfg.binds = []) (hS : S.Stable) (hnl : S.NlAlone) (hnp : cfg.hinterPanicAt = none)
    (fuel : Nat) (s : Ed) (h0 : 0 ≤ s.inp.numArgs) (hwf : WF s.line) (hg : s.line.canGrow = true) (hrg : RingOK s.ring)
    (e : KeyEvent × DocAction) (he : e ∈ table .viCommand) (a : Act) (c : Cmd)
    (ha : a = e.2.resolve (countOf s.inp.numArgs).1 true s.line.buf.isEmpty true)
    (hc : a.toCmd = some c) (hcov : CoveredFull S a s.line.buf s.line.pos) :
    wp (do let cmd ← viCommand S U cfg fuel e.1; execute S U cfg cmd) (RefinedAct S U a .viCommand s) (fun _ _ => False) s := by
  subst ha
  obtain ⟨s1, h1, h2⟩ := C01_binding_table_vi_command S U cfg hb fuel s h0 e he c hc
  have hk := (Ed.coreNC_eq ((keeps_viCommand S U cfg fuel e.1).ok h1)).2.2.1
  exact key_to_effect_full S U cfg hS hnl hnp .viCommand _ c hc s s1 hcov hwf hg hrg h1 h2 hk

theorem C01_key_to_effect_vi_insert (S : Segmenter) (U : UData) (cfg : EdCfg)
    (hb : cfg.binds = []) (hS : S.Stable) (hnl : S.NlAlone) (hnp : cfg.hinterPanicAt = none)
    (fuel : Nat) (s : Ed) (hwf : WF s.line) (hg : s.line.canGrow = true) (hrg : RingOK s.ring)
    (e : KeyEvent × DocAction) (he : e ∈ table .viInsert) (a : Act) (c : Cmd)
    (ha : a = e.2.resolve 1 true s.line.buf.isEmpty true)
    (hc : a.toCmd = some c) (hcov : CoveredFull S a s.line.buf s.line.pos)
    (hr : ¬ (e.1 = key .right ∧ s.hint.isSome = true ∧ s.line.pos = blen s.line.buf)) :
    wp (do let cmd ← viInsert S U cfg fuel e.1; execute S U cfg cmd) (RefinedAct S U a .viInsert s) (fun _ _ => False) s := by
  subst ha
  obtain ⟨s1, h1, h2⟩ := C01_binding_table_vi_insert S U cfg hb fuel s e he c hc hr
  have hk := (Ed.coreNC_eq ((keeps_viInsert S U cfg fuel e.1).ok h1)).2.2.1
  exact key_to_effect_full S U cfg hS hnl hnp .viInsert _ c hc s s1 hcov hwf hg hrg h1 h2 hk

/-- the history keys of emacs mode and the commands they denote -/
def C01_histKeysEmacs : List (KeyEvent × Cmd) :=
  [(ctrl 'P', .previousHistory), (ctrl 'N', .nextHistory), (altk '<', .beginningOfHistory), (altk '>', .endOfHistory),
   (key .up, .lineUpOrPreviousHistory 1), (key .down, .lineDownOrNextHistory 1)]

/-- emacs mode: the history keys denote the history commands (the README tables list them as
    judged by C07), the state untouched -/
theorem C01_history_keys_denote (S : Segmenter) (U : UData) (cfg : EdCfg) (hvi : cfg.vi = false) (hb : cfg.binds = [])
    (fuel : Nat) (s : Ed) (e : KeyEvent × Cmd) (he : e ∈ C01_histKeysEmacs) :
    ∃ s', emacs S U cfg fuel e.1 s = .ok (e.2, s') ∧ s'.core = s.core := by
  have hp : ∀ n p empty hint, emacsPure cfg.vi e.1 n p empty hint = some e.2 := by
    simp only [C01_histKeysEmacs, List.mem_cons, List.not_mem_nil, or_false] at he
    rcases he with rfl | rfl | rfl | rfl | rfl | rfl <;> exact fun _ _ _ _ => rfl
  obtain ⟨s', h⟩ := emacs_yields S U cfg hb fuel e.1 s e.2 (hp _ _ _ _)
  exact ⟨s', h, (keeps_emacs S U cfg fuel e.1).ok h⟩

/-- **C-p / C-n / M-< / M->** from the key to the effect C07 proves: previous / next / first / last
    entry of the store (`navPrevS` …), the in-progress line saved and restored as C07 states -/
theorem C01_history_keys (S : Segmenter) (U : UData) (cfg : EdCfg) (hvi : cfg.vi = false) (hb : cfg.binds = [])
    (hnp : cfg.hinterPanicAt = none) (hst : StoreOK (storeOf cfg)) (fuel : Nat) (s : Ed) (hnav : NavOK cfg s) :
    (∃ s', (do let cmd ← emacs S U cfg fuel (ctrl 'P'); execute S U cfg cmd) s = .ok (.proceed, s') ∧
        navOf s' = navPrevS (storeOf cfg) (navOf s) ∧ NavOK cfg s') ∧
    (∃ s', (do let cmd ← emacs S U cfg fuel (ctrl 'N'); execute S U cfg cmd) s = .ok (.proceed, s') ∧
        navOf s' = navNextS (storeOf cfg) (navOf s) ∧ NavOK cfg s') ∧
    (∃ s', (do let cmd ← emacs S U cfg fuel (altk '<'); execute S U cfg cmd) s = .ok (.proceed, s') ∧
        navOf s' = navFirstS (storeOf cfg) (navOf s) ∧ NavOK cfg s') ∧
    (∃ s', (do let cmd ← emacs S U cfg fuel (altk '>'); execute S U cfg cmd) s = .ok (.proceed, s') ∧
        navOf s' = navLastS (storeOf cfg) (navOf s) ∧ NavOK cfg s') := by
  -- a history key `k` denoting `cmd`, whose `execute` is the history operation `m` that C07 speaks of
  have run : ∀ (k : KeyEvent) (cmd : Cmd) (m : EM Unit) (nav' : Nav → Nav), (k, cmd) ∈ C01_histKeysEmacs →
      execute S U cfg cmd = (do m; pure .proceed) →
      (∀ s1, NavOK cfg s1 → ∃ s', m s1 = .ok ((), s') ∧ navOf s' = nav' (navOf s1) ∧ NavOK cfg s') →
      ∃ s', (do let cmd ← emacs S U cfg fuel k; execute S U cfg cmd) s = .ok (.proceed, s') ∧
        navOf s' = nav' (navOf s) ∧ NavOK cfg s' := by
    intro k cmd m nav' he hx hm
    obtain ⟨s1, h1, hc⟩ := C01_history_keys_denote S U cfg hvi hb fuel s _ he
    obtain ⟨s', h2, h3, h4⟩ := hm s1 (C07_navOK_core hc hnav)
    refine ⟨s', ?_, by rw [h3, C07_navOf_core hc], h4⟩
    simp only [EM.bind_apply, h1, hx, h2]; rfl
  exact ⟨run _ .previousHistory _ _ (by simp [C01_histKeysEmacs]) rfl (C07_prev_refines_store S U cfg hnp hst),
    run _ .nextHistory _ _ (by simp [C01_histKeysEmacs]) rfl (C07_next_refines_store S U cfg hnp hst),
    run _ .beginningOfHistory _ _ (by simp [C01_histKeysEmacs]) rfl (C07_first_refines_store S U cfg hnp hst),
    run _ .endOfHistory _ _ (by simp [C01_histKeysEmacs]) rfl (C07_last_refines_store S U cfg hnp)⟩

/-- the vi tables do denote commands: `x` is `Kill(ForwardChar n)`, `C` is `Replace(EndOfLine)`,
    `dw`'s span is the start of the n-th next word, `cw` is `ce`, `de` includes the end -/
example : ((lookup (table .viCommand) (plain 'x')).map (fun a => (a.resolve 3 true false true).toCmd)) =
      some (some (.kill (.forwardChar 3)))
    ∧ ((lookup (table .viCommand) (plain 'C')).map (fun a => (a.resolve 1 true false true).toCmd)) =
      some (some (.replace .endOfLine none))
    ∧ docMotion (.move (.wordRight .start .vi)) 6 false none none = some (.forwardWord 6 .start .vi)
    ∧ docMotion (.move (.wordRight .start .vi)) 6 true none none = some (.forwardWord 6 .afterEnd .vi)
    ∧ docMotion (.move (.wordRight .beforeEnd .big)) 2 false none none = some (.forwardWord 2 .afterEnd .big) := by
  decide

/-- the refinement theorems are not vacuous: `M-DEL` on `ab cd|` is documented to leave `ab |`, `M-f`
    from the start goes to 2; the action is covered (charSeg is stable
    and keeps the line break alone: `charSeg_stable`, `charSeg_nlAlone`) -/
example : ((Act.kill (.backwardWord 1 .emacs)).apply charSeg C04_exU .emacs "ab cd".toList 5).text = some "ab ".toList
    ∧ ((Act.kill (.backwardWord 1 .emacs)).apply charSeg C04_exU .emacs "ab cd".toList 5).pos = some 3
    ∧ ((Act.move (.forwardWord 1 .afterEnd .emacs)).apply charSeg C04_exU .emacs "ab cd".toList 0).pos = some 2
    ∧ Covered (Act.kill (.backwardWord 1 .emacs)) := by
  exact ⟨by decide, by decide, by decide, by simp [Covered]⟩

/-- **A numeric argument typed key by key, any number of digits** (emacs mode).  After `M-d0` (`d0` a
    digit or `-`), keys that decode to the digits `ds` and a key `k` that is neither a digit nor `-`, the
    keymap behaves exactly as if `k` alone had been pressed in a state that differs from the start only in
    display fields, has consumed the input up to and including `k`, and holds as pending count / direction
    the documented value `emacsArg` of the number typed (first four significant digits; `M--` alone is −1).
    `C01_numeric_argument` assumed the pending argument; here it is derived from the keys.  `hnp`: the
    argument prompt refreshes the line at every digit, which asks the hinter. -/
theorem C01_numeric_argument_keys (S : Segmenter) (U : UData) (cfg : EdCfg) (hnp : cfg.hinterPanicAt = none)
    (fuel : Nat) (d0 : Char) (hd0 : (d0 == '-' || isDigit d0) = true) (s : Ed) (ds : List Nat) (k : KeyEvent)
    (i' : Input) (hr : ReadsArg s.input ds k i') (hf : ds.length < fuel) (n : Nat) (p : Bool)
    (hdoc : emacsArg (d0 == '-') (argDigits d0 ds) = some (n, p)) :
    ∃ s1, s1.core = s.core ∧ s1.input = i' ∧ countOf s1.inp.numArgs = (n, p) ∧
      s1.inp = { s.inp with numArgs := s1.inp.numArgs } ∧
      emacs S U cfg fuel ⟨.char d0, Mods.alt⟩ s = emacs S U cfg fuel k s1 := by
  obtain ⟨s1, h1, h2, h3, h4⟩ := emacs_arg_keys S U cfg hnp fuel d0 hd0 s ds k i' hr hf
  refine ⟨s1, h1, h2, ?_, ?_, h4⟩
  · have ha := C01_numeric_argument (d0 == '-') (argDigits d0 ds) s1 n p hdoc (by rw [h3])
    rw [emacsNumArgs_eq] at ha
    injection ha with ha
    exact (Prod.mk.inj ha).1
  · rw [h3]

/-- non-vacuity: the bytes `2 3 x` decode to the digits 2, 3 and then the key `x`; after `M-1` the
    documented argument is +123 -/
example : ReadsArg { buf := [], avail := [50, 51, 120], future := [] } [2, 3] ⟨.char 'x', 0⟩
      { buf := [], avail := [], future := [] } ∧ emacsArg ('1' == '-') (argDigits '1' [2, 3]) = some (123, true) :=
  ⟨.digit (k := ⟨.char '2', 0⟩) (i1 := { buf := [51, 120], avail := [], future := [] }) (by rfl) (by rfl)
    (.digit (k := ⟨.char '3', 0⟩) (i1 := { buf := [120], avail := [], future := [] }) (by rfl) (by rfl)
      (.done (by rfl) (by rfl))), by decide⟩

/-- helper: no row of the emacs table is bound to Right (the key that, with a hint shown, completes it
    instead of moving) -/
theorem C01_emacsTable_no_right (e : KeyEvent × DocAction) (he : e ∈ emacsTable) : e.1 ≠ key .right :=
  (by decide : ∀ e ∈ emacsTable, e.1 ≠ key .right) e he

/-- **`M-[-]d₀ d₁ … dₙ` followed by a key of the emacs binding table yields the documented command
    with the typed count and direction**, for every digit sequence: the README action of the key,
    resolved (`DocAction.resolve`) with the count `n` and direction `p` the digits denote
    (`emacsArg`), is the command the keymap hands to the main loop, and the text is untouched.
    (Composition of `C01_numeric_argument_keys` with `C01_binding_table_emacs`; no custom bindings,
    no scripted hinter panic.) -/
theorem C01_numeric_argument_keys_table (S : Segmenter) (U : UData) (cfg : EdCfg) (hvi : cfg.vi = false)
    (hb : cfg.binds = []) (hnp : cfg.hinterPanicAt = none)
    (fuel : Nat) (d0 : Char) (hd0 : (d0 == '-' || isDigit d0) = true) (s : Ed) (ds : List Nat)
    (e : KeyEvent × DocAction) (he : e ∈ emacsTable)
    (i' : Input) (hr : ReadsArg s.input ds e.1 i') (hf : ds.length < fuel) (n : Nat) (p : Bool)
    (hdoc : emacsArg (d0 == '-') (argDigits d0 ds) = some (n, p)) (cmd : Cmd)
    (hc : (e.2.resolve n p s.line.buf.isEmpty false).toCmd = some cmd) :
    ∃ s', emacs S U cfg fuel ⟨.char d0, Mods.alt⟩ s = .ok (cmd, s') ∧ s'.line = s.line := by
  obtain ⟨s1, h1, h2, h3, _, h5⟩ := C01_numeric_argument_keys S U cfg hnp fuel d0 hd0 s ds e.1 i' hr hf n p hdoc
  have hl := (Ed.core_eq h1).1
  obtain ⟨s', h6, h7⟩ := C01_binding_table_emacs S U cfg hvi hb fuel s1 e he cmd (by rw [h3, hl]; exact hc)
    (fun h => C01_emacsTable_no_right e he h.1)
  exact ⟨s', h5.trans h6, h7.trans hl⟩

/-- **The value of the read, EOF / interrupt side**: when the edit loop of a read ends early with
    an outcome `o` (for `C-c`: `interrupted`, for `C-d` on the empty line: `eof` — `C01_outcome`,
    `C01_outcome_emacs_keys`, `C01_outcome_vi_keys` give exactly these exits of `mainLoop`), then
    `readline` returns that outcome and no line, whatever keys came before and whatever the text
    was.  Companion of `C01_outcome_readline` (the Enter side); no hypothesis besides the exit. -/
theorem C01_outcome_readline_exit (S : Segmenter) (U : UData) (cfg : EdCfg) (ring : KillRing) (left right : Text)
    (inp : Input) (o : Rl.Outcome) (s' : Ed)
    (h : (do if !(left.isEmpty && right.isEmpty) then lb S U (LB.update S U (left ++ right) (blen left))
             refreshLine S U cfg
             mainLoop S U cfg (inp.size + 2) : EM Unit) (initEd cfg ring inp) = .error (o, s')) :
    (readline S U cfg ring left right inp).1 = o := by
  rw [readline_eq, EM.bind_apply, h]

/-- non-vacuity of `C01_numeric_argument_keys_table`: `C-f` is an entry of the emacs table and ends
    an argument; `M-1 2 3 C-f` is documented as "forward 123 characters", `M-- 1 2 C-f` as "backward
    12 characters" -/
example : (ctrl 'F', DocAction.move .charRight) ∈ emacsTable
    ∧ ((DocAction.move .charRight).resolve 123 true false false).toCmd = some (.move (.forwardChar 123))
    ∧ ((DocAction.move .charRight).resolve 12 false false false).toCmd = some (.move (.backwardChar 12))
    ∧ isArgKey (ctrl 'F') = false ∧ emacsArg ('-' == '-') (argDigits '-' [1, 2]) = some (12, false) := by
  refine ⟨by simp [emacsTable], by decide, by decide, by decide, by decide⟩
