/-
  C02 — what the terminal shows is the prompt, the line and the cursor (DESIGN.md "### C02").

  Model: `Rl/Layout.lean` (cell arithmetic), `Rl/Render.lean` (emitted text), `Rl/Term.lean` (terminal).
  Spec: `Rl/Spec/Screen.lean` (`Shows`: the screen equals the from-scratch rendering, the cursor is on
  the insertion point, no wrap pending).

  Everything holds for every lawful segmenter, every width table and every terminal width ≥ 2, over texts made
  of the graphemes the property quantifies over (`PlainG`: a line break, or a printable base character followed by
  zero-width characters, the cluster as wide as its base; no TAB / ESC / control characters).  The invariant the
  screen theorems preserve is `C02_Synced` (terminal vocabulary only).  The statements in the vocabulary of
  `calculate_position` (`C02_…_statement`) are **false as written** — they say nothing about how the old text is
  segmented, and `calculate_position` is only right on clusters whose width is the width of their base character;
  the log of the history statement may carry a callback state that was never rendered — each is kept with a
  refutation (`…_statement_false`) and proved with the missing hypotheses (`C02_full_refresh_consistent`,
  `C02_move_cursor_consistent`, `C02_fast_path_shows`, `C02_final_full`, `C02_history`).
-/
import Rl.Layout
import Rl.Term
import Rl.Render
import Rl.Spec.Screen
import Rl.Lemmas.Layout
import Rl.Lemmas.Term
import Rl.Lemmas.Render
import Rl.Lemmas.RenderGhost
import Rl.Lemmas.RenderLogTop
import Rl.Lemmas.RenderLogExec
import Rl.Lemmas.RenderLogBd
import Rl.Lemmas.RenderLogBdTop
import Rl.Lemmas.PopUndoWF
import Rl.Lemmas.RenderLogAlpha
import Rl.Lemmas.AlphaLM
import Rl.Lemmas.CharSearch
import Rl.Lemmas.DirectGap
import Rl.Lemmas.EditorNextRet
import Rl.Lemmas.LBFaithful
import Rl.Lemmas.RenderLogReturn
import Rl.Lemmas.ReturnNoHint
open Rl Rl.Spec

/-- **`calculate_position` is where printing ends.**  If the loop state `p` and the terminal cursor agree
    (`col = cols` ⇔ wrap pending), they agree again after `s` has been computed / printed. -/
theorem C02_position_is_print (S : Segmenter) (R : RCfg) (hc : 2 ≤ R.cols) (s : Text) (p : Pos) (t : Term)
    (hs : C02_Plain S R s) (h : Tracks R p t) :
    Tracks R (calculatePosition S R s p) (t.feed R.cw s) :=
  tracks_calc S R hc s p t hs h

/-- the escape-sequence skipper is idle after a text of the quantified kind -/
theorem C02_skipper_idle (S : Segmenter) (R : RCfg) (hc : 2 ≤ R.cols) (s : Text) (p : Pos)
    (hs : C02_Plain S R s) (hp : p.col ≤ R.cols) :
    (posLoop R (S.seg s) (p, 0)).2 = 0 := by
  -- any terminal that tracks `p` will do as a witness
  by_cases h : p.col < R.cols
  · exact (tracks_loop hc _ hs (t := { cols := R.cols, cr := p.row, cc := p.col })
      ⟨rfl, rfl, rfl, Or.inl ⟨h, rfl, rfl⟩⟩).1
  · exact (tracks_loop hc _ hs (t := { cols := R.cols, cr := p.row, cc := R.cols - 1, pending := true })
      ⟨rfl, rfl, rfl, Or.inr ⟨by omega, rfl, rfl⟩⟩).1

/-- **Layouts add up**: the position of a concatenation is the position of the second part computed from
    the position of the first (segmentation splitting at the cut, skipper idle at the cut). -/
theorem C02_layout_additive (S : Segmenter) (R : RCfg) (a b : Text) (orig : Pos)
    (hseg : S.seg (a ++ b) = S.seg a ++ S.seg b)
    (hesc : (posLoop R (S.seg a) (orig, 0)).2 = 0) :
    calculatePosition S R (a ++ b) orig = calculatePosition S R b (calculatePosition S R a orig) := by
  unfold calculatePosition posLoop at *
  rw [hseg, List.foldl_append]
  have : List.foldl (posStep R) (orig, 0) (S.seg a) = ((List.foldl (posStep R) (orig, 0) (S.seg a)).1, 0) :=
    Prod.ext rfl hesc
  rw [this]

theorem C02_layout_additive_plain (S : Segmenter) (R : RCfg) (hc : 2 ≤ R.cols) (a b : Text) (orig : Pos)
    (hseg : S.seg (a ++ b) = S.seg a ++ S.seg b) (ha : C02_Plain S R a) (ho : orig.col ≤ R.cols) :
    calculatePosition S R (a ++ b) orig = calculatePosition S R b (calculatePosition S R a orig) :=
  C02_layout_additive S R a b orig hseg (C02_skipper_idle S R hc a orig ha ho)

theorem C02_blank_tracks (R : RCfg) (hc : 2 ≤ R.cols) : Tracks R {} (Term.blank R.cols) :=
  Rl.blank_tracks R hc

/-- **The believed cursor is the spec's insertion point**: the cell where `refresh_line` / `move_cursor`
    put the cursor (`on_screen` of the computed position) is where a terminal stands after printing the
    text from the origin, a pending wrap counted as column 0 of the next row. -/
theorem C02_cursor_is_insertion_point (S : Segmenter) (R : RCfg) (hc : 2 ≤ R.cols) (text : Text)
    (hs : C02_Plain S R text) :
    insertionPoint R.cw R.cols text =
      ((onScreen R (calculatePosition S R text {})).row, (onScreen R (calculatePosition S R text {})).col) :=
  tracks_insertionPoint (tracks_calc S R hc text {} _ hs (Rl.blank_tracks R hc))

/-- **The renderer's own newline is written exactly when the terminal has a wrap pending** after
    `prompt ++ line ++ hint` (the guard `new_layout.end.col >= cols` of `refresh_line`). -/
theorem C02_wrap_pending_iff (S : Segmenter) (R : RCfg) (hc : 2 ≤ R.cols) (text : Text)
    (hs : C02_Plain S R text) :
    ((Term.blank R.cols).feed R.cw text).pending = true ↔ (calculatePosition S R text {}).col ≥ R.cols := by
  obtain ⟨_, _, _, ⟨h1, _, h3⟩ | ⟨h1, _, h3⟩⟩ := tracks_calc S R hc text {} _ hs (Rl.blank_tracks R hc)
  · exact iff_of_false (by rw [h3]; exact Bool.false_ne_true) (Nat.not_le_of_lt h1)
  · exact iff_of_true h3 (Nat.le_of_eq h1.symm)

/-- **Fast path of `edit_insert`, cursor part**: under its guard, writing the one character moves the
    terminal cursor to the believed cursor `col + width`, and no wrap is pending afterwards. -/
theorem C02_fast_path_cursor (R : RCfg) (hc : 2 ≤ R.cols) (l : Layout) (t : Term) (ch : Char) (n : Nat)
    (hint : Option Text) (nph hl : Bool)
    (hguard : fastPathGuard R l ch n hint nph hl = true) (hch : isC0Control ch = false)
    (h : Tracks R l.cursor t) :
    Tracks R { l.cursor with col := l.cursor.col + R.cw ch } (t.feed R.cw [ch]) ∧
    (t.feed R.cw [ch]).pending = false := by
  unfold fastPathGuard at hguard
  simp only [Bool.and_eq_true, decide_eq_true_eq] at hguard
  have ht := tracks_fast h ch hch hguard.1.1.2
  exact ⟨ht, ht.not_pending hguard.1.1.2⟩

/-- **Final state**: once the terminal shows the line with the cursor at its end (what the final
    `edit_move_buffer_end` is for), the newline written on return leaves the cursor at column 0 of a
    row below every row of the text: application output starts on a fresh row. -/
theorem C02_final (cw : Char → Nat) (t : Term) (prompt line : Text)
    (h : Shows cw t prompt line [] []) :
    (t.feed cw ['\n']).cc = 0 ∧ (t.feed cw ['\n']).pending = false ∧
    (t.feed cw ['\n']).cr > ((Term.blank t.cols).feed cw (prompt ++ line)).cr :=
  shows_newline h

theorem C02_move_cursor_same (R : RCfg) (p : Pos) : moveCursorBytes R p p = [] := by
  simp [moveCursorBytes]

/-- `> aaa` on 4 columns: the text wraps after `> aa`; `calculate_position` and the emulator agree -/
example :
    let R : RCfg := { cols := 4, gw := fun g => g.length, cw := fun _ => 1 }
    let t := (Term.blank 4).feed R.cw "> aaa".toList
    (t.cr, t.cc, t.pending) = (1, 1, false) ∧
    posLoop R ["> aaa".toList.take 1, [' '], ['a'], ['a'], ['a']] ({}, 0) = ({ col := 1, row := 1 }, 0) := by
  decide

/-- text ending exactly at the margin: wrap pending on the terminal, `col = cols` in the arithmetic -/
example :
    let R : RCfg := { cols := 4, gw := fun g => g.length, cw := fun _ => 1 }
    let t := (Term.blank 4).feed R.cw "> aa".toList
    (t.cr, t.cc, t.pending) = (0, 3, true) ∧
    posLoop R [['>'], [' '], ['a'], ['a']] ({}, 0) = ({ col := 4, row := 0 }, 0) := by
  decide

/-- what the renderer believes (`Layout`) is true of the terminal `t` that shows `(prompt, line, pos, hint)`
    — in the vocabulary of `calculate_position` -/
def C02_Consistent (S : Segmenter) (R : RCfg) (t : Term) (l : Layout) (prompt before after hint : Text) : Prop :=
  t.cols = R.cols ∧ Shows R.cw t prompt before after hint ∧
  l.cursor = calculatePosition S R (prompt ++ before) {} ∧
  l.end_ = calculatePosition S R (prompt ++ before ++ after ++ hint) {}

theorem C02_synced_shows (R : RCfg) (t : Term) (l : Layout) (prompt before after hint : Text)
    (h : C02_Synced R t l prompt before after hint) : Shows R.cw t prompt before after hint := by
  unfold Shows idealTerm
  rw [h.cols]
  exact ⟨h.canon, h.cursor, h.pending, h.ps⟩

theorem C02_synced_of_consistent (S : Segmenter) (R : RCfg) (hc : 2 ≤ R.cols) (t : Term) (l : Layout)
    (prompt b a h : Text) (hcons : C02_Consistent S R t l prompt b a h)
    (h1 : C02_Plain S R (prompt ++ b)) (h2 : C02_Plain S R (prompt ++ b ++ a ++ h)) :
    C02_Synced R t l prompt b a h := by
  obtain ⟨hcols, ⟨s1, s2, s3, s4⟩, hcur, hend⟩ := hcons
  have e : prompt ++ (b ++ a) ++ h = prompt ++ b ++ a ++ h := by rw [← List.append_assoc prompt]
  unfold C02_Synced
  rw [e]
  unfold idealTerm at s1
  rw [hcols] at s1 s2
  refine ⟨hcols, by rw [s1, e], s2, s3, s4, ?_, ?_, plainT_of_seg S R _ h2, ⟨a ++ h, List.append_assoc ..⟩⟩
  · rw [hcur]; exact tracks_calc S R hc _ _ _ h1 (C02_blank_tracks R hc)
  · rw [hend]; exact tracks_calc S R hc _ _ _ h2 (C02_blank_tracks R hc)

theorem C02_consistent_of_synced (S : Segmenter) (R : RCfg) (hc : 2 ≤ R.cols) (t : Term) (l : Layout)
    (prompt b a h : Text) (hs : C02_Synced R t l prompt b a h)
    (h1 : C02_Plain S R (prompt ++ b)) (h2 : C02_Plain S R (prompt ++ b ++ a ++ h)) :
    C02_Consistent S R t l prompt b a h := by
  have e : prompt ++ (b ++ a) ++ h = prompt ++ b ++ a ++ h := by rw [← List.append_assoc prompt]
  refine ⟨hs.cols, C02_synced_shows R t l prompt b a h hs, ?_, ?_⟩
  · exact tracks_unique hs.cur (tracks_calc S R hc _ _ _ h1 (C02_blank_tracks R hc))
  · have := hs.end_
    rw [e] at this
    exact tracks_unique this (tracks_calc S R hc _ _ _ h2 (C02_blank_tracks R hc))

/-- **Full repaint.**  From any state in which the terminal shows what the renderer believes, the bytes of
    `refresh_line` (clear the old rows, print prompt ++ line ++ hint from the origin, own newline iff the
    wrap is pending, move up, CR, move right) lead to the terminal showing the new state — whatever was on
    the screen before, nothing of it is left. The prompt, the two halves of the line and the hint are
    measured piecewise by `compute_layout`, so each piece is of the quantified kind. -/
theorem C02_full_refresh (S : Segmenter) (R : RCfg) (t : Term) (old new : Layout)
    (prompt b a h prompt' b' a' : Text) (h' : Option Text) (dflt : Bool) (bytes : Text)
    (hc : 2 ≤ R.cols) (hs : C02_Synced R t old prompt b a h)
    (hp' : C02_Plain S R prompt') (hb' : C02_Plain S R b') (ha' : C02_Plain S R a')
    (hh' : C02_Plain S R (h'.getD []))
    (hl : computeLayout S R (calculatePosition S R prompt' {}) dflt (b' ++ a') (blen b') h' = .ok new)
    (hbytes : refreshLineBytes R prompt' (b' ++ a') h' old new = .ok bytes) :
    C02_Synced R (t.feed R.cw bytes) new prompt' b' a' (h'.getD []) :=
  Rl.full_refresh_synced S R t old new prompt b a h prompt' b' a' h' dflt bytes hc hs hp' hb' ha' hh' hl hbytes

/-- the statement in the vocabulary of `calculate_position`, with the hypotheses it needs: the old text and
    its prefix are of the quantified kind (else the believed row count is not the real one,
    `C02_full_refresh_statement_false`), and so are the new pieces, the new prefix and the new text -/
theorem C02_full_refresh_consistent (S : Segmenter) (R : RCfg) (t : Term) (old new : Layout)
    (prompt b a h prompt' b' a' : Text) (h' : Option Text) (bytes : Text)
    (hc : 2 ≤ R.cols) (hcons : C02_Consistent S R t old prompt b a h)
    (ho1 : C02_Plain S R (prompt ++ b)) (ho2 : C02_Plain S R (prompt ++ b ++ a ++ h))
    (hp' : C02_Plain S R prompt') (hb' : C02_Plain S R b') (ha' : C02_Plain S R a')
    (hh' : C02_Plain S R (h'.getD []))
    (hn1 : C02_Plain S R (prompt' ++ b')) (hn2 : C02_Plain S R (prompt' ++ b' ++ a' ++ h'.getD []))
    (hl : computeLayout S R (calculatePosition S R prompt' {}) true (b' ++ a') (blen b') h' = .ok new)
    (hbytes : refreshLineBytes R prompt' (b' ++ a') h' old new = .ok bytes) :
    C02_Consistent S R (t.feed R.cw bytes) new prompt' b' a' (h'.getD []) :=
  C02_consistent_of_synced S R hc _ _ _ _ _ _
    (C02_full_refresh S R t old new prompt b a h prompt' b' a' h' true bytes hc
      (C02_synced_of_consistent S R hc t old prompt b a h hcons ho1 ho2) hp' hb' ha' hh' hl hbytes) hn1 hn2

/-- **Cursor-only move**: the text stays, the cursor goes to the new insertion point. -/
theorem C02_move_cursor (S : Segmenter) (R : RCfg) (t : Term) (l : Layout) (prompt b a h b' a' : Text)
    (hc : 2 ≤ R.cols) (hs : C02_Synced R t l prompt b a h) (hline : b ++ a = b' ++ a')
    (hpb : C02_Plain S R (prompt ++ b')) :
    C02_Synced R
      (t.feed R.cw (moveCursorBytes R l.cursor (calculatePosition S R (prompt ++ b') {})))
      { l with cursor := calculatePosition S R (prompt ++ b') {} } prompt b' a' h := by
  unfold C02_Synced at *
  rw [← hline]
  exact synced_move hc hs _ _ (tracks_calc S R hc _ _ _ hpb (C02_blank_tracks R hc))
    ⟨a' ++ h, by rw [hline]; simp [List.append_assoc]⟩

/-- in the vocabulary of `calculate_position`; the hypotheses on the segmentation of the old and new prefix and
    of the text are what relates `calculate_position` to the screen -/
theorem C02_move_cursor_consistent (S : Segmenter) (R : RCfg) (t : Term) (l : Layout)
    (prompt b a h b' a' : Text) (hc : 2 ≤ R.cols) (hcons : C02_Consistent S R t l prompt b a h)
    (hline : b ++ a = b' ++ a')
    (h1 : C02_Plain S R (prompt ++ b)) (h2 : C02_Plain S R (prompt ++ b ++ a ++ h))
    (h1' : C02_Plain S R (prompt ++ b')) :
    C02_Consistent S R
      (t.feed R.cw (moveCursorBytes R l.cursor (calculatePosition S R (prompt ++ b') {})))
      { l with cursor := calculatePosition S R (prompt ++ b') {} } prompt b' a' h := by
  have e : prompt ++ b' ++ a' ++ h = prompt ++ b ++ a ++ h := by
    rw [List.append_assoc prompt b', ← hline, ← List.append_assoc prompt]
  exact C02_consistent_of_synced S R hc _ _ _ _ _ _
    (C02_move_cursor S R t l prompt b a h b' a' hc
      (C02_synced_of_consistent S R hc t l prompt b a h hcons h1 h2) hline h1') h1' (by rw [e]; exact h2)

/-- **Fast path = full refresh**: under the guard of `edit_insert`, writing the one character gives the
    screen (and the believed layout) a full repaint of `prompt ++ line ++ [ch]` would give. -/
theorem C02_fast_path (R : RCfg) (t : Term) (l : Layout) (prompt b : Text) (ch : Char) (n : Nat)
    (hint : Option Text) (nph hl : Bool)
    (hc : 2 ≤ R.cols) (hs : C02_Synced R t l prompt b [] [])
    (hguard : fastPathGuard R l ch n hint nph hl = true) (hch : isC0Control ch = false) :
    C02_Synced R (t.feed R.cw [ch])
      { l with cursor := { l.cursor with col := l.cursor.col + R.cw ch },
               end_ := { l.end_ with col := l.end_.col + R.cw ch } } prompt (b ++ [ch]) [] [] :=
  Rl.fast_path_synced R t l prompt b ch n hint nph hl hs hguard hch

/-- `Shows` of the new state from `C02_Consistent` of the old one; the one added hypothesis is that the old
    text is of the quantified kind as well -/
theorem C02_fast_path_shows (S : Segmenter) (R : RCfg) (t : Term) (l : Layout) (prompt b : Text) (ch : Char)
    (hc : 2 ≤ R.cols) (hcons : C02_Consistent S R t l prompt b [] [])
    (hguard : fastPathGuard R l ch 1 none true false = true)
    (hplain : C02_Plain S R (prompt ++ b ++ [ch])) (hold : C02_Plain S R (prompt ++ b)) :
    Shows R.cw (t.feed R.cw [ch]) prompt (b ++ [ch]) [] [] := by
  have hs := C02_synced_of_consistent S R hc t l prompt b [] [] hcons hold (by simpa using hold)
  have hpc : PlainC ch := plainT_of_seg S R _ hplain ch (by simp)
  rcases hpc with hnl | hch
  · subst hnl
    have hlt : l.cursor.col < R.cols := by
      unfold fastPathGuard at hguard
      simp only [Bool.and_eq_true, decide_eq_true_eq] at hguard
      omega
    have hs' : Synced R t l (prompt ++ b) (prompt ++ b) := by simpa [C02_Synced] using hs
    -- the newline moves `t` and the from-scratch terminal alike
    have hn := step_newline R.cw _ hs'.cur.2.1
    have hv := vrel_step R.cw (synced_vrel hs' hlt) '\n' (Or.inl rfl)
    rw [hn] at hv
    have hid : (Term.blank R.cols).feed R.cw (prompt ++ (b ++ ['\n'])) =
        ((Term.blank R.cols).feed R.cw (prompt ++ b)).step R.cw '\n' := by
      rw [← List.append_assoc, Term.feed_append]; rfl
    unfold Shows idealTerm insertionPoint
    rw [show (t.feed R.cw ['\n']).cols = R.cols from hv.cols.trans hs'.cur.1]
    simp only [List.append_nil, hid, hn, Bool.false_eq_true, if_false]
    exact ⟨hv.canon, Prod.ext hv.cr hv.cc, hv.pending, hv.ps1⟩
  · exact C02_synced_shows R _ _ prompt (b ++ [ch]) [] []
      (C02_fast_path R t l prompt b ch 1 none true false hc hs hguard hch)

/-- **On return, full statement**: the last `move_cursor` to the end of the buffer plus the final newline
    lead from any consistent state to "column 0 of a row below every row of the text". -/
theorem C02_final_full (S : Segmenter) (R : RCfg) (t : Term) (l : Layout) (prompt b a h : Text)
    (hc : 2 ≤ R.cols) (hs : C02_Synced R t l prompt b a h) (hp : C02_Plain S R (prompt ++ b ++ a)) :
    (t.feed R.cw (moveCursorBytes R l.cursor (calculatePosition S R (prompt ++ b ++ a) {}) ++ ['\n'])).cc = 0 ∧
    (t.feed R.cw (moveCursorBytes R l.cursor (calculatePosition S R (prompt ++ b ++ a) {}) ++ ['\n'])).pending = false ∧
    (t.feed R.cw (moveCursorBytes R l.cursor (calculatePosition S R (prompt ++ b ++ a) {}) ++ ['\n'])).cr >
      ((Term.blank R.cols).feed R.cw (prompt ++ b ++ a)).cr := by
  have hm := C02_move_cursor S R t l prompt b a h (b ++ a) [] hc hs (by simp)
    (by rw [← List.append_assoc]; exact hp)
  rw [← List.append_assoc] at hm
  have hshow := C02_synced_shows R _ _ prompt (b ++ a) [] h hm
  have hcols := hm.cols
  rw [Term.feed_append]
  have := shows_newline hshow
  rw [hcols, ← List.append_assoc] at this
  exact this

/-! ### the statements in the vocabulary of `calculate_position` are false as written: refutations

  `C02_Consistent` relates the believed positions to the screen through `calculate_position` of the *whole*
  text, which is right only on clusters of the quantified kind (`PlainG`); the statements below do not ask
  that of the old text (nor of the prefix before the cursor, which an arbitrary lawful segmenter may cut
  differently from the whole).  With a width table whose cluster widths are 0 the renderer believes the text
  occupies one row while it occupies two.  The history statement lets the final callback carry a state that
  was never rendered (and, read strictly, forbids the hint-less repaint of a highlight-forced cursor move). -/

/-- one character per cluster -/
def C02_cexSeg : Segmenter := Segmenter.ofGroup (fun (_ : Unit) _ => false) (fun s _ => s) (fun _ => ())
/-- a width table whose cluster widths are not the widths of the characters -/
def C02_cexR : RCfg := { cols := 2, gw := fun _ => 0, cw := fun _ => 1 }
/-- `aaa` on two columns (two rows), cursor at the origin -/
def C02_cexT : Term := { (Term.blank 2).feed C02_cexR.cw ['a', 'a', 'a'] with cr := 0, cc := 0, pending := false }

/-- the renderer believes `aaa` ends on the row of the cursor (cluster widths 0); on the screen it takes two rows -/
theorem C02_cex_consistent : C02_Consistent C02_cexSeg C02_cexR C02_cexT {} [] [] ['a', 'a', 'a'] [] :=
  ⟨rfl, ⟨by decide, by decide, rfl, rfl⟩, by decide, by decide⟩

def C02_full_refresh_statement : Prop :=
  ∀ (S : Segmenter) (R : RCfg) (t : Term) (old new : Layout) (prompt b a h prompt' b' a' : Text)
    (h' : Option Text) (bytes : Text),
    2 ≤ R.cols → C02_Consistent S R t old prompt b a h →
    C02_Plain S R (prompt' ++ b' ++ a' ++ h'.getD []) →
    computeLayout S R (calculatePosition S R prompt' {}) true (b' ++ a') (blen b') h' = .ok new →
    refreshLineBytes R prompt' (b' ++ a') h' old new = .ok bytes →
    C02_Consistent S R (t.feed R.cw bytes) new prompt' b' a' (h'.getD [])

theorem C02_full_refresh_statement_false : ¬ C02_full_refresh_statement := by
  intro h
  have := h C02_cexSeg C02_cexR C02_cexT {} { defaultPrompt := true } [] [] ['a', 'a', 'a'] [] [] [] [] none
    ['\r', '\x1b', '[', 'K', '\r'] (by decide) C02_cex_consistent
    (by intro g hg; cases hg) rfl rfl
  exact absurd this.2.1.1 (by decide)

def C02_move_cursor_statement : Prop :=
  ∀ (S : Segmenter) (R : RCfg) (t : Term) (l : Layout) (prompt b a h b' a' : Text),
    2 ≤ R.cols → C02_Consistent S R t l prompt b a h → b ++ a = b' ++ a' →
    C02_Consistent S R
      (t.feed R.cw (moveCursorBytes R l.cursor (calculatePosition S R (prompt ++ b') {})))
      { l with cursor := calculatePosition S R (prompt ++ b') {} } prompt b' a' h

theorem C02_move_cursor_statement_false : ¬ C02_move_cursor_statement := by
  intro h
  have := h C02_cexSeg C02_cexR
    { (Term.blank 2).feed C02_cexR.cw ['a', 'b'] with cr := 0, cc := 0, pending := false } {}
    [] [] ['a', 'b'] [] ['a'] ['b'] (by decide)
    ⟨rfl, ⟨by decide, by decide, rfl, rfl⟩, by decide, by decide⟩ rfl
  exact absurd this.2.1.2.1 (by decide)

def C02_final_statement : Prop :=
  ∀ (S : Segmenter) (R : RCfg) (t : Term) (l : Layout) (prompt b a h : Text),
    2 ≤ R.cols → C02_Consistent S R t l prompt b a h →
    let t' := t.feed R.cw (moveCursorBytes R l.cursor (calculatePosition S R (prompt ++ b ++ a) {}) ++ ['\n'])
    t'.cc = 0 ∧ t'.pending = false ∧ t'.cr > ((Term.blank R.cols).feed R.cw (prompt ++ b ++ a)).cr

theorem C02_final_statement_false : ¬ C02_final_statement := by
  intro h
  have := h C02_cexSeg C02_cexR C02_cexT {} [] [] ['a', 'a', 'a'] [] (by decide) C02_cex_consistent
  exact absurd this.2.2 (by decide)

def C02_history_statement : Prop :=
  ∀ (S : Segmenter) (R : RCfg) (prompt : Text) (ops : List RenderOp) (line : Text) (pos : Nat)
    (hint : Option Text) (b a : Text),
    2 ≤ R.cols → splitAtByte line pos = some (b, a) →
    (RS.run S R prompt (RS.init S R prompt) (ops ++ [.sync line pos hint])).2 = false →
    let rs := (RS.run S R prompt (RS.init S R prompt) (ops ++ [.sync line pos hint])).1
    Shows R.cw ((Term.blank R.cols).feed R.cw rs.segs.reverse.flatten) prompt b a (hint.getD [])

theorem C02_history_statement_false : ¬ C02_history_statement := by
  intro h
  have := h C02_cexSeg C02_cexR [] [] ['a'] 0 none [] ['a'] (by decide) rfl rfl
  exact absurd this.1 (by decide)

/-- a lawful segmenter that does not commute with taking prefixes: a text of two characters is one cluster -/
def C02_cexSeg2 : Segmenter where
  seg t := if t.length = 2 then [t] else t.map (fun c => [c])
  flatten_eq t := by
    have key : ∀ u : Text, (u.map (fun c => [c])).flatten = u := by
      intro u
      induction u with
      | nil => rfl
      | cons c u ih => simp [ih]
    split
    · simp
    · exact key t
  ne_nil t g hg := by
    split at hg
    · simp at hg; subst hg; intro h; subst h; simp at *
    · simp at hg; obtain ⟨c, _, rfl⟩ := hg; simp

def C02_cexR2 : RCfg := { cols := 3, gw := fun g => if g.length = 2 then 0 else 1, cw := fun _ => 1 }

def C02_fast_path_statement : Prop :=
  ∀ (S : Segmenter) (R : RCfg) (t : Term) (l : Layout) (prompt b : Text) (ch : Char),
    2 ≤ R.cols → C02_Consistent S R t l prompt b [] [] →
    fastPathGuard R l ch 1 none true false = true → C02_Plain S R (prompt ++ b ++ [ch]) →
    Shows R.cw (t.feed R.cw [ch]) prompt (b ++ [ch]) [] []

theorem C02_fast_path_statement_false : ¬ C02_fast_path_statement := by
  intro h
  have := h C02_cexSeg2 C02_cexR2 ((Term.blank 3).feed C02_cexR2.cw ['a', 'b']) {} [] ['a', 'b'] 'c' (by decide)
    ⟨rfl, ⟨by decide, by decide, rfl, rfl⟩, by decide, by decide⟩ (by decide)
    (by
      intro g hg
      have : g = ['a'] ∨ g = ['b'] ∨ g = ['c'] := by simpa [C02_cexSeg2] using hg
      rcases this with rfl | rfl | rfl <;>
        exact Or.inr ⟨_, [], rfl, by decide, by simp, by decide, by decide⟩)
  exact absurd this.2.2.1 (by decide)

/-! ### composition over histories

  The render log (`RenderOp`) is replayed by `RS.run`; next to it runs a ghost state `C02_Shown`: what the
  screen is meant to show after each operation (`C02_next`).  `C02_StepOK` lists what the theorem needs of
  each operation: texts of the quantified kind, and that the operation is issued in the situation the editor
  issues it in (a cursor-only move for the line that is displayed under the read's own prompt; the fast
  path only at the end of a line without hint; no output after the final newline). -/

theorem C02_inv_refresh (S : Segmenter) (R : RCfg) (prompt : Text) (hc : 2 ≤ R.cols) (s s' : RS) (g : C02_Shown)
    (hinv : C02_Inv S R prompt s g) (p : Text) (dflt : Bool) (line : Text) (pos : Nat) (info : Option Text)
    (hp : C02_Plain S R p) (hsplit : C02_PlainSplit S R line pos info)
    (h : s.refresh S R p (calculatePosition S R p {}) dflt line pos info = .ok s') :
    ∃ b a, splitAtByte line pos = some (b, a) ∧ C02_Inv S R prompt s' ⟨p, b, a, info.getD []⟩ :=
  Rl.inv_refresh S R prompt hc s s' g hinv p dflt line pos info hp hsplit h

theorem C02_inv_step (S : Segmenter) (R : RCfg) (prompt : Text) (hc : 2 ≤ R.cols)
    (hprompt : C02_Plain S R prompt) (s s' : RS) (g : C02_Shown) (op : RenderOp)
    (hinv : C02_Inv S R prompt s g) (hok : C02_StepOK S R prompt s g op)
    (happ : s.apply S R prompt op = .ok s') :
    C02_Inv S R prompt s' (C02_next S R prompt s g op) :=
  Rl.inv_step S R prompt hc hprompt s s' g op hinv hok happ

theorem C02_history_aux (S : Segmenter) (R : RCfg) (prompt : Text) (hc : 2 ≤ R.cols)
    (hprompt : C02_Plain S R prompt) (line : Text) (pos : Nat) (hint : Option Text) :
    ∀ (ops : List RenderOp) (s : RS) (g : C02_Shown), C02_Inv S R prompt s g →
      C02_Coherent S R prompt s g (ops ++ [.sync line pos hint]) →
      (RS.run S R prompt s (ops ++ [.sync line pos hint])).2 = false →
      ∃ g', C02_Inv S R prompt (RS.run S R prompt s (ops ++ [.sync line pos hint])).1 g' ∧
        (g'.prompt = prompt ∨ C02_IsSearchPrompt g'.prompt) ∧ splitAtByte line pos = some (g'.before, g'.after) ∧
        (g'.hint = hint.getD [] ∨ g'.hint = []) ∧
        (RS.run S R prompt s (ops ++ [.sync line pos hint])).1.out = [] := by
  intro ops
  induction ops with
  | nil =>
    intro s g hinv ⟨hok, _⟩ _
    exact ⟨g, C02_inv_step S R prompt hc hprompt s _ g _ hinv hok rfl, hok.1, hok.2.1, hok.2.2, rfl⟩
  | cons op ops ih =>
    intro s g hinv hcoh hrun
    obtain ⟨hok, hrest⟩ := hcoh
    simp only [List.cons_append, RS.run] at hrun ⊢
    cases happ : s.apply S R prompt op with
    | error e => rw [happ] at hrun; simp at hrun
    | ok s' =>
      rw [happ] at hrun hrest
      simp only [] at hrun hrest ⊢
      exact ih s' _ (C02_inv_step S R prompt hc hprompt s s' g op hinv hok happ) hrest hrun

/-- **Composition over histories.**  For every render log that the replay accepts without panic and whose
    operations are issued coherently (`C02_Coherent`), at every callback (`sync`) the terminal that has
    interpreted all bytes written so far shows the prompt on display — the read's own, or inside an incremental
    search the search prompt —, the line and the cursor the callback sees, with the hint the callback sees or
    without any hint (the reading decision of `Rl/Spec/Screen.lean`: a highlight-forced repaint drops the hint
    from the screen, not from the editor). -/
theorem C02_history (S : Segmenter) (R : RCfg) (prompt : Text) (ops : List RenderOp) (line : Text) (pos : Nat)
    (hint : Option Text) (b a : Text) (hc : 2 ≤ R.cols) (hprompt : C02_Plain S R prompt)
    (hsplit : splitAtByte line pos = some (b, a))
    (hcoh : C02_Coherent S R prompt (RS.init S R prompt) {} (ops ++ [.sync line pos hint]))
    (hrun : (RS.run S R prompt (RS.init S R prompt) (ops ++ [.sync line pos hint])).2 = false) :
    ∃ p, (p = prompt ∨ C02_IsSearchPrompt p) ∧
      (Shows R.cw ((Term.blank R.cols).feed R.cw
          (RS.run S R prompt (RS.init S R prompt) (ops ++ [.sync line pos hint])).1.segs.reverse.flatten)
        p b a (hint.getD []) ∨
       Shows R.cw ((Term.blank R.cols).feed R.cw
          (RS.run S R prompt (RS.init S R prompt) (ops ++ [.sync line pos hint])).1.segs.reverse.flatten)
        p b a []) := by
  obtain ⟨g', hinv, hp, hs, hh, hout⟩ :=
    C02_history_aux S R prompt hc hprompt line pos hint ops _ _ (init_inv hc) hcoh hrun
  have hshow := C02_synced_shows R _ _ _ _ _ _ hinv.synced
  rw [hsplit] at hs
  injection hs with hs
  injection hs with e1 e2
  have hall : RS.all (RS.run S R prompt (RS.init S R prompt) (ops ++ [.sync line pos hint])).1 =
      (RS.run S R prompt (RS.init S R prompt) (ops ++ [.sync line pos hint])).1.segs.reverse.flatten := by
    unfold RS.all; rw [hout]; simp
  rw [hall, ← e1, ← e2] at hshow
  exact ⟨g'.prompt, hp, hh.imp (fun e => by rwa [← e]) (fun e => by rwa [← e])⟩

def C02_exR : RCfg := { cols := 4, gw := fun _ => 1, cw := fun _ => 1 }

theorem C02_exPlain (s : Text) (hs : ∀ c ∈ s, isC0Control c = false) : C02_Plain C02_cexSeg C02_exR s := by
  -- no character glues, so every character is a cluster of its own
  have hseg : ∀ c u, C02_cexSeg.seg (c :: u) = [c] :: C02_cexSeg.seg u :=
    fun c u => group_split _ _ _ c (fun _ => rfl) (fun _ => rfl) [] u
  induction s with
  | nil => intro g hg; cases hg
  | cons c s ih =>
    intro g hg
    rw [hseg] at hg
    rcases List.mem_cons.1 hg with rfl | hg
    · exact Or.inr ⟨c, [], rfl, hs c List.mem_cons_self, fun _ hr => absurd hr List.not_mem_nil, rfl, (by decide : 1 ≤ 4)⟩
    · exact ih (fun x hx => hs x (List.mem_cons_of_mem _ hx)) g hg

/-- non-vacuity of `C02_history`: the log "repaint `>a` with the cursor at the end, callback" is coherent,
    runs without panic, and the theorem yields that the screen shows `>a` -/
example :
    ∃ p, (p = ['>'] ∨ C02_IsSearchPrompt p) ∧ Shows C02_exR.cw ((Term.blank C02_exR.cols).feed C02_exR.cw
        (RS.run C02_cexSeg C02_exR ['>'] (RS.init C02_cexSeg C02_exR ['>'])
          ([.refresh none ['a'] 1 none] ++ [.sync ['a'] 1 none])).1.segs.reverse.flatten)
      p ['a'] [] [] := by
  have := C02_history C02_cexSeg C02_exR ['>'] [.refresh none ['a'] 1 none] ['a'] 1 none ['a'] []
    (by decide) (C02_exPlain _ (by decide)) rfl
    ⟨⟨C02_exPlain _ (by decide), fun b a hs => by
        cases (hs : some (['a'], []) = some (b, a))
        exact ⟨C02_exPlain _ (by decide), C02_exPlain _ (by decide), C02_exPlain _ (by decide)⟩⟩,
      ⟨Or.inl rfl, rfl, Or.inl rfl⟩, trivial⟩ rfl
  -- without a hint the two alternatives of the theorem are the same
  exact this.imp fun _ h => ⟨h.1, h.2.elim id id⟩

/-! ### the editor model's own log

  `Rl/Lemmas/RenderLog*.lean` replay the log `Ed.render` next to the editor state (`Sh`: the screen shows the read's
  own prompt, the current line and cursor, with the current hint or none; inside incremental search `ShA`: the
  search prompt is the prompt on display) and discharge each obligation of `C02_StepOK` where the operation is
  logged; no replay step panics. -/

/-- "The line-buffer operations are faithful" (`LBFaithful`, `Rl/Lemmas/RenderLogExec.lean`): a motion leaves the
    text alone and answers `false` only if the cursor did not move; an edit that answers "nothing changed"
    (`false` / `None`) changed neither text nor cursor — for `yank`, from every state; an `Undo` that undid nothing
    left the line alone.  Statements about `Rl/LineBuffer.lean` / `Rl/Undo.lean` alone. -/
def C02_lbFaithful_statement : Prop := ∀ (S : Segmenter) (U : UData), LBFaithful S U

/-- … holds with the repairs of D44 (`yank_pop` asks before it removes) and D45 (`edit_yank` restores the
    cursor it saved, so nothing is asked of a step back): the eleven motions, `kill` for every movement,
    `transpose_chars`, `edit_word`, `transpose_words`, `indent`, `yank`, `yank_pop`, `delete` and
    `Changeset::undo`, for every segmenter and every Unicode data (`Rl/Lemmas/LBFaithful.lean`). -/
theorem C02_lbFaithful : C02_lbFaithful_statement := fun S U => lbFaithful S U

/-- the width table gives control characters the width 0 (`unicode-width` does; it is what keeps control characters
    off the fast path of `edit_insert`) -/
def C02_CtlZero (U : UData) : Prop := ∀ c, isC0Control c = true → U.cwidth c = 0

/-- the render log of a read, oldest first, without the `writeln` that follows `readline_edit` -/
def C02_editorLog (S : Segmenter) (U : UData) (cfg : EdCfg) (ring : KillRing) (left right : Text) (inp : Input) :
    List RenderOp :=
  (readline S U cfg ring left right inp).2.render.tail.reverse

/-- **Every cursor the editor model logs is on a character boundary of the logged line** — from the line-buffer
    invariant `BdI` (`WF s.line ∧ WF s.saved ∧ LogBd s.render`), carried through every rendering primitive, both key
    maps, every command of `execute`, completion, incremental search and the loops (`Rl/Lemmas/RenderLogBd*.lean`).
    Only hypothesis: the indent size fits the code's `u8`.  No contract on the completer, validator, hinter or
    bindings is needed: `replace` slices at both ends, so it either panics or leaves a well-formed cursor; for
    `yank_pop` and the undo log see `C02_popUndoWF`. -/
theorem C02_logBd (S : Segmenter) (U : UData) (cfg : EdCfg) (ring : KillRing) (left right : Text) (inp : Input)
    (hind : cfg.indentSize ≤ 255) :
    LogBd (C02_editorLog S U cfg ring left right inp).reverse := by
  unfold C02_editorLog
  rw [List.reverse_reverse]
  exact readline_logBd hind yankPopWF undoWF ring left right inp

/-- **The editor model's log is coherent and replays without panic**, for logs whose texts are of the
    quantified kind (`LogPlain`: a restriction on what is typed, stored, completed and hinted) and whose cursors are
    on character boundaries (`LogBd`: the line-buffer invariant of C03 / C17 at the moments the renderer is called;
    see `C02_logBd_statement`). -/
theorem C02_editor_log_coherent (S : Segmenter) (U : UData) (cfg : EdCfg) (ring : KillRing) (left right : Text)
    (inp : Input) (hc : 2 ≤ cfg.cols) (hprompt : C02_Plain S (edR U cfg) cfg.prompt)
    (hctl : C02_CtlZero U)
    (hplain : LogPlain S (edR U cfg) cfg.prompt (C02_editorLog S U cfg ring left right inp).reverse)
    (hind : cfg.indentSize ≤ 255) :
    ∃ rs g, RepFrom S (edR U cfg) cfg.prompt (RS.init S (edR U cfg) cfg.prompt) {}
        (C02_editorLog S U cfg ring left right inp) rs g ∧
      C02_Coherent S (edR U cfg) cfg.prompt (RS.init S (edR U cfg) cfg.prompt) {}
        (C02_editorLog S U cfg ring left right inp) ∧
      RS.run S (edR U cfg) cfg.prompt (RS.init S (edR U cfg) cfg.prompt)
        (C02_editorLog S U cfg ring left right inp) = (rs, false) := by
  have hbd := C02_logBd S U cfg ring left right inp hind
  have hfine := (logFine_iff S (edR U cfg) cfg.prompt _).2 ⟨hplain, hbd⟩
  have hlb : LBFaithful S U := C02_lbFaithful S U
  have hnext := fun fuel sea iep => pres_nextCmd (S := S) (U := U) (cfg := cfg) hc hprompt fuel sea iep
  have hw := readline_prog_logOK hc hprompt hnext (fun fuel => pres_completeLine hc hprompt hlb hnext fuel) hctl
    (fun cmd => pres_execute hc hprompt hlb hctl cmd) ring left right inp
  have hrl := readline_eq_readProg S U cfg ring left right inp
  unfold readProg at hrl
  unfold C02_editorLog at hfine ⊢
  unfold wp at hw
  -- whether the body of the read returns or ends early, `LogOK` holds of the state it ends in
  split at hw
  all_goals
    rename_i heq
    rw [heq] at hrl
    rw [hrl] at hfine ⊢
    obtain ⟨rs, g, hrep⟩ := hw (by rwa [List.reverse_reverse] at hfine)
    exact ⟨rs, g, hrep, hrep.coherent.1, hrep.coherent.2⟩

/-- **At every callback of the model's own log the emulated terminal shows the prompt on display (the read's own,
    or inside an incremental search the search prompt), line and cursor** (with the
    hint the callback sees or without any hint): `C02_history` applied to the log the editor model produces. -/
theorem C02_editor_shows (S : Segmenter) (U : UData) (cfg : EdCfg) (ring : KillRing) (left right : Text)
    (inp : Input) (hc : 2 ≤ cfg.cols) (hprompt : C02_Plain S (edR U cfg) cfg.prompt)
    (hctl : C02_CtlZero U)
    (hplain : LogPlain S (edR U cfg) cfg.prompt (C02_editorLog S U cfg ring left right inp).reverse)
    (hind : cfg.indentSize ≤ 255)
    (ops rest : List RenderOp) (line : Text) (pos : Nat) (hint : Option Text) (b a : Text)
    (hlog : C02_editorLog S U cfg ring left right inp = (ops ++ [.sync line pos hint]) ++ rest)
    (hsplit : splitAtByte line pos = some (b, a)) :
    ∃ p, (p = cfg.prompt ∨ C02_IsSearchPrompt p) ∧
      (Shows (edR U cfg).cw ((Term.blank (edR U cfg).cols).feed (edR U cfg).cw
          (RS.run S (edR U cfg) cfg.prompt (RS.init S (edR U cfg) cfg.prompt)
            (ops ++ [.sync line pos hint])).1.segs.reverse.flatten) p b a (hint.getD []) ∨
       Shows (edR U cfg).cw ((Term.blank (edR U cfg).cols).feed (edR U cfg).cw
          (RS.run S (edR U cfg) cfg.prompt (RS.init S (edR U cfg) cfg.prompt)
            (ops ++ [.sync line pos hint])).1.segs.reverse.flatten) p b a []) := by
  obtain ⟨rs, g, hrep, _, _⟩ := C02_editor_log_coherent S U cfg ring left right inp hc hprompt hctl hplain hind
  rw [hlog] at hrep
  obtain ⟨rs1, g1, h1⟩ := hrep.prefix
  have hco := h1.coherent
  exact C02_history S (edR U cfg) cfg.prompt ops line pos hint b a hc hprompt hsplit hco.1 (by rw [hco.2])

/-- the cursor half under the helper contracts of C17 (validator and hinter do not panic, the completer reports a
    start on a character boundary at or before the cursor, `indentSize ≤ 255`, a stable segmenter, acceptable
    bindings); `C02_logBd` needs none of them but the indent size.  A log entry records the line at the moment the
    renderer is called, in the middle of a command (`edit_kill`: kill, then repaint) or of a loop iteration
    (completion: replace, repaint, read a key, …): knowing `WF s.line` where a command or a loop *returns*
    (`Lemmas/EditorSafe*.lean`) is not enough, so `BdI` is carried through those bodies. -/
def C02_logBd_statement : Prop :=
  ∀ (S : Segmenter) (U : UData) (cfg : EdCfg) (left right : Text) (inp : Input),
    (∀ t, cfg.validator t ≠ .panic) → cfg.hinterPanicAt = none →
    (∀ t p, IsBoundary t (cfg.completer t p).1 ∧ (cfg.completer t p).1 ≤ p) →
    cfg.indentSize ≤ 255 → S.Stable → BindsI cfg →
    (readline S U cfg (KillRing.new 60) left right inp).1 ≠ .panic →
    LogBd (C02_editorLog S U cfg (KillRing.new 60) left right inp).reverse

/-- what `C02_logBd` needs of `yank_pop` and of the undo log — whenever they return (anything but a panic), the
    cursor of the line is on a character boundary.  `yank_pop` removes the last yank by slicing (`drain` → `split3`,
    which panics off a boundary) and then pastes with `yank`; `Changeset::undo` replays recorded edits with the
    slicing primitives.  Statements about `Rl/LineBuffer.lean` / `Rl/Undo.lean` alone. -/
def C02_popUndoWF_statement : Prop := ∀ (S : Segmenter) (U : UData), YankPopWF S U ∧ UndoWF S U

/-- … a theorem (`Rl/Lemmas/PopUndoWF.lean`): for `yank_pop`, C03's totality theorem inside its contract, and outside
    it either the refusal that returns the line unchanged or the panic of `split3`; for `undo`,
    `undoLoop_wf_grow`. -/
theorem C02_popUndoWF : C02_popUndoWF_statement := fun _ _ => ⟨yankPopWF, undoWF⟩

theorem C02_logBd_with_contracts : C02_logBd_statement :=
  fun S U cfg left right inp _ _ _ hind _ _ _ => C02_logBd S U cfg (KillRing.new 60) left right inp hind

/-! ### the text half at character level

  `LogPlain` speaks of how each logged piece is segmented; over an alphabet `A` on which the cell arithmetic is
  right (`AlphaPlain S R A`: every text over `A` segments into clusters of the quantified kind) it follows from
  `LogAlpha A`: every logged prompt, line and hint is written over `A` — a statement about which characters reach the
  screen, with no segmenter in it (`logPlain_of_alpha`).  That the characters that reach the screen are those of the
  inputs (typed, pasted, stored, completed, hinted, the kill ring carried over, case mappings, the blanks of
  `indent`) is not proved: it is a character-level closure invariant over the line, the saved line, the kill ring and
  the undo log through every line-buffer operation, and a statement about which characters the key maps put into the
  commands they return. -/

/-- `C02_editor_shows` with the text hypotheses at character level: an alphabet on which the cell arithmetic is right,
    a prompt and a log written over it -/
theorem C02_editor_shows_alpha (S : Segmenter) (U : UData) (cfg : EdCfg) (ring : KillRing) (left right : Text)
    (inp : Input) (A : Char → Bool) (hc : 2 ≤ cfg.cols) (hA : AlphaPlain S (edR U cfg) A)
    (hprompt : OverA A cfg.prompt) (hctl : C02_CtlZero U)
    (hlog : LogAlpha A cfg.prompt (C02_editorLog S U cfg ring left right inp).reverse)
    (hind : cfg.indentSize ≤ 255)
    (ops rest : List RenderOp) (line : Text) (pos : Nat) (hint : Option Text) (b a : Text)
    (hsync : C02_editorLog S U cfg ring left right inp = (ops ++ [.sync line pos hint]) ++ rest)
    (hsplit : splitAtByte line pos = some (b, a)) :
    ∃ p, (p = cfg.prompt ∨ C02_IsSearchPrompt p) ∧
      (Shows (edR U cfg).cw ((Term.blank (edR U cfg).cols).feed (edR U cfg).cw
          (RS.run S (edR U cfg) cfg.prompt (RS.init S (edR U cfg) cfg.prompt)
            (ops ++ [.sync line pos hint])).1.segs.reverse.flatten) p b a (hint.getD []) ∨
       Shows (edR U cfg).cw ((Term.blank (edR U cfg).cols).feed (edR U cfg).cw
          (RS.run S (edR U cfg) cfg.prompt (RS.init S (edR U cfg) cfg.prompt)
            (ops ++ [.sync line pos hint])).1.segs.reverse.flatten) p b a []) :=
  C02_editor_shows S U cfg ring left right inp hc (hA _ hprompt) hctl (logPlain_of_alpha hA hlog) hind
    ops rest line pos hint b a hsync hsplit

/-- non-vacuity of `AlphaPlain`: for the one-character-per-cluster segmenter and a width table of width 1, every
    text without control characters is of the quantified kind -/
example : AlphaPlain C02_cexSeg C02_exR (fun c => !isC0Control c) :=
  fun t ht => C02_exPlain t (fun c hc => by simpa using ht c hc)

/-- **The line buffer stays inside the alphabet** (`Rl/Lemmas/AlphaLM.lean`, the line-buffer part of "inputs over `A` ⇒
    `LogAlpha`"): from a buffer written over `A`, whenever the operation returns, the new buffer is over `A`, and so
    is every text it answers and every text it notifies (what reaches the undo log and the kill ring) — for the
    insertions (given a character / text over `A`), every kill, the transpositions (which re-insert buffer text),
    `yank_pop`, `update` and `replace`.  Not covered: `edit_word` (needs `U.upper` / `U.lower` to stay inside `A`),
    `indent` (needs the blank in `A`), the undo log's replay, and the editor level (the same
    invariant through the primitives, `execute`, the loops) with the hypotheses on the decoded keys, history, candidates and hints —
    `LogAlpha` stays a hypothesis on the produced log. -/
theorem C02_alpha_ops (S : Segmenter) (U : UData) (A : Char → Bool) :
    (∀ ch n, A ch = true → AOp A (LB.insert S U ch n)) ∧
    (∀ i t, OverA A t → AOp A (LB.insertStr S U i t)) ∧
    (∀ t n, OverA A t → AOp A (LB.yank S U t n)) ∧
    (∀ k t, OverA A t → AOp A (LB.yankPop S U k t)) ∧
    (∀ m, AOp A (LB.kill S U m)) ∧
    AOp A (LB.transposeChars S U) ∧ (∀ n, AOp A (LB.transposeWords S U n)) ∧
    (∀ t p, OverA A t → AOp A (LB.update S U t p)) ∧
    (∀ a b t, OverA A t → AOp A (LB.replace S U a b t)) :=
  ⟨fun _ n h => aop_insert h n, fun i _ h => AOp.insertStr S U i h, fun _ n h => aop_yank h n,
   fun k t h => aop_yankPop k t h, fun m => aop_kill m, aop_transposeChars, fun n => aop_transposeWords n,
   fun t p h => aop_update t p h, fun a b _ h => AOp.replace S U a b h⟩

/-! ### when the read returns

  `C02_final` / `C02_final_full` are single steps from a state that is assumed to be in sync.  The last clause of the
  property — "when the read returns, the cursor is after the last character of the line so that application output
  starts on a fresh row" — is proved here of the editor model's own log, for every input
  (`Rl/Lemmas/RenderLogReturn.lean`: `Sh` holds of the state in which `readline_edit` returns `Ok`, and the final
  `edit_move_buffer_end` leaves the cursor at the end of the buffer). -/

/-- the full clause: whenever the body of `readline_edit` (`Rl.readProg`: initial text, first repaint, main loop,
    final `edit_move_buffer_end`) returns normally in state `s` — `readline` then answers the line `s.line.buf` —, the
    whole render log of the read, the final `writeln` included, replays without panic; the terminal that interpreted
    everything before that newline shows the prompt and the returned line, **without a hint**, with the cursor after
    the last character of the line; and after the newline the cursor is on column 0, no wrap pending, on a row below
    the row on which the text ends. -/
def C02_editor_return_statement : Prop :=
  ∀ (S : Segmenter) (U : UData) (cfg : EdCfg) (ring : KillRing) (left right : Text) (inp : Input),
    2 ≤ cfg.cols → C02_Plain S (edR U cfg) cfg.prompt → C02_CtlZero U →
    LogPlain S (edR U cfg) cfg.prompt (C02_editorLog S U cfg ring left right inp).reverse →
    cfg.indentSize ≤ 255 →
    ∀ s : Ed, readProg S U cfg left right inp (initEd cfg ring inp) = .ok ((), s) →
    (readline S U cfg ring left right inp).1 = .line s.line.buf ∧
    ∃ rs : RS, RS.run S (edR U cfg) cfg.prompt (RS.init S (edR U cfg) cfg.prompt)
          (readline S U cfg ring left right inp).2.render.reverse = (rs.emit ['\n'], false) ∧
      Shows (edR U cfg).cw ((Term.blank (edR U cfg).cols).feed (edR U cfg).cw rs.all) cfg.prompt s.line.buf [] [] ∧
      ((Term.blank (edR U cfg).cols).feed (edR U cfg).cw (rs.emit ['\n']).all).cc = 0 ∧
      ((Term.blank (edR U cfg).cols).feed (edR U cfg).cw (rs.emit ['\n']).all).pending = false ∧
      ((Term.blank (edR U cfg).cols).feed (edR U cfg).cw (rs.emit ['\n']).all).cr >
        ((Term.blank (edR U cfg).cols).feed (edR U cfg).cw (cfg.prompt ++ s.line.buf)).cr

/-- `C02_editor_return_statement` with the hint left open: the terminal shows the returned line with "the hint of
    the final state or no hint" (`h`); that a normal return carries no hint is `C02_return_state_no_hint`. -/
theorem C02_editor_return_partial (S : Segmenter) (U : UData) (cfg : EdCfg) (ring : KillRing) (left right : Text)
    (inp : Input) (hc : 2 ≤ cfg.cols) (hprompt : C02_Plain S (edR U cfg) cfg.prompt)
    (hctl : C02_CtlZero U)
    (hplain : LogPlain S (edR U cfg) cfg.prompt (C02_editorLog S U cfg ring left right inp).reverse)
    (hind : cfg.indentSize ≤ 255)
    (s : Ed) (hret : readProg S U cfg left right inp (initEd cfg ring inp) = .ok ((), s)) :
    (readline S U cfg ring left right inp).1 = .line s.line.buf ∧
    ∃ (rs : RS) (h : Text), (h = s.hint.getD [] ∨ h = []) ∧
      RS.run S (edR U cfg) cfg.prompt (RS.init S (edR U cfg) cfg.prompt)
          (readline S U cfg ring left right inp).2.render.reverse = (rs.emit ['\n'], false) ∧
      Shows (edR U cfg).cw ((Term.blank (edR U cfg).cols).feed (edR U cfg).cw rs.all) cfg.prompt s.line.buf [] h ∧
      ((Term.blank (edR U cfg).cols).feed (edR U cfg).cw (rs.emit ['\n']).all).cc = 0 ∧
      ((Term.blank (edR U cfg).cols).feed (edR U cfg).cw (rs.emit ['\n']).all).pending = false ∧
      ((Term.blank (edR U cfg).cols).feed (edR U cfg).cw (rs.emit ['\n']).all).cr >
        ((Term.blank (edR U cfg).cols).feed (edR U cfg).cw (cfg.prompt ++ s.line.buf)).cr := by
  have hbd := C02_logBd S U cfg ring left right inp hind
  have hfine := (logFine_iff S (edR U cfg) cfg.prompt _).2 ⟨hplain, hbd⟩
  have hlb : LBFaithful S U := C02_lbFaithful S U
  have hnext := fun fuel sea iep => pres_nextCmd (S := S) (U := U) (cfg := cfg) hc hprompt fuel sea iep
  obtain ⟨hsh, hpos⟩ := readProg_returns hc hprompt hnext (fun fuel => pres_completeLine hc hprompt hlb hnext fuel)
    hctl (fun cmd => pres_execute hc hprompt hlb hctl cmd) ring left right inp hret
  have hrl := readline_eq_readProg S U cfg ring left right inp
  rw [hret] at hrl
  simp only [] at hrl
  have hlog : C02_editorLog S U cfg ring left right inp = s.render.reverse := by
    unfold C02_editorLog; rw [hrl]; rfl
  rw [hlog, List.reverse_reverse] at hfine
  obtain ⟨rs, g, hcore, hsplit⟩ := hsh hfine
  have hinv : C02_Inv S (edR U cfg) cfg.prompt rs g := hcore.rep.inv hc hprompt
  have hrun : RS.run S (edR U cfg) cfg.prompt (RS.init S (edR U cfg) cfg.prompt) s.render.reverse = (rs, false) :=
    (RepFrom.coherent hcore.rep).2
  have hfull : splitAtByte s.line.buf (blen s.line.buf) = some (s.line.buf, []) := by
    have := splitAtByte_append s.line.buf []
    rwa [List.append_nil] at this
  rw [hpos, hfull] at hsplit
  injection hsplit with hsplit
  injection hsplit with e1 e2
  have hshow := C02_synced_shows (edR U cfg) _ _ _ _ _ _ hinv.synced
  rw [hcore.own, ← e1, ← e2] at hshow
  refine ⟨by rw [hrl], rs, g.hint, hcore.hint, ?_, hshow, ?_⟩
  · rw [hrl]
    show RS.run S (edR U cfg) cfg.prompt _ (RenderOp.writeln :: s.render).reverse = _
    rw [List.reverse_cons]
    exact RS.run_snoc_writeln S (edR U cfg) cfg.prompt _ _ _ hrun
  · rw [RS.all_emit, Term.feed_append]
    have hcols := hinv.synced.cols
    have := shows_newline hshow
    rw [hcols] at this
    exact this

theorem C02_editor_return_nohint (S : Segmenter) (U : UData) (cfg : EdCfg) (ring : KillRing) (left right : Text)
    (inp : Input) (hc : 2 ≤ cfg.cols) (hprompt : C02_Plain S (edR U cfg) cfg.prompt)
    (hctl : C02_CtlZero U)
    (hplain : LogPlain S (edR U cfg) cfg.prompt (C02_editorLog S U cfg ring left right inp).reverse)
    (hind : cfg.indentSize ≤ 255)
    (s : Ed) (hret : readProg S U cfg left right inp (initEd cfg ring inp) = .ok ((), s))
    (hnohint : s.hint = none) :
    (readline S U cfg ring left right inp).1 = .line s.line.buf ∧
    ∃ rs : RS, RS.run S (edR U cfg) cfg.prompt (RS.init S (edR U cfg) cfg.prompt)
          (readline S U cfg ring left right inp).2.render.reverse = (rs.emit ['\n'], false) ∧
      Shows (edR U cfg).cw ((Term.blank (edR U cfg).cols).feed (edR U cfg).cw rs.all) cfg.prompt s.line.buf [] [] ∧
      ((Term.blank (edR U cfg).cols).feed (edR U cfg).cw (rs.emit ['\n']).all).cc = 0 ∧
      ((Term.blank (edR U cfg).cols).feed (edR U cfg).cw (rs.emit ['\n']).all).pending = false ∧
      ((Term.blank (edR U cfg).cols).feed (edR U cfg).cw (rs.emit ['\n']).all).cr >
        ((Term.blank (edR U cfg).cols).feed (edR U cfg).cw (cfg.prompt ++ s.line.buf)).cr := by
  obtain ⟨h1, rs, h, hh, h2, h3, h4⟩ :=
    C02_editor_return_partial S U cfg ring left right inp hc hprompt hctl hplain hind s hret
  have : h = [] := hh.elim (fun e => by rw [e, hnohint]; rfl) id
  subst this
  exact ⟨h1, rs, h2, h3, h4⟩

def C02_retU : UData :=
  { alnum := Char.isAlphanum, ws := Char.isWhitespace, upper := fun c => [c], lower := fun c => [c],
    width := List.length }

/-- non-vacuity of the return hypothesis: typing `a`, Enter makes the body of `readline_edit` return normally, with
    the line `a` and without a hint -/
example :
    (readProg C02_cexSeg C02_retU { vi := false } [] [] { buf := [], avail := [], future := [[0x61], [0x0d]] }
        (initEd { vi := false } (KillRing.new 60) { buf := [], avail := [], future := [[0x61], [0x0d]] })).toOption.map
      (fun r => (r.2.line.buf, r.2.hint)) = some (['a'], none) := by decide +kernel

/-- **A read that returns a line returns without a hint**: whenever the body of `readline_edit` returns normally, the
    editor state has no hint — for every segmenter, Unicode data, configuration (either key map, any helper), kill
    ring, initial text and input, with no hypothesis.  (`Rl/Lemmas/ReturnNoHint.lean`: the main loop returns normally
    only after `execute` answered `Submit`; `execute` answers `Submit` only for `AcceptLine`, `AcceptOrInsertLine` and
    vi's `EndOfFile` on a non-empty line, each after `refresh_line_with_msg` cleared a hint that was there; `validate`
    and the final `edit_move_buffer_end` do not bring one back.) -/
theorem C02_return_state_no_hint (S : Segmenter) (U : UData) (cfg : EdCfg) (ring : KillRing) (left right : Text)
    (inp : Input) (s : Ed) (hret : readProg S U cfg left right inp (initEd cfg ring inp) = .ok ((), s)) :
    s.hint = none :=
  readProg_nohint ring left right inp hret

/-- **When the read returns with a line, the terminal shows prompt and line without a hint, the cursor is after the
    last character, and application output starts on a fresh row** — `C02_editor_return_statement` is a theorem:
    `C02_editor_return_partial` with `C02_return_state_no_hint`.  Hypotheses as for `C02_editor_shows`: width ≥ 2,
    prompt and logged texts of the quantified kind, control characters of width 0, `indentSize ≤ 255`. -/
theorem C02_editor_return : C02_editor_return_statement :=
  fun S U cfg ring left right inp hc hprompt hctl hplain hind s hret =>
    C02_editor_return_nohint S U cfg ring left right inp hc hprompt hctl hplain hind s hret
      (C02_return_state_no_hint S U cfg ring left right inp s hret)
