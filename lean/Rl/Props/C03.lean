/-
  C03 — line buffer operations are total, keep the cursor valid and report every change.

  All theorems are about the model `Rl/LineBuffer.lean` (tied to the code by `./check C03`), for
  EVERY lawful segmenter `S` and every Unicode data `U`.
  * `C03_notifications_replay`, `C03_motion_copy_pure`: for every public operation, unconditionally;
  * `C03_capacity_*`: the three operations that honour the fixed capacity;
  * `C03_<op>_total_wf`: no panic from a well-formed state + cursor stays on a boundary, per operation
    (every public method, incl. `indent`/dedent: `C03_indent_total_wf`);
  * `C03_op_total_wf_replay_statement`: the full single statement of DESIGN.md, kept as a `def`: it is
    false for `insert_str` before the cursor (`C03_insertStr_counterexample`); proved for every other
    operation (`C03_op_total_wf_replay_partial`) and for every operation with the one hypothesis
    `insert_str`'s index ≥ cursor (`C03_op_total_wf_replay_all_partial`);
  * `C03_ops_*`: the same clauses for a LIST of calls (`Op.runAll`; arguments valid in each state reached,
    `Op.Admissible`): notifications replay, every intermediate state well-formed, motions/copies pure; `C03_session_total_wf_replay` for the calls that are valid in
    every state (`C03_opAlwaysValid`), `C03_ops_capacity_session` for a fixed-capacity buffer.
-/
import Rl.LineBuffer
import Rl.Spec.LineBuffer
import Rl.Lemmas.LineBuffer
import Rl.Lemmas.LineBufferSafe
import Rl.Lemmas.Motion
import Rl.Lemmas.Indent
import Rl.Lemmas.Steps
import Rl.Lemmas.Span
import Rl.Lemmas.Vertical
import Rl.Lemmas.LineBufferSeq
import Rl.Lemmas.KillSpan
open Rl Rl.Spec

/-- Clause "reports … a sequence of notifications that, replayed on the old text, yields exactly the
    new text": holds for EVERY public operation, every state (well-formed or not), every argument. -/
theorem C03_notifications_replay (S : Segmenter) (U : UData) (op : Op) (lb lb' : LB) (r : Ret)
    (ns : List Notif) (h : Op.run S U op lb = .ok (r, lb', ns)) :
    replay ns lb.buf = some lb'.buf :=
  (Replays.run S U op).h lb r lb' ns h

/-- Clause "changes the text only if it is an editing operation": every motion, query and copy
    leaves text and capacity alone and does not call the listener at all. -/
theorem C03_motion_copy_pure (S : Segmenter) (U : UData) (op : Op) (hop : Op.isMotionOrCopy op = true)
    (lb lb' : LB) (r : Ret) (ns : List Notif) (h : Op.run S U op lb = .ok (r, lb', ns)) :
    lb'.buf = lb.buf ∧ lb'.cap = lb.cap ∧ ns = [] := by
  obtain ⟨h1, h2, _, h4⟩ := (PosOnly.run S U op hop).h lb r lb' ns h
  exact ⟨h1, h2, h4⟩

/-- `insert` with a fixed capacity: either refuses (`None`: nothing changes, nothing is notified) or
    the new text fits. -/
theorem C03_capacity_insert (S : Segmenter) (U : UData) (c : Char) (n : Nat) (lb lb' : LB)
    (r : Option Bool) (ns : List Notif) (hfix : lb.canGrow = false)
    (h : LB.insert S U c n lb = .ok (r, lb', ns)) :
    (r = none ∧ lb' = lb ∧ ns = []) ∨ blen lb'.buf ≤ lb.cap :=
  (insert_fixed S U c n hfix h).imp id fun h3 => h3.2.2

theorem C03_capacity_yank (S : Segmenter) (U : UData) (t : Text) (n : Nat) (lb lb' : LB)
    (r : Option Bool) (ns : List Notif) (hfix : lb.canGrow = false)
    (h : LB.yank S U t n lb = .ok (r, lb', ns)) :
    (r = none ∧ lb' = lb ∧ ns = []) ∨ blen lb'.buf ≤ lb.cap :=
  (yank_fixed S U t n hfix h).imp id fun h3 => h3.2.2

/-- `yank_pop` with a fixed capacity: either it refuses BEFORE anything is removed
    (`None`: nothing changes, nothing is notified), or it answers `Some` and the new text fits. -/
theorem C03_capacity_yankPop (S : Segmenter) (U : UData) (k : Nat) (t : Text) (lb lb' : LB)
    (r : Option Bool) (ns : List Notif) (hfix : lb.canGrow = false)
    (h : LB.yankPop S U k t lb = .ok (r, lb', ns)) :
    (r = none ∧ lb' = lb ∧ ns = []) ∨ (r.isSome = true ∧ blen lb'.buf ≤ lb.cap) := by
  unfold LB.yankPop at h
  by_cases h1 : k > lb.pos
  · simp [LM.bind_apply, LM.get, h1, LM.panic] at h
  by_cases h2 : k > lb.len
  · simp [LM.bind_apply, LM.get, h1, h2, LM.panic] at h
  by_cases ht : lb.mustTruncate (lb.len - k + blen t) = true
  · simp [LM.bind_apply, LM.get, h1, h2, ht, LM.pure_apply] at h
    obtain ⟨rfl, rfl, rfl⟩ := h
    exact Or.inl ⟨rfl, rfl, rfl⟩
  · right
    have hfit : blen lb.buf - k + blen t ≤ lb.cap := by
      simp [LB.mustTruncate, hfix, LB.len] at ht; exact ht
    cases hd : LB.drain (lb.pos - k) lb.pos .forward lb with
    | error e => simp [LM.bind_apply, LM.get, h1, h2, ht, hd] at h
    | ok v =>
      obtain ⟨y, l1, n1⟩ := v
      have hd' := hd
      unfold LB.drain at hd'
      split at hd'
      · rename_i x y' z hs3
        cases hd'
        obtain ⟨hbuf, hx, hy⟩ := split3_ok hs3
        have hlen : blen (x ++ z) = blen lb.buf - k := by
          have e1 : blen lb.buf = blen x + blen y + blen z := by rw [hbuf]; simp; omega
          simp; omega
        cases hy2 : LB.yank S U t 1 { lb with buf := x ++ z, pos := lb.pos - k } with
        | error e => simp [LM.bind_apply, LM.get, h1, h2, ht, hd, LM.setPos, hy2] at h
        | ok v2 =>
          obtain ⟨r2, l2, n2⟩ := v2
          simp [LM.bind_apply, LM.get, h1, h2, ht, hd, LM.setPos, hy2] at h
          obtain ⟨rfl, rfl, _⟩ := h
          refine ⟨rfl, ?_⟩
          rcases C03_capacity_yank S U t 1 { lb with buf := x ++ z, pos := lb.pos - k } l2 r2 n2 hfix hy2 with ⟨_, hl2, _⟩ | hf2
          · rw [hl2]
            show blen (x ++ z) ≤ lb.cap
            rw [hlen]; omega
          · exact hf2
      · cases hd'

theorem C03_moveBufferStart_total_wf (S : Segmenter) (U : UData) (lb : LB) :
    ∃ r lb', LB.moveBufferStart S U lb = .ok (r, lb', []) ∧ WF lb' ∧ lb'.buf = lb.buf :=
  ⟨_, _, moveBufferStart_eval S U lb, isBoundary_zero _, rfl⟩

theorem C03_moveBufferEnd_total_wf (S : Segmenter) (U : UData) (lb : LB) (h : WF lb) :
    ∃ r lb', LB.moveBufferEnd S U lb = .ok (r, lb', []) ∧ WF lb' ∧ lb'.buf = lb.buf :=
  ⟨_, _, moveBufferEnd_eval S U lb, isBoundary_len _, rfl⟩

theorem C03_moveForward_total_wf (S : Segmenter) (U : UData) (lb : LB) (n : Nat) (h : WF lb) :
    ∃ r lb', LB.moveForward S U n lb = .ok (r, lb', []) ∧ WF lb' ∧ lb'.buf = lb.buf := by
  obtain ⟨r, hr, hp⟩ := nextPos_ok S lb n h
  exact goto_total_wf (f := (LB.nextPos S · n)) h hr fun p e => (hp p e).1

theorem C03_moveBackward_total_wf (S : Segmenter) (U : UData) (lb : LB) (n : Nat) (h : WF lb) :
    ∃ r lb', LB.moveBackward S U n lb = .ok (r, lb', []) ∧ WF lb' ∧ lb'.buf = lb.buf := by
  obtain ⟨r, hr, hp⟩ := prevPos_ok S lb n h
  exact goto_total_wf (f := (LB.prevPos S · n)) h hr fun p e => (hp p e).1

theorem C03_delete_total_wf (S : Segmenter) (U : UData) (lb : LB) (n : Nat) (h : WF lb) :
    ∃ r lb' ns, LB.delete S U n lb = .ok (r, lb', ns) ∧ WF lb' ∧ lb'.pos = lb.pos := by
  obtain ⟨q, r, l, ns, _, hd, hk⟩ := delete_killed S U lb n h
  refine ⟨r, l, ns, hd, hk.wf h, ?_⟩
  cases q with
  | none => rw [show l = lb from hk]
  | some p => obtain ⟨_, _, x, y, z, _, _, _, hl, _⟩ := hk; rw [hl]

theorem C03_backspace_total_wf (S : Segmenter) (U : UData) (lb : LB) (n : Nat) (h : WF lb) :
    ∃ r lb' ns, LB.backspace S U n lb = .ok (r, lb', ns) ∧ WF lb' :=
  let ⟨_, r, l, ns, _, hd, hk⟩ := backspace_killed S U lb n h; ⟨r, l, ns, hd, hk.wf h⟩

theorem C03_insert_total_wf (S : Segmenter) (U : UData) (c : Char) (n : Nat) (lb : LB) (h : WF lb) :
    ∃ r lb' ns, LB.insert S U c n lb = .ok (r, lb', ns) ∧ WF lb' := by
  obtain ⟨x, z, hb, hp⟩ := h.split
  rw [insert_eval]
  split
  · exact ⟨none, lb, [], rfl, h⟩
  · rw [hb, hp, splitAtByte_append]
    refine ⟨_, _, _, rfl, ?_⟩
    show IsBoundary (x ++ List.replicate n c ++ z) (blen x + c.utf8Size * n)
    exact ⟨x ++ List.replicate n c, z, rfl, by simp [blen_replicate]⟩

theorem C03_yank_total_wf (S : Segmenter) (U : UData) (t : Text) (n : Nat) (lb : LB) (h : WF lb) :
    ∃ r lb' ns, LB.yank S U t n lb = .ok (r, lb', ns) ∧ WF lb' := by
  obtain ⟨x, z, hb, hp⟩ := h.split
  rw [yank_eval]
  split
  · exact ⟨none, lb, [], rfl, h⟩
  · rw [hb, hp, splitAtByte_append]
    refine ⟨_, _, _, rfl, ?_⟩
    show IsBoundary (x ++ yankText t n ++ z) (blen x + blen t * n)
    exact ⟨x ++ yankText t n, z, rfl, by simp [blen_yankText]⟩

theorem C03_killBuffer_total_wf (S : Segmenter) (U : UData) (lb : LB) (h : WF lb) :
    ∃ r lb' ns, LB.killBuffer S U lb = .ok (r, lb', ns) ∧ WF lb' :=
  (killBuffer_eval S U lb h).total_wf h

theorem C03_discardBuffer_total_wf (S : Segmenter) (U : UData) (lb : LB) (h : WF lb) :
    ∃ r lb' ns, LB.discardBuffer S U lb = .ok (r, lb', ns) ∧ WF lb' :=
  (discardBuffer_eval S U lb h).total_wf h

/-- `insert_str` at a boundary: total; the cursor (which the primitive does not move) stays valid
    when the insertion is not before it -/
theorem C03_insertStr_total_wf (S : Segmenter) (U : UData) (i : Nat) (t : Text) (lb : LB) (h : WF lb)
    (hi : IsBoundary lb.buf i) (hpos : lb.pos ≤ i) :
    ∃ r lb' ns, LB.insertStr S U i t lb = .ok (r, lb', ns) ∧ WF lb' := by
  obtain ⟨x, z, he, hb, hx⟩ := insertStr_ok S U t hi
  refine ⟨_, _, _, he, ?_⟩
  show IsBoundary (x ++ t ++ z) lb.pos
  have hpx : IsBoundary x lb.pos := isBoundary_prefix (by rw [← hb]; exact h) (by omega)
  obtain ⟨a, b, rfl, hpa⟩ := hpx
  exact ⟨a, b ++ t ++ z, by simp, hpa⟩

theorem C03_replace_total_wf (S : Segmenter) (U : UData) (a b : Nat) (t : Text) (lb : LB)
    (ha : IsBoundary lb.buf a) (hb : IsBoundary lb.buf b) (hab : a ≤ b) :
    ∃ lb' ns, LB.replace S U a b t lb = .ok ((), lb', ns) ∧ WF lb' := by
  obtain ⟨x, y, z, hs, hbuf, hx, _⟩ := split3_of_boundaries ha hb hab
  refine ⟨{ lb with buf := x ++ t ++ z, pos := a + blen t,
                     cap := growCap lb.cap (blen x + blen z + blen t) }, [.repl a y t],
          by simp [LB.replace, hs], ?_⟩
  show IsBoundary (x ++ t ++ z) (a + blen t)
  exact ⟨x ++ t, z, rfl, by simp [hx]⟩

theorem C03_deleteRange_total_wf (S : Segmenter) (U : UData) (a b : Nat) (lb : LB)
    (ha : IsBoundary lb.buf a) (hb : IsBoundary lb.buf b) (hab : a ≤ b) :
    ∃ lb' ns, LB.deleteRange S U a b lb = .ok ((), lb', ns) ∧ WF lb' := by
  obtain ⟨x, y, z, h1, _, hx, _⟩ := ls_deleteRange_eval S U a b lb ha hb hab
  exact ⟨_, _, h1, hx ▸ isBoundary_mid x z⟩

theorem C03_setPos_total_wf (S : Segmenter) (U : UData) (p : Nat) (lb : LB) (hp : IsBoundary lb.buf p) :
    ∃ lb', LB.setPosChecked S U p lb = .ok ((), lb', []) ∧ WF lb' ∧ lb'.buf = lb.buf := by
  have hle : p ≤ lb.len := hp.le_len
  exact ⟨{ lb with pos := p }, by simp [LB.setPosChecked, hle], hp, rfl⟩

/-- `update`: for every new text and every boundary cursor of it, total; the cursor
    is on a boundary of the stored text; with a fixed capacity the stored text fits, i.e. it is cut
    on a character boundary instead of exceeding the capacity or panicking. -/
theorem C03_update_total_wf_capacity (S : Segmenter) (U : UData) (b : Text) (p : Nat) (lb : LB)
    (hp : IsBoundary b p) :
    ∃ lb' ns, LB.update S U b p lb = .ok ((), lb', ns) ∧ WF lb' ∧
      (lb.canGrow = false → blen lb'.buf ≤ lb.cap) := by
  obtain ⟨b', p', h1, h2, h3⟩ := update_ok S U lb hp
  exact ⟨_, _, h1, h2, h3⟩

theorem C03_moveHome_total_wf (S : Segmenter) (U : UData) (lb : LB) (h : WF lb) :
    ∃ r lb', LB.moveHome S U lb = .ok (r, lb', []) ∧ WF lb' ∧ lb'.buf = lb.buf := by
  obtain ⟨e, he, hb, hle⟩ := startOfLine_ok lb h
  exact ⟨_, _, moveHome_eval S U he hle, hb, rfl⟩

theorem C03_moveToFirstPrint_total_wf (S : Segmenter) (U : UData) (lb : LB) (h : WF lb) :
    ∃ r lb', LB.moveToFirstPrint S U lb = .ok (r, lb', []) ∧ WF lb' ∧ lb'.buf = lb.buf := by
  obtain ⟨p, hp, hpb⟩ := firstPrint_ok S U lb h
  exact ⟨p != lb.pos, { lb with pos := p },
    by simp [LB.moveToFirstPrint, LM.bind_apply, LM.ro, hp, LM.get, LM.setPos], hpb, rfl⟩

theorem C03_moveEnd_total_wf (S : Segmenter) (U : UData) (lb : LB) (h : WF lb) :
    ∃ r lb', LB.moveEnd S U lb = .ok (r, lb', []) ∧ WF lb' ∧ lb'.buf = lb.buf := by
  obtain ⟨e, he, hb, _⟩ := endOfLine_ok lb h
  exact ⟨_, _, moveEnd_eval S U he, hb, rfl⟩

theorem C03_killLine_total_wf (S : Segmenter) (U : UData) (lb : LB) (h : WF lb) :
    ∃ r lb' ns, LB.killLine S U lb = .ok (r, lb', ns) ∧ WF lb' :=
  (killLine_eval S U lb h).total_wf h

theorem C03_discardLine_total_wf (S : Segmenter) (U : UData) (lb : LB) (h : WF lb) :
    ∃ r lb' ns, LB.discardLine S U lb = .ok (r, lb', ns) ∧ WF lb' :=
  (discardLine_eval S U lb h).total_wf h

/-- word motion forward (every anchor, every word definition, every count — `n : Nat` covers `RepeatCount = u16`, 0 … 65535): total,
    cursor on a boundary, text untouched -/
theorem C03_moveToNextWord_total_wf (S : Segmenter) (U : UData) (a : At) (d : Word) (n : Nat) (lb : LB)
    (h : WF lb) :
    ∃ r lb', LB.moveToNextWord S U a d n lb = .ok (r, lb', []) ∧ WF lb' ∧ lb'.buf = lb.buf := by
  obtain ⟨r, hr, hp⟩ := nextWordPosR_ok_all S U lb a d n false h
  exact goto_total_wf (f := fun lb => LB.nextWordPos S U lb lb.pos a d n) h hr fun p e => (hp p e).1

theorem C03_moveToPrevWord_total_wf (S : Segmenter) (U : UData) (d : Word) (n : Nat) (lb : LB) (h : WF lb) :
    ∃ r lb', LB.moveToPrevWord S U d n lb = .ok (r, lb', []) ∧ WF lb' ∧ lb'.buf = lb.buf := by
  obtain ⟨r, hr, hp⟩ := prevWordPos_ok S U lb d n h
  exact goto_total_wf (f := fun lb => LB.prevWordPos S U lb lb.pos d n) h hr fun p e => (hp p e).1

theorem C03_deleteWord_total_wf (S : Segmenter) (U : UData) (a : At) (d : Word) (n : Nat) (lb : LB)
    (h : WF lb) :
    ∃ r lb' ns, LB.deleteWord S U a d n lb = .ok (r, lb', ns) ∧ WF lb' :=
  (deleteWord_eval S U a d n lb h).total_wf h

theorem C03_deletePrevWord_total_wf (S : Segmenter) (U : UData) (d : Word) (n : Nat) (lb : LB) (h : WF lb) :
    ∃ r lb' ns, LB.deletePrevWord S U d n lb = .ok (r, lb', ns) ∧ WF lb' :=
  (deletePrevWord_eval S U d n lb h).total_wf h

theorem C03_moveTo_total_wf (S : Segmenter) (U : UData) (cs : CharSearch) (n : Nat) (lb : LB) (h : WF lb) :
    ∃ r lb', LB.moveTo S U cs n lb = .ok (r, lb', []) ∧ WF lb' ∧ lb'.buf = lb.buf := by
  obtain ⟨r, hr, hp⟩ := searchCharPos_ok S lb cs n h
  exact goto_total_wf (f := (LB.searchCharPos S · cs n)) h hr fun p e => (hp p e).1

theorem C03_deleteTo_total_wf (S : Segmenter) (U : UData) (cs : CharSearch) (n : Nat) (lb : LB) (h : WF lb) :
    ∃ r lb' ns, LB.deleteTo S U cs n lb = .ok (r, lb', ns) ∧ WF lb' :=
  (deleteTo_eval S U lb cs n h).total_wf h

/-- `yank_pop` inside its contract (the previously yanked text ends at the cursor): total -/
theorem C03_yankPop_total_wf (S : Segmenter) (U : UData) (k : Nat) (t : Text) (lb : LB) (h : WF lb)
    (hk : k ≤ lb.pos) (hb : IsBoundary lb.buf (lb.pos - k)) :
    ∃ r lb' ns, LB.yankPop S U k t lb = .ok (r, lb', ns) ∧ WF lb' := by
  obtain ⟨y, buf', hd, hwf1, _⟩ := drain_wf .forward hb h (Nat.sub_le _ _)
  obtain ⟨r, lb', ns, hy, hwf⟩ := C03_yank_total_wf S U t 1 { lb with buf := buf', pos := lb.pos - k } hwf1
  have hng : ¬ k > lb.pos := by omega
  have hng2 : ¬ k > lb.len := by have := h.le_len; have : lb.len = blen lb.buf := rfl; omega
  unfold LB.yankPop
  by_cases ht : lb.mustTruncate (lb.len - k + blen t) = true
  · exact ⟨none, lb, [], by simp [LM.bind_apply, LM.get, hng, hng2, ht, LM.pure_apply], h⟩
  · refine ⟨some (r.getD false), lb', [.del (lb.pos - k) y .forward] ++ ns, ?_, hwf⟩
    simp [LM.bind_apply, LM.get, hng, hng2, ht, hd, LM.setPos, hy]

theorem C03_drainAround_total_wf (S : Segmenter) (U : UData) (a b c : Nat) (lb : LB)
    (ha : IsBoundary lb.buf a) (hb : IsBoundary lb.buf b) (hc : IsBoundary lb.buf c) (hab : a ≤ b) :
    ∃ y lb' ns, LB.setPosChecked S U a lb = .ok ((), { lb with pos := a }, []) ∧
      LB.drainAround a b c { lb with pos := a } = .ok (y, lb', ns) ∧ WF lb' := by
  obtain ⟨y, l, ns, hsp, hd, x, _, z, _, ha', _, hl, _⟩ := drainAround_cut S U c ha hb hc hab
  exact ⟨y, l, ns, hsp, hd, by rw [hl, ha']; exact isBoundary_mid x z⟩

theorem C03_kill_lineUp_total_wf (S : Segmenter) (U : UData) (n : Nat) (lb : LB) (h : WF lb) :
    ∃ r lb' ns, LB.kill S U (.lineUp n) lb = .ok (r, lb', ns) ∧ WF lb' :=
  (kill_lineUp_eval S U lb n h).total_wf h

theorem C03_kill_lineDown_total_wf (S : Segmenter) (U : UData) (n : Nat) (lb : LB) (h : WF lb) :
    ∃ r lb' ns, LB.kill S U (.lineDown n) lb = .ok (r, lb', ns) ∧ WF lb' :=
  (kill_lineDown_eval S U lb n h).total_wf h

/-- `copy` for EVERY movement (incl. `WholeLine` and `ViFirstPrint`): never panics from a
    well-formed state (it is read-only, so state and listener are untouched by construction) -/
theorem C03_copy_total (S : Segmenter) (U : UData) (mvt : Movement) (lb : LB) (h : WF lb) :
    ∃ r, LB.copy S U lb mvt = .ok r :=
  (copy_eval S U mvt lb h).total

/-- `move_to_line_up`: total for every count and prompt column; the cursor
    lands on a boundary; text untouched -/
theorem C03_moveToLineUp_total_wf (S : Segmenter) (U : UData) (n pc : Nat) (lb : LB) (h : WF lb) :
    ∃ r lb', LB.moveToLineUp S U n pc lb = .ok (r, lb', []) ∧ WF lb' ∧ lb'.buf = lb.buf :=
  (vm_moveToLineUp_eval S U n pc lb h).wf h

theorem C03_moveToLineDown_total_wf (S : Segmenter) (U : UData) (n pc : Nat) (lb : LB) (h : WF lb) :
    ∃ r lb', LB.moveToLineDown S U n pc lb = .ok (r, lb', []) ∧ WF lb' ∧ lb'.buf = lb.buf :=
  (vm_moveToLineDown_eval S U n pc lb h).wf h

/-- `transpose_chars`: total (the `unwrap()` of the inner `delete(1)` is never reached with `None`) -/
theorem C03_transposeChars_total_wf (S : Segmenter) (U : UData) (lb : LB) (h : WF lb) :
    ∃ r lb' ns, LB.transposeChars S U lb = .ok (r, lb', ns) ∧ WF lb' := by
  unfold LB.transposeChars
  by_cases hc : (lb.pos == 0 || decide ((S.seg lb.buf).length < 2)) = true
  · exact ⟨false, lb, [], by simp only [LM.bind_apply, LM.get, hc, if_true]; rfl, h⟩
  have hc' : ¬(lb.pos = 0 ∨ (S.seg lb.buf).length < 2) := by simpa using hc
  -- after the step back from the end of the text the cursor is strictly inside it
  obtain ⟨lb1, hwf1, hne1, hs1⟩ : ∃ lb1, WF lb1 ∧ lb1.pos ≠ lb1.len ∧ ∀ k : LM Bool,
      (if (lb.pos == lb.len) = true then (do let _ ← LB.moveBackward S U 1; k) else k) lb = k lb1 := by
    by_cases he : (lb.pos == lb.len) = true
    · obtain ⟨p, hp1, hp2, hp3⟩ := prevPos_some S lb 1 h (fun h0 => hc' (Or.inl h0)) (by decide)
      refine ⟨{ lb with pos := p }, hp2, ?_, fun k => ?_⟩
      · have : lb.pos = lb.len := by simpa using he
        show p ≠ lb.len
        omega
      · simp [he, LB.moveBackward, LM.bind_apply, LM.ro, hp1, LM.setPos]
        cases k { lb with pos := p } <;> rfl
    · exact ⟨lb, h, by simpa using he, fun k => by simp [he]⟩
  obtain ⟨p, hnp, hpb, hplt⟩ := nextPos_some S lb1 1 hwf1 hne1 (by decide)
  obtain ⟨y, buf', hd, hwf2, _⟩ := drain_wf .forward hwf1 hpb (Nat.le_of_lt hplt)
  obtain ⟨r3, lb3, h3, hwf3, _⟩ := C03_moveBackward_total_wf S U { lb1 with buf := buf' } 1 hwf2
  obtain ⟨r4, lb4, ns4, h4, hwf4⟩ := C03_yank_total_wf S U y 1 lb3 hwf3
  obtain ⟨r5, lb5, h5, hwf5, _⟩ := C03_moveForward_total_wf S U lb4 1 hwf4
  refine ⟨true, lb5, .del lb1.pos y .forward :: ns4, ?_, hwf5⟩
  have hdel : LB.delete S U 1 lb1 = .ok (some y, { lb1 with buf := buf' }, [.del lb1.pos y .forward]) := by
    simp [LB.delete, LM.bind_apply, LM.ro, hnp, LM.get, hd]
  simp only [LM.bind_apply, LM.get]
  rw [if_neg hc, hs1]
  simp [LM.bind_apply, hdel, h3, h4, h5]

/-- `edit_word` (capitalize / lower-case / upper-case the next word): total; the cursor ends after the
    rewritten word -/
theorem C03_editWord_total_wf (S : Segmenter) (U : UData) (a : WordAction) (lb : LB) (h : WF lb) :
    ∃ r lb' ns, LB.editWord S U a lb = .ok (r, lb', ns) ∧ WF lb' := by
  obtain ⟨r0, hr0, hp0⟩ := skipWhitespace_ok S U lb h
  unfold LB.editWord
  cases r0 with
  | none => exact ⟨false, lb, [], by simp [LM.bind_apply, LM.ro, hr0], h⟩
  | some start =>
    obtain ⟨hsb, hsle⟩ := hp0 start rfl
    have hwfs : WF { lb with pos := start } := hsb
    obtain ⟨r1, hr1, hp1⟩ := nextWordPosR_ok_all S U { lb with pos := start } .afterEnd .emacs 1 false hwfs
    have hr1' : LB.nextWordPos S U lb start .afterEnd .emacs 1 = .ok r1 := hr1
    cases r1 with
    | none => exact ⟨false, lb, [], by simp [LM.bind_apply, LM.ro, hr0, hr1'], h⟩
    | some e =>
      obtain ⟨heb, hele⟩ := hp1 e rfl
      have hele' : start ≤ e := hele
      by_cases hse : start = e
      · subst hse
        exact ⟨false, lb, [], by simp [LM.bind_apply, LM.ro, hr0, hr1'], h⟩
      · obtain ⟨y, buf', hd, hins, hy⟩ := drain_wf .forward hsb heb hele'
        have hyne : y ≠ [] := by
          intro h0; apply hse; rw [hy, h0]; rfl
        -- whatever the rewritten word `result` is, it is inserted at `start` and the cursor put after it
        have fin : ∀ result : Text, ∃ x' z', LB.insertStr S U start result { lb with buf := buf' } =
            .ok (start == blen buf', { lb with buf := x' ++ result ++ z', cap := growCap lb.cap (blen buf' + blen result) },
              [.insStr start result]) ∧
            WF (LB.mk (x' ++ result ++ z') (start + blen result) (growCap lb.cap (blen buf' + blen result)) lb.canGrow) := by
          intro result
          obtain ⟨x', z', hi, _, hx'⟩ := insertStr_ok S U (lb := { lb with buf := buf' }) result hins
          exact ⟨x', z', hi, x' ++ result, z', rfl, by rw [hx']; simp⟩
        cases a with
        | lowercase =>
          obtain ⟨x', z', hi, hwf⟩ := fin (y.flatMap U.lower)
          refine ⟨true, _, [.del start y .forward, .insStr start (y.flatMap U.lower)], ?_, hwf⟩
          simp [LM.bind_apply, LM.ro, hr0, hr1', hse, hd, hi, LM.setPos]
        | uppercase =>
          obtain ⟨x', z', hi, hwf⟩ := fin (y.flatMap U.upper)
          refine ⟨true, _, [.del start y .forward, .insStr start (y.flatMap U.upper)], ?_, hwf⟩
          simp [LM.bind_apply, LM.ro, hr0, hr1', hse, hd, hi, LM.setPos]
        | capitalize =>
          obtain ⟨ch, rest, hch, hyr, _⟩ := seg_head S hyne
          have hsl : sliceFrom y (blen ch) = .ok rest := by rw [hyr]; exact sliceFrom_mid ch rest
          obtain ⟨x', z', hi, hwf⟩ := fin (ch.flatMap U.upper ++ rest.flatMap U.lower)
          refine ⟨true, _, [.del start y .forward, .insStr start (ch.flatMap U.upper ++ rest.flatMap U.lower)], ?_, hwf⟩
          simp [LM.bind_apply, LM.ro, hr0, hr1', hse, hd, hch, LM.lift, hsl, hi, LM.setPos]

/-- `transpose_words`: total; the cursor ends after the second word, or stays where it was when
    there is nothing to transpose -/
theorem C03_transposeWords_total_wf (S : Segmenter) (U : UData) (n : Nat) (lb : LB) (h : WF lb) :
    ∃ r lb' ns, LB.transposeWords S U n lb = .ok (r, lb', ns) ∧ WF lb' := by
  obtain ⟨r1, p1, h1, hb1, hle1⟩ := moveToNextWord_run S U .afterEnd .emacs n lb h
  obtain ⟨r2, p2, h2, hb2, hle2⟩ := moveToPrevWord_run S U .emacs 1 { lb with pos := p1 } hb1
  obtain ⟨r3, p3, h3, hb3, hle3⟩ := moveToPrevWord_run S U .emacs n { lb with pos := p2 } hb2
  obtain ⟨r4, p4, h4, hb4, hle4⟩ := moveToNextWord_run S U .afterEnd .emacs 1 { lb with pos := p3 } hb3
  simp only at h2 h3 h4 hb2 hb3 hb4 hle2 hle3 hle4
  unfold LB.transposeWords
  by_cases hc : (p3 == p2 || decide (p2 < p4)) = true
  · refine ⟨false, { lb with pos := lb.pos }, [], ?_, h⟩
    simp only [LM.bind_apply, h1, LM.get, h2, h3, h4]
    simp [hc, LM.setPos, LM.bind_apply, LM.pure_apply]
  · have hc' : ¬(p3 = p2 ∨ p2 < p4) := by simpa using hc
    have h42 : p4 ≤ p2 := by omega
    obtain ⟨P, W2, B, _, hbufP, hp2, hp1⟩ := split3_of_boundaries hb2 hb1 hle2
    have hb3P : IsBoundary P p3 := isBoundary_prefix (by rw [List.append_assoc] at hbufP; rw [← hbufP]; exact hb3) (by omega)
    have hb4P : IsBoundary P p4 := isBoundary_prefix (by rw [List.append_assoc] at hbufP; rw [← hbufP]; exact hb4) (by omega)
    obtain ⟨A, W1, M, _, hP, hp3, hp4⟩ := split3_of_boundaries hb3P hb4P hle4
    subst hp1 hp2 hp3 hp4
    subst hP
    have hbuf : lb.buf = A ++ W1 ++ M ++ W2 ++ B := hbufP
    have hsl : slice lb.buf (blen A) (blen A + blen W1) = .ok W1 := by
      rw [hbuf]
      have := slice_mid A W1 (M ++ W2 ++ B)
      simpa using this
    have hd1 := drain_at (A ++ W1 ++ M) W2 B .forward { lb with pos := blen A + blen W1 } (by simpa using hbuf)
    have hi1 := insertStr_at S U (A ++ W1 ++ M) B W1
      { lb with buf := A ++ W1 ++ M ++ B, pos := blen A + blen W1 } rfl
    have hd2 := drain_at A W1 (M ++ W1 ++ B) .forward
      { lb with buf := A ++ W1 ++ M ++ W1 ++ B, pos := blen A + blen W1,
                cap := growCap lb.cap (blen (A ++ W1 ++ M ++ B) + blen W1) } (by simp)
    have hi2 := insertStr_at S U A (M ++ W1 ++ B) W2
      { lb with buf := A ++ (M ++ W1 ++ B), pos := blen A + blen W1,
                cap := growCap lb.cap (blen (A ++ W1 ++ M ++ B) + blen W1) } rfl
    simp only [blen_append, List.append_assoc] at hd1 hi1 hd2 hi2 hc hsl h1 h2 h3 h4
    refine ⟨true, LB.mk (A ++ (W2 ++ (M ++ (W1 ++ B)))) (blen A + (blen W1 + blen M) + blen W2)
      (growCap (growCap lb.cap (blen A + (blen W1 + (blen M + blen B)) + blen W1))
        (blen A + (blen M + (blen W1 + blen B)) + blen W2)) lb.canGrow,
      [.del (blen A + (blen W1 + blen M)) W2 .forward, .insStr (blen A + (blen W1 + blen M)) W1,
       .del (blen A) W1 .forward, .insStr (blen A) W2], ?_, ?_⟩
    · simp only [LM.bind_apply, h1, LM.get, h2, h3, h4]
      simp only [hc, Bool.false_eq_true, if_false, LM.bind_apply, LM.get, LM.lift, hsl, hd1, hi1, hd2, hi2, LM.setPos,
        LM.pure_apply, List.nil_append, List.append_nil, List.cons_append]
    · show IsBoundary (A ++ (W2 ++ (M ++ (W1 ++ B)))) (blen A + (blen W1 + blen M) + blen W2)
      exact ⟨A ++ W2 ++ M ++ W1, B, by simp, by simp; omega⟩

/-- `kill` for EVERY movement, count, word definition, anchor and char search: total, cursor valid -/
theorem C03_kill_total_wf (S : Segmenter) (U : UData) (mvt : Movement) (lb : LB) (h : WF lb) :
    ∃ r lb' ns, LB.kill S U mvt lb = .ok (r, lb', ns) ∧ WF lb' :=
  (kill_eval S U mvt lb h).total_wf h

/-- `indent` / dedent (vi `>` `<`; `amount : u8`) for EVERY movement, count, word definition and anchor:
    total from a well-formed state; the cursor, shifted along with its line, stays on a character
    boundary. (Invariant of the per-line loops: `buf = X ++ joinNl lines ++ Z`, `index = blen X`.) -/
theorem C03_indent_total_wf (S : Segmenter) (U : UData) (m : Movement) (k : Nat) (d : Bool) (lb : LB)
    (h : WF lb) (hk : k ≤ 255) :
    ∃ r lb' ns, LB.indent S U m k d lb = .ok (r, lb', ns) ∧ WF lb' := by
  rw [indent_eq]
  have tail : ∀ a b, IsBoundary lb.buf a → IsBoundary lb.buf b → a ≤ b →
      ∃ lb' ns, LB.indentTail S U k d lb a b lb = .ok (true, lb', ns) ∧ WF lb' :=
    fun a b hA hB hab => indentTail_ok S U k hk d lb h a b hA hB hab
  have hpp := tail lb.pos lb.pos h h (Nat.le_refl _)
  cases m with
  | wholeLine | beginningOfLine | viFirstPrint | endOfLine | backwardChar n | forwardChar n | viCharSearch n cs =>
    obtain ⟨lb', ns, h1, h2⟩ := hpp
    exact ⟨true, lb', ns, by simp [LM.bind_apply, LM.get, h1], h2⟩
  | endOfBuffer =>
    obtain ⟨lb', ns, h1, h2⟩ := tail lb.pos lb.len h (isBoundary_len _) h.le_len
    exact ⟨true, lb', ns, by simp [LM.bind_apply, LM.get, h1], h2⟩
  | wholeBuffer =>
    obtain ⟨lb', ns, h1, h2⟩ := tail 0 lb.len (isBoundary_zero _) (isBoundary_len _) (Nat.zero_le _)
    exact ⟨true, lb', ns, by simp [LM.bind_apply, LM.get, h1], h2⟩
  | beginningOfBuffer =>
    obtain ⟨lb', ns, h1, h2⟩ := tail 0 lb.pos (isBoundary_zero _) h (Nat.zero_le _)
    exact ⟨true, lb', ns, by simp [LM.bind_apply, LM.get, h1], h2⟩
  | backwardWord n w =>
    obtain ⟨r, hr, hp⟩ := prevWordPos_ok S U lb w n h
    cases r with
    | none =>
      obtain ⟨lb', ns, h1, h2⟩ := hpp
      exact ⟨true, lb', ns, by simp [LM.bind_apply, LM.get, LM.lift, hr, h1], h2⟩
    | some p =>
      obtain ⟨hb, hle⟩ := hp p rfl
      obtain ⟨lb', ns, h1, h2⟩ := tail p lb.pos hb h hle
      exact ⟨true, lb', ns, by simp [LM.bind_apply, LM.get, LM.lift, hr, h1], h2⟩
  | forwardWord n a w =>
    obtain ⟨r, hr, hp⟩ := nextWordPosR_ok_all S U lb a w n false h
    have hr' : LB.nextWordPos S U lb lb.pos a w n = .ok r := hr
    cases r with
    | none =>
      obtain ⟨lb', ns, h1, h2⟩ := hpp
      exact ⟨true, lb', ns, by simp [LM.bind_apply, LM.get, LM.lift, hr', h1], h2⟩
    | some p =>
      obtain ⟨hb, hle⟩ := hp p rfl
      obtain ⟨lb', ns, h1, h2⟩ := tail lb.pos p h hb hle
      exact ⟨true, lb', ns, by simp [LM.bind_apply, LM.get, LM.lift, hr', h1], h2⟩
  | lineUp n =>
    obtain ⟨r, hr, hp⟩ := nLinesUp_ok lb n h
    cases r with
    | none =>
      obtain ⟨lb', ns, h1, h2⟩ := hpp
      exact ⟨true, lb', ns, by simp [LM.bind_apply, LM.get, LM.lift, hr, h1], h2⟩
    | some ab =>
      obtain ⟨a, b⟩ := ab
      obtain ⟨hls, _, hle, _⟩ := hp a b rfl
      obtain ⟨lb', ns, h1, h2⟩ := tail a lb.pos hls.boundary h hle
      exact ⟨true, lb', ns, by simp [LM.bind_apply, LM.get, LM.lift, hr, h1], h2⟩
  | lineDown n =>
    obtain ⟨r, hr, hp⟩ := nLinesDown_ok lb n h
    cases r with
    | none =>
      obtain ⟨lb', ns, h1, h2⟩ := hpp
      exact ⟨true, lb', ns, by simp [LM.bind_apply, LM.get, LM.lift, hr, h1], h2⟩
    | some ab =>
      obtain ⟨a, b⟩ := ab
      obtain ⟨_, hbb, _, hle⟩ := hp a b rfl
      obtain ⟨pre, post, hbuf, hbl⟩ := hbb
      have hst : sliceTo lb.buf b = .ok pre := by rw [hbuf, hbl]; exact sliceTo_mid pre post
      by_cases hc : (decide (b > lb.pos) && pre.getLast? == some '\n') = true
      · have hc' : lb.pos < b ∧ pre.getLast? = some '\n' := by simpa using hc
        obtain ⟨pre', hpre⟩ := List.getLast?_eq_some_iff.mp hc'.2
        have hb1 : IsBoundary lb.buf (b - 1) :=
          ⟨pre', '\n' :: post, by rw [hbuf, hpre]; simp, by rw [hbl, hpre]; simp [utf8Size_newline]⟩
        obtain ⟨lb', ns, h1, h2⟩ := tail lb.pos (b - 1) h hb1 (by omega)
        exact ⟨true, lb', ns, by simp [LM.bind_apply, LM.get, LM.lift, hr, hst, hc'.1, hc'.2, h1], h2⟩
      · have hb0 : IsBoundary lb.buf b := ⟨pre, post, hbuf, hbl⟩
        obtain ⟨lb', ns, h1, h2⟩ := tail lb.pos b h hb0 hle
        refine ⟨true, lb', ns, ?_, h2⟩
        simp only [LM.bind_apply, LM.get, LM.lift, hr, hst, hc]
        simp [LM.bind_apply, h1]

/-- the five conjuncts of C03 for one operation from one state (motions are shown to send no
    notification at all, which is stronger than "markers only") -/
def C03_OpOK (S : Segmenter) (U : UData) (op : Op) (lb : LB) : Prop :=
  ∃ r lb' ns, Op.run S U op lb = .ok (r, lb', ns) ∧ WF lb' ∧ replay ns lb.buf = some lb'.buf ∧
    (Op.isMotionOrCopy op = true → lb'.buf = lb.buf ∧ ns = []) ∧
    (Op.honoursCapacity op = true → lb.canGrow = false → blen lb.buf ≤ lb.cap → blen lb'.buf ≤ lb.cap)

/-- FULL statement (refuted as written): every public operation, from every well-formed
    state, with arguments inside the contract of the explicit-index primitives (and `amount ≤ 255` for
    `indent`, whose parameter is a `u8`). It is false for `insert_str` only (known finding
    F-C03-insert_str-cursor: the cursor is not adjusted, `C03_insertStr_counterexample`); it is proved for
    every other operation (`C03_op_total_wf_replay_partial`) and for `insert_str` at or after the cursor
    (`C03_op_total_wf_replay_all_partial`). -/
def C03_op_total_wf_replay_statement : Prop :=
  ∀ (S : Segmenter) (U : UData) (op : Op) (lb : LB), WF lb → Op.argsValid lb op = true → C03_OpOK S U op lb

/-- every public operation except `insert_str` (whose cursor clause is refuted by
    `C03_insertStr_counterexample`) -/
def C03_opCovered : Op → Bool
  | .update _ _ | .insert _ _ | .yank _ _ | .moveBackward _ | .moveForward _ | .moveBufferStart
  | .moveBufferEnd | .moveHome | .moveEnd | .moveToFirstPrint | .isEndOfInput | .delete _ | .backspace _ | .killLine
  | .killBuffer | .discardLine | .discardBuffer | .moveToPrevWord _ _ | .deletePrevWord _ _
  | .replace _ _ _ | .deleteRange _ _ | .setPos _ | .nextPos _ | .moveTo _ _ | .deleteTo _ _
  | .yankPop _ _ | .moveToNextWord _ _ _ | .deleteWord _ _ _ | .kill _ | .copy _
  | .moveToLineUp _ _ | .moveToLineDown _ _ | .transposeChars | .editWord _ | .transposeWords _
  | .indent _ _ _ => true
  | .insertStr _ _ => false

theorem C03_covered_total_wf (S : Segmenter) (U : UData) (op : Op) (lb : LB) (h : WF lb)
    (ha : Op.argsValid lb op = true) (hc : C03_opCovered op = true) :
    ∃ r lb' ns, Op.run S U op lb = .ok (r, lb', ns) ∧ WF lb' := by
  cases op <;> simp only [C03_opCovered, Bool.false_eq_true] at hc
  case update b p =>
    have hp : IsBoundary b p := boundaryB_iff.mp (by simpa [Op.argsValid] using ha)
    obtain ⟨lb', ns, h1, h2, _⟩ := C03_update_total_wf_capacity S U b p lb hp
    exact map_total_wf (fun _ => Ret.unit) ⟨(), lb', ns, h1, h2⟩
  case insert c n => exact map_total_wf _ (C03_insert_total_wf S U c n lb h)
  case yank t n => exact map_total_wf _ (C03_yank_total_wf S U t n lb h)
  case yankPop k t =>
    have hv : k ≤ lb.pos ∧ IsBoundary lb.buf (lb.pos - k) := by
      simp only [Op.argsValid, Bool.and_eq_true, decide_eq_true_eq, boundaryB_iff] at ha
      exact ha
    exact map_total_wf _ (C03_yankPop_total_wf S U k t lb h hv.1 hv.2)
  case moveTo cs n => exact map_total_wf _ (total_wf_of_motion (C03_moveTo_total_wf S U cs n lb h))
  case deleteTo cs n => exact map_total_wf _ (C03_deleteTo_total_wf S U cs n lb h)
  case moveBackward n => exact map_total_wf _ (total_wf_of_motion (C03_moveBackward_total_wf S U lb n h))
  case moveForward n => exact map_total_wf _ (total_wf_of_motion (C03_moveForward_total_wf S U lb n h))
  case moveBufferStart => exact map_total_wf _ (total_wf_of_motion (C03_moveBufferStart_total_wf S U lb))
  case moveBufferEnd => exact map_total_wf _ (total_wf_of_motion (C03_moveBufferEnd_total_wf S U lb h))
  case moveHome => exact map_total_wf _ (total_wf_of_motion (C03_moveHome_total_wf S U lb h))
  case moveToFirstPrint => exact map_total_wf _ (total_wf_of_motion (C03_moveToFirstPrint_total_wf S U lb h))
  case moveEnd => exact map_total_wf _ (total_wf_of_motion (C03_moveEnd_total_wf S U lb h))
  case isEndOfInput => exact ⟨.bool (LB.isEndOfInput U lb), lb, [], by simp [Op.run, LM.bind_apply, LM.get], h⟩
  case delete n =>
    obtain ⟨r, lb', ns, h1, h2, _⟩ := C03_delete_total_wf S U lb n h
    exact map_total_wf _ ⟨r, lb', ns, h1, h2⟩
  case backspace n => exact map_total_wf _ (C03_backspace_total_wf S U lb n h)
  case killLine => exact map_total_wf _ (C03_killLine_total_wf S U lb h)
  case killBuffer => exact map_total_wf _ (C03_killBuffer_total_wf S U lb h)
  case discardLine => exact map_total_wf _ (C03_discardLine_total_wf S U lb h)
  case discardBuffer => exact map_total_wf _ (C03_discardBuffer_total_wf S U lb h)
  case moveToPrevWord d n => exact map_total_wf _ (total_wf_of_motion (C03_moveToPrevWord_total_wf S U d n lb h))
  case deletePrevWord d n => exact map_total_wf _ (C03_deletePrevWord_total_wf S U d n lb h)
  case moveToNextWord a d n => exact map_total_wf _ (total_wf_of_motion (C03_moveToNextWord_total_wf S U a d n lb h))
  case deleteWord a d n => exact map_total_wf _ (C03_deleteWord_total_wf S U a d n lb h)
  case replace a b t =>
    have hv : (a ≤ b ∧ IsBoundary lb.buf a) ∧ IsBoundary lb.buf b := by
      simp only [Op.argsValid, Bool.and_eq_true, decide_eq_true_eq, boundaryB_iff] at ha
      exact ha
    obtain ⟨lb', ns, h1, h2⟩ := C03_replace_total_wf S U a b t lb hv.1.2 hv.2 hv.1.1
    exact map_total_wf (fun _ => Ret.unit) ⟨(), lb', ns, h1, h2⟩
  case deleteRange a b =>
    have hv : (a ≤ b ∧ IsBoundary lb.buf a) ∧ IsBoundary lb.buf b := by
      simp only [Op.argsValid, Bool.and_eq_true, decide_eq_true_eq, boundaryB_iff] at ha
      exact ha
    obtain ⟨lb', ns, h1, h2⟩ := C03_deleteRange_total_wf S U a b lb hv.1.2 hv.2 hv.1.1
    exact map_total_wf (fun _ => Ret.unit) ⟨(), lb', ns, h1, h2⟩
  case kill m => exact map_total_wf _ (C03_kill_total_wf S U m lb h)
  case transposeWords n => exact map_total_wf _ (C03_transposeWords_total_wf S U n lb h)
  case editWord a => exact map_total_wf _ (C03_editWord_total_wf S U a lb h)
  case transposeChars => exact map_total_wf _ (C03_transposeChars_total_wf S U lb h)
  case moveToLineUp n pc => exact map_total_wf _ (total_wf_of_motion (C03_moveToLineUp_total_wf S U n pc lb h))
  case moveToLineDown n pc => exact map_total_wf _ (total_wf_of_motion (C03_moveToLineDown_total_wf S U n pc lb h))
  case copy m =>
    obtain ⟨r, hr⟩ := C03_copy_total S U m lb h
    exact ⟨.optText r, lb, [], by simp [Op.run, LM.bind_apply, LM.ro, hr], h⟩
  case indent m k d =>
    have hk : k ≤ 255 := by simpa [Op.argsValid] using ha
    exact map_total_wf _ (C03_indent_total_wf S U m k d lb h hk)
  case setPos p =>
    have hp : IsBoundary lb.buf p := boundaryB_iff.mp (by simpa [Op.argsValid] using ha)
    obtain ⟨lb', h1, h2, _⟩ := C03_setPos_total_wf S U p lb hp
    exact map_total_wf (fun _ => Ret.unit) ⟨(), lb', [], h1, h2⟩
  case nextPos n =>
    obtain ⟨r, hr, _⟩ := nextPos_ok S lb n h
    exact ⟨.optNat r, lb, [], by simp [Op.run, LM.bind_apply, LM.ro, hr], h⟩

/-- The single statement of DESIGN.md for every covered operation: returns without panic, cursor on
    a boundary, notifications replay old → new text, motions/copies pure, capacity respected. -/
theorem C03_op_total_wf_replay_partial (S : Segmenter) (U : UData) (op : Op) (lb : LB) (h : WF lb)
    (ha : Op.argsValid lb op = true) (hc : C03_opCovered op = true) : C03_OpOK S U op lb := by
  obtain ⟨r, lb', ns, hrun, hwf⟩ := C03_covered_total_wf S U op lb h ha hc
  refine ⟨r, lb', ns, hrun, hwf, C03_notifications_replay S U op lb lb' r ns hrun, ?_, ?_⟩
  · intro hm
    obtain ⟨h1, _, h3⟩ := C03_motion_copy_pure S U op hm lb lb' r ns hrun
    exact ⟨h1, h3⟩
  · intro hcap hfix hfit
    cases op <;> simp only [Op.honoursCapacity, Bool.false_eq_true] at hcap
    case update b p =>
      have hp : IsBoundary b p := boundaryB_iff.mp (by simpa [Op.argsValid] using ha)
      obtain ⟨lb2, ns2, h1, _, h3⟩ := C03_update_total_wf_capacity S U b p lb hp
      obtain ⟨a, hm, _⟩ := map_ok_inv (g := fun _ => Ret.unit) hrun
      rw [h1] at hm
      cases hm
      exact h3 hfix
    case insert c n =>
      obtain ⟨a, hm, _⟩ := map_ok_inv (g := Ret.optBool) hrun
      rcases C03_capacity_insert S U c n lb lb' a ns hfix hm with ⟨_, rfl, _⟩ | h2
      · exact hfit
      · exact h2
    case yank t n =>
      obtain ⟨a, hm, _⟩ := map_ok_inv (g := Ret.optBool) hrun
      rcases C03_capacity_yank S U t n lb lb' a ns hfix hm with ⟨_, rfl, _⟩ | h2
      · exact hfit
      · exact h2

/-- The single statement for EVERY operation, the only extra hypothesis being the one `insert_str` needs:
    its index is not before the cursor (the primitive does not adjust the cursor). -/
theorem C03_op_total_wf_replay_all_partial (S : Segmenter) (U : UData) (op : Op) (lb : LB) (h : WF lb)
    (ha : Op.argsValid lb op = true) (hi : ∀ i t, op = .insertStr i t → lb.pos ≤ i) : C03_OpOK S U op lb := by
  by_cases hc : C03_opCovered op = true
  · exact C03_op_total_wf_replay_partial S U op lb h ha hc
  · cases op <;> simp only [C03_opCovered, not_true_eq_false] at hc
    case insertStr i t =>
      have hib : IsBoundary lb.buf i := boundaryB_iff.mp (by simpa [Op.argsValid] using ha)
      obtain ⟨r, lb', ns, h1, hwf⟩ := C03_insertStr_total_wf S U i t lb h hib (hi i t rfl)
      have hrun : Op.run S U (.insertStr i t) lb = .ok (.bool r, lb', ns) := by
        unfold Op.run; simp [LM.bind_apply, h1]
      exact ⟨_, lb', ns, hrun, hwf, C03_notifications_replay S U _ lb lb' _ ns hrun,
        by intro hm; simp [Op.isMotionOrCopy] at hm, by intro hcap; simp [Op.honoursCapacity] at hcap⟩

/-- the full statement is false: `insert_str` before the cursor leaves the
    byte cursor inside a character (known finding F-C03-insert_str-cursor). Witness: "aé", cursor 1,
    `insert_str(0, "é")` → cursor 1 lies inside the inserted 2-byte character. -/
theorem C03_insertStr_counterexample :
    ∃ lb lb' r ns, WF lb ∧ Op.argsValid lb (.insertStr 0 ['é']) = true ∧
      Op.run charSeg ⟨fun _ => false, fun _ => false, fun c => [c], fun c => [c], fun t => t.length, fun _ => 1⟩
        (.insertStr 0 ['é']) lb = .ok (r, lb', ns) ∧ ¬ WF lb' := by
  refine ⟨⟨['a', 'é'], 1, 16, false⟩, ⟨['é', 'a', 'é'], 1, 16, false⟩, .bool false, [.insStr 0 ['é']], ?_, ?_, ?_, ?_⟩
  · exact ⟨['a'], ['é'], rfl, by decide⟩
  · decide
  · rfl
  · intro hw
    have := boundaryB_iff.mpr hw
    revert this
    decide

example : WF ⟨['á', 'b', '\n', 'c'], 2, 16, false⟩ := ⟨['á'], ['b', '\n', 'c'], rfl, by decide⟩
example : C03_opCovered (.kill (.forwardWord 2 .beforeEnd .vi)) = true := by decide
example : C03_opCovered (.indent (.lineDown 3) 33 true) = true := by decide
example : Op.argsValid ⟨['á', 'b', '\n', 'c'], 2, 16, false⟩ (.indent .wholeBuffer 255 false) = true := by decide
example : Op.argsValid ⟨['á', 'b', '\n', 'c'], 2, 16, false⟩ (.replace 0 2 ['x']) = true := by decide

/-- Sequence form of the clause "reports … notifications that, replayed on the old text, yield exactly the
    new text": for EVERY list of public method calls, from EVERY state (well-formed or not), with every
    argument, if the calls return without panic then the concatenation of everything the listener was told,
    replayed on the text before the first call, yields exactly the text after the last call. (This is what
    undo (C05) and the kill ring (C06) rely on over a whole editing session, not only over one call.) -/
theorem C03_ops_notifications_replay (S : Segmenter) (U : UData) (ops : List Op) (lb lb' : LB)
    (rs : List Ret) (ns : List Notif) (h : Op.runAll S U ops lb = .ok (rs, lb', ns)) :
    replay ns lb.buf = some lb'.buf :=
  Op.runAll_replay ops lb lb' rs ns h

/-- Sequence form of the single statement: from every well-formed state (cursor on a character boundary),
    EVERY list of public method calls whose arguments are, at the moment of each call, inside the contract of
    the explicit-index primitives (`Op.Admissible`: `Op.argsValid` in the current state, and `insert_str` not
    before the cursor) runs to the end without panic, answers every call, leaves the cursor inside the text on
    a character boundary, and the concatenated notifications replay the first text to the last. -/
theorem C03_ops_total_wf_replay (S : Segmenter) (U : UData) : ∀ (ops : List Op) (lb : LB), WF lb →
    Op.Admissible S U ops lb →
    ∃ rs lb' ns, Op.runAll S U ops lb = .ok (rs, lb', ns) ∧ rs.length = ops.length ∧ WF lb' ∧
      replay ns lb.buf = some lb'.buf
  | [], lb, h, _ => ⟨[], lb, [], rfl, rfl, h, rfl⟩
  | op :: ops, lb, h, ha => by
    obtain ⟨r, lb1, n1, h1, hwf, _⟩ := C03_op_total_wf_replay_all_partial S U op lb h ha.1 ha.2.1
    obtain ⟨rs, lb2, n2, h2, hlen, hwf2, _⟩ := C03_ops_total_wf_replay S U ops lb1 hwf (ha.2.2 r lb1 n1 h1)
    have hrun := Op.runAll_cons_ok h1 h2
    exact ⟨r :: rs, lb2, n1 ++ n2, hrun, by simp [hlen], hwf2, Op.runAll_replay _ _ _ _ _ hrun⟩

/-- "Every reachable state is well-formed": under the hypotheses of `C03_ops_total_wf_replay`, after EVERY
    prefix of the call list (not only at the end) the run has not panicked and the cursor is on a character
    boundary of the text; and the notifications sent so far replay the first text to the current one. -/
theorem C03_ops_every_prefix_wf (S : Segmenter) (U : UData) (ops : List Op) (lb : LB) (h : WF lb)
    (ha : Op.Admissible S U ops lb) (k : Nat) :
    ∃ rs lb' ns, Op.runAll S U (ops.take k) lb = .ok (rs, lb', ns) ∧ WF lb' ∧
      replay ns lb.buf = some lb'.buf := by
  have hp : Op.Admissible S U (ops.take k) lb :=
    Op.Admissible.prefix (ops.take k) (b := ops.drop k) (by rw [List.take_append_drop]; exact ha)
  obtain ⟨rs, lb', ns, h1, _, h2, h3⟩ := C03_ops_total_wf_replay S U (ops.take k) lb h hp
  exact ⟨rs, lb', ns, h1, h2, h3⟩

/-- Sequence form of "changes the text only if it is an editing operation": a list of calls that are all
    motions, queries or copies — however long, from every state, with every argument — leaves text, capacity
    and growability alone and never calls the listener. -/
theorem C03_ops_motion_copy_pure (S : Segmenter) (U : UData) : ∀ (ops : List Op) (lb lb' : LB)
    (rs : List Ret) (ns : List Notif), (∀ op ∈ ops, Op.isMotionOrCopy op = true) →
    Op.runAll S U ops lb = .ok (rs, lb', ns) →
    lb'.buf = lb.buf ∧ lb'.cap = lb.cap ∧ lb'.canGrow = lb.canGrow ∧ ns = []
  | [], lb, lb', rs, ns, _, h => by
    rw [Op.runAll_nil] at h; cases h; exact ⟨rfl, rfl, rfl, rfl⟩
  | op :: ops, lb, lb', rs, ns, hp, h => by
    obtain ⟨r, lb1, n1, rs', n2, h1, h2, _, rfl⟩ := Op.runAll_cons_inv h
    obtain ⟨a1, a2, a3, a4⟩ := (PosOnly.run S U op (hp op List.mem_cons_self)).h lb r lb1 n1 h1
    obtain ⟨b1, b2, b3, b4⟩ := C03_ops_motion_copy_pure S U ops lb1 lb' rs' n2
      (fun o ho => hp o (List.mem_cons_of_mem _ ho)) h2
    exact ⟨b1.trans a1, b2.trans a2, b3.trans a3, by simp [a4, b4]⟩

/-! non-vacuity of the sequence theorems: a call list with explicit indices, on a text with a 2-byte
    character; the run is computed by the model -/
example : Op.runAll charSeg ⟨fun _ => false, fun _ => false, fun c => [c], fun c => [c], fun t => t.length, fun _ => 1⟩
    [.insert 'é' 1, .setPos 0, .replace 0 2 ['x'], .moveBufferEnd] ⟨['á', 'b'], 2, 16, false⟩ =
    .ok ([.optBool (some false), .unit, .unit, .bool true], ⟨['x', 'é', 'b'], 4, 16, false⟩,
      [.insChar 2 'é', .repl 0 ['á'] ['x']]) := by rfl

/-- the state invariant of a fixed-capacity buffer (`LineBuffer::with_capacity(c)` when the text fits): it cannot grow, its
    capacity is still `c`, and the text fits into `c` bytes -/
def C03_FixedFits (c : Nat) (lb : LB) : Prop := lb.canGrow = false ∧ lb.cap = c ∧ blen lb.buf ≤ c

/-- the calls of a typing session on a fixed-capacity buffer: the capacity-honouring insertions `insert`, `yank`
    and every motion, query or copy -/
def C03_opTyping : Op → Bool
  | .insert _ _ | .yank _ _ => true
  | op => Op.isMotionOrCopy op

/-- one step: `insert`, `yank` and the motions keep a fixed-capacity buffer fixed, its capacity unchanged and
    its text inside the capacity (from every state, no well-formedness needed) -/
theorem C03_typing_step_fixedFits (S : Segmenter) (U : UData) (c : Nat) (op : Op) (lb : LB) (r : Ret) (lb' : LB)
    (ns : List Notif) (hop : C03_opTyping op = true) (hi : C03_FixedFits c lb)
    (h : Op.run S U op lb = .ok (r, lb', ns)) : C03_FixedFits c lb' := by
  obtain ⟨hfix, hcap, hfit⟩ := hi
  by_cases hm : Op.isMotionOrCopy op = true
  · obtain ⟨a1, a2, a3, _⟩ := (PosOnly.run S U op hm).h lb r lb' ns h
    exact ⟨a3.trans hfix, a2.trans hcap, by rw [a1]; exact hfit⟩
  · cases op <;> simp only [C03_opTyping, Op.isMotionOrCopy, Bool.false_eq_true, not_true_eq_false] at hop hm
    case insert ch n =>
      obtain ⟨a, hrun, _⟩ := map_ok_inv (g := Ret.optBool) h
      rcases insert_fixed S U ch n hfix hrun with ⟨_, rfl, _⟩ | ⟨h1, h2, h3⟩
      · exact ⟨hfix, hcap, hfit⟩
      · exact ⟨h1, h2.trans hcap, hcap ▸ h3⟩
    case yank t n =>
      obtain ⟨a, hrun, _⟩ := map_ok_inv (g := Ret.optBool) h
      rcases yank_fixed S U t n hfix hrun with ⟨_, rfl, _⟩ | ⟨h1, h2, h3⟩
      · exact ⟨hfix, hcap, hfit⟩
      · exact ⟨h1, h2.trans hcap, hcap ▸ h3⟩

example : C03_FixedFits 4 (LB.withCapacity 4) := ⟨rfl, rfl, by decide⟩
example : ∀ op ∈ [Op.insert 'é' 2, .moveBackward 1, .yank ['a', 'b'] 3, .copy .wholeBuffer], C03_opTyping op = true := by decide

/-- the calls whose contract does not depend on the state they are made in: every cursor-relative method with
    every argument value, `update` with a cursor on a boundary of ITS OWN new text, `indent` with a `u8`
    amount; only the explicit-index primitives `yank_pop`, `replace`, `delete_range`, `insert_str`, `set_pos`
    (whose indices must be boundaries of the CURRENT text) are left out -/
def C03_opAlwaysValid : Op → Bool
  | .yankPop _ _ | .replace _ _ _ | .deleteRange _ _ | .insertStr _ _ | .setPos _ => false
  | .update b p => boundaryB b p
  | .indent _ k _ => decide (k ≤ 255)
  | _ => true

theorem C03_alwaysValid_argsValid (op : Op) (h : C03_opAlwaysValid op = true) (lb : LB) :
    Op.argsValid lb op = true ∧ ∀ i t, op = .insertStr i t → lb.pos ≤ i := by
  cases op <;> simp_all [C03_opAlwaysValid, Op.argsValid]

theorem C03_alwaysValid_admissible (S : Segmenter) (U : UData) : ∀ (ops : List Op),
    (∀ op ∈ ops, C03_opAlwaysValid op = true) → ∀ lb, Op.Admissible S U ops lb
  | [], _, _ => trivial
  | op :: ops, h, lb =>
    ⟨(C03_alwaysValid_argsValid op (h op List.mem_cons_self) lb).1,
     (C03_alwaysValid_argsValid op (h op List.mem_cons_self) lb).2,
     fun _ lb' _ _ => C03_alwaysValid_admissible S U ops (fun o ho => h o (List.mem_cons_of_mem _ ho)) lb'⟩

/-- An editing SESSION is total: from every state with the cursor on a character boundary (in particular from
    `LineBuffer::with_capacity`), EVERY list — of any length — of cursor-relative method calls (insert, yank,
    every motion, delete, backspace, every kill / copy / indent movement, word and char-search operations,
    transpositions, case changes, line motions, with every count of a `RepeatCount = u16`) and of `update`s to a
    text with a boundary cursor runs to the end without panic; after every call the cursor is inside the text
    on a character boundary; and everything the listener was told replays the first text to the last. No
    hypothesis about intermediate states is needed. -/
theorem C03_session_total_wf_replay (S : Segmenter) (U : UData) (ops : List Op) (lb : LB) (h : WF lb)
    (hops : ∀ op ∈ ops, C03_opAlwaysValid op = true) (k : Nat) :
    ∃ rs lb' ns, Op.runAll S U (ops.take k) lb = .ok (rs, lb', ns) ∧ WF lb' ∧
      replay ns lb.buf = some lb'.buf :=
  C03_ops_every_prefix_wf S U ops lb h (C03_alwaysValid_admissible S U ops hops lb) k

example : WF (LB.withCapacity 8) := ⟨[], [], rfl, by decide⟩
example : ∀ op ∈ [Op.insert 'é' 65535, .kill (.backwardWord 0 .vi), .update ['á', 'b'] 2, .transposeChars,
    .indent .wholeBuffer 255 true, .editWord .uppercase], C03_opAlwaysValid op = true := by decide

/-- `update` on a fixed-capacity buffer, the part `C03_update_total_wf_capacity` does not state: besides
    storing a text that fits (cut on a character boundary if need be), it keeps the buffer fixed and does not
    reallocate — the capacity after the call is the capacity before it. -/
theorem C03_update_fixed_capacity_kept (S : Segmenter) (U : UData) (b : Text) (p : Nat) (lb : LB)
    (hp : IsBoundary b p) (hfix : lb.canGrow = false) :
    ∃ lb' ns, LB.update S U b p lb = .ok ((), lb', ns) ∧ lb'.canGrow = false ∧ lb'.cap = lb.cap ∧
      blen lb'.buf ≤ lb.cap := by
  obtain ⟨b', p', h1, _, h3⟩ := update_ok S U lb hp
  exact ⟨_, _, h1, hfix, growCap_fit (h3 hfix), h3 hfix⟩

/-- the three operations the property names as honouring a fixed capacity (`insert`, `yank`, `update` with a
    cursor on a boundary of its new text) and every motion, query or copy -/
def C03_opCapacitySession : Op → Bool
  | .update b p => boundaryB b p
  | op => C03_opTyping op

/-- Capacity along SEQUENCES, all three capacity-honouring operations: on a fixed-capacity buffer whose text
    fits, any list of `insert` / `yank` / `update` calls interleaved with any motions, queries and copies
    keeps the text within the capacity the buffer was created with, never reallocates and never makes the
    buffer growable. (The remaining editing operations — `replace`, `insert_str`, `indent`, `edit_word`,
    `yank_pop` via `insert_str` — do not consult the capacity and are outside this statement, as in the
    property.) -/
theorem C03_ops_capacity_session (S : Segmenter) (U : UData) (c : Nat) (ops : List Op) (lb lb' : LB)
    (rs : List Ret) (ns : List Notif) (hops : ∀ op ∈ ops, C03_opCapacitySession op = true)
    (hi : C03_FixedFits c lb) (h : Op.runAll S U ops lb = .ok (rs, lb', ns)) : C03_FixedFits c lb' := by
  refine Op.runAll_invariant (C03_FixedFits c) (fun op => C03_opCapacitySession op = true) ?_ ops lb lb' rs ns hops hi h
  intro op lb r lb' ns hp hI hr
  by_cases hu : ∃ b p, op = .update b p
  · obtain ⟨b, p, rfl⟩ := hu
    have hb : IsBoundary b p := boundaryB_iff.mp (by simpa [C03_opCapacitySession] using hp)
    obtain ⟨lb2, ns2, h1, h2, h3, h4⟩ := C03_update_fixed_capacity_kept S U b p lb hb hI.1
    obtain ⟨a, hm, _⟩ := map_ok_inv (g := fun _ => Ret.unit) hr
    rw [h1] at hm
    cases hm
    exact ⟨h2, h3.trans hI.2.1, hI.2.1 ▸ h4⟩
  · have ht : C03_opTyping op = true := by
      cases op <;> first | exact hp | exact absurd ⟨_, _, rfl⟩ hu
    exact C03_typing_step_fixedFits S U c op lb r lb' ns ht hI hr

example : ∀ op ∈ [Op.update ['á', 'b', 'c', 'd', 'e'] 2, .insert 'é' 2, .moveHome, .yank ['x'] 9],
    C03_opCapacitySession op = true := by decide

/-- non-vacuity of `Op.Admissible` with an explicit-index call: `insert('é')` then `replace(0..2, "x")` on
    "áb" with the cursor at 2 — the indices of `replace` are checked in the state `insert` left -/
example : Op.Admissible charSeg ⟨fun _ => false, fun _ => false, fun c => [c], fun c => [c], fun t => t.length, fun _ => 1⟩
    [.insert 'é' 1, .replace 0 2 ['x']] ⟨['á', 'b'], 2, 16, false⟩ := by
  refine ⟨by decide, (by intro i t h; cases h), ?_⟩
  intro r lb' ns h
  have e : Op.run charSeg ⟨fun _ => false, fun _ => false, fun c => [c], fun c => [c], fun t => t.length, fun _ => 1⟩
      (.insert 'é' 1) ⟨['á', 'b'], 2, 16, false⟩ =
      .ok (.optBool (some false), ⟨['á', 'é', 'b'], 4, 16, false⟩, [.insChar 2 'é']) := by rfl
  rw [e] at h
  cases h
  exact ⟨by decide, (by intro i t h; cases h), fun _ _ _ _ => trivial⟩
