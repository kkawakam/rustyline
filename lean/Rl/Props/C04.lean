/-
  C04 — motions and kills cover exactly the grapheme, word, line or search range named.

  Theorems relate the model (`Rl/LineBuffer.lean`, tied to the code by `./check C04`) to the
  declarative spec (`Rl/Spec/Motion.lean`, the oracle that `./check C04` evaluates on the
  implementation), for every lawful segmenter.
  * targets: character motions, word motions (anchors Start / AfterEnd, backward), line start/end,
    character searches (`C04_char_search_*`), vertical motion (`C04_moveToLine*_dest`, `C04_moveToLine*_column`, `C04_vertical_column`);
  * spans: `C04_kill_<movement>_is_span` / `C04_copy_<movement>_is_span` for every movement
    (`ViFirstPrint` included), assembled in `C04_kill_is_span` /
    `C04_copy_is_span`. Two movements need a property of the segmenter that every UAX #29
    segmenter has but an arbitrary lawful `Segmenter` need not have: `S.Stable` (re-segmenting a run of
    whole clusters gives the same clusters; used by `T`/`t` searches, which the code answers by
    re-segmenting a slice) and `S.NlAlone` (the line break is a cluster of its own; used by the
    whole-line kill of an empty line, which removes "the next cluster").
-/
import Rl.LineBuffer
import Rl.Spec.Motion
import Rl.Lemmas.Motion
import Rl.Lemmas.Span
import Rl.Lemmas.Steps
import Rl.Lemmas.CharSearch
import Rl.Lemmas.KillSpan
import Rl.Lemmas.LineSpan
import Rl.Lemmas.Vertical
import Rl.Lemmas.FirstPrint
import Rl.Lemmas.CharSearchClamp
import Rl.Lemmas.WordBeforeEnd
open Rl Rl.Spec

/-- Character motion forward moves by whole clusters: `next_pos(n)` is exactly the declarative
    target `pos + off (min n |gs|)`. -/
theorem C04_char_motion_fwd (S : Segmenter) (lb : LB) (n : Nat) (h : WF lb) (hne : lb.pos ≠ lb.len)
    (hn : n ≠ 0) : LB.nextPos S lb n = .ok (charTargetFwd S lb.buf lb.pos n) :=
  nextPos_eq_target S lb n h hne hn

/-- `move_forward(n)` lands on the declarative character target. -/
theorem C04_moveForward_target (S : Segmenter) (U : UData) (lb lb' : LB) (n : Nat) (r : Bool)
    (ns : List Notif) (h : WF lb) (hne : lb.pos ≠ lb.len) (hn : n ≠ 0)
    (hrun : LB.moveForward S U n lb = .ok (r, lb', ns)) :
    some lb'.pos = charTargetFwd S lb.buf lb.pos n := by
  have ht := C04_char_motion_fwd S lb n h hne hn
  unfold LB.moveForward at hrun
  simp only [LM.bind_apply, LM.ro, ht] at hrun
  cases hc : charTargetFwd S lb.buf lb.pos n with
  | none =>
    -- impossible: the target exists from a well-formed state
    obtain ⟨x, s, hb, hp⟩ := h.split
    simp [charTargetFwd, splitAt?, hb, hp, splitAtByte_append] at hc
  | some p =>
    simp [hc] at hrun
    obtain ⟨_, rfl, _⟩ := hrun
    rfl

/-- Character motion backward moves by whole clusters. -/
theorem C04_char_motion_bwd (S : Segmenter) (lb : LB) (n : Nat) (h : WF lb) (hne : lb.pos ≠ 0)
    (hn : n ≠ 0) : LB.prevPos S lb n = .ok (charTargetBwd S lb.buf lb.pos n) :=
  prevPos_eq_target S lb n h hne hn

/-- Word motion / kill target, `At::Start` (w, W, M-f-style starts): the model's
    two-iterator loop returns exactly the declarative target — the n-th word start after the cursor,
    else the text end (`range = false`: cursor motion; `range = true`: kill/copy range). -/
theorem C04_word_target_start (S : Segmenter) (U : UData) (lb : LB) (d : Word) (n : Nat) (range : Bool)
    (h : WF lb) (hn : n ≠ 0) :
    LB.nextWordPosR S U lb lb.pos .start d n range =
      .ok (wordTargetFwd S U lb.buf lb.pos .start d n (!range)) :=
  nextWordPosR_start S U lb d n range h hn

/-- Word motion / kill target, `At::AfterEnd` (M-f, M-d, de, dE): the model's
    two-iterator loop returns exactly the declarative target — the n-th word end after the cursor,
    else the text end (`range = false`: cursor motion; `range = true`: kill/copy range). -/
theorem C04_word_target_afterEnd (S : Segmenter) (U : UData) (lb : LB) (d : Word) (n : Nat) (range : Bool)
    (h : WF lb) (hn : n ≠ 0) :
    LB.nextWordPosR S U lb lb.pos .afterEnd d n range =
      .ok (wordTargetFwd S U lb.buf lb.pos .afterEnd d n (!range)) :=
  nextWordPosR_afterEnd S U lb d n range h hn

/-- Backward word target (M-b, b, B, C-w-style kills): `prev_word_pos` returns the
    n-th word start before the cursor, or the text start when there are fewer. -/
theorem C04_word_target_prev (S : Segmenter) (U : UData) (lb : LB) (d : Word) (n : Nat) (h : WF lb) (hn : n ≠ 0) :
    LB.prevWordPos S U lb lb.pos d n = .ok (wordTargetBwd S U lb.buf lb.pos d n) :=
  prevWordPos_eq S U lb d n h hn

/-- A forward word kill (dw, dW, M-d, de …) removes exactly the text between the cursor and the
    declarative target, reports exactly that text, and leaves the cursor where it was. -/
theorem C04_deleteWord_is_span (S : Segmenter) (U : UData) (a : At) (d : Word) (n : Nat) (lb : LB)
    (h : WF lb) (ha : a ≠ .beforeEnd) (hn : n ≠ 0) (t : Nat)
    (ht : wordTargetFwd S U lb.buf lb.pos a d n false = some t) :
    ∃ x y z, lb.buf = x ++ y ++ z ∧ lb.pos = blen x ∧ t = blen x + blen y ∧
      LB.deleteWord S U a d n lb = .ok (true, { lb with buf := x ++ z }, [.del lb.pos y .forward]) := by
  have hr := nextWordPosR_target S U lb a d n true h ha hn
  simp only [Bool.not_true] at hr
  rw [ht] at hr
  obtain ⟨hb, hle⟩ := wordTargetFwd_boundary S U lb a d n false h t ht
  obtain ⟨x, y, z, hd, hbuf, hx, hy⟩ := drain_ok .forward h hb hle
  refine ⟨x, y, z, hbuf, hx, hy, ?_⟩
  unfold LB.deleteWord
  simp [LM.bind_apply, LM.ro, hr, LM.get, hd]

/-- A backward word kill (C-w, M-DEL, db, dB) removes exactly the text between the declarative target
    and the cursor, reports it, and puts the cursor on the target. -/
theorem C04_deletePrevWord_is_span (S : Segmenter) (U : UData) (d : Word) (n : Nat) (lb : LB)
    (h : WF lb) (hn : n ≠ 0) (t : Nat) (ht : wordTargetBwd S U lb.buf lb.pos d n = some t) :
    ∃ x y z, lb.buf = x ++ y ++ z ∧ t = blen x ∧ lb.pos = blen x + blen y ∧
      LB.deletePrevWord S U d n lb = .ok (true, { lb with buf := x ++ z, pos := t }, [.del t y .backward]) := by
  have hr := prevWordPos_eq S U lb d n h hn
  rw [ht] at hr
  obtain ⟨hb, hle⟩ := wordTargetBwd_boundary S U lb d n h t ht
  obtain ⟨x, y, z, hd, hbuf, hx, hy⟩ := drain_ok .backward hb h hle
  refine ⟨x, y, z, hbuf, hx, hy, ?_⟩
  unfold LB.deletePrevWord
  simp [LM.bind_apply, LM.ro, hr, LM.get, hd, LM.setPos]

/-- A forward word copy (yw, ye, M-w-style) returns exactly the text between the cursor and the target. -/
theorem C04_copy_word_is_span (S : Segmenter) (U : UData) (a : At) (d : Word) (n : Nat) (lb : LB)
    (h : WF lb) (ha : a ≠ .beforeEnd) (hn : n ≠ 0) (hne : lb.buf ≠ []) (t : Nat)
    (ht : wordTargetFwd S U lb.buf lb.pos a d n false = some t) :
    ∃ x y z, lb.buf = x ++ y ++ z ∧ lb.pos = blen x ∧ t = blen x + blen y ∧
      LB.copy S U lb (.forwardWord n a d) = .ok (some y) := by
  have hr := nextWordPosR_target S U lb a d n true h ha hn
  simp only [Bool.not_true] at hr
  rw [ht] at hr
  obtain ⟨hb, hle⟩ := wordTargetFwd_boundary S U lb a d n false h t ht
  obtain ⟨x, y, z, hs, hbuf, hx, hy⟩ := split3_of_boundaries h hb hle
  refine ⟨x, y, z, hbuf, hx, hy, ?_⟩
  have hemp : lb.buf.isEmpty = false := by simpa using hne
  unfold LB.copy
  simp [hemp, hr, slice, hs, bind, Except.bind, pure, Except.pure]

/-- Line motions respect line breaks: `move_home` / `move_end` go to the declarative line start / end. -/
theorem C04_line_home_end (lb : LB) (h : WF lb) :
    LB.startOfLine lb = .ok (lineStartOf lb.buf lb.pos) ∧ LB.endOfLine lb = .ok (lineEndOf lb.buf lb.pos) :=
  ⟨startOfLine_eq lb h, endOfLine_eq lb h⟩

/-- `f` search (`Forward c`): the model lands on the n-th occurrence of `c` after the cluster under the
    cursor, whenever there is one. -/
theorem C04_char_search_forward (S : Segmenter) (lb : LB) (c : Char) (n t : Nat) (h : WF lb) (hn : n ≠ 0)
    (ht : charSearchTarget S lb.buf lb.pos (.forward c) n = some t) :
    LB.searchCharPos S lb (.forward c) n = .ok (some t) :=
  searchCharPos_forward_eq S lb c n t h hn ht

/-- `F` search (`Backward c`): the n-th occurrence before the cursor. -/
theorem C04_char_search_backward (S : Segmenter) (lb : LB) (c : Char) (n t : Nat) (h : WF lb) (hn : n ≠ 0)
    (ht : charSearchTarget S lb.buf lb.pos (.backward c) n = some t) :
    LB.searchCharPos S lb (.backward c) n = .ok (some t) :=
  searchCharPos_backward_eq S lb c n t h hn ht

/-- FULL statement for character searches (model target = declarative target: on / one whole cluster
    before / one whole cluster after the n-th occurrence). Kept as a `def`: for `t` / `T` the code
    re-segments a slice of the buffer, which agrees with the cluster boundaries of the whole text only for
    a segmenter that is stable under cutting at its own boundaries (`C04_char_search_partial`). -/
def C04_char_search_statement : Prop :=
  ∀ (S : Segmenter) (lb : LB) (cs : CharSearch) (n : Nat) (t : Nat), WF lb → n ≠ 0 →
    charSearchTarget S lb.buf lb.pos cs n = some t → LB.searchCharPos S lb cs n = .ok (some t)

/-- The char-search statement for every stable segmenter (all four kinds, every count ≥ 1). -/
theorem C04_char_search_partial (S : Segmenter) (hS : S.Stable) (lb : LB) (cs : CharSearch) (n t : Nat)
    (h : WF lb) (hn : n ≠ 0) (ht : charSearchTarget S lb.buf lb.pos cs n = some t) :
    LB.searchCharPos S lb cs n = .ok (some t) :=
  searchCharPos_eq_target S hS lb cs n t h hn ht

/-- a lawful but unstable segmenter: texts of at most two characters are one cluster, longer texts are
    cut into single characters -/
def C04_oddSeg : Segmenter where
  seg t := if t = [] then [] else if t.length ≤ 2 then [t] else t.map (fun c => [c])
  flatten_eq := by
    intro t
    by_cases h0 : t = []
    · simp [h0]
    · by_cases h2 : t.length ≤ 2
      · simp [h0, h2]
      · simp only [h0, h2, if_false]
        have key : ∀ u : Text, (u.map (fun c => [c])).flatten = u := by
          intro u
          induction u with
          | nil => rfl
          | cons c u ih => simp [ih]
        exact key t
  ne_nil := by
    intro t g hg
    by_cases h0 : t = []
    · simp [h0] at hg
    · by_cases h2 : t.length ≤ 2
      · simp [h0, h2] at hg; subst hg; exact h0
      · simp only [h0, h2, if_false] at hg
        obtain ⟨c, _, rfl⟩ := List.mem_map.mp hg
        simp

/-- the full char-search statement is false for some lawful segmenter: "abc", `tc` from 0 — the clusters of
    the whole text are a|b|c (target 1), the slice "ab" the code re-segments is one cluster (lands on 0) -/
theorem C04_char_search_counterexample : ¬ C04_char_search_statement := by
  intro h
  have := h C04_oddSeg ⟨['a', 'b', 'c'], 0, 16, false⟩ (.forwardBefore 'c') 1 1 (isBoundary_zero _) (by decide)
    (by rfl)
  have e : LB.searchCharPos C04_oddSeg ⟨['a', 'b', 'c'], 0, 16, false⟩ (.forwardBefore 'c') 1 = .ok (some 0) := by rfl
  rw [e] at this
  simp at this

/-- the extra hypothesis is satisfiable by the segmenter the driver runs: every left-to-right grouping
    segmenter whose state restarts at a break — in particular the UAX #29 one — is stable -/
theorem C04_uaxSeg_stable (cls : Char → String) : (uaxSeg cls).Stable := uaxSeg_stable cls

theorem C04_uaxSeg_nlAlone (cls : Char → String) (h : gcbBase (cls '\n') = "LF") : (uaxSeg cls).NlAlone :=
  uaxSeg_nlAlone cls h

/-! ### a kill removes, and a copy returns, exactly the span the movement names

  Each theorem says: whatever the kill returned, the new text is the old text without the declarative
  span, the text reported to the listener is the text of the span, and the cursor is at the span start
  (`checkKill … = none`); resp. the copy returned the text of the span (`checkCopy … = none`). -/

theorem C04_kill_forwardChar_is_span (S : Segmenter) (U : UData) (lb lb' : LB) (n : Nat) (r : Bool)
    (ns : List Notif) (h : WF lb) (hrun : LB.kill S U (.forwardChar n) lb = .ok (r, lb', ns)) :
    checkKill S U lb (.forwardChar n) lb'.buf lb'.pos ns = none :=
  (kill_forwardChar_eval S U lb n h).checkKill trivial hrun

theorem C04_kill_backwardChar_is_span (S : Segmenter) (U : UData) (lb lb' : LB) (n : Nat) (r : Bool)
    (ns : List Notif) (h : WF lb) (hrun : LB.kill S U (.backwardChar n) lb = .ok (r, lb', ns)) :
    checkKill S U lb (.backwardChar n) lb'.buf lb'.pos ns = none :=
  (kill_backwardChar_eval S U lb n h).checkKill trivial hrun

/-- `C-k` / `D`: to the end of the line; with nothing left on the line, the line break (next cluster) -/
theorem C04_kill_endOfLine_is_span (S : Segmenter) (U : UData) (lb lb' : LB) (r : Bool)
    (ns : List Notif) (h : WF lb) (hrun : LB.kill S U .endOfLine lb = .ok (r, lb', ns)) :
    checkKill S U lb .endOfLine lb'.buf lb'.pos ns = none :=
  (killLine_eval S U lb h).wrap.checkKill trivial hrun

/-- `C-u` / `d0`: to the start of the line; at the line start, the preceding cluster (joins the lines) -/
theorem C04_kill_beginningOfLine_is_span (S : Segmenter) (U : UData) (lb lb' : LB) (r : Bool)
    (ns : List Notif) (h : WF lb) (hrun : LB.kill S U .beginningOfLine lb = .ok (r, lb', ns)) :
    checkKill S U lb .beginningOfLine lb'.buf lb'.pos ns = none :=
  (discardLine_eval S U lb h).wrap.checkKill trivial hrun

/-- whole-line kill: the line without its break; an empty line loses its line break (this is where the
    line break must be a cluster of its own: the code removes "one cluster") -/
theorem C04_kill_wholeLine_is_span (S : Segmenter) (U : UData) (hnl : S.NlAlone) (lb lb' : LB) (r : Bool)
    (ns : List Notif) (h : WF lb) (hrun : LB.kill S U .wholeLine lb = .ok (r, lb', ns)) :
    checkKill S U lb .wholeLine lb'.buf lb'.pos ns = none :=
  (kill_wholeLine_eval S U lb h).checkKill hnl hrun

/-- `dk`: the current line and the n lines above, with exactly one adjoining line break -/
theorem C04_kill_lineUp_is_span (S : Segmenter) (U : UData) (lb lb' : LB) (n : Nat) (r : Bool)
    (ns : List Notif) (h : WF lb) (hrun : LB.kill S U (.lineUp n) lb = .ok (r, lb', ns)) :
    checkKill S U lb (.lineUp n) lb'.buf lb'.pos ns = none :=
  (kill_lineUp_eval S U lb n h).checkKill trivial hrun

/-- `dj`: the current line and the n lines below, with exactly one adjoining line break -/
theorem C04_kill_lineDown_is_span (S : Segmenter) (U : UData) (lb lb' : LB) (n : Nat) (r : Bool)
    (ns : List Notif) (h : WF lb) (hrun : LB.kill S U (.lineDown n) lb = .ok (r, lb', ns)) :
    checkKill S U lb (.lineDown n) lb'.buf lb'.pos ns = none :=
  (kill_lineDown_eval S U lb n h).checkKill trivial hrun

theorem C04_kill_endOfBuffer_is_span (S : Segmenter) (U : UData) (lb lb' : LB) (r : Bool)
    (ns : List Notif) (h : WF lb) (hrun : LB.kill S U .endOfBuffer lb = .ok (r, lb', ns)) :
    checkKill S U lb .endOfBuffer lb'.buf lb'.pos ns = none :=
  (killBuffer_eval S U lb h).wrap.checkKill trivial hrun

theorem C04_kill_beginningOfBuffer_is_span (S : Segmenter) (U : UData) (lb lb' : LB) (r : Bool)
    (ns : List Notif) (h : WF lb) (hrun : LB.kill S U .beginningOfBuffer lb = .ok (r, lb', ns)) :
    checkKill S U lb .beginningOfBuffer lb'.buf lb'.pos ns = none :=
  (discardBuffer_eval S U lb h).wrap.checkKill trivial hrun

theorem C04_kill_wholeBuffer_is_span (S : Segmenter) (U : UData) (lb lb' : LB) (r : Bool)
    (ns : List Notif) (h : WF lb) (hrun : LB.kill S U .wholeBuffer lb = .ok (r, lb', ns)) :
    checkKill S U lb .wholeBuffer lb'.buf lb'.pos ns = none :=
  (kill_wholeBuffer_eval S U lb h).checkKill trivial hrun

/-- `df` / `dt` / `dF`: from the cursor to (and with, for `f`) the n-th occurrence — for every lawful segmenter -/
theorem C04_kill_charSearch_forward_is_span (S : Segmenter) (U : UData) (lb lb' : LB) (n : Nat) (c : Char)
    (r : Bool) (ns : List Notif) (h : WF lb)
    (hrun : LB.kill S U (.viCharSearch n (.forward c)) lb = .ok (r, lb', ns)) :
    checkKill S U lb (.viCharSearch n (.forward c)) lb'.buf lb'.pos ns = none :=
  (deleteTo_eval S U lb _ n h).wrap.checkKill (fun _ hc => nomatch hc) hrun

theorem C04_kill_charSearch_forwardBefore_is_span (S : Segmenter) (U : UData) (lb lb' : LB) (n : Nat) (c : Char)
    (r : Bool) (ns : List Notif) (h : WF lb)
    (hrun : LB.kill S U (.viCharSearch n (.forwardBefore c)) lb = .ok (r, lb', ns)) :
    checkKill S U lb (.viCharSearch n (.forwardBefore c)) lb'.buf lb'.pos ns = none :=
  (deleteTo_eval S U lb _ n h).wrap.checkKill (fun _ hc => nomatch hc) hrun

theorem C04_kill_charSearch_backward_is_span (S : Segmenter) (U : UData) (lb lb' : LB) (n : Nat) (c : Char)
    (r : Bool) (ns : List Notif) (h : WF lb)
    (hrun : LB.kill S U (.viCharSearch n (.backward c)) lb = .ok (r, lb', ns)) :
    checkKill S U lb (.viCharSearch n (.backward c)) lb'.buf lb'.pos ns = none :=
  (deleteTo_eval S U lb _ n h).wrap.checkKill (fun _ hc => nomatch hc) hrun

/-- every char-search kill (incl. `dT`, which needs the stable segmenter) -/
theorem C04_kill_charSearch_is_span (S : Segmenter) (U : UData) (hS : S.Stable) (lb lb' : LB) (n : Nat)
    (cs : CharSearch) (r : Bool) (ns : List Notif) (h : WF lb)
    (hrun : LB.kill S U (.viCharSearch n cs) lb = .ok (r, lb', ns)) :
    checkKill S U lb (.viCharSearch n cs) lb'.buf lb'.pos ns = none :=
  (deleteTo_eval S U lb cs n h).wrap.checkKill (fun _ _ => hS) hrun

/-- word kills in oracle form (decomposition form: `C04_deleteWord_is_span`, `C04_deletePrevWord_is_span`) -/
theorem C04_kill_forwardWord_is_span (S : Segmenter) (U : UData) (lb lb' : LB) (n : Nat) (a : At) (d : Word)
    (r : Bool) (ns : List Notif) (h : WF lb) (hrun : LB.kill S U (.forwardWord n a d) lb = .ok (r, lb', ns)) :
    checkKill S U lb (.forwardWord n a d) lb'.buf lb'.pos ns = none :=
  (deleteWord_eval S U a d n lb h).wrap.checkKill trivial hrun

theorem C04_kill_backwardWord_is_span (S : Segmenter) (U : UData) (lb lb' : LB) (n : Nat) (d : Word)
    (r : Bool) (ns : List Notif) (h : WF lb) (hrun : LB.kill S U (.backwardWord n d) lb = .ok (r, lb', ns)) :
    checkKill S U lb (.backwardWord n d) lb'.buf lb'.pos ns = none :=
  (deletePrevWord_eval S U d n lb h).wrap.checkKill trivial hrun

/-- vi `^` as a motion: `move_to_first_print` lands on the declarative target — the first cluster of the
    current line that holds no white space, the line end when the line is blank — leaves the text alone and
    answers `false` exactly when the cursor did not move -/
theorem C04_moveToFirstPrint_target (S : Segmenter) (U : UData) (lb lb' : LB) (r : Bool) (ns : List Notif)
    (h : WF lb) (hrun : LB.moveToFirstPrint S U lb = .ok (r, lb', ns)) :
    firstPrintTarget S U lb.buf lb.pos = some lb'.pos ∧ lb'.buf = lb.buf ∧ (r = false ↔ lb'.pos = lb.pos) :=
  moveToFirstPrint_target S U lb lb' r ns h hrun

/-- `d^` / `c^`: the text between the cursor and the first non-blank of the line -/
theorem C04_kill_viFirstPrint_is_span (S : Segmenter) (U : UData) (lb lb' : LB) (r : Bool)
    (ns : List Notif) (h : WF lb) (hrun : LB.kill S U .viFirstPrint lb = .ok (r, lb', ns)) :
    checkKill S U lb .viFirstPrint lb'.buf lb'.pos ns = none :=
  (kill_viFirstPrint_eval S U lb h).checkKill trivial hrun

/-- Statement "a kill with a given movement removes exactly the span the movement names" for EVERY
    movement, phrased with the executable oracle of `./check C04`, for every segmenter that is stable (used
    by `dT`) and keeps the line break alone (used by the whole-line kill of an empty line) — every UAX #29
    segmenter is both (`C04_uaxSeg_stable`, `C04_uaxSeg_nlAlone`). -/
def C04_kill_is_span_statement : Prop :=
  ∀ (S : Segmenter) (U : UData), S.Stable → S.NlAlone → ∀ (lb lb' : LB) (mvt : Movement) (r : Bool)
    (ns : List Notif), WF lb →
    LB.kill S U mvt lb = .ok (r, lb', ns) → checkKill S U lb mvt lb'.buf lb'.pos ns = none

/-- **The kill statement for EVERY movement** (every count, word definition, anchor, char search). -/
theorem C04_kill_is_span : C04_kill_is_span_statement :=
  fun S U hS hnl lb _ mvt _ _ h hrun => (kill_eval S U mvt lb h).checkKill ⟨hS, hnl⟩ hrun

theorem C04_copy_forwardChar_is_span (S : Segmenter) (U : UData) (lb : LB) (n : Nat) (r : Option Text)
    (h : WF lb) (hrun : LB.copy S U lb (.forwardChar n) = .ok r) :
    checkCopy S U lb (.forwardChar n) (.optText r) = none :=
  (copy_forwardChar_eval S U lb n h).checkCopy trivial hrun

theorem C04_copy_backwardChar_is_span (S : Segmenter) (U : UData) (lb : LB) (n : Nat) (r : Option Text)
    (h : WF lb) (hrun : LB.copy S U lb (.backwardChar n) = .ok r) :
    checkCopy S U lb (.backwardChar n) (.optText r) = none :=
  (copy_backwardChar_eval S U lb n h).checkCopy trivial hrun

theorem C04_copy_wholeLine_is_span (S : Segmenter) (U : UData) (lb : LB) (r : Option Text)
    (h : WF lb) (hrun : LB.copy S U lb .wholeLine = .ok r) :
    checkCopy S U lb .wholeLine (.optText r) = none :=
  (copy_wholeLine_eval S U lb h).checkCopy trivial hrun

theorem C04_copy_beginningOfLine_is_span (S : Segmenter) (U : UData) (lb : LB) (r : Option Text)
    (h : WF lb) (hrun : LB.copy S U lb .beginningOfLine = .ok r) :
    checkCopy S U lb .beginningOfLine (.optText r) = none :=
  (copy_beginningOfLine_eval S U lb h).checkCopy trivial hrun

theorem C04_copy_endOfLine_is_span (S : Segmenter) (U : UData) (lb : LB) (r : Option Text)
    (h : WF lb) (hrun : LB.copy S U lb .endOfLine = .ok r) :
    checkCopy S U lb .endOfLine (.optText r) = none :=
  (copy_endOfLine_eval S U lb h).checkCopy trivial hrun

theorem C04_copy_lineUp_is_span (S : Segmenter) (U : UData) (lb : LB) (n : Nat) (r : Option Text)
    (h : WF lb) (hrun : LB.copy S U lb (.lineUp n) = .ok r) :
    checkCopy S U lb (.lineUp n) (.optText r) = none :=
  (copy_lineUp_eval S U lb n h).checkCopy trivial hrun

theorem C04_copy_lineDown_is_span (S : Segmenter) (U : UData) (lb : LB) (n : Nat) (r : Option Text)
    (h : WF lb) (hrun : LB.copy S U lb (.lineDown n) = .ok r) :
    checkCopy S U lb (.lineDown n) (.optText r) = none :=
  (copy_lineDown_eval S U lb n h).checkCopy trivial hrun

theorem C04_copy_endOfBuffer_is_span (S : Segmenter) (U : UData) (lb : LB) (r : Option Text)
    (h : WF lb) (hrun : LB.copy S U lb .endOfBuffer = .ok r) :
    checkCopy S U lb .endOfBuffer (.optText r) = none :=
  (copy_endOfBuffer_eval S U lb h).checkCopy trivial hrun

theorem C04_copy_beginningOfBuffer_is_span (S : Segmenter) (U : UData) (lb : LB) (r : Option Text)
    (h : WF lb) (hrun : LB.copy S U lb .beginningOfBuffer = .ok r) :
    checkCopy S U lb .beginningOfBuffer (.optText r) = none :=
  (copy_beginningOfBuffer_eval S U lb h).checkCopy trivial hrun

set_option linter.unusedVariables false in -- `h` is not needed
theorem C04_copy_wholeBuffer_is_span (S : Segmenter) (U : UData) (lb : LB) (r : Option Text)
    (h : WF lb) (hrun : LB.copy S U lb .wholeBuffer = .ok r) :
    checkCopy S U lb .wholeBuffer (.optText r) = none :=
  (copy_wholeBuffer_eval S U lb).checkCopy trivial hrun

theorem C04_copy_charSearch_forward_is_span (S : Segmenter) (U : UData) (lb : LB) (n : Nat) (c : Char)
    (r : Option Text) (h : WF lb) (hrun : LB.copy S U lb (.viCharSearch n (.forward c)) = .ok r) :
    checkCopy S U lb (.viCharSearch n (.forward c)) (.optText r) = none :=
  (copy_viCharSearch_eval S U lb _ n h).checkCopy (fun _ hc => nomatch hc) hrun

theorem C04_copy_charSearch_forwardBefore_is_span (S : Segmenter) (U : UData) (lb : LB) (n : Nat) (c : Char)
    (r : Option Text) (h : WF lb) (hrun : LB.copy S U lb (.viCharSearch n (.forwardBefore c)) = .ok r) :
    checkCopy S U lb (.viCharSearch n (.forwardBefore c)) (.optText r) = none :=
  (copy_viCharSearch_eval S U lb _ n h).checkCopy (fun _ hc => nomatch hc) hrun

theorem C04_copy_charSearch_backward_is_span (S : Segmenter) (U : UData) (lb : LB) (n : Nat) (c : Char)
    (r : Option Text) (h : WF lb) (hrun : LB.copy S U lb (.viCharSearch n (.backward c)) = .ok r) :
    checkCopy S U lb (.viCharSearch n (.backward c)) (.optText r) = none :=
  (copy_viCharSearch_eval S U lb _ n h).checkCopy (fun _ hc => nomatch hc) hrun

theorem C04_copy_charSearch_is_span (S : Segmenter) (U : UData) (hS : S.Stable) (lb : LB) (n : Nat)
    (cs : CharSearch) (r : Option Text) (h : WF lb) (hrun : LB.copy S U lb (.viCharSearch n cs) = .ok r) :
    checkCopy S U lb (.viCharSearch n cs) (.optText r) = none :=
  (copy_viCharSearch_eval S U lb cs n h).checkCopy (fun _ _ => hS) hrun

theorem C04_copy_forwardWord_is_span (S : Segmenter) (U : UData) (lb : LB) (n : Nat) (a : At) (d : Word)
    (r : Option Text) (h : WF lb) (hrun : LB.copy S U lb (.forwardWord n a d) = .ok r) :
    checkCopy S U lb (.forwardWord n a d) (.optText r) = none :=
  (copy_forwardWord_eval S U lb n a d h).checkCopy trivial hrun

theorem C04_copy_backwardWord_is_span (S : Segmenter) (U : UData) (lb : LB) (n : Nat) (d : Word)
    (r : Option Text) (h : WF lb) (hrun : LB.copy S U lb (.backwardWord n d) = .ok r) :
    checkCopy S U lb (.backwardWord n d) (.optText r) = none :=
  (copy_backwardWord_eval S U lb n d h).checkCopy trivial hrun

/-- `y^`: the text between the first non-blank of the line and the cursor -/
theorem C04_copy_viFirstPrint_is_span (S : Segmenter) (U : UData) (lb : LB) (r : Option Text)
    (h : WF lb) (hrun : LB.copy S U lb .viFirstPrint = .ok r) :
    checkCopy S U lb .viFirstPrint (.optText r) = none :=
  (copy_viFirstPrint_eval S U lb h).checkCopy trivial hrun

/-- Statement for copies, EVERY movement, for every stable segmenter (used by `yT`). -/
def C04_copy_is_span_statement : Prop :=
  ∀ (S : Segmenter) (U : UData), S.Stable → ∀ (lb : LB) (mvt : Movement) (r : Option Text), WF lb →
    LB.copy S U lb mvt = .ok r → checkCopy S U lb mvt (.optText r) = none

/-- **The copy statement for EVERY movement.** -/
theorem C04_copy_is_span : C04_copy_is_span_statement :=
  fun S U hS lb mvt _ h hrun => (copy_eval S U mvt lb h).checkCopy hS hrun

def C04_exU : UData := ⟨fun c => c.isAlphanum, fun c => c == ' ', fun c => [c], fun c => [c], fun t => t.length, fun _ => 1⟩

/-- `^` is relative to the CURRENT line (finding D46: `y^` measured from the start of the buffer and `d^` did
    nothing): "ab", cursor 1, `d^` removes "a"; "a\nbc", cursor 4, `y^` returns "bc";
    "\n0. ", cursor 3, `^` goes to 1 -/
example : LB.kill charSeg C04_exU .viFirstPrint ⟨['a', 'b'], 1, 16, false⟩ =
    .ok (true, ⟨['b'], 0, 16, false⟩, [.startKill, .del 0 ['a'] .backward, .stopKill]) := by rfl
example : LB.copy charSeg C04_exU ⟨['a', '\n', 'b', 'c'], 4, 16, false⟩ .viFirstPrint = .ok (some ['b', 'c']) := by rfl
example : LB.moveToFirstPrint charSeg ⟨fun c => c.isAlphanum, fun c => c == ' ' || c == '\n', fun c => [c], fun c => [c], fun t => t.length, fun _ => 1⟩
    ⟨['\n', '0', '.', ' '], 3, 16, false⟩ = .ok (true, ⟨['\n', '0', '.', ' '], 1, 16, false⟩, []) := by rfl

/-- FULL statement for `At::BeforeEnd` (vi `e` / `E`); refuted below -/
def C04_word_target_beforeEnd_statement : Prop :=
  ∀ (S : Segmenter) (U : UData) (lb : LB) (d : Word) (n : Nat), WF lb → n ≠ 0 → d ≠ .emacs →
    LB.nextWordPos S U lb lb.pos .beforeEnd d n = .ok (wordTargetFwd S U lb.buf lb.pos .beforeEnd d n true)

theorem C04_word_target_beforeEnd_counterexample : ¬ C04_word_target_beforeEnd_statement := by
  intro h
  have := h charSeg C04_exU ⟨['a', ',', 'a'], 0, 16, false⟩ .vi 2 (isBoundary_zero _) (by decide) (by decide)
  have e1 : LB.nextWordPos charSeg C04_exU ⟨['a', ',', 'a'], 0, 16, false⟩ 0 .beforeEnd .vi 2 = .ok none := by rfl
  have e2 : wordTargetFwd charSeg C04_exU ['a', ',', 'a'] 0 .beforeEnd .vi 2 true = some 2 := by rfl
  rw [e1, e2] at this
  simp at this


/-- what `verticalTarget` picks: a cluster boundary of the destination line at or right of the wanted
    column `c`, or the line end -/
theorem C04_verticalTarget_spec (S : Segmenter) (U : UData) (buf : Text) (ds de : Nat) (line : Text) (pc c : Nat) :
    verticalTarget S U buf ds de line pc c = de ∨
      (verticalTarget S U buf ds de line pc c ∈ bounds ds (S.seg line) ∧
        displayCol U buf (verticalTarget S U buf ds de line pc c) pc ≥ c) := by
  unfold verticalTarget
  cases hf : (bounds ds (S.seg line)).find? (fun q => decide (displayCol U buf q pc ≥ c)) with
  | none => left; rfl
  | some q =>
    right
    have h1 := List.find?_some hf
    exact ⟨List.mem_of_find?_eq_some hf, by simpa using h1⟩

/-- `move_to_line_up(n)`, `n ≠ 0`, from a well-formed state: on the first line nothing happens;
    otherwise the destination is the declarative line (`n` lines up, or the first line), the cursor
    lands inside it, exactly on the declarative `verticalTarget`: the first cluster boundary of that line
    at or right of the display column the cursor came from, else the line end. -/
theorem C04_moveToLineUp_dest (S : Segmenter) (U : UData) (n pc : Nat) (lb lb' : LB) (r : Bool)
    (ns : List Notif) (h : WF lb) (hn : n ≠ 0) (hrun : LB.moveToLineUp S U n pc lb = .ok (r, lb', ns)) :
    (verticalDest lb.buf lb.pos n true = none ∧ r = false ∧ lb' = lb) ∨
    ∃ ds de line, verticalDest lb.buf lb.pos n true = some (ds, de) ∧ r = true ∧
      slice lb.buf ds de = .ok line ∧ lb'.buf = lb.buf ∧ ds ≤ lb'.pos ∧ lb'.pos ≤ de ∧
      lb'.pos = verticalTarget S U lb.buf ds de line pc (displayCol U lb.buf lb.pos pc) :=
  ((vm_moveToLineUp_eval S U n pc lb h).count hn).dest hrun

/-- `move_to_line_down(n)`: same (the display column of the cursor includes the prompt width when the
    cursor is on the first line; the destination never is the first line). -/
theorem C04_moveToLineDown_dest (S : Segmenter) (U : UData) (n pc : Nat) (lb lb' : LB) (r : Bool)
    (ns : List Notif) (h : WF lb) (hn : n ≠ 0) (hrun : LB.moveToLineDown S U n pc lb = .ok (r, lb', ns)) :
    (verticalDest lb.buf lb.pos n false = none ∧ r = false ∧ lb' = lb) ∨
    ∃ ds de line, verticalDest lb.buf lb.pos n false = some (ds, de) ∧ r = true ∧
      slice lb.buf ds de = .ok line ∧ lb'.buf = lb.buf ∧ ds ≤ lb'.pos ∧ lb'.pos ≤ de ∧
      lb'.pos = verticalTarget S U lb.buf ds de line pc (displayCol U lb.buf lb.pos pc) :=
  ((vm_moveToLineDown_eval S U n pc lb h).count hn).dest hrun

/-- Column theorem for `move_to_line_up`, for EVERY lawful segmenter and every width function (wide,
    zero-width clusters included): the executable oracle `checkVerticalCol` is satisfied. "Same display
    column" means: the first cluster boundary of the destination line whose display column (width of the
    text before it, plus the prompt on the first line) is at or right of the cursor's; so exactly the
    cursor's column whenever a boundary has it, just after a wide cluster that straddles it, and the line
    end when the line is too short. -/
theorem C04_moveToLineUp_column (S : Segmenter) (U : UData) (n pc : Nat) (lb lb' : LB) (r : Bool)
    (ns : List Notif) (h : WF lb) (hn : n ≠ 0) (hrun : LB.moveToLineUp S U n pc lb = .ok (r, lb', ns)) :
    checkVerticalCol S U lb n true pc lb'.pos = none :=
  ((vm_moveToLineUp_eval S U n pc lb h).count hn).column hn hrun

/-- Column theorem for `move_to_line_down`, likewise without any hypothesis on widths. -/
theorem C04_moveToLineDown_column (S : Segmenter) (U : UData) (n pc : Nat) (lb lb' : LB) (r : Bool)
    (ns : List Notif) (h : WF lb) (hn : n ≠ 0) (hrun : LB.moveToLineDown S U n pc lb = .ok (r, lb', ns)) :
    checkVerticalCol S U lb n false pc lb'.pos = none :=
  ((vm_moveToLineDown_eval S U n pc lb h).count hn).column hn hrun

/-- the statement "a vertical motion keeps the display column" in one piece, phrased with the executable
    oracle `checkVerticalCol` (the code walks the clusters of the target line adding up widths; using the
    display column as a cluster index, D36, lands elsewhere when a wide character is on either line) -/
def C04_vertical_column_statement : Prop :=
  ∀ (up : Bool) (S : Segmenter) (U : UData) (n pc : Nat) (lb lb' : LB) (r : Bool) (ns : List Notif), WF lb → n ≠ 0 →
    (if up then LB.moveToLineUp S U n pc lb else LB.moveToLineDown S U n pc lb) = .ok (r, lb', ns) →
    checkVerticalCol S U lb n up pc lb'.pos = none

theorem C04_vertical_column : C04_vertical_column_statement := by
  intro up S U n pc lb lb' r ns h hn hrun
  cases up with
  | true => exact C04_moveToLineUp_column S U n pc lb lb' r ns h hn (by simpa using hrun)
  | false => exact C04_moveToLineDown_column S U n pc lb lb' r ns h hn (by simpa using hrun)

/-- Unicode data with a wide character: `'W'` is two columns wide, every other character one -/
def C04_wideU : UData :=
  ⟨fun c => c.isAlphanum, fun c => c == ' ', fun c => [c], fun c => [c],
   fun t => (t.map (fun c => if c == 'W' then 2 else 1)).sum, fun c => if c == 'W' then 2 else 1⟩

/-- "WW\nabcd", cursor after "ab" (display column 2), one line up: after the first 'W' (column 2), not after the second cluster -/
example : LB.moveToLineUp charSeg C04_wideU 1 0 ⟨['W', 'W', '\n', 'a', 'b', 'c', 'd'], 5, 16, false⟩ =
    .ok (true, ⟨['W', 'W', '\n', 'a', 'b', 'c', 'd'], 1, 16, false⟩, []) := by rfl
/-- "abcd\nWW", cursor after "ab", one line down: after the first 'W' -/
example : LB.moveToLineDown charSeg C04_wideU 1 0 ⟨['a', 'b', 'c', 'd', '\n', 'W', 'W'], 2, 16, false⟩ =
    .ok (true, ⟨['a', 'b', 'c', 'd', '\n', 'W', 'W'], 6, 16, false⟩, []) := by rfl
/-- a wide cluster straddles the column: "Wx\nab", cursor after "a" (column 1), up: just after the 'W' (column 2) -/
example : LB.moveToLineUp charSeg C04_wideU 1 0 ⟨['W', 'x', '\n', 'a', 'b'], 4, 16, false⟩ =
    .ok (true, ⟨['W', 'x', '\n', 'a', 'b'], 1, 16, false⟩, []) := by rfl
example : verticalTarget charSeg C04_wideU ['W', 'x', '\n', 'a', 'b'] 0 2 ['W', 'x'] 0 1 = 1 := by rfl
example : verticalDest ['W', 'W', '\n', 'a', 'b', 'c', 'd'] 5 1 true = some (0, 2) := by rfl
example : verticalDest ['a', '\n', 'b', '\n', 'c', 'd'] 0 5 false = some (4, 6) := by rfl
example : displayCol C04_wideU ['W', 'W', '\n', 'a', 'b', 'c', 'd'] 1 3 = 5 := by rfl
/-- the oracle rejects the end of "WW" (cluster index 2, column 4) and accepts offset 1 (column 2) -/
example : checkVerticalCol charSeg C04_wideU ⟨['W', 'W', '\n', 'a', 'b', 'c', 'd'], 5, 16, false⟩ 1 true 0 2 =
    some "vertical-wrong-column" := by rfl
example : checkVerticalCol charSeg C04_wideU ⟨['W', 'W', '\n', 'a', 'b', 'c', 'd'], 5, 16, false⟩ 1 true 0 1 = none := by rfl
/-- prompt wider than the column: the start of the first line -/
example : checkVerticalCol charSeg C04_wideU ⟨['x', 'y', 'z', '\n', 'a', 'b', 'c', 'd'], 5, 16, false⟩ 1 true 3 0 = none := by rfl


example : wordTargetFwd charSeg C04_exU ['a', ',', 'b', 'c'] 0 .start .vi 2 true = some 2 := by rfl
example : LB.nextWordPos charSeg C04_exU ⟨['a', ',', 'b', 'c'], 0, 16, false⟩ 0 .start .vi 2 = .ok (some 2) := by rfl
example : wordTargetBwd charSeg C04_exU ['a', ',', 'b', 'c'] 4 .vi 2 = some 1 := by rfl


/-! ## character searches whose count exceeds the number of occurrences

  `csTotal S buf pos cs` is the number of occurrences of the searched character in the region the search
  scans (after the cluster under the cursor for `f`/`t`, before the cursor for `F`/`T`).  The theorems
  `C04_char_search_*` above assume that the n-th occurrence exists; these say what the model — and, through
  `./check C04`, the code — does for EVERY count. -/

/-- No occurrence of the character in the region searched (any kind of search `f t F T`, any count ≥ 1, any
    lawful segmenter, any well-formed state): the declarative spec has no target and the model's
    `search_char_pos` answers `None`, so the cursor does not move and nothing is killed. -/
theorem C04_char_search_nothing (S : Segmenter) (lb : LB) (cs : CharSearch) (n : Nat) (h : WF lb) (hn : n ≠ 0)
    (h0 : csTotal S lb.buf lb.pos cs = 0) :
    charSearchTarget S lb.buf lb.pos cs n = none ∧ LB.searchCharPos S lb cs n = .ok none :=
  ⟨cs_target_none_of_total_zero S lb cs n h hn h0, searchCharPos_none_of_total_zero S lb cs n h h0⟩

/-- The count of a character search is CLAMPED to the number `K ≥ 1` of occurrences: for every well-formed
    state, every kind of search, every count `n ≥ 1` and every stable segmenter, the model lands on the
    declarative target of the `min n K`-th occurrence (on it, one whole cluster before it, one whole cluster
    after it).  For `n ≤ K` this is `C04_char_search_partial`; for `n > K` the model goes to the LAST occurrence
    although the property's "n-th occurrence" does not exist. -/
theorem C04_char_search_clamped (S : Segmenter) (hS : S.Stable) (lb : LB) (cs : CharSearch) (n t : Nat)
    (h : WF lb) (hn : n ≠ 0) (hK : csTotal S lb.buf lb.pos cs ≠ 0)
    (ht : charSearchTarget S lb.buf lb.pos cs (min n (csTotal S lb.buf lb.pos cs)) = some t) :
    LB.searchCharPos S lb cs n = .ok (some t) := by
  rw [searchCharPos_clamp S lb cs n h]
  exact searchCharPos_eq_target S hS lb cs _ t h (by omega) ht

/-- non-vacuity: "aXa", cursor 0, `5fa`: one occurrence after the cursor cluster, the model lands on it -/
example : csTotal charSeg ['a', 'X', 'a'] 0 (.forward 'a') = 1 ∧
    charSearchTarget charSeg ['a', 'X', 'a'] 0 (.forward 'a') (min 5 1) = some 2 ∧
    LB.searchCharPos charSeg ⟨['a', 'X', 'a'], 0, 16, false⟩ (.forward 'a') 5 = .ok (some 2) := ⟨rfl, rfl, rfl⟩

/-- FULL statement "the model's search target IS the declarative one" with the no-target case included (the
    cursor stays when there is no n-th occurrence) — refuted by `C04_char_search_total_counterexample`. -/
def C04_char_search_total_statement : Prop :=
  ∀ (S : Segmenter) (lb : LB) (cs : CharSearch) (n : Nat), S.Stable → WF lb → n ≠ 0 →
    LB.searchCharPos S lb cs n = .ok (charSearchTarget S lb.buf lb.pos cs n)

/-- FINDING (F-C04-charsearch-count-overrun): "aXa", cursor 0, `2fa` — there is one `a` after the cursor, no
    second occurrence, yet `search_char_pos` answers `Some(2)`: the cursor moves to the only occurrence (and
    `d2fa` kills up to and including it). -/
theorem C04_char_search_total_counterexample : ¬ C04_char_search_total_statement := by
  intro hst
  have := hst charSeg ⟨['a', 'X', 'a'], 0, 16, false⟩ (.forward 'a') 2 charSeg_stable (isBoundary_zero _) (by decide)
  have e1 : LB.searchCharPos charSeg ⟨['a', 'X', 'a'], 0, 16, false⟩ (.forward 'a') 2 = .ok (some 2) := by rfl
  have e2 : charSearchTarget charSeg ['a', 'X', 'a'] 0 (.forward 'a') 2 = none := by rfl
  rw [e1, e2] at this
  simp at this

/-- the same input as a kill: `d2fa` on "aXa" removes the whole text although there is no second `a` -/
example : (match LB.kill charSeg C04_exU (.viCharSearch 2 (.forward 'a')) ⟨['a', 'X', 'a'], 0, 16, false⟩ with
    | .ok (_, lb', _) => lb'.buf
    | _ => ['?']) = [] := by rfl

/-- The EXACT set of inputs on which model and spec agree for the plain searches `f` / `F`, for every lawful
    segmenter, well-formed state and count `n ≥ 1`: the model's answer equals the declarative target
    (including "no target, stay") if and only if the count does not exceed the number of occurrences, or there
    is no occurrence at all.  So the deviation recorded above happens exactly for `1 ≤ K < n`. -/
theorem C04_char_search_plain_agree_iff (S : Segmenter) (lb : LB) (cs : CharSearch) (c : Char)
    (hcs : cs = .forward c ∨ cs = .backward c) (n : Nat) (h : WF lb) (hn : n ≠ 0) :
    LB.searchCharPos S lb cs n = .ok (charSearchTarget S lb.buf lb.pos cs n) ↔
      (n ≤ csTotal S lb.buf lb.pos cs ∨ csTotal S lb.buf lb.pos cs = 0) := by
  have hplain : ∀ m t, m ≠ 0 → charSearchTarget S lb.buf lb.pos cs m = some t →
      LB.searchCharPos S lb cs m = .ok (some t) := by
    intro m t hm ht
    rcases hcs with rfl | rfl
    · exact searchCharPos_forward_eq S lb c m t h hm ht
    · exact searchCharPos_backward_eq S lb c m t h hm ht
  by_cases hK : csTotal S lb.buf lb.pos cs = 0
  · have := C04_char_search_nothing S lb cs n h hn hK
    rw [this.1, this.2]
    simp [hK]
  · by_cases hle : n ≤ csTotal S lb.buf lb.pos cs
    · have hs := cs_plain_isSome S lb cs c hcs n h hn
      cases ht : charSearchTarget S lb.buf lb.pos cs n with
      | none => rw [ht] at hs; simp at hs; omega
      | some t => rw [hplain n t hn ht]; simp [hle]
    · have hs := cs_plain_isSome S lb cs c hcs n h hn
      have hsK := cs_plain_isSome S lb cs c hcs (csTotal S lb.buf lb.pos cs) h hK
      cases htK : charSearchTarget S lb.buf lb.pos cs (csTotal S lb.buf lb.pos cs) with
      | none => rw [htK] at hsK; simp at hsK
      | some t =>
        have hm : min n (csTotal S lb.buf lb.pos cs) = csTotal S lb.buf lb.pos cs := by omega
        rw [searchCharPos_clamp S lb cs n h, hm, hplain _ t hK htK]
        cases ht : charSearchTarget S lb.buf lb.pos cs n with
        | none => simp [hle, hK]
        | some u => rw [ht] at hs; simp at hs; omega


/-! ## vi `e` / `E` (`At::BeforeEnd`) with a count of 1

  `C04_word_target_beforeEnd_statement` (every count) is refuted above (F-C04-vi-e-count, witness with count 2).
  For a count of 1 — plain `e` / `E`, the keys people type — the model target IS the declarative one, for every
  lawful segmenter, every Unicode data and every well-formed state; so every input on which model and spec
  differ has a count ≥ 2. -/

/-- `C04_word_target_beforeEnd_statement` with the extra hypothesis `n = 1` (what is missing: counts ≥ 2, where
    the statement is false): `next_word_pos(pos, BeforeEnd, Vi|Big, 1)` answers the start of the last cluster of
    the first word end lying at least one cluster after the cluster under the cursor; when there is none, the
    start of the last cluster of the text; `None` when the cursor is on the last cluster or at the text end. -/
theorem C04_word_target_beforeEnd_partial (S : Segmenter) (U : UData) (lb : LB) (d : Word) (h : WF lb)
    (hd : d ≠ .emacs) :
    LB.nextWordPos S U lb lb.pos .beforeEnd d 1 = .ok (wordTargetFwd S U lb.buf lb.pos .beforeEnd d 1 true) :=
  nextWordPos_beforeEnd_one S U lb d h hd

/-- The motion itself: `move_to_next_word(At::BeforeEnd, Vi|Big, 1)` (vi `e` / `E`) from a well-formed state
    leaves the text alone, puts the cursor on the declarative target, or leaves it where it was when there is no
    target, and answers `true` exactly when there was a target. -/
theorem C04_moveToNextWord_beforeEnd_one (S : Segmenter) (U : UData) (lb lb' : LB) (d : Word) (r : Bool)
    (ns : List Notif) (h : WF lb) (hd : d ≠ .emacs)
    (hrun : LB.moveToNextWord S U .beforeEnd d 1 lb = .ok (r, lb', ns)) :
    lb'.buf = lb.buf ∧ ns = [] ∧
      lb'.pos = (wordTargetFwd S U lb.buf lb.pos .beforeEnd d 1 true).getD lb.pos ∧
      r = (wordTargetFwd S U lb.buf lb.pos .beforeEnd d 1 true).isSome := by
  have ht := nextWordPos_beforeEnd_one S U lb d h hd
  unfold LB.moveToNextWord at hrun
  simp only [LM.bind_apply, LM.ro, ht] at hrun
  cases hc : wordTargetFwd S U lb.buf lb.pos .beforeEnd d 1 true with
  | none =>
    simp [hc] at hrun
    obtain ⟨rfl, rfl, rfl⟩ := hrun
    simp
  | some p =>
    simp [hc] at hrun
    obtain ⟨rfl, rfl, rfl⟩ := hrun
    simp

/-- non-vacuity: "ab, c" from 0, `e` goes to 1 (the `b`); from 1 to 2 (the comma); "a,a" from 0 to 1;
    on the last cluster it stays -/
example : wordTargetFwd charSeg C04_exU ['a', 'b', ',', ' ', 'c'] 0 .beforeEnd .vi 1 true = some 1 := by rfl
example : LB.nextWordPos charSeg C04_exU ⟨['a', 'b', ',', ' ', 'c'], 1, 16, false⟩ 1 .beforeEnd .vi 1 = .ok (some 2) := by rfl
example : LB.nextWordPos charSeg C04_exU ⟨['a', ',', 'a'], 0, 16, false⟩ 0 .beforeEnd .vi 1 = .ok (some 1) := by rfl
example : LB.nextWordPos charSeg C04_exU ⟨['a', ',', 'a'], 2, 16, false⟩ 2 .beforeEnd .vi 1 = .ok none := by rfl
