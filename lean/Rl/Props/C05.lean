/-
  Property C05 — Undo walks back through real earlier states, one edit unit at a time.
  Model: `Rl/Undo.lean` (transliteration of `src/undo.rs`; `truncate` also takes the level back), wired
  into the editor model in `Rl/Editor.lean` (`lb`, `lbKill`, `changesBegin/End`, `truncateChanges`);
  oracle `Spec.oracleC05` on the implementation's callbacks.  The theorems below are about the undo
  log itself, for EVERY stack and EVERY sequence of listener notifications (no bound): the stack is
  an exact log of the line, markers stay balanced, an aborted group leaves no trace, one Undo pops
  exactly one unit and leaves the line at the replay of the remaining log.  Helper definitions
  (`applyFwd`, `replayLog`, `replayNotifs`, `depth`, `undoLoopG`, `Nested`) and lemmas are in
  `Rl/Lemmas/Undo.lean`.
-/
import Rl.Editor
import Rl.Lemmas.Undo
import Rl.Lemmas.EditorLoops
import Rl.Lemmas.UndoBottom
import Rl.Lemmas.UndoUnits
import Rl.Lemmas.LineBufferSafe
open Rl

/-- **Log replay.** If replaying the stack (oldest change first, markers skipped) takes `t0` to `t`,
    and the line buffer then reports the notifications `ns`, whose own replay takes `t` to `t'`,
    then replaying the stack after the listener has processed `ns` takes `t0` to `t'` — including
    every merge the listener performs (single alphanumeric insertions into the preceding `Insert`,
    single-grapheme deletions into the preceding `Delete` on either side, adjacent replacements). -/
theorem C05_log_replay (S : Segmenter) (alnum : Char → Bool) (c : Changeset) (ns : List Notif) (t0 t t' : Text)
    (hlog : replayLog c.undos.reverse t0 = some t) (hns : replayNotifs ns t = some t') :
    replayLog (c.onNotifs S alnum ns).undos.reverse t0 = some t' := by
  induction ns generalizing c t with
  | nil =>
    simp only [replayNotifs, Option.some.injEq] at hns
    subst hns; exact hlog
  | cons n ns ih =>
    simp only [replayNotifs] at hns
    split at hns
    · rename_i t1 h1
      have := onNotif_replay S alnum c n t0 t t1 hlog h1
      exact ih (c.onNotif S alnum n) t1 this hns
    · cases hns

/-- the markers do not take part in the replay: `begin` and `end_` keep the log -/
theorem C05_log_markers (c : Changeset) (t0 t : Text) (hlog : replayLog c.undos.reverse t0 = some t) :
    replayLog c.begin.1.undos.reverse t0 = some t ∧ replayLog c.end_.1.undos.reverse t0 = some t := by
  refine ⟨(replay_marker rfl _ t0).trans hlog, ?_⟩
  exact endLoop_induct (P := fun us => replayLog us.reverse t0 = some t)
    (fun _ h => (replay_marker rfl _ t0).symm.trans h) (fun _ h => (replay_marker rfl _ t0).trans h) _ _ _ hlog

/-- `level` is the number of unmatched `Begin` markers of the stack, and every `End` has its `Begin` -/
def Balanced (c : Changeset) : Prop := depth c.undos = some c.level

/-- **Balanced markers.** The fresh log is balanced; `begin`, every listener notification and
    `truncate` (to any mark) keep it balanced; `end_` closes ALL open groups: afterwards the level is 0
    and no `Begin` is unmatched. -/
theorem C05_balanced (S : Segmenter) (alnum : Char → Bool) (c : Changeset) (h : Balanced c) :
    Balanced Changeset.new ∧
    Balanced c.begin.1 ∧
    (∀ ns, Balanced (c.onNotifs S alnum ns)) ∧
    (Balanced c.end_.1 ∧ c.end_.1.level = 0) ∧
    (∀ mark, Balanced (c.truncate mark)) := by
  refine ⟨rfl, ?_, fun ns => ?_, ⟨endLoop_depth c.level c.undos false h, rfl⟩, fun mark => ?_⟩
  · exact (depth_cons_begin _).trans (congrArg (Option.map (· + 1)) h)
  · refine onNotifs_induct (P := Balanced) (fun c n hc => ?_) ns c h
    exact (depth_onNotif S alnum c n).trans (hc.trans (congrArg some (Changeset.onNotif_level S alnum c n).symm))
  · have hd : depth (c.undos.take (c.undos.length - mark) ++ c.undos.drop (c.undos.length - mark)) = some c.level := by
      rw [List.take_append_drop]; exact h
    obtain ⟨m, hm, he⟩ := depth_append hd
    show depth (c.undos.drop _) = some (c.level + ends (c.undos.take _) - begins (c.undos.take _))
    rw [hm, he, Nat.add_sub_cancel]

/-- what may happen between `begin` and the `truncate` of an abort path: notifications and nested `begin`s -/
inductive GOp
  | notif (n : Notif)
  | begin

def GOp.run (S : Segmenter) (alnum : Char → Bool) (c : Changeset) : GOp → Changeset
  | .notif n => c.onNotif S alnum n
  | .begin => c.begin.1

/-- the shape of the stack after `begin` and any sequence of notifications and nested `begin`s:
    `extra ++ Begin :: c.undos` with no `End` in `extra`; the level counts the open `Begin`s -/
theorem C05_ops_shape (S : Segmenter) (alnum : Char → Bool) (c : Changeset) :
    ∀ (ops : List GOp) (c' : Changeset),
      (∃ extra, c'.undos = extra ++ .begin :: c.undos ∧ ends extra = 0 ∧ c'.level = c.level + 1 + begins extra) →
      ∃ extra, (ops.foldl (GOp.run S alnum) c').undos = extra ++ .begin :: c.undos ∧ ends extra = 0 ∧
        (ops.foldl (GOp.run S alnum) c').level = c.level + 1 + begins extra := by
  intro ops
  induction ops with
  | nil => intro c' h; exact h
  | cons op ops ih =>
    intro c' ⟨extra, hu, he, hl⟩
    apply ih
    cases op with
    | begin =>
      exact ⟨.begin :: extra, congrArg (Change.begin :: ·) hu, he,
        (congrArg (· + 1) hl).trans (Nat.add_assoc _ _ 1)⟩
    | notif n =>
      show ∃ extra, (c'.onNotif S alnum n).undos = _ ∧ _ ∧ (c'.onNotif S alnum n).level = _
      rw [Changeset.onNotif_level]
      obtain ⟨extra', h1, h2⟩ := onNotif_above_marker S alnum n (m := .begin) rfl hu
      refine ⟨extra', h1, ?_⟩
      rcases h2 with rfl | ⟨ch, hm, rfl⟩ | ⟨hd, e, ch, rfl, hm1, hm2, rfl⟩
      · exact ⟨he, hl⟩
      · rw [ends_cons_nonmarker hm, begins_cons_nonmarker hm]; exact ⟨he, hl⟩
      · rw [ends_cons_nonmarker hm1] at he
        rw [begins_cons_nonmarker hm1] at hl
        rw [ends_cons_nonmarker hm2, begins_cons_nonmarker hm2]; exact ⟨he, hl⟩

/-- **Truncate restores.** After `begin` (returning the mark), any sequence of listener
    notifications and nested `begin`s, and then `truncate mark`, the stack and the level are exactly
    what they were before `begin` — the abort-transparency clause at the level of the log (what the
    completion and incremental-search abort paths do). -/
theorem C05_truncate_restores (S : Segmenter) (alnum : Char → Bool) (c : Changeset) (ops : List GOp) :
    let c1 := c.begin.1
    let mark := c.begin.2
    let c2 := ops.foldl (GOp.run S alnum) c1
    (c2.truncate mark).undos = c.undos ∧ (c2.truncate mark).level = c.level := by
  intro c1 mark c2
  obtain ⟨extra, hu, he, hl⟩ := C05_ops_shape S alnum c ops c1 ⟨[], rfl, rfl, rfl⟩
  have hu' : c2.undos = (extra ++ [.begin]) ++ c.undos := by rw [List.append_assoc]; exact hu
  constructor
  · show c2.undos.drop (c2.undos.length - c.undos.length) = c.undos
    rw [hu']; exact drop_length_sub_append _ _
  · show c2.level + ends (c2.undos.take (c2.undos.length - c.undos.length)) -
      begins (c2.undos.take (c2.undos.length - c.undos.length)) = c.level
    rw [hu', take_length_sub_append, ends_append, begins_append, he, show c2.level = _ from hl]
    show c.level + 1 + begins extra + (0 + 0) - (begins extra + 1) = c.level
    omega

/-- an undo unit at the top of the stack (most recent first): one change, or one complete
    `End … Begin` group whose inside is well nested -/
inductive UndoUnit : List Change → Prop
  | change (ch : Change) : ch.isMarker = false → UndoUnit [ch]
  | group (body : List Change) : Nested body → UndoUnit (.end_ :: body ++ [.begin])

/-- **Undo unit.** With the stack `u ++ rest` where `u` is one unit, and the effect of undoing one
    change on the line abstracted to `step`: the loop of `Changeset::undo` at depth 0 with `count`
    units already done pops exactly `u` — it pushes `u` reversed on the redo stack, has applied the
    undo steps of exactly the changes of `u` (most recent first), and then either stops (when this
    was the `n`-th unit) or goes on with `rest`, one more unit counted.  In particular `undo 1`
    never goes below the state that preceded the most recent unit. -/
theorem C05_undo_unit {σ : Type} (step : Change → σ → Except Panic σ) (n : Nat)
    (u rest redos : List Change) (hu : UndoUnit u) (s s' : σ) (count : Nat) (undone : Bool)
    (hs : undoAll step u s = .ok s') :
    undoLoopG step n (u ++ rest) redos s 0 count undone =
      if count + 1 ≥ n then .ok (rest, u.reverse ++ redos, s', undone || u.any (fun c => !c.isMarker))
      else undoLoopG step n rest (u.reverse ++ redos) s' 0 (count + 1) (undone || u.any (fun c => !c.isMarker)) := by
  cases hu with
  | change ch hm =>
    rw [undoAll_cons_change step hm] at hs
    cases h1 : step ch s with
    | error e => rw [h1] at hs; cases hs
    | ok s1 =>
      rw [h1] at hs
      simp only [undoAll, Except.ok.injEq] at hs
      subst hs
      rw [List.cons_append, List.nil_append, undoLoopG_cons_change step n hm, h1]
      simp [undoNext_zero, hm]
  | group body hb =>
    rw [List.cons_append, undoAll_cons_marker step (ch := .end_) rfl] at hs
    obtain ⟨s1, h1, h2⟩ := (undoAll_append_iff step body [.begin] s s').mp hs
    rw [undoAll_cons_marker step (ch := .begin) rfl] at h2
    simp only [undoAll, Except.ok.injEq] at h2
    subst h2
    simp only [List.cons_append, List.append_assoc, List.nil_append]
    rw [undoLoopG_cons_end, Int.zero_add, undoNext_pos _ _ _ _ _ _ Int.one_pos,
      undoLoopG_nested step n hb _ _ _ _ 1 Int.one_pos _ _ h1, undoLoopG_cons_begin, if_pos Int.one_pos,
      Int.sub_self, undoNext_zero]
    simp [Change.isMarker]

theorem C05_undo_unit_model (S : Segmenter) (U : UData) (u rest redos : List Change) (hu : UndoUnit u) (lb lb' : LB)
    (level : Nat)
    (hs : undoAll (fun ch lb => ch.undoOn S U lb) u lb = .ok lb') :
    ∃ level', Changeset.undoLoop S U 1 (u ++ rest) redos lb 0 0 false level =
      .ok (rest, u.reverse ++ redos, lb', u.any (fun c => !c.isMarker), level') := by
  have h := C05_undo_unit (fun ch lb => ch.undoOn S U lb) 1 u rest redos hu lb lb' 0 false hs
  simp only [Nat.zero_add, ge_iff_le, Nat.le_refl, if_true, Bool.false_or] at h
  exact undoLoop_of_G S U 1 _ _ _ _ _ _ level _ h

/-- **Undo keeps the markers balanced.**  `Changeset::undo` with any repeat count, also
    when it is requested INSIDE an open group (a vi insert session) and pops that group's `Begin`
    marker: afterwards `level` is again the number of unmatched `Begin` markers and every `End` has
    its `Begin`.  So `Balanced` is an invariant of ALL operations of the log (`C05_balanced` for the
    others), and the `end_` that closes the session later cannot push an unmatched `End`. -/
theorem C05_undo_balanced (S : Segmenter) (U : UData) (c : Changeset) (h : Balanced c) (lb : LB) (n : Nat)
    (c' : Changeset) (lb' : LB) (undone : Bool) (hu : c.undo S U lb n = .ok (c', lb', undone)) :
    Balanced c' := by
  unfold Changeset.undo at hu
  cases hr : Changeset.undoLoop S U n c.undos c.redos lb 0 0 false c.level with
  | error e => rw [hr] at hu; cases hu
  | ok r =>
    rw [hr] at hu
    obtain ⟨us, rs, lb1, u1, lvl⟩ := r
    simp only [Except.ok.injEq, Prod.mk.injEq] at hu
    obtain ⟨rfl, _, _⟩ := hu
    exact undoLoop_balanced S U n c.undos c.redos lb 0 0 false c.level _ (by simpa [Balanced] using h) hr

/-- Undo requested inside an open group, for every segmenter and line: an open group with nothing left in
    it; Undo pops the marker AND lowers the level, so the `end_` that closes the "session" later adds
    no unmatched `End` -/
example (S : Segmenter) (U : UData) (lb : LB) (rest : List Change) :
    ({ level := 1, undos := .begin :: rest, redos := [] } : Changeset).undo S U lb 1 =
      .ok ({ level := 0, undos := rest, redos := [.begin] }, lb, false) := by
  simp [Changeset.undo, Changeset.undoLoop]

/-- **Undo inverts.** For a single recorded change `ch` whose redo direction takes `t` to `t'`
    (`applyFwd`), undoing it on a line holding `t'` succeeds (no panic) and leaves exactly `t`.
    Proved from the definitions of the line-buffer primitives `LB.deleteRange`, `LB.insertStr`,
    `LB.setPosChecked`, `LB.replace` — no hypothesis about them. -/
theorem C05_undo_inverts (S : Segmenter) (U : UData) (ch : Change) (hm : ch.isMarker = false) (t t' : Text) (lb : LB)
    (h : applyFwd ch t = some t') (hb : lb.buf = t') :
    ∃ lb', ch.undoOn S U lb = .ok lb' ∧ lb'.buf = t :=
  undoOn_inverts S U ch hm t t' lb h hb

/-- **Undo lands on the replay of an older part of the log.** If the stack is an exact log from `t0`
    to the text of the line, then `Changeset.undo` with ANY repeat count, whatever the markers, does
    not panic; it pops a non-empty prefix of the stack (when there is anything to pop), and the new
    line is the replay of the remaining, older log from `t0`: a text the line had when the oldest
    popped change was recorded.  So the log invariant is re-established for the next command. -/
theorem C05_undo_past_text (S : Segmenter) (U : UData) (c : Changeset) (lb : LB) (n : Nat) (t0 : Text)
    (hlog : replayLog c.undos.reverse t0 = some lb.buf) :
    ∃ c' lb' undone, c.undo S U lb n = .ok (c', lb', undone) ∧
      replayLog c'.undos.reverse t0 = some lb'.buf ∧
      (∃ p, c.undos = p ++ c'.undos ∧ c'.redos = p.reverse ++ c.redos ∧ (c.undos ≠ [] → p ≠ [])) := by
  obtain ⟨lb0, hall, _⟩ := undoAll_replay S U c.undos [] t0 lb.buf lb (by rw [List.append_nil]; exact hlog) rfl
  obtain ⟨⟨rest, redos', lb', undone'⟩, hr⟩ :=
    undoLoopG_total (fun ch lb => ch.undoOn S U lb) n c.undos c.redos lb 0 0 false ⟨lb0, hall⟩
  obtain ⟨p, hp1, hp2, hp3, hp4⟩ := undoLoopG_prefix _ n _ _ _ _ _ _ _ _ _ _ hr
  obtain ⟨level', hl⟩ := undoLoop_of_G S U n _ _ _ _ _ _ c.level _ hr
  refine ⟨{ level := level', undos := rest, redos := redos' }, lb', undone', ?_, ?_, p, hp1, hp2, hp4⟩
  · simp only [Changeset.undo, hl]
  · rw [hp1] at hlog
    obtain ⟨lb'', h1, h2⟩ := undoAll_replay S U p rest t0 lb.buf lb hlog rfl
    rw [hp3] at h1
    cases h1
    exact h2

/-- **Undo to the start.** Under the log invariant, once Undo has emptied the stack the line is the
    text the log started from (`t0 = []` for a read: pre-filled initial text is recorded as the first
    insertion); and each Undo on a non-empty stack strictly shortens it, so repeating Undo gets there. -/
theorem C05_undo_to_empty (S : Segmenter) (U : UData) (c : Changeset) (lb : LB) (n : Nat) (t0 : Text)
    (hlog : replayLog c.undos.reverse t0 = some lb.buf) :
    ∃ c' lb' undone, c.undo S U lb n = .ok (c', lb', undone) ∧
      (c.undos ≠ [] → c'.undos.length < c.undos.length) ∧ (c'.undos = [] → lb'.buf = t0) := by
  obtain ⟨c', lb', undone, h1, h2, p, hp, _, hne⟩ := C05_undo_past_text S U c lb n t0 hlog
  refine ⟨c', lb', undone, h1, ?_, ?_⟩
  · intro h
    have := hne h
    rw [hp, List.length_append]
    have : 0 < p.length := List.length_pos_iff.mpr this
    omega
  · intro h
    rw [h] at h2
    simpa [replayLog] using h2.symm

/-- The editor's `lb` wrapper (every line-buffer call with the undo log as listener) keeps the log
    invariant, PROVIDED the call's notifications are faithful: replaying them takes the old text to
    the new one.  That faithfulness is the replay conjunct of property C03; it is written out as
    the hypothesis `hfaith`. -/
theorem C05_log_inv_partial (S : Segmenter) (U : UData) {α : Type} (op : LM α) (s : Ed) (t0 : Text)
    (hlog : replayLog s.changes.undos.reverse t0 = some s.line.buf)
    (hfaith : ∀ a l ns, op s.line = .ok (a, l, ns) → replayNotifs ns s.line.buf = some l.buf)
    (a : α) (s' : Ed) (h : lb S U op s = .ok (a, s')) :
    replayLog s'.changes.undos.reverse t0 = some s'.line.buf := by
  simp only [lb] at h
  split at h
  · cases h
  · rename_i a' l ns hop
    simp only [Except.ok.injEq, Prod.mk.injEq] at h
    obtain ⟨_, rfl⟩ := h
    exact C05_log_replay S U.alnum s.changes ns t0 s.line.buf l.buf hlog (hfaith _ _ _ hop)

/-- the faithfulness hypothesis holds for the primitives every edit is built from -/
theorem C05_primitives_faithful (S : Segmenter) (U : UData) (lb0 : LB) :
    (∀ a b d y l ns, LB.drain a b d lb0 = .ok (y, l, ns) → replayNotifs ns lb0.buf = some l.buf) ∧
    (∀ i x r l ns, LB.insertStr S U i x lb0 = .ok (r, l, ns) → replayNotifs ns lb0.buf = some l.buf) ∧
    (∀ a b x r l ns, LB.replace S U a b x lb0 = .ok (r, l, ns) → replayNotifs ns lb0.buf = some l.buf) := by
  exact ⟨fun a b d _ _ _ h => replayNotifs_of_replay _ ((Replays.drain a b d).h _ _ _ _ h),
    fun i x _ _ _ h => replayNotifs_of_replay _ ((Replays.insertStr S U i x).h _ _ _ _ h),
    fun a b x _ _ _ h => replayNotifs_of_replay _ ((Replays.replace S U a b x).h _ _ _ _ h)⟩

/-- Full statement, both modes: aborting an incremental search or a completion leaves line, undo stack
    and group level as before the command.  The emacs clause (stack and level) is PROVED on the editor
    model: `C05_abort_transparent_emacs`.  As written, for both modes, it is false
    (`C05_abort_transparent_vi_false`), for a benign reason: in vi mode a key inside the sub-loop can
    leave insert mode, which closes the insert session's open group; the vi clause should read "the
    stack before minus the open `Begin`s that leaving insert mode closed" and is not proved. -/
def C05_abort_transparent_statement : Prop :=
  ∀ (S : Segmenter) (U : UData) (cfg : EdCfg) (s s' : Ed) (fuel : Nat),
    (reverseIncrementalSearch S U cfg fuel s = .ok (none, s') ∨
     (completeLine S U cfg fuel s = .ok (none, s') ∧ cfg.listCompletion = false)) →
    s'.line.buf = s.line.buf ∧ s'.changes.undos = s.changes.undos ∧ s'.changes.level = s.changes.level

open EM

/-- the log of a sub-loop: `begin` of the log before it, then notifications and nested `begin`s -/
def SubLog (S : Segmenter) (U : UData) (c0 c : Changeset) : Prop :=
  ∃ ops : List GOp, c = ops.foldl (GOp.run S U.alnum) c0.begin.1

theorem SubLog.start (S : Segmenter) (U : UData) (c0 : Changeset) : SubLog S U c0 c0.begin.1 := ⟨[], rfl⟩

theorem SubLog.begin {S : Segmenter} {U : UData} {c0 c : Changeset} (h : SubLog S U c0 c) : SubLog S U c0 c.begin.1 := by
  obtain ⟨ops, rfl⟩ := h
  exact ⟨ops ++ [.begin], by simp [List.foldl_append, GOp.run]⟩

theorem SubLog.notifs {S : Segmenter} {U : UData} {c0 c : Changeset} (h : SubLog S U c0 c) (ns : List Notif) :
    SubLog S U c0 (c.onNotifs S U.alnum ns) := by
  obtain ⟨ops, rfl⟩ := h
  refine ⟨ops ++ ns.map .notif, ?_⟩
  rw [List.foldl_append]
  generalize ops.foldl (GOp.run S U.alnum) c0.begin.1 = c
  unfold Changeset.onNotifs
  induction ns generalizing c with
  | nil => rfl
  | cons n ns ih => simp only [List.foldl_cons, List.map_cons]; exact ih _

/-- the mark of the sub-loop stays below the height of its log, every group is not closed, and cutting
    back to the mark restores stack and level -/
theorem SubLog.facts {S : Segmenter} {U : UData} {c0 c : Changeset} (h : SubLog S U c0 c) :
    c0.undos.length < c.undos.length ∧ c.level ≠ 0 ∧
    (c.truncateClosed c0.undos.length).undos = c0.undos ∧ (c.truncateClosed c0.undos.length).level = c0.level := by
  obtain ⟨ops, rfl⟩ := h
  obtain ⟨extra, hu, _, hl⟩ := C05_ops_shape S U.alnum c0 ops c0.begin.1 ⟨[], rfl, rfl, rfl⟩
  have hlv : (ops.foldl (GOp.run S U.alnum) c0.begin.1).level ≠ 0 := by rw [hl]; omega
  refine ⟨?_, hlv, ?_⟩
  · rw [hu, List.length_append, List.length_cons]; omega
  · unfold Changeset.truncateClosed
    rw [show ((ops.foldl (GOp.run S U.alnum) c0.begin.1).level == 0) = false from beq_false_of_ne hlv]
    exact C05_truncate_restores S U.alnum c0 ops

section
variable (S : Segmenter) (U : UData) (cfg : EdCfg)

/-- **`next_cmd` in emacs mode and the undo log**: it leaves the log alone, or (a `Replace` command,
    bound by the application) opens one group -/
theorem wp_nextCmd_emacs_changes (hvi : cfg.vi = false) {fuel : Nat} {sea iep : Bool} {s : Ed} {Q : Cmd → Ed → Prop}
    (hq : ∀ c s', (s'.changes = s.changes ∨ s'.changes = s.changes.begin.1) → Q c s') :
    wp (nextCmd S U cfg fuel sea iep) Q (fun _ _ => True) s :=
  wp_nextCmd_emacs_line_changes S U cfg hvi fun c s' _ h => hq c s' (h.imp id And.left)

/-- what an abort must re-establish -/
def LogAs (c0 : Changeset) (r : Option Cmd) (s' : Ed) : Prop :=
  r = none → s'.changes.undos = c0.undos ∧ s'.changes.level = c0.level

theorem logAs_truncate {c0 : Changeset} {s : Ed} (h : SubLog S U c0 s.changes) :
    LogAs c0 none { s with changes := s.changes.truncateClosed c0.undos.length } :=
  fun _ => ⟨h.facts.2.2.1, h.facts.2.2.2⟩

/-- the invariant of both sub-loops: the mark is the height of the log before the loop's `begin`, and
    the log is that of a sub-loop -/
def SubLogAt (c0 : Changeset) (m : Nat) (s : Ed) : Prop := m = c0.undos.length ∧ SubLog S U c0 s.changes

theorem SubLogAt.core {c0 : Changeset} {m : Nat} {s s' : Ed} (h : SubLogAt S U c0 m s) (hc : s'.core = s.core) :
    SubLogAt S U c0 m s' :=
  ⟨h.1, by rw [(Ed.core_eq hc).2.2.1]; exact h.2⟩

theorem SubLogAt.lb {c0 : Changeset} {m : Nat} {s : Ed} (h : SubLogAt S U c0 m s) {α : Type} (op : LM α) :
    wp (lb S U op) (fun _ s' => SubLogAt S U c0 m s') (fun _ _ => True) s :=
  wp_lb_any S U (fun _ _ ns _ => ⟨h.1, h.2.notifs ns⟩) trivial

theorem SubLogAt.nextCmd (hvi : cfg.vi = false) {c0 : Changeset} {m fuel : Nat} {s : Ed} (h : SubLogAt S U c0 m s) :
    wp (nextCmd S U cfg fuel true true) (fun _ s' => SubLogAt S U c0 (min m s'.changes.undos.length) s')
      (fun _ _ => True) s := by
  refine wp_nextCmd_emacs_changes S U cfg hvi (fun cmd s3 h3 => ?_)
  have hs3 : SubLog S U c0 s3.changes := by
    rcases h3 with h3 | h3
    · rw [h3]; exact h.2
    · rw [h3]; exact h.2.begin
  exact ⟨by rw [h.1, Nat.min_eq_left (Nat.le_of_lt hs3.facts.1)], hs3⟩

theorem SubLogAt.truncate {c0 : Changeset} {m : Nat} {s : Ed} (h : SubLogAt S U c0 m s) :
    wp (do truncateChanges m; pure none) (LogAs c0) (fun _ _ => True) s := by
  simp only [wp_bind, truncateChanges, wp_modify, wp_pure]
  rw [h.1]; exact logAs_truncate S U h.2

/-- incremental search, emacs mode: whatever is typed inside it, an aborted search (result `none`)
    leaves stack and level of the undo log as they were before its `begin` -/
theorem searchLoop_log (hvi : cfg.vi = false) (c0 : Changeset) (backup : Text) (backupPos : Nat) :
    ∀ (fuel : Nat) (sb : Text) (hi : Nat) (d : Dir) (succ : Bool) (s : Ed), SubLog S U c0 s.changes →
      wp (searchLoop S U cfg c0.undos.length backup backupPos fuel sb hi d succ) (LogAs c0) (fun _ _ => True) s := by
  intro fuel sb hi d succ s hs
  refine wp_searchLoop S U cfg (L := SubLogAt S U c0) backup backupPos (fun _ _ _ => trivial)
    ?_ (fun _ _ _ h => h.nextCmd S U cfg hvi) (fun _ _ _ _ _ _ _ _ _ h => h.lb S U _) ?_ ?_
    fuel _ sb hi d succ s ⟨rfl, hs⟩
  · intro m p s h
    exact wp_refreshPromptAndLine S U cfg (fun s2 hc2 => h.core S U hc2) (fun _ _ _ => trivial)
  · intro m s h
    rw [wp_bind]
    refine wp_mono (h.lb S U _) (fun _ s1 h1 => ?_) (fun _ _ he => he)
    rw [wp_bind]
    exact wp_refreshLine S U cfg (fun s4 hc4 => (h1.core S U hc4).truncate S U) (fun _ _ _ => trivial)
  · intro m cmd s _
    simp only [wp_bind]
    refine wp_refreshLine S U cfg (fun s4 hc4 => ?_) (fun _ _ _ => trivial)
    simp only [wp_changesEnd, wp_pure]
    exact nofun

/-- circular completion, emacs mode: the same -/
theorem completeCircular_log (hvi : cfg.vi = false) (c0 : Changeset) (start : Nat) (cands : List Text)
    (backup : Text) (backupPos : Nat) :
    ∀ (fuel i : Nat) (s : Ed), SubLog S U c0 s.changes →
      wp (completeCircular S U cfg start cands c0.undos.length backup backupPos fuel i) (LogAs c0) (fun _ _ => True) s := by
  intro fuel i s hs
  refine wp_completeCircular S U cfg (P := fun m _ => SubLogAt S U c0 m) (L := fun m _ => SubLogAt S U c0 m)
    start cands backup backupPos (fun _ _ _ _ => trivial) (fun _ _ _ _ h => h.lb S U _) (fun _ _ _ _ h => h.lb S U _)
    ?_ (fun _ _ _ _ h => h.nextCmd S U cfg hvi) (fun _ _ _ _ h => h) ?_ ?_ fuel _ i s ⟨rfl, hs⟩
  · intro m i s h
    exact wp_refreshLine S U cfg (fun s2 hc2 => h.core S U hc2) (fun _ _ _ => trivial)
  · intro m i s h
    by_cases hlt : i < cands.length
    · rw [if_pos hlt, wp_bind]
      refine wp_mono (h.lb S U _) (fun _ s1 h1 => ?_) (fun _ _ he => he)
      rw [wp_bind]
      exact wp_refreshLine S U cfg (fun s4 hc4 => (h1.core S U hc4).truncate S U) (fun _ _ _ => trivial)
    · rw [if_neg hlt]; exact h.truncate S U
  · intro m i cmd s _
    simp only [wp_bind, wp_changesEnd, wp_pure]
    exact nofun

theorem reverseIncrementalSearch_log (hvi : cfg.vi = false) (fuel : Nat) (s : Ed) :
    wp (reverseIncrementalSearch S U cfg fuel) (LogAs s.changes) (fun _ _ => True) s := by
  unfold reverseIncrementalSearch
  split
  · rw [wp_pure]; exact fun _ => ⟨rfl, rfl⟩
  · simp only [wp_bind, wp_changesBegin, wp_getLine]
    exact searchLoop_log S U cfg hvi s.changes _ _ fuel _ _ _ _ _ (SubLog.start S U s.changes)

theorem completeLine_log (hvi : cfg.vi = false) (hl : cfg.listCompletion = false) (fuel : Nat) (s : Ed) :
    wp (completeLine S U cfg fuel) (LogAs s.changes) (fun _ _ => True) s := by
  unfold completeLine
  simp only [wp_bind, wp_getLine, hl, Bool.not_false, if_true]
  split
  · rw [wp_pure]; exact fun _ => ⟨rfl, rfl⟩
  · simp only [wp_bind, wp_changesBegin]
    exact completeCircular_log S U cfg hvi s.changes _ _ _ _ fuel 0 _ (SubLog.start S U s.changes)

end

/-- **Abort transparency, emacs mode.**  For EVERY key sequence typed inside it, an incremental search
    that is aborted, or a circular completion that is aborted (or finds no candidate), hands back
    `None` with the undo log — stack and group level — exactly as it was when the command started.
    (`next_cmd` leaves the log alone in emacs mode, or opens one group for a bound `Replace`; the
    sub-loop's log is `begin` of the log before plus notifications and nested begins; its mark never
    sinks (`lowerMark`); `C05_truncate_restores`.)  That the line and the cursor are the backed-up ones
    is `searchLoop_abort` / `completeCircular_abort` (C08, C14). -/
theorem C05_abort_transparent_emacs (S : Segmenter) (U : UData) (cfg : EdCfg) (hvi : cfg.vi = false)
    (s s' : Ed) (fuel : Nat)
    (h : reverseIncrementalSearch S U cfg fuel s = .ok (none, s') ∨
         (completeLine S U cfg fuel s = .ok (none, s') ∧ cfg.listCompletion = false)) :
    s'.changes.undos = s.changes.undos ∧ s'.changes.level = s.changes.level := by
  rcases h with h | ⟨h, hl⟩
  · have w := reverseIncrementalSearch_log S U cfg hvi fuel s
    unfold wp at w
    rw [h] at w
    exact w rfl
  · have w := completeLine_log S U cfg hvi hl fuel s
    unfold wp at w
    rw [h] at w
    exact w rfl

/-- witness data: one cluster per character, width 1, vi mode, one history entry -/
def C05_wit_seg : Segmenter where
  seg t := t.map fun c => [c]
  flatten_eq t := by induction t with
    | nil => rfl
    | cons c t ih => simp [ih]
  ne_nil t g h := by
    simp only [List.mem_map] at h
    obtain ⟨c, _, rfl⟩ := h
    exact List.cons_ne_nil _ _

def C05_wit_udata : UData :=
  { alnum := Char.isAlphanum, ws := Char.isWhitespace, upper := fun c => [c], lower := fun c => [c],
    width := List.length }

def C05_wit_cfg : EdCfg := { vi := true, hist := [['a']] }

/-- vi insert mode, line "xy", the undo group of the insert mode open (`[Begin]`, level 1); pending
    input: Alt-X (leaves insert mode, then `X`), Ctrl-G -/
def C05_wit_state : Ed :=
  { line := { buf := ['x', 'y'], pos := 0, cap := 8, canGrow := true },
    saved := { buf := [], pos := 0, cap := 8, canGrow := true },
    changes := { level := 1, undos := [.begin], redos := [] }, ring := KillRing.new 60, histIdx := 1,
    inp := {}, hint := none, highlightChar := false, defaultPrompt := true,
    input := { buf := [], avail := [], future := [[0x1b, 0x58], [0x07]] }, obs := [], validatorCalls := [] }

/-- **An abort after the insert session was left inside the search.** An incremental search in vi insert mode during
    which Alt-X is typed (it leaves insert mode: `changes.end()` closes the search's own group AND the
    insert-mode group below the search's mark) and which is then aborted: the abort returns `None`,
    the line is as before ("xy") and NOTHING of the search is left in the undo log — the mark follows
    the lowest height the stack reached (`lowerMark`), so `truncate` also drops the two entries that
    restoring the backup pushed.  The insert session's `Begin` is gone because the session WAS left: in
    vi mode the log after an abort is the log before it minus the open `Begin`s that leaving insert
    mode closed. -/
theorem C05_vi_abort_closes_session :
    (reverseIncrementalSearch C05_wit_seg C05_wit_udata C05_wit_cfg 4 C05_wit_state).toOption.map
      (fun r => (r.1.isNone, r.2.line.buf, r.2.changes.undos, r.2.changes.level)) =
    some (true, ['x', 'y'], [], 0) := by decide +kernel

/-- **`C05_abort_transparent_statement` as written is false in vi mode** — for a benign reason (witness
    above): the insert session's open `Begin` is gone after the abort because a key inside the search
    LEFT insert mode.  The emacs clause is `C05_abort_transparent_emacs`. -/
theorem C05_abort_transparent_vi_false : ¬ C05_abort_transparent_statement := by
  intro h
  have w := C05_vi_abort_closes_session
  cases hr : reverseIncrementalSearch C05_wit_seg C05_wit_udata C05_wit_cfg 4 C05_wit_state with
  | error e => rw [hr] at w; cases w
  | ok r =>
    obtain ⟨o, s'⟩ := r
    rw [hr] at w
    simp only [Except.toOption, Option.map, Option.some.injEq, Prod.mk.injEq] at w
    obtain ⟨ho, _, hu, _⟩ := w
    cases o with
    | some c => cases ho
    | none =>
      have h2 := (h C05_wit_seg C05_wit_udata C05_wit_cfg C05_wit_state s' 4 (Or.inl hr)).2.1
      rw [hu] at h2
      cases h2

/-- the same as a whole read: initial text "xy"; Alt-i, Ctrl-R, Alt-X, Ctrl-G, `u`, Enter.  The
    Undo does what it does without the search in between (`Alt-i u`): it takes back the initial
    text, the only thing in the log. -/
example :
    (readline C05_wit_seg C05_wit_udata C05_wit_cfg (KillRing.new 60) [] ['x', 'y']
      { buf := [], avail := [], future := [[0x1b, 0x69], [0x12], [0x1b, 0x58], [0x07], [0x75], [0x0d]] }).1
      = .line [] := by decide +kernel

/-- **A typed character merges into a preceding yank.** A yank of "ab" (one `insert_str` notification) followed by typing the
    alphanumeric `x` right behind it leaves ONE `Insert` on the stack: `Changeset::insert` merges a
    typed alphanumeric into any preceding `Insert`, so a single Undo removes the yank and the typed
    character together (DESIGN.md 7.1, finding D22). -/
theorem C05_D22_witness :
    (Changeset.new.onNotifs charSeg Char.isAlphanum [.insStr 0 ['a', 'b'], .insChar 2 'x']).undos =
      [.insert 0 ['a', 'b', 'x']] := by decide

/-- the hypotheses of `C05_log_replay` are satisfiable with merging going on: typing "ab", deleting
    "b" then "a" with Backspace -/
example : replayNotifs [.insChar 0 'a', .insChar 1 'b', .del 1 ['b'] .backward, .del 0 ['a'] .backward] [] = some [] ∧
    (Changeset.new.onNotifs charSeg Char.isAlphanum
      [.insChar 0 'a', .insChar 1 'b', .del 1 ['b'] .backward, .del 0 ['a'] .backward]).undos =
      [.delete 0 ['a', 'b'], .insert 0 ['a', 'b']] := by decide

/-- a group is a unit -/
example : UndoUnit [.end_, .insert 1 ['b'], .delete 0 ['a'], .begin] :=
  .group [.insert 1 ['b'], .delete 0 ['a']] (.change _ _ rfl (.change _ _ rfl .nil))

/-- `Balanced` excludes something: an `End` without `Begin` -/
example : ¬ Balanced { level := 0, undos := [.end_], redos := [] } := by simp [Balanced, depth]

/-- truncate after an aborted group on a concrete log, with a nested begin -/
example : ((((Changeset.new.insertStr 0 ['a']).begin.1.insertStr 1 ['b']).begin.1).truncate 1) =
    { level := 0, undos := [.insert 0 ['a']], redos := [] } := by decide

/-- **The group markers keep the bottom of the log.**  `BotGood bk m us`: the bottom `m` entries of the
    stack `us` replay some text to a PREFIX of `bk` (the line backed up when a sub-loop started; `m` its
    mark).  `begin`, `end` (which in vi mode may POP `Begin`s below the mark: a key that leaves insert mode
    closes every group) and the mark update `mark.min(len)` after `next_cmd` keep it, for every stack, level
    and mark. -/
theorem C05_markers_keep_bottom (bk : Text) (m : Nat) (c : Changeset) (h : BotGood bk m c.undos) :
    BotGood bk m c.begin.1.undos ∧ BotGood bk m c.end_.1.undos ∧ BotGood bk (min m c.undos.length) c.undos :=
  ⟨(botGood_marker (x := .begin) rfl c.undos).mpr h, botGood_endLoop c.level c.undos false h, botGood_min.mpr h⟩

/-- **`update` keeps the bottom of the log** (the incremental search shows an entry / restores the line with
    `update`, which reports `Delete(0, old)` and `Insert(0, new)`): if the stack replays `t0` to the line
    `old`, the mark `m` is within the stack and the bottom `m` entries replay to a prefix of `bk`, then the
    same holds after the listener has processed `update`'s notifications — INCLUDING the case where the
    `Delete` is merged into a `Delete` on top of the bottom part (nothing above the mark, `old` one
    alphanumeric cluster: `C05_D49_log_witness`); the bottom then replays to the empty text. -/
theorem C05_update_keeps_bottom (S : Segmenter) (alnum : Char → Bool) (bk : Text) (m : Nat) (c : Changeset)
    (old new t0 : Text) (hA : replayLog c.undos.reverse t0 = some old) (hm : m ≤ c.undos.length)
    (hB : BotGood bk m c.undos) :
    m ≤ (c.onNotifs S alnum (updNotifs old new)).undos.length ∧
      BotGood bk m (c.onNotifs S alnum (updNotifs old new)).undos :=
  botGood_update S alnum c old new t0 hA hm hB

/-- **What an abort's cut leaves replays to a prefix of the backed-up line** — `truncate(mark)` as the abort
    paths call it (with the re-closing of groups when every group was closed), for every stack and level:
    if the bottom `m` entries replay some text to a prefix of `bk`, so does the log after the cut.  (In emacs
    mode the log after the cut IS the log before the loop — `C05_abort_transparent_emacs`; in vi mode that is
    false — `C05_abort_transparent_vi_false` — and this is what remains true.) -/
theorem C05_abort_cut_replays_prefix (bk : Text) (m : Nat) (c : Changeset) (h : BotGood bk m c.undos) :
    ∃ t0 p w, replayLog (c.truncateClosed m).undos.reverse t0 = some p ∧ bk = p ++ w := by
  obtain ⟨t0, p, w, hr, hb⟩ := h
  refine ⟨t0, p, w, ?_, hb⟩
  unfold Changeset.truncateClosed
  split
  · exact (C05_log_markers (c.truncate m) t0 p hr).2
  · exact hr

/-- **Inside the circular completion nothing below the loop's `Begin` is touched** — `AboveNB base us`: the
    stack is `above ++ Begin :: base` and `above` has an entry that is not a `Begin` (the loop logs its first
    `replace` before it reads a key).  `begin`, `end` (in vi mode it cannot reach the loop's `Begin`: it pushes
    `End` on the first entry that is not a `Begin`) and every sequence of listener notifications keep it, and
    the part below the mark `base.length` is `base` itself. -/
theorem C05_completion_keeps_base (S : Segmenter) (alnum : Char → Bool) (base : List Change) (c : Changeset)
    (ns : List Notif) (h : AboveNB base c.undos) :
    AboveNB base c.begin.1.undos ∧ AboveNB base c.end_.1.undos ∧ AboveNB base (c.onNotifs S alnum ns).undos ∧
      base.length < c.undos.length ∧ c.undos.drop (c.undos.length - base.length) = base := by
  refine ⟨?_, ?_, aboveNB_onNotifs S alnum ns c h, aboveNB_facts h⟩
  · obtain ⟨above, hu, x, hx, hne⟩ := h
    exact ⟨.begin :: above, by show Change.begin :: c.undos = _; rw [hu]; rfl, x, List.mem_cons_of_mem _ hx, hne⟩
  · obtain ⟨above, hu, hnb⟩ := h
    show AboveNB base (Changeset.endLoop c.level c.undos false).1
    rw [hu]; exact aboveNB_endLoop _ _ _ hnb

/-- **A `Delete` merged below the mark** (witness of finding D49 at the level of the log, and non-vacuity of `C05_update_keeps_bottom` in its merge
    case): the log `[Delete(1,"y"), Insert(0,"xy")]` with the line "x" and the mark 2 at the top of the log
    (the search's `Begin` was popped); `update("a")` merges its `Delete(0,"x")` into the entry below the mark;
    the two bottom entries then replay "" to "" — a proper prefix of the backed-up line "x" — and an abort
    that cuts back to the mark keeps the merged entry. -/
theorem C05_D49_log_witness :
    (({ level := 0, undos := [.delete 1 ['y'], .insert 0 ['x', 'y']], redos := [] } : Changeset).onNotifs
        charSeg (fun _ => true) (updNotifs ['x'] ['a'])).undos
      = [.insert 0 ['a'], .delete 0 ['x', 'y'], .insert 0 ['x', 'y']] ∧
    replayLog ([Change.delete 0 ['x', 'y'], .insert 0 ['x', 'y']] : List Change).reverse [] = some [] := by
  decide

/-- non-vacuity of `BotGood` / `AboveNB`: the state of a completion loop right after its first `replace` -/
example : AboveNB [.insert 0 ['a']] [.replace 0 ['a'] ['a', 'b'], .begin, .insert 0 ['a']] ∧
    BotGood ['a'] 1 [.replace 0 ['a'] ['a', 'b'], .begin, .insert 0 ['a']] :=
  ⟨⟨[.replace 0 ['a'] ['a', 'b']], rfl, _, List.mem_cons_self, (by intro h; cases h)⟩,
   ⟨[], ['a'], [], (by decide), rfl⟩⟩

/-- `Changeset::undo(line, n)` requested `k` times in a row (each time with the repeat count `n`) -/
def C05_undoIter (S : Segmenter) (U : UData) (n : Nat) : Nat → Changeset → LB → Except Panic (Changeset × LB)
  | 0, c, lb => .ok (c, lb)
  | k + 1, c, lb =>
    match c.undo S U lb n with
    | .ok (c', lb', _) => C05_undoIter S U n k c' lb'
    | .error e => .error e

/-- **Repeating Undo restores the text the log started from.**  If the stack is an exact log from `t0` to
    the text of the line (any markers, any open groups, any level), then requesting Undo `k` times in a
    row — with ANY repeat count `n`, and any `k` at least the height of the stack — never panics, empties
    the stack and leaves the line holding exactly `t0` (the empty line for a read: pre-filled initial text
    is the first recorded insertion).  This is the iteration of `C05_undo_to_empty`, which is about one
    request. -/
theorem C05_repeated_undo_reaches_start (S : Segmenter) (U : UData) (n : Nat) (t0 : Text) :
    ∀ (k : Nat) (c : Changeset) (lb : LB), replayLog c.undos.reverse t0 = some lb.buf → c.undos.length ≤ k →
      ∃ c' lb', C05_undoIter S U n k c lb = .ok (c', lb') ∧ c'.undos = [] ∧ lb'.buf = t0 := by
  intro k
  induction k with
  | zero =>
    intro c lb hlog hk
    have hnil : c.undos = [] := List.length_eq_zero_iff.mp (Nat.le_zero.mp hk)
    refine ⟨c, lb, rfl, hnil, ?_⟩
    rw [hnil] at hlog
    simpa [replayLog] using hlog.symm
  | succ k ih =>
    intro c lb hlog hk
    obtain ⟨c', lb', undone, h1, h2, p, hp, _, hne⟩ := C05_undo_past_text S U c lb n t0 hlog
    have hlen : c'.undos.length ≤ k := by
      by_cases hnil : c.undos = []
      · rw [hnil] at hp
        have : c'.undos = [] := (List.append_eq_nil_iff.mp hp.symm).2
        rw [this]; exact Nat.zero_le _
      · have hp0 : 0 < p.length := List.length_pos_iff.mpr (hne hnil)
        have : c.undos.length = p.length + c'.undos.length := by rw [hp, List.length_append]
        omega
    obtain ⟨c'', lb'', h3, h4, h5⟩ := ih c' lb' h2 hlen
    refine ⟨c'', lb'', ?_, h4, h5⟩
    simp only [C05_undoIter, h1]
    exact h3

/-- the states of (undo log, line) a read can be in, at the level of the log: it starts with the fresh log
    and the empty line; a line-buffer call reports notifications `ns` whose replay takes the old text to the
    new one (`ns = []`: cursor motion; `C05_primitives_faithful`, C03) and the listener records them; a
    compound command opens a group or closes all groups; Undo is requested with any repeat count — at ANY
    point, also inside open groups, and any number of times -/
inductive C05_LogReach (S : Segmenter) (U : UData) : Changeset → LB → Prop
  | start (lb : LB) : lb.buf = [] → C05_LogReach S U Changeset.new lb
  | edit {c : Changeset} {lb : LB} (ns : List Notif) (lb' : LB) : C05_LogReach S U c lb →
      replayNotifs ns lb.buf = some lb'.buf → C05_LogReach S U (c.onNotifs S U.alnum ns) lb'
  | begin {c : Changeset} {lb : LB} : C05_LogReach S U c lb → C05_LogReach S U c.begin.1 lb
  | end_ {c : Changeset} {lb : LB} : C05_LogReach S U c lb → C05_LogReach S U c.end_.1 lb
  | undo {c : Changeset} {lb : LB} (n : Nat) (c' : Changeset) (lb' : LB) (u : Bool) : C05_LogReach S U c lb →
      c.undo S U lb n = .ok (c', lb', u) → C05_LogReach S U c' lb'

/-- **Every reachable log is an exact, balanced log from the empty line.**  After ANY sequence of faithful
    edits, group begins, group ends and Undo requests (every repeat count, at every point of the sequence)
    starting from the fresh log and the empty line: replaying the stack oldest change first from the EMPTY
    text gives the text of the line, and `level` is the number of unmatched `Begin`s with every `End`
    matched. -/
theorem C05_reachable_log_exact (S : Segmenter) (U : UData) (c : Changeset) (lb : LB) (h : C05_LogReach S U c lb) :
    replayLog c.undos.reverse [] = some lb.buf ∧ Balanced c := by
  induction h with
  | start lb hb => exact ⟨by rw [hb]; rfl, rfl⟩
  | edit ns lb' _ hns ih =>
    exact ⟨C05_log_replay S U.alnum _ ns [] _ _ ih.1 hns, (C05_balanced S U.alnum _ ih.2).2.2.1 ns⟩
  | begin _ ih => exact ⟨(C05_log_markers _ [] _ ih.1).1, (C05_balanced S U.alnum _ ih.2).2.1⟩
  | end_ _ ih => exact ⟨(C05_log_markers _ [] _ ih.1).2, (C05_balanced S U.alnum _ ih.2).2.2.2.1.1⟩
  | undo n c' lb' u _ hu ih =>
    refine ⟨?_, C05_undo_balanced S U _ ih.2 _ n c' lb' u hu⟩
    obtain ⟨c2, lb2, u2, h1, h2, _⟩ := C05_undo_past_text S U _ _ n [] ih.1
    rw [hu] at h1
    simp only [Except.ok.injEq, Prod.mk.injEq] at h1
    obtain ⟨rfl, rfl, _⟩ := h1
    exact h2

/-- **From every reachable state, Undo never panics and repeated Undo restores the empty line.**  For every
    state reached by any sequence of faithful edits, group begins/ends and Undo requests: (1) an Undo with
    any repeat count `n` succeeds, pops a non-empty top part of the stack when there is one, and leaves a
    reachable state whose line is the replay of the remaining log from the empty text — a text the line had
    earlier in the read; (2) requesting Undo as many times as the stack is high (any repeat count) empties
    the stack and leaves the EMPTY line the read started from. -/
theorem C05_reachable_undo_to_empty (S : Segmenter) (U : UData) (c : Changeset) (lb : LB)
    (h : C05_LogReach S U c lb) (n : Nat) :
    (∃ c' lb' u, c.undo S U lb n = .ok (c', lb', u) ∧ C05_LogReach S U c' lb' ∧
      replayLog c'.undos.reverse [] = some lb'.buf ∧
      ∃ p, c.undos = p ++ c'.undos ∧ (c.undos ≠ [] → p ≠ [])) ∧
    (∃ c' lb', C05_undoIter S U n c.undos.length c lb = .ok (c', lb') ∧ c'.undos = [] ∧ lb'.buf = []) := by
  have hl := (C05_reachable_log_exact S U c lb h).1
  constructor
  · obtain ⟨c', lb', u, h1, h2, p, hp, _, hne⟩ := C05_undo_past_text S U c lb n [] hl
    exact ⟨c', lb', u, h1, .undo n c' lb' u h h1, h2, p, hp, hne⟩
  · exact C05_repeated_undo_reaches_start S U n [] _ c lb hl (Nat.le_refl _)

/-- non-vacuity: a reachable state with an open group, a merged insertion and an Undo taken inside the
    group — type "ab" (merged), open a group, delete "b" — and the hypotheses of
    `C05_repeated_undo_reaches_start` on it -/
example : C05_LogReach charSeg C05_wit_udata
    { level := 1, undos := [.delete 1 ['b'], .begin, .insert 0 ['a', 'b']], redos := [] }
    { buf := ['a'], pos := 1, cap := 8, canGrow := true } :=
  .edit (c := (Changeset.new.onNotifs charSeg C05_wit_udata.alnum [.insChar 0 'a', .insChar 1 'b']).begin.1)
    (lb := { buf := ['a', 'b'], pos := 2, cap := 8, canGrow := true }) [.del 1 ['b'] .backward] _
    (.begin (.edit (lb := { buf := [], pos := 0, cap := 8, canGrow := true }) [.insChar 0 'a', .insChar 1 'b'] _
      (.start _ rfl) (by decide))) (by decide)

/-- **A balanced stack with no open group is a sequence of undo units**: if `level = 0`, the markers are
    balanced (`Balanced`, an invariant of all log operations) and the stack is not empty, then its top is
    one undo unit — the most recent single change, or the most recent complete `Begin … End` group with a
    well-nested inside — and what is below is again a stack without unmatched markers. -/
theorem C05_closed_stack_top_unit (c : Changeset) (hb : Balanced c) (h0 : c.level = 0) (hne : c.undos ≠ []) :
    ∃ u rest, c.undos = u ++ rest ∧ UndoUnit u ∧ depth rest = some 0 := by
  have hd : depth c.undos = some 0 := by rw [← h0]; exact hb
  have hn := nested_of_depth_zero hd
  generalize c.undos = us at hn hne
  cases hn with
  | nil => exact absurd rfl hne
  | change ch l hm hl => exact ⟨[ch], l, rfl, .change ch hm, depth_of_nested hl⟩
  | group a b ha hb' => exact ⟨.end_ :: a ++ [.begin], b, by simp, .group a ha, depth_of_nested hb'⟩

theorem C05_undo_one_of_unit (S : Segmenter) (U : UData) (c : Changeset) (lb : LB) (t0 : Text)
    (hlog : replayLog c.undos.reverse t0 = some lb.buf) {u rest : List Change} (hu : c.undos = u ++ rest)
    (hunit : UndoUnit u) :
    ∃ u rest lb' lvl, c.undos = u ++ rest ∧ UndoUnit u ∧
      c.undo S U lb 1 = .ok ({ level := lvl, undos := rest, redos := u.reverse ++ c.redos }, lb',
        u.any (fun ch => !ch.isMarker)) ∧
      replayLog rest.reverse t0 = some lb'.buf := by
  rw [hu] at hlog
  obtain ⟨lb', h1, h2⟩ := undoAll_replay S U u rest t0 lb.buf lb hlog rfl
  obtain ⟨lvl, h3⟩ := C05_undo_unit_model S U u rest c.redos hunit lb lb' c.level h1
  exact ⟨u, rest, lb', lvl, hu, hunit, by simp only [Changeset.undo, hu, h3], h2⟩

/-- **One Undo = exactly the most recent unit, on the model's own `Changeset.undo`.**  On an exact,
    balanced log with no group open, `undo(line, 1)` does not panic, pops exactly the top unit (one change —
    possibly a merged run of single alphanumeric insertions/deletions — or one complete group), pushes it on
    the redo stack and leaves the line at the replay of the rest of the log: the text the line had right
    before the first change of that unit was recorded.  (The hypotheses hold in every `C05_LogReach` state
    with level 0: `C05_reachable_log_exact`.) -/
theorem C05_undo_one_pops_top_unit (S : Segmenter) (U : UData) (c : Changeset) (lb : LB) (t0 : Text)
    (hlog : replayLog c.undos.reverse t0 = some lb.buf) (hb : Balanced c) (h0 : c.level = 0)
    (hne : c.undos ≠ []) :
    ∃ u rest lb' lvl, c.undos = u ++ rest ∧ UndoUnit u ∧
      c.undo S U lb 1 = .ok ({ level := lvl, undos := rest, redos := u.reverse ++ c.redos }, lb',
        u.any (fun ch => !ch.isMarker)) ∧
      replayLog rest.reverse t0 = some lb'.buf := by
  obtain ⟨u, rest, hu, hunit, _⟩ := C05_closed_stack_top_unit c hb h0 hne
  exact C05_undo_one_of_unit S U c lb t0 hlog hu hunit

/-- non-vacuity of `C05_undo_one_pops_top_unit`: a closed group on top of a merged insertion -/
example : replayLog ([.end_, .delete 1 ['b'], .begin, .insert 0 ['a', 'b']] : List Change).reverse [] = some ['a'] ∧
    Balanced { level := 0, undos := [.end_, .delete 1 ['b'], .begin, .insert 0 ['a', 'b']], redos := [] } :=
  ⟨by decide, by simp [Balanced, depth]⟩

/-- **Counted Undo, abstract step.**  With the stack `u₁ ++ … ++ u_k ++ rest` (each `u_i` one undo unit,
    `k ≥ 1`), the loop of `Changeset::undo` at depth 0 with `count` units already done, where either
    exactly `k` more units are requested (`count + k = n`) or more are requested than there are and nothing
    lies below (`rest = []`): the loop pops exactly these `k` units — no more, no fewer —, pushes them on
    the redo stack and has applied the undo steps of exactly their changes, most recent first. -/
theorem C05_undo_count_units {σ : Type} (step : Change → σ → Except Panic σ) (n : Nat)
    (units : List (List Change)) (hall : ∀ u ∈ units, UndoUnit u) (rest : List Change) :
    ∀ (redos : List Change) (s s' : σ) (count : Nat) (undone : Bool),
      undoAll step units.flatten s = .ok s' → units ≠ [] →
      (count + units.length = n ∨ (count + units.length < n ∧ rest = [])) →
      ∃ ud, undoLoopG step n (units.flatten ++ rest) redos s 0 count undone =
        .ok (rest, units.flatten.reverse ++ redos, s', ud) := by
  induction units with
  | nil => intro _ _ _ _ _ _ hne; exact absurd rfl hne
  | cons u us ih =>
    intro redos s s' count undone hs _ hc
    simp only [List.flatten_cons] at hs ⊢
    obtain ⟨s1, h1, h2⟩ := (undoAll_append_iff step u us.flatten s s').mp hs
    rw [List.append_assoc, C05_undo_unit step n u (us.flatten ++ rest) redos (hall u List.mem_cons_self)
      s s1 count undone h1]
    by_cases hus : us = []
    · subst hus
      simp only [List.flatten_nil, undoAll, Except.ok.injEq] at h2
      subst h2
      simp only [List.length_cons, List.length_nil, Nat.zero_add] at hc
      simp only [List.flatten_nil, List.nil_append, List.append_nil]
      rcases hc with hc | ⟨hc, hr⟩
      · rw [if_pos (by omega)]; exact ⟨_, rfl⟩
      · rw [if_neg (by omega), hr]; exact ⟨_, rfl⟩
    · have hpos : 0 < us.length := List.length_pos_iff.mpr hus
      simp only [List.length_cons] at hc
      rw [if_neg (by omega)]
      obtain ⟨ud, hud⟩ := ih (fun u hu => hall u (List.mem_cons_of_mem _ hu)) (u.reverse ++ redos) s1 s'
        (count + 1) (undone || u.any (fun c => !c.isMarker)) h2 hus
        (by rcases hc with hc | ⟨hc, hr⟩
            · left; omega
            · right; exact ⟨by omega, hr⟩)
      exact ⟨ud, by rw [hud, List.reverse_append, List.append_assoc]⟩

/-- helper: a well-nested stretch is a concatenation of undo units -/
theorem C05_units_of_nested {us : List Change} (h : Nested us) :
    ∃ units : List (List Change), us = units.flatten ∧ ∀ u ∈ units, UndoUnit u := by
  induction h with
  | nil => exact ⟨[], rfl, nofun⟩
  | change ch l hm _ ih =>
    obtain ⟨units, hf, hall⟩ := ih
    exact ⟨[ch] :: units, by rw [List.flatten_cons, ← hf]; rfl,
      fun u hu => (List.mem_cons.mp hu).elim (fun e => e ▸ .change ch hm) (hall u)⟩
  | group a b ha _ _ ihb =>
    obtain ⟨units, hf, hall⟩ := ihb
    exact ⟨(.end_ :: a ++ [.begin]) :: units, by rw [List.flatten_cons, ← hf]; simp,
      fun u hu => (List.mem_cons.mp hu).elim (fun e => e ▸ .group a ha) (hall u)⟩

/-- a stack without unmatched markers is a sequence of undo units, most recent first -/
theorem C05_closed_stack_units : ∀ (k : Nat) (us : List Change), us.length ≤ k → depth us = some 0 →
    ∃ units : List (List Change), us = units.flatten ∧ ∀ u ∈ units, UndoUnit u :=
  fun _ _ _ hd => C05_units_of_nested (nested_of_depth_zero hd)

/-- **Undo with repeat count `n` takes back exactly `n` units** (all of them when there are fewer), on the
    model's own `Changeset.undo`.  An exact, balanced log with no group open is a sequence `units` of undo
    units, most recent first, and for every `n ≥ 1` the call `undo(line, n)` does not panic, pops exactly the
    first `n` of them, pushes them on the redo stack and leaves the line at the replay of the remaining log —
    so a counted Undo is never coarser and never finer than `n` single Undos
    (`C05_undo_one_pops_top_unit` is the case `n = 1`). -/
theorem C05_undo_n_pops_n_units (S : Segmenter) (U : UData) (c : Changeset) (lb : LB) (t0 : Text)
    (hlog : replayLog c.undos.reverse t0 = some lb.buf) (hb : Balanced c) (h0 : c.level = 0)
    (hne : c.undos ≠ []) :
    ∃ units : List (List Change), c.undos = units.flatten ∧ (∀ u ∈ units, UndoUnit u) ∧
      ∀ n, 1 ≤ n → ∃ lb' lvl ud,
        c.undo S U lb n = .ok (⟨lvl, (units.drop n).flatten, (units.take n).flatten.reverse ++ c.redos⟩, lb', ud) ∧
        replayLog (units.drop n).flatten.reverse t0 = some lb'.buf := by
  have hd : depth c.undos = some 0 := by rw [← h0]; exact hb
  obtain ⟨units, hf, hall⟩ := C05_closed_stack_units _ c.undos (Nat.le_refl _) hd
  refine ⟨units, hf, hall, ?_⟩
  intro n hn
  have hune : units ≠ [] := by
    intro h; rw [h] at hf; exact hne (by simpa using hf)
  have hsplit : c.undos = (units.take n).flatten ++ (units.drop n).flatten := by
    rw [← List.flatten_append, List.take_append_drop]; exact hf
  rw [hsplit] at hlog
  obtain ⟨lb', h1, h2⟩ := undoAll_replay S U _ _ t0 lb.buf lb hlog rfl
  have htne : units.take n ≠ [] := by
    cases units with
    | nil => exact absurd rfl hune
    | cons u us => cases n with
      | zero => omega
      | succ m => simp
  have hc : 0 + (units.take n).length = n ∨ (0 + (units.take n).length < n ∧ (units.drop n).flatten = []) := by
    rw [List.length_take]
    by_cases hle : n ≤ units.length
    · left; omega
    · right
      refine ⟨by omega, ?_⟩
      rw [List.drop_of_length_le (by omega)]; rfl
  obtain ⟨ud, h3⟩ := C05_undo_count_units (fun ch lb => ch.undoOn S U lb) n (units.take n)
    (fun u hu => hall u (List.mem_of_mem_take hu)) (units.drop n).flatten c.redos lb lb' 0 false h1 htne hc
  obtain ⟨lvl, h4⟩ := undoLoop_of_G S U n _ _ _ _ _ _ c.level _ h3
  refine ⟨lb', lvl, ud, ?_, h2⟩
  simp only [Changeset.undo, hsplit, h4]

/-- **One Undo at ANY group level** — also when it is requested inside an open group (vi insert session:
    `level ≥ 1`).  If the stack is an exact log from `t0` to the line, the markers are balanced and the
    stack is not empty, then `undo(line, 1)` does not panic and does exactly one of two things:
    (1) it pops exactly the top undo unit `u` (one change, or one complete group), pushes it on the redo
        stack and leaves the line at the replay of the rest of the log from `t0`; or
    (2) the top of the stack is the `Begin` of a group that is still open with nothing recorded in it yet:
        it pops that marker alone, lowers the level by one and leaves the line untouched (reporting that
        nothing was undone).
    In neither case does it reach below the state that preceded the most recent unit. -/
theorem C05_undo_one_any_level (S : Segmenter) (U : UData) (c : Changeset) (lb : LB) (t0 : Text)
    (hlog : replayLog c.undos.reverse t0 = some lb.buf) (hb : Balanced c) (hne : c.undos ≠ []) :
    (∃ u rest lb' lvl, c.undos = u ++ rest ∧ UndoUnit u ∧
      c.undo S U lb 1 = .ok (⟨lvl, rest, u.reverse ++ c.redos⟩, lb', u.any (fun ch => !ch.isMarker)) ∧
      replayLog rest.reverse t0 = some lb'.buf) ∨
    (∃ rest, c.undos = .begin :: rest ∧ 1 ≤ c.level ∧
      c.undo S U lb 1 = .ok (⟨c.level - 1, rest, .begin :: c.redos⟩, lb, false)) := by
  have ho := openN_of_depth c.undos c.level hb
  obtain ⟨us, hus⟩ : ∃ us, c.undos = us := ⟨_, rfl⟩
  obtain ⟨L, hlv⟩ : ∃ L, c.level = L := ⟨_, rfl⟩
  rw [hus, hlv] at ho
  cases ho with
  | closed _ hn =>
    cases hn with
    | nil => exact absurd hus hne
    | change ch l hm hl => exact .inl (C05_undo_one_of_unit S U c lb t0 hlog (u := [ch]) hus (.change ch hm))
    | group a b ha _ =>
      exact .inl (C05_undo_one_of_unit S U c lb t0 hlog (u := .end_ :: a ++ [.begin]) (rest := b)
        (by rw [hus]; simp) (.group a ha))
  | opened d a l ha hl =>
    cases ha with
    | nil =>
      refine .inr ⟨l, hus, by omega, ?_⟩
      simp [Changeset.undo, Changeset.undoLoop, hus, hlv]
    | change ch l' hm _ => exact .inl (C05_undo_one_of_unit S U c lb t0 hlog (u := [ch]) hus (.change ch hm))
    | group x y hx _ =>
      exact .inl (C05_undo_one_of_unit S U c lb t0 hlog (u := .end_ :: x ++ [.begin]) (rest := y ++ .begin :: l)
        (by rw [hus]; simp) (.group x hx))

/-- non-vacuity of case (1) inside an open group: vi insert session open, "ab" typed in it -/
example : replayLog ([.insert 0 ['a', 'b'], .begin] : List Change).reverse [] = some ['a', 'b'] ∧
    Balanced { level := 1, undos := [.insert 0 ['a', 'b'], .begin], redos := [] } :=
  ⟨by decide, by simp [Balanced, depth]⟩

theorem C05_insStr_one_unit (S : Segmenter) (U : UData) (c : Changeset) (lb0 l : LB) {T x z : Text}
    (hT : T.isEmpty = false) (hs : splitAtByte lb0.buf lb0.pos = some (x, z)) (hb : l.buf = x ++ T ++ z) :
    (c.onNotifs S U.alnum [.insStr lb0.pos T]).undos = .insert lb0.pos T :: c.undos ∧
    (c.onNotifs S U.alnum [.insStr lb0.pos T]).level = c.level ∧
    ∃ lb' lvl, (c.onNotifs S U.alnum [.insStr lb0.pos T]).undo S U l 1 =
        .ok (⟨lvl, c.undos, [.insert lb0.pos T]⟩, lb', true) ∧
      lb'.buf = lb0.buf := by
  rw [show c.onNotifs S U.alnum [.insStr lb0.pos T] = ⟨c.level, .insert lb0.pos T :: c.undos, []⟩ from
    Changeset.insertStr_eq c _ hT]
  refine ⟨rfl, rfl, ?_⟩
  obtain ⟨e1, e2⟩ := splitAtByte_some hs
  have hf : applyFwd (.insert lb0.pos T) lb0.buf = some l.buf := by
    rw [hb]; exact applyFwd_insert.mpr ⟨x, z, e1, e2, rfl⟩
  obtain ⟨lb', h1, h2⟩ := undoOn_inverts S U _ rfl lb0.buf l.buf l hf rfl
  obtain ⟨lvl, h3⟩ := C05_undo_unit_model S U [.insert lb0.pos T] c.undos [] (.change _ rfl) l lb' c.level
    (by rw [undoAll_cons_change _ rfl, h1]; rfl)
  refine ⟨lb', lvl, ?_, h2⟩
  unfold Changeset.undo
  rw [show Changeset.undoLoop S U 1 (.insert lb0.pos T :: c.undos) [] l 0 0 false c.level = _ from h3]
  rfl

/-- **A yank with a repeat count is taken back by one Undo — all of it and nothing else.**  Whatever is on
    the undo stack (`Changeset::insert_str` never merges), a successful `LineBuffer::yank(text, n)` with
    `n ≥ 1` — the call the editor makes for `Yank` and vi `p`/`P` with a count — adds exactly one entry
    `Insert(cursor, text × n)` and leaves the group level alone; the next `undo(line, 1)` pops exactly that
    entry and restores the text the line had before the yank.  (What is typed AFTER the yank may be merged
    into the entry: `C05_D22_witness`.) -/
theorem C05_counted_yank_one_unit (S : Segmenter) (U : UData) (c : Changeset) (lb0 l : LB) (text : Text)
    (n : Nat) (hn : 1 ≤ n) (push : Bool) (ns : List Notif)
    (hy : LB.yank S U text n lb0 = .ok (some push, l, ns)) :
    (c.onNotifs S U.alnum ns).undos = .insert lb0.pos (List.replicate n text).flatten :: c.undos ∧
    (c.onNotifs S U.alnum ns).level = c.level ∧
    ∃ lb' lvl, (c.onNotifs S U.alnum ns).undo S U l 1 =
        .ok (⟨lvl, c.undos, [.insert lb0.pos (List.replicate n text).flatten]⟩, lb', true) ∧
      lb'.buf = lb0.buf := by
  have hT : yankText text n = (List.replicate n text).flatten := by
    unfold yankText; split
    · rename_i h; subst h; simp
    · rfl
  rw [yank_eval, hT] at hy
  split at hy
  · cases hy
  · rename_i ht
    split at hy
    · cases hy
    · rename_i x z hs
      cases hy
      refine C05_insStr_one_unit S U c lb0 _ ?_ hs rfl
      cases n with
      | zero => omega
      | succ m => cases text with
        | nil => simp at ht
        | cons a t => rfl

/-- non-vacuity: "ab" yanked three times into "xy" at the cursor 1 -/
example : LB.yank charSeg C05_wit_udata ['a', 'b'] 3 { buf := ['x', 'y'], pos := 1, cap := 16, canGrow := true } =
    .ok (some false, { buf := ['x', 'a', 'b', 'a', 'b', 'a', 'b', 'y'], pos := 7, cap := 16, canGrow := true },
      [.insStr 1 ['a', 'b', 'a', 'b', 'a', 'b']]) := by rfl

/-- **A character inserted with a repeat count `n ≥ 2` is taken back by one Undo — all `n` copies and nothing
    else.**  A successful `LineBuffer::insert(ch, n)` — the call the editor makes for `SelfInsert` with a
    numeric argument — adds exactly one entry `Insert(cursor, ch × n)`, not merged into a run of typed
    alphanumerics below it, and the next `undo(line, 1)` pops exactly that entry and restores the text before
    the insertion.  (`n = 1` is the merging case of ordinary typing: `C05_log_replay`; an alphanumeric typed
    right after the `n` copies is merged into the entry: `C05_D22_witness`.) -/
theorem C05_counted_insert_one_unit (S : Segmenter) (U : UData) (c : Changeset) (lb0 l : LB) (ch : Char)
    (n : Nat) (hn : 2 ≤ n) (push : Bool) (ns : List Notif)
    (hy : LB.insert S U ch n lb0 = .ok (some push, l, ns)) :
    (c.onNotifs S U.alnum ns).undos = .insert lb0.pos (List.replicate n ch) :: c.undos ∧
    (c.onNotifs S U.alnum ns).level = c.level ∧
    ∃ lb' lvl, (c.onNotifs S U.alnum ns).undo S U l 1 =
        .ok (⟨lvl, c.undos, [.insert lb0.pos (List.replicate n ch)]⟩, lb', true) ∧
      lb'.buf = lb0.buf := by
  rw [insert_eval] at hy
  split at hy
  · cases hy
  · split at hy
    · cases hy
    · rename_i x z hs
      rw [if_neg (by omega)] at hy
      cases hy
      refine C05_insStr_one_unit S U c lb0 _ ?_ hs rfl
      cases n with
      | zero => omega
      | succ m => rfl

/-- non-vacuity: `z` inserted three times into "xy" at the cursor 1 -/
example : LB.insert charSeg C05_wit_udata 'z' 3 { buf := ['x', 'y'], pos := 1, cap := 16, canGrow := true } =
    .ok (some false, { buf := ['x', 'z', 'z', 'z', 'y'], pos := 4, cap := 16, canGrow := true },
      [.insStr 1 ['z', 'z', 'z']]) := by rfl
