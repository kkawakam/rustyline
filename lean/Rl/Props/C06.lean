/-
  Property C06 — killed text is never lost: yank restores it, kills accumulate, yank-pop rotates.
  Model: `Rl/KillRing.lean` (transliteration of `src/kill_ring.rs`), wired into the editor model in
  `Rl/Editor.lean` (`lbKill`, `ringYank`, `ringYankPop`, `Cmd.shouldResetKillRing`); oracle
  `Spec.oracleC06` on the implementation's callbacks.  The theorems below are about the ring for ALL
  reachable rings (any sequence of ring operations, any capacity).  Helper lemmas: the ring itself in
  `Rl/Lemmas/KillRing.lean`, the reference ring and the simulation in `Rl/Lemmas/KillRingSim.lean`,
  the editor's kill sequences in `Rl/Lemmas/EditorKillAcc.lean` and `EditorKillFlag.lean`.
-/
import Rl.Editor
import Rl.Lemmas.KillRing
import Rl.Lemmas.KillRingSim
import Rl.Lemmas.EditorKillAcc
import Rl.Lemmas.EditorKillFlag
open Rl Rl.KillRing

/-- **Ring bounds, no panic.** Whatever sequence of ring operations (kill in either direction, yank,
    yank-pop, reset, listener deletions, start/stop killing) is applied to a fresh ring of any
    capacity, no operation reaches one of the model's panics (`slots[index]` out of range) and the
    resulting ring satisfies the invariant: at most `cap` slots; the index addresses a slot when the
    ring is non-empty (and is 0 while it is empty); `lastAction = kill` only with a non-empty ring
    when `cap > 0`. -/
theorem C06_ring_bounds (size : Nat) (ops : List KOp) :
    ∃ k, runOps (KillRing.new size) ops = .ok k ∧
      k.cap = size ∧ k.slots.length ≤ size ∧
      (k.slots ≠ [] → k.index < k.slots.length) ∧ (k.slots = [] → k.index = 0) ∧
      (k.lastAction = .kill → 0 < size → k.slots ≠ []) := by
  obtain ⟨k, he, hw, hc⟩ := runOps_wf (wf_new size) ops
  have hc : k.cap = size := by simpa [KillRing.new] using hc
  exact ⟨k, he, hc, hc ▸ hw.len_le, hw.idx_lt, hw.idx_zero, hc ▸ hw.kill_ne⟩

/-- Under the invariant `kill`, `yank`, `yankPop` never return the model's panic (one-step form, for
    any ring satisfying the invariant, reachable or not). -/
theorem C06_no_panic (k : KillRing) (h : WF k) (text : Text) (dir : KMode) :
    (∃ k', k.kill text dir = .ok k' ∧ WF k') ∧ (∃ k' r, k.yank = .ok (k', r) ∧ WF k') ∧
    (∃ k' r, k.yankPop = .ok (k', r) ∧ WF k') := by
  obtain ⟨k1, h1, w1, _⟩ := wf_kill h text dir
  obtain ⟨k2, r2, h2, w2, _⟩ := wf_yank h
  obtain ⟨k3, r3, h3, w3, _⟩ := wf_yankPop h
  exact ⟨⟨k1, h1, w1⟩, ⟨k2, r2, h2, w2⟩, ⟨k3, r3, h3, w3⟩⟩

/-- **Kill then yank.** On a ring satisfying the invariant (capacity > 0) whose last action is not a
    kill, a kill of `text` (either direction) followed by yank returns exactly `text`, and records
    `blen text` as the size a following yank-pop has to replace. -/
theorem C06_kill_yank (k : KillRing) (h : WF k) (hk : k.lastAction ≠ .kill) (hc : 0 < k.cap)
    (text : Text) (dir : KMode) :
    ∃ k1 k2, k.kill text dir = .ok k1 ∧ k1.yank = .ok (k2, some text) ∧
      k2.lastAction = .yank (blen text) ∧ k2.slots = k1.slots ∧ k2.index = k1.index := by
  obtain ⟨hlt, _, hs⟩ := fresh_bounds h hc text
  rcases yank_ok (wf_fresh h hc text) with ⟨h0, _⟩ | ⟨s, hs', hy⟩
  · rw [h0] at hlt; exact absurd hlt (Nat.not_lt_zero _)
  · cases hs'.symm.trans hs
    exact ⟨fresh k text, _, kill_fresh h hk hc text dir, hy, rfl, rfl, rfl⟩

/-- **Copy, then kill, then yank.**  `Cmd::ViYankTo` stores the copied text with `kill`
    and then resets the last action; whatever the ring was, a kill command that follows therefore
    opens its own slot and the yank after it returns exactly the killed text, not copied + killed. -/
theorem C06_copy_kill_yank (k : KillRing) (h : WF k) (hc : 0 < k.cap) (copied text : Text) (dir : KMode) :
    ∃ k0 k1 k2, k.kill copied .append = .ok k0 ∧ k0.reset.kill text dir = .ok k1 ∧
      k1.yank = .ok (k2, some text) := by
  obtain ⟨k0, he0, hw0, hc0, _⟩ := wf_kill h copied .append
  obtain ⟨k1, k2, h1, h2, _⟩ := C06_kill_yank k0.reset (wf_reset hw0) nofun (hc0 ▸ hc) text dir
  exact ⟨k0, k1, k2, he0, h1, h2⟩

/-- The same for every reachable ring: after any operations, a command that resets the last action
    (`Cmd.shouldResetKillRing`), a kill and a yank give back the killed text. -/
theorem C06_kill_yank_reachable (size : Nat) (hs : 0 < size) (ops : List KOp) (text : Text) (dir : KMode) :
    ∃ k k1 k2, runOps (KillRing.new size) ops = .ok k ∧ k.reset.kill text dir = .ok k1 ∧
      k1.yank = .ok (k2, some text) := by
  obtain ⟨k, he, hw, hc⟩ := runOps_wf (wf_new size) ops
  have hc : k.cap = size := by simpa [KillRing.new] using hc
  obtain ⟨k1, k2, h1, h2, _⟩ := C06_kill_yank k.reset (wf_reset hw) nofun (hc ▸ hs) text dir
  exact ⟨k, k1, k2, he, h1, h2⟩

/-- **Accumulation.** Start from a ring satisfying the invariant (capacity > 0) whose last action is
    not a kill, with the line `T0 = L0 ++ R0` (cursor between the two). After any non-empty run of
    directional kills — forward and backward mixed in any order — with nothing in between, let the
    line be `T1 = L1 ++ R1` with the cursor `p = blen L1`. Then ONE yank returns a text `slot` with
    `T0 = T1[..p] ++ slot ++ T1[p..]`: everything removed, in its original left-to-right order. -/
theorem C06_accumulate (k0 : KillRing) (hw : WF k0) (hk : k0.lastAction ≠ .kill) (hc : 0 < k0.cap)
    (L0 R0 : Text) (ds : List DKill) (hne : ds ≠ []) (L1 R1 : Text) (k1 : KillRing)
    (hrun : dkRun (L0, R0, k0) ds = some (L1, R1, k1)) :
    ∃ slot k2 a b, k1.yank = .ok (k2, some slot) ∧
      splitAtByte (L1 ++ R1) (blen L1) = some (a, b) ∧ L0 ++ R0 = a ++ slot ++ b := by
  cases ds with
  | nil => exact absurd rfl hne
  | cons d ds =>
    simp only [dkRun] at hrun
    split at hrun
    · rename_i s1 h1
      have hinv := accInv_run (accInv_first hw hk hc h1) hrun
      obtain ⟨hw1, _, _, slot, hs, hT⟩ := hinv
      simp only at hw1 hs hT
      rename_i hk1 hc1
      rcases yank_ok hw1 with ⟨h0, _⟩ | ⟨s, hs', hy⟩
      · rw [h0] at hs; simp at hs
      · rw [hw1.kill_yidx hk1 hc1, hs] at hs'; cases hs'
        exact ⟨slot, _, L1, R1, hy, splitAtByte_append L1 R1, hT⟩
    · cases hrun

/-- The ring listener is told the direction by the line buffer: with `killing = true`, a `Forward`
    deletion appends and a `Backward` deletion prepends. -/
theorem C06_onDelete_killing (k : KillRing) (hk : k.killing = true) (text : Text) :
    k.onDelete text .forward = k.kill text .append ∧ k.onDelete text .backward = k.kill text .prepend :=
  ⟨onDelete_on hk text .forward, onDelete_on hk text .backward⟩

/-- **Character deletions stay out of the ring.** A deletion reported while `killing = false` (what
    `Kill(ForwardChar n)` / `Kill(BackwardChar n)`, Delete, Backspace produce: `LineBuffer::kill`
    sends no `start_killing` for them) leaves the ring unchanged — slots, index and last action; and
    these two commands are among those that reset the last action, so a kill that follows opens a
    fresh slot holding exactly its own text instead of extending the previous one. -/
theorem C06_char_delete (k : KillRing) (hf : k.killing = false) (text : Text) (dir : Direction) (n : Nat) :
    k.onDelete text dir = .ok k ∧
    Cmd.shouldResetKillRing (.kill (.forwardChar n)) = true ∧
    Cmd.shouldResetKillRing (.kill (.backwardChar n)) = true ∧
    (WF k → 0 < k.cap → ∀ (t : Text) (d : KMode), ∃ k', k.reset.kill t d = .ok k' ∧
        k'.slots[k'.index]? = some t ∧
        (k'.slots = k.slots ++ [t] ∨ k'.slots = k.slots.set k'.index t)) := by
  refine ⟨onDelete_off hf text dir, rfl, rfl, ?_⟩
  intro hw hc t d
  refine ⟨fresh k.reset t, kill_fresh (wf_reset hw) nofun hc t d, (fresh_bounds (wf_reset hw) hc t).2.2, ?_⟩
  show (if _ then _ else _) = _ ∨ (if _ then _ else _) = _
  split
  · exact Or.inl rfl
  · exact Or.inr rfl

/-- On the editor's fan-out (`lbKill`, the `Proxy` of `edit_kill`): the notifications produced by
    `LineBuffer::kill` for the two character movements contain no `start_killing`, so a ring that is
    not killing comes out of the whole command unchanged — nothing enters or extends a slot. -/
theorem C06_char_kill_ring_unchanged (S : Segmenter) (U : UData) (n : Nat) (lb lb' : LB) (r : Bool) (ns : List Notif)
    (h : LB.kill S U (.forwardChar n) lb = .ok (r, lb', ns) ∨ LB.kill S U (.backwardChar n) lb = .ok (r, lb', ns))
    (k : KillRing) (hf : k.killing = false) : lbKill.go ns k = .ok k := by
  have hd : ∀ x ∈ ns, ∃ i s d, x = .del i s d := by
    rcases h with h | h
    · exact LB.kill_char_notifs S U (.inl ⟨n, rfl⟩) lb r lb' ns h
    · exact LB.kill_char_notifs S U (.inr ⟨n, rfl⟩) lb r lb' ns h
  exact lbKill_go_dels ns hd k hf

/-- **Yank-pop.** Directly after a yank that returned `s0` (on a ring satisfying the invariant):
    the first yank-pop asks to replace exactly `blen s0` bytes — the size just yanked — by the slot
    one position back (cyclically); `j` yank-pops in a row answer `popSpec`: each replaces the byte
    length of the text inserted just before by the slot one further back, cyclically through the
    stored slots and nothing else; the slots themselves are unchanged, the yank position has moved
    back by `j` modulo the number of slots (so `slots.length` pops are a full cycle). -/
theorem C06_yank_pop (k : KillRing) (h : WF k) (k1 : KillRing) (s0 : Text)
    (hy : k.yank = .ok (k1, some s0)) (j : Nat) :
    ∃ k2, popN j k1 = .ok (k2, popSpec k.slots k.yankIndex (blen s0) j) ∧
      k2.slots = k.slots ∧ k2.yankIndex = cycN k.slots.length k.yankIndex j ∧
      (k2.yankIndex + j) % k.slots.length = k.yankIndex ∧
      (∀ r ∈ popSpec k.slots k.yankIndex (blen s0) j, ∃ sz t, r = some (sz, t) ∧ t ∈ k.slots) := by
  rcases yank_ok h with ⟨_, he⟩ | ⟨s, hs, he⟩
  · rw [he] at hy; cases hy
  · rw [he] at hy; cases hy
    have hne : k.slots ≠ [] := by intro h0; rw [h0] at hs; simp at hs
    obtain ⟨k2, hp, hsl, hidx, _, _, _⟩ := popN_spec j _ (wf_setAction h (.yank (blen s0)) nofun) (blen s0) rfl hne
    have hl := h.yidx_lt hne
    refine ⟨k2, hp, hsl, hidx, ?_, popSpec_mem hl _ j⟩
    simp only at hidx
    rw [hidx]; exact cycN_add_mod hl j

/-- `slots.length` yank-pops come back to the slot that was yanked. -/
theorem C06_yank_pop_full_cycle (len i : Nat) (h : i < len) : cycN len i len = i := by
  have := cycN_add_mod h len
  have hl := cycN_lt h len
  rw [Nat.add_mod_right, Nat.mod_eq_of_lt hl] at this
  exact this

/-- Yank-pop is inert unless the last action was a yank. -/
theorem C06_yank_pop_only_after_yank (k : KillRing) (h : ∀ sz, k.lastAction ≠ .yank sz) :
    k.yankPop = .ok (k, none) := by
  unfold yankPop
  split
  · rename_i sz hy; exact absurd hy (h sz)
  · rfl

/-- the four one-character kills of the example `d33` -/
def tA : Text := ['A']
def tB : Text := ['B']
def tC : Text := ['C']
def tD : Text := ['D']

/-- kill A, (other), kill B, (other), kill C, yank, yank-pop, kill D, yank, yank-pop: what the last
    yank-pop inserts -/
def d33 (cap : Nat) : Option Text :=
  match (KillRing.new cap).kill tA .append with
  | .error _ => none
  | .ok k =>
  match k.reset.kill tB .append with
  | .error _ => none
  | .ok k =>
  match k.reset.kill tC .append with
  | .error _ => none
  | .ok k =>
  match k.yank with
  | .error _ => none
  | .ok (k, _) =>
  match k.yankPop with
  | .error _ => none
  | .ok (k, _) =>
  match k.kill tD .append with
  | .error _ => none
  | .ok k =>
  match k.yank with
  | .error _ => none
  | .ok (k, _) =>
  match k.yankPop with
  | .error _ => none
  | .ok (_, r) => r.map (·.2)

/-- **A kill after a yank-pop does not overwrite a slot.** The previous kill before D is C and the
    yank-pop shows it (a kill stored at the position yank-pop had rotated to would replace C, and B
    would show: `index` and `yankIndex` are kept apart for this). -/
theorem C06_D33_repaired : d33 60 = some tC := by decide

/-- Full statement of "yank-pop cycles through the MOST RECENT kills": the model answers every yank
    and yank-pop like the reference ring (`SRing`: the kills most recent first, at most the ring size;
    a new kill is always the most recent one and ends the rotation of yank-pop). -/
def C06_yank_pop_most_recent_statement : Prop :=
  ∀ (size : Nat) (ops : List KOp), ops.all (fun op => !op.isListener) = true →
    modelObs (KillRing.new size) ops = SRing.obs { kills := [], rot := 0, last := .other, cap := size } ops

/-- **Yank-pop cycles through the MOST RECENT kills and nothing else**: for every ring
    size and every sequence of commands, each yank and yank-pop of the model returns exactly what the
    reference ring returns.  Proved by a simulation (`Sim`, `Rl/Lemmas/KillRingSim.lean`): the slots
    of the circular buffer read backwards from `index` are the reference ring's kills in order of
    recency, also after the ring has wrapped, and `yankIndex` is the reference ring's rotation. -/
theorem C06_yank_pop_most_recent : C06_yank_pop_most_recent_statement := by
  intro size ops hall
  exact sim_obs ops hall _ _ (Sim.new size)

/-- the sequence of `d33` (kill A, B, C, yank, yank-pop, kill D, yank, yank-pop) on the model: C, B, D, C -/
example : modelObs (KillRing.new 60)
    [.kill tA .append, .reset, .kill tB .append, .reset, .kill tC .append, .yank, .yankPop,
     .kill tD .append, .yank, .yankPop] = [some tC, some tB, some tD, some tC] := by decide

/-- **A whole-line / whole-buffer kill inside a run keeps the left-to-right order.**
    `LineBuffer::kill` reports such a span as `delete_around(before, after)`; on a ring whose kill
    sequence has accumulated `s`, the slot afterwards is `before ++ s ++ after`: the text that stood
    on the left of the cursor goes before, the text on the right behind what was killed so far
    (appending the whole span would give `s ++ before ++ after`). -/
theorem C06_around_keeps_order (k : KillRing) (h : WF k) (hc : 0 < k.cap) (hkill : k.killing = true)
    (hla : k.lastAction = .kill) (before after : Text) (hb : before ≠ []) (ha : after ≠ []) :
    ∃ s k', k.slots[k.index]? = some s ∧
      k.onDelete (before ++ after) (.around (blen before)) = .ok k' ∧
      k'.slots[k'.index]? = some (before ++ s ++ after) := by
  obtain ⟨s, hs, hk1, hw1⟩ := kill_cont h hla hc before .prepend
  have hl := h.idx_lt (h.kill_ne hla hc)
  obtain ⟨s1, hs1, hk2, _⟩ := kill_cont hw1 hla hc after .append
  cases hs1.symm.trans (List.getElem?_set_self hl)
  have hd : k.onDelete (before ++ after) (.around (blen before)) =
      KillRing.kill { k with slots := k.slots.set k.index (mergeSlot .prepend s before) } after .append := by
    rw [onDelete_on hkill]
    simp only [_root_.cutBytes_append, killNE_of_ne hb, killNE_of_ne ha, hk1]
  have hslot : ((k.slots.set k.index (mergeSlot .prepend s before)).set k.index
      (mergeSlot .append (mergeSlot .prepend s before) after))[k.index]? = some (before ++ s ++ after) :=
    List.getElem?_set_self (by rw [List.length_set]; exact hl)
  exact ⟨s, _, hs, hd.trans hk2, hslot⟩

/-- **Counted yank, then yank-pop.**  `KillRing::yank_n n` (= `yank` followed by `yankCount n`) answers the
    most recent kill and records the byte length of the `n` copies the editor inserts, and the yank-pop
    that directly follows asks to replace exactly that many bytes by the previous slot. -/
theorem C06_yank_count_pop (k : KillRing) (h : WF k) (hne : k.slots ≠ []) (n : Nat) :
    ∃ k1 text s, k.yank = .ok (k1, some text) ∧
      (k1.yankCount n).lastAction = .yank (blen (List.replicate n text).flatten) ∧
      (k1.yankCount n).yankPop =
        .ok ({ (k1.yankCount n) with yankIndex := prevIdx (k1.yankCount n), lastAction := .yank (blen s) },
             some (blen (List.replicate n text).flatten, s)) := by
  rcases yank_ok h with ⟨h0, _⟩ | ⟨text, hs, hy⟩
  · exact absurd h0 hne
  · have hla : (KillRing.yankCount { k with lastAction := .yank (blen text) } n).lastAction
        = .yank (blen (List.replicate n text).flatten) := by
      simp [KillRing.yankCount, blen_flatten_replicate]
    have hwf : WF (KillRing.yankCount { k with lastAction := .yank (blen text) } n) :=
      wf_setAction h (.yank (blen text * n)) nofun
    obtain ⟨s, _, hp⟩ := yankPop_ok hwf _ hla hne
    exact ⟨_, text, s, hy, hla, hp⟩

/-- the hypotheses of `C06_accumulate` are satisfiable, with a mixed run -/
example : dkRun (['a', 'b'], ['c', 'd', 'e'], (KillRing.new 60).reset)
    [.fwd ['c'], .bwd ['b'], .fwd ['d'], .bwd ['a']] =
    some ([], ['e'], { slots := [['a', 'b', 'c', 'd']], index := 0, lastAction := .kill, killing := false, cap := 60 }) := by
  decide

example : ((KillRing.new 2).kill tA .append).toOption = some { slots := [tA], index := 0, lastAction := .kill, killing := false, cap := 2 } := by
  decide

/-- three pops on a two-slot ring alternate between the two slots -/
example : popSpec [tA, tB] 1 1 3 = [some (1, tA), some (1, tB), some (1, tA)] := by decide

/-- the invariant is not trivially true: a ring whose index is out of range is excluded and does panic -/
example : ({ slots := [tA], index := 0, yankIndex := 3, lastAction := .other, killing := false, cap := 5 } : KillRing).yank.toOption = none := by
  decide

/-- **Kills accumulate through the editor, for every run of kill commands.**  From any editor state whose
    ring is within its invariant (capacity > 0), any list of kill movements other than the two character
    movements (C-k, C-u, C-w, M-d, vi `d`+motion, whole line, … with any counts) run one after the other by
    the main-loop step: if the run returns, the line is what the successive `LineBuffer::kill`s leave, and
    the text the ring's kill sequence holds (`accOf`) is the fold of the reported deletions over what it held
    before — forward deletions behind, backward deletions before, each `delete_around` around the
    accumulated text; no kill command in the run reset the sequence, and if anything was killed ONE `yank`
    returns exactly that text and records its byte length for a following yank-pop. -/
theorem C06_editor_kill_run_accumulates (S : Segmenter) (U : UData) (cfg : EdCfg) (ms : List Movement)
    (hms : ∀ m ∈ ms, (Cmd.kill m).shouldResetKillRing = false)
    (s s' : Ed) (hw : WF s.ring) (hc : 0 < s.ring.cap)
    (hrun : cmdSteps S U cfg (ms.map Cmd.kill) s = .ok ((), s')) :
    ∃ ns, killsRun S U ms s.line = some (s'.line, ns) ∧
      accOf s'.ring = (ns.foldl accNotif (s.ring.killing, accOf s.ring)).2 ∧
      s'.ring.killing = (ns.foldl accNotif (s.ring.killing, accOf s.ring)).1 ∧
      WF s'.ring ∧
      (s'.ring.lastAction = .kill → ∃ k2, s'.ring.yank = .ok (k2, some (accOf s'.ring)) ∧
        k2.lastAction = .yank (blen (accOf s'.ring))) := by
  obtain ⟨ns, h1, hw', hc', ha⟩ := wp_ok (wp_cmdSteps_kills S U cfg ms s hms hw hc) hrun
  refine ⟨ns, h1, ?_, ?_, hw', fun hk => ?_⟩
  · rw [← ha]
  · rw [← ha]
  · obtain ⟨k2, hy, hl, _⟩ := yank_acc hw' (by omega) hk
    exact ⟨k2, hy, hl⟩

/-- **Kill, then yank, through `execute`.**  From any state whose ring is within its invariant (capacity > 0) and
    whose last action is not a kill (the situation after any command that resets), a kill command that
    returns and whose line-buffer operation reported the deletions `ns` leaves a ring of which one yank
    returns exactly the fold of those deletions (from the empty text) — provided something was killed. -/
theorem C06_editor_kill_then_yank (S : Segmenter) (U : UData) (cfg : EdCfg) (m : Movement)
    (s s' : Ed) (st : Status) (hw : WF s.ring) (hc : 0 < s.ring.cap) (hla : s.ring.lastAction ≠ .kill)
    (hrun : execute S U cfg (.kill m) s = .ok (st, s')) :
    ∃ r ns, LB.kill S U m s.line = .ok (r, s'.line, ns) ∧
      accOf s'.ring = (ns.foldl accNotif (s.ring.killing, [])).2 ∧
      (s'.ring.lastAction = .kill → ∃ k2, s'.ring.yank = .ok (k2, some (accOf s'.ring))) := by
  have h := wp_execute_kill' S U cfg m s
    (fun _ s' => ∃ r ns, LB.kill S U m s.line = .ok (r, s'.line, ns) ∧ lbKill.go ns s.ring = .ok s'.ring)
    (fun _ _ => True) trivial
    (fun r l ns k s' ho hgo hl hr => ⟨⟨r, ns, by rw [hl]; exact ho, by rw [hr]; exact hgo⟩, trivial⟩)
  obtain ⟨r, ns, ho, hgo⟩ := wp_ok h hrun
  obtain ⟨k', hgo', hw', hc', ha⟩ := lbKill_go_acc ns hw hc
  rw [hgo] at hgo'; cases hgo'
  have h0 : accOf s.ring = [] := by simp [accOf, hla]
  rw [h0] at ha
  refine ⟨r, ns, ho, by rw [← ha], fun hk => ?_⟩
  obtain ⟨k2, hy, _⟩ := yank_acc hw' (by omega) hk
  exact ⟨k2, hy⟩

/-- **Character deletions stay out of the ring — through `execute`, for every state.**  `Kill(ForwardChar n)`
    (C-d, Delete, vi `x`) and `Kill(BackwardChar n)` (Backspace, C-h, vi `X`) executed in any state whose
    ring is not in the middle of a kill notification (`killing = false`: true of every state between two
    commands) leave the ring EXACTLY as it was — slots, indices, last action — whether the command
    returns or exits. -/
theorem C06_editor_char_delete (S : Segmenter) (U : UData) (cfg : EdCfg) (n : Nat) (s : Ed)
    (hf : s.ring.killing = false) :
    wp (execute S U cfg (.kill (.forwardChar n))) (fun _ s' => s'.ring = s.ring) (fun _ s' => s'.ring = s.ring) s ∧
    wp (execute S U cfg (.kill (.backwardChar n))) (fun _ s' => s'.ring = s.ring) (fun _ s' => s'.ring = s.ring) s :=
  ⟨wp_execute_charKill S U cfg _ (Or.inl ⟨n, rfl⟩) s hf, wp_execute_charKill S U cfg _ (Or.inr ⟨n, rfl⟩) s hf⟩

/-- **Nothing but kills, copies and yanks touches what the ring stores — for every command sequence.**  Any list of
    commands each of which is a character deletion or a command other than `Kill` / `Replace` / `ViYankTo` /
    `Yank` / `YankPop` (motions, insertions, history, undo, case changes, transpositions, …), run through the
    main-loop step from any state with `killing = false`, leaves slots, slot index, yank position, capacity
    and the killing flag of the ring as they were, in every outcome (return or exit); only the last action may
    have been reset to Other.  So no such sequence enters or extends a kill. -/
theorem C06_editor_inert_run (S : Segmenter) (U : UData) (cfg : EdCfg) (cs : List Cmd)
    (hcs : ∀ c ∈ cs, c.ringInert = true) (s : Ed) (hf : s.ring.killing = false) :
    wp (cmdSteps S U cfg cs)
      (fun _ s' => (s'.ring = s.ring ∨ s'.ring = s.ring.reset) ∧ s'.ring.slots = s.ring.slots ∧
        s'.ring.index = s.ring.index ∧ s'.ring.yankIndex = s.ring.yankIndex)
      (fun _ s' => (s'.ring = s.ring ∨ s'.ring = s.ring.reset) ∧ s'.ring.slots = s.ring.slots ∧
        s'.ring.index = s.ring.index ∧ s'.ring.yankIndex = s.ring.yankIndex) s :=
  wp_mono (wp_cmdSteps_inert S U cfg cs s hcs hf)
    (fun _ _ h => ⟨h, h.fields.1, h.fields.2.1, h.fields.2.2.1⟩)
    (fun _ _ h => ⟨h, h.fields.1, h.fields.2.1, h.fields.2.2.1⟩)

/-- **A non-kill command ends the accumulation** (the reset decision, `keymap.rs:134-146`): after any command
    that is reset for and does not use the ring — run through the main-loop step from any state (ring within
    its invariant, capacity > 0, `killing = false`) — the next kill opens a slot of its own: the text a
    following yank returns is the fold of THAT kill's deletions only, nothing of an earlier kill sequence. -/
theorem C06_editor_nonkill_resets (S : Segmenter) (U : UData) (cfg : EdCfg) (c : Cmd)
    (hc1 : c.ringInert = true) (hc2 : c.shouldResetKillRing = true) (s s1 : Ed) (st : Status)
    (hf : s.ring.killing = false) (hrun : cmdStep S U cfg c s = .ok (st, s1)) :
    s1.ring = s.ring.reset ∧ accOf s1.ring = [] := by
  have h : wp (cmdStep S U cfg c) (fun _ s' => s'.ring = s.ring.reset) (fun _ _ => True) s := by
    refine wp_cmdStep S U cfg c s _ _ ?_
    rw [hc2]
    exact wp_mono (wp_execute_inert S U cfg c hc1 { s with ring := s.ring.reset } hf)
      (fun _ _ h => h) (fun _ _ _ => trivial)
  have hr := wp_ok h hrun
  exact ⟨hr, by rw [hr]; rfl⟩

/-- **Yank through `execute` hands over the most recent kill and records what a yank-pop has to replace**
    (counted yank included).  On a non-empty ring within its invariant, `execute (Yank n anchor)` takes the
    slot `t` at the yank position (during or right after a kill sequence: the accumulated text), and whether
    the paste returns or exits the ring afterwards is the old one with last action `Yank (blen t * n)`, so
    that the `yank_pop` that directly follows asks the line to replace exactly the bytes of the `n` copies
    by the slot one position back. -/
theorem C06_editor_yank_then_pop_size (S : Segmenter) (U : UData) (cfg : EdCfg) (n : Nat) (a : Anchor)
    (s : Ed) (hw : WF s.ring) (hne : s.ring.slots ≠ []) :
    ∃ t, s.ring.slots[s.ring.yankIndex]? = some t ∧
      (s.ring.lastAction = .kill → 0 < s.ring.cap → t = accOf s.ring) ∧
      wp (execute S U cfg (.yank n a))
        (fun _ s' => s'.ring = { s.ring with lastAction := .yank (blen t * n) } ∧
          ∃ k3 prev, s'.ring.yankPop = .ok (k3, some (blen t * n, prev)) ∧ prev ∈ s.ring.slots)
        (fun _ s' => s'.ring = { s.ring with lastAction := .yank (blen t * n) }) s := by
  obtain ⟨t, ht, hwp⟩ := wp_execute_yank S U cfg n a s hw hne
  refine ⟨t, ht, ?_, wp_mono hwp ?_ (fun _ _ h => h)⟩
  · intro hk hc
    obtain ⟨hs, hy⟩ := slot_accOf hw hc hk
    exact Option.some.inj (ht.symm.trans (hy ▸ hs))
  · intro _ s' h
    refine ⟨h, ?_⟩
    obtain ⟨prev, hp, hpop⟩ := yankPop_ok (wf_setAction hw (.yank (blen t * n)) nofun) (blen t * n) rfl hne
    rw [h]
    exact ⟨_, prev, hpop, List.mem_of_getElem? hp⟩

/-- the movements of the kill commands satisfy the hypothesis of `C06_editor_kill_run_accumulates` -/
example : ∀ m ∈ [Movement.endOfLine, .beginningOfLine, .backwardWord 2 .emacs, .wholeLine, .forwardWord 1 .afterEnd .emacs],
    (Cmd.kill m).shouldResetKillRing = false := by decide

/-- what the fold computes on the notifications of M-d ("cd"), M-DEL ("ab ") and C-k (" ef") on `ab |cd ef`:
    everything removed, in its original left-to-right order -/
example : ([Notif.startKill, .del 3 ['c', 'd'] .forward, .stopKill, .startKill, .del 0 ['a', 'b', ' '] .backward, .stopKill,
    .startKill, .del 0 [' ', 'e', 'f'] .forward, .stopKill].foldl accNotif (false, [])) =
    (false, ['a', 'b', ' ', 'c', 'd', ' ', 'e', 'f']) := by decide

/-- a deletion reported outside `start_killing` / `stop_killing` (a character deletion) is ignored by the fold, and a
    `delete_around` puts the accumulated text between its two parts -/
example : ([Notif.del 0 ['x'] .forward, .startKill, .del 1 ['b'] .forward, .del 0 ['a', 'c'] (.around 1), .stopKill].foldl
    accNotif (false, [])) = (false, ['a', 'b', 'c']) := by decide

/-- commands covered by `C06_editor_inert_run` / `C06_editor_nonkill_resets` -/
example : [Cmd.kill (.forwardChar 1), .kill (.backwardChar 3), .selfInsert 1 'a', .move (.backwardChar 1), .undo 1,
    .transposeChars].all (fun c => c.ringInert && c.shouldResetKillRing) = true := by decide

/-- **The ring is ready between any two commands**: the hypotheses of the editor-level theorems above —
    ring within its invariant, capacity > 0, `killing = false` (a fresh `KillRing::new(60)` is such a ring) —
    are kept, whether it returns or exits, by every run through the main-loop step of kill commands with ANY
    movement (every `LineBuffer::kill` closes the `start_killing` bracket it opens), character deletions and
    commands that do not use the ring. -/
theorem C06_editor_ring_ready_invariant (S : Segmenter) (U : UData) (cfg : EdCfg) (cs : List Cmd)
    (hcs : ∀ c ∈ cs, c.killOrInert = true) (s : Ed)
    (hw : WF s.ring) (hc : 0 < s.ring.cap) (hf : s.ring.killing = false) :
    wp (cmdSteps S U cfg cs)
      (fun _ s' => WF s'.ring ∧ 0 < s'.ring.cap ∧ s'.ring.killing = false)
      (fun _ s' => WF s'.ring ∧ 0 < s'.ring.cap ∧ s'.ring.killing = false) s :=
  wp_cmdSteps_ready S U cfg cs s hcs ⟨hw, hc, hf⟩

/-- the hypotheses are satisfiable: a fresh ring, and a mixed command list -/
example : WF (KillRing.new 60) ∧ 0 < (KillRing.new 60).cap ∧ (KillRing.new 60).killing = false :=
  ⟨wf_new 60, by decide, rfl⟩
example : [Cmd.kill .endOfLine, .kill (.forwardChar 1), .kill .wholeLine, .selfInsert 1 'a', .kill (.backwardWord 1 .emacs),
    .move .endOfLine].all Cmd.killOrInert = true := by decide
