/-
  Property C07 — history recall shows entries in order and returns the in-progress line intact.
  Spec machine: `Spec.navStep` (Rl/Spec/OracleNav.lean), run by the oracle over the implementation's
  callbacks.  Model: `editHistoryNext`, `editHistory`, `backup`, `restore` in Rl/Editor.lean.
  The stored history is a read-only parameter of the model (`cfg.hist`), so "the stored history is
  unchanged" is structural there; on the implementation it is checked through `Editor::history()`.
-/
import Rl.Editor
import Rl.Spec.OracleNav
import Rl.Lemmas.EditorM
import Rl.Lemmas.EditorOps
import Rl.Lemmas.RowStore
import Rl.Lemmas.RecallFrame
import Rl.Lemmas.Vertical
import Rl.Lemmas.LineBufferSafe
open Rl Rl.Spec

/-- Spec: moving up from entry `i+1` shows entry `i` exactly as stored, cursor at its end. -/
theorem C07_spec_prev_shows_entry (hist : List Text) (st : NavSt) (o : Obs) (e : Text)
    (hk : classifyNav o = .prev) (hi : 0 < st.idx) (hlt : st.idx < hist.length)
    (he : hist[st.idx - 1]? = some e) :
    (navStep hist st o).1.idx = st.idx - 1 ∧
    (match (navStep hist st o).2 with | .exact l p => l = e ∧ p = blen e | _ => False) := by
  have hne : hist.length ≠ 0 := by omega
  have h1 : (hist.length == 0) = false := by simp [hne]
  have h2 : (st.idx == hist.length) = false := by simp; omega
  have h3 : (st.idx == 0) = false := by simp; omega
  simp [navStep, hk, h1, h2, h3, he]

/-- Spec: leaving the in-progress line (index = number of entries) saves it, and coming back down
    past the newest entry asks for exactly that line and cursor. -/
theorem C07_spec_return_restores (hist : List Text) (st : NavSt) (o o' : Obs)
    (hlen : 0 < hist.length) (hidx : st.idx = hist.length)
    (hk : classifyNav o = .prev) (hk' : classifyNav o' = .next) :
    let st1 := (navStep hist st o).1
    (match (navStep hist st1 o').2 with
     | .exact l p => l = o.line ∧ p = o.pos
     | _ => False) := by
  have hne : hist.length ≠ 0 := by omega
  have h1 : (hist.length == 0) = false := by simp [hne]
  obtain ⟨idx, saved⟩ := st
  simp only at hidx
  subst hidx
  have h4 : (hist.length - 1 + 1 == hist.length) = true := by simp; omega
  have h5 : (hist.length - 1 == hist.length) = false := by simp; omega
  simp [navStep, hk, hk', h1, h4, h5]

/-- Spec: at the oldest entry a further "up" changes nothing (stops at the oldest). -/
theorem C07_spec_stops_at_oldest (hist : List Text) (st : NavSt) (o : Obs)
    (hk : classifyNav o = .prev) (h0 : st.idx = 0) (hlen : 0 < hist.length) :
    (navStep hist st o).1.idx = 0 ∧
    (match (navStep hist st o).2 with | .exact l p => l = o.line ∧ p = o.pos | _ => False) := by
  have hne : hist.length ≠ 0 := by omega
  have h1 : (hist.length == 0) = false := by simp [hne]
  have h2 : ((0 : Nat) == hist.length) = false := by simp; omega
  simp [navStep, hk, h1, h0, h2]

/-- Model: the history handed to a read is only read (`histGet`), entry by index. -/
theorem C07_model_reads_stored_entry (cfg : EdCfg) (i : Nat) : histGet cfg i = cfg.hist[i]? := rfl

/-- Statement about the model: `PreviousHistory` from index `i+1` shows `hist[i]` exactly as stored,
    cursor at its end, index `i` (the theorem is `C07_model_prev`). -/
def C07_model_prev_statement : Prop :=
  ∀ (S : Segmenter) (U : UData) (cfg : EdCfg) (s s' : Ed) (e : Text),
    cfg.histRows = none →
    0 < s.histIdx → s.histIdx ≤ cfg.hist.length → cfg.hist[s.histIdx - 1]? = some e → s.line.canGrow = true →
    editHistoryNext S U cfg true s = .ok ((), s') →
    s'.line.buf = e ∧ s'.line.pos = blen e ∧ s'.histIdx = s.histIdx - 1

/-- what history navigation reads and writes: the edit line (text, cursor), the history index, and the
    saved line (`saved_line_for_history`) -/
structure Nav where
  buf : Text
  pos : Nat
  idx : Nat
  savedBuf : Text
  savedPos : Nat
deriving DecidableEq

/-- the navigation state of an editor state -/
def navOf (s : Ed) : Nav := ⟨s.line.buf, s.line.pos, s.histIdx, s.saved.buf, s.saved.pos⟩

/-- states from which the recall commands are total: both lines growable with the cursor inside the
    text, the index at most `History::len()` (`len` itself = on the line being typed) -/
structure NavOK (cfg : EdCfg) (s : Ed) : Prop where
  lineGrow : s.line.canGrow = true
  savedGrow : s.saved.canGrow = true
  linePos : s.line.pos ≤ blen s.line.buf
  savedPos : s.saved.pos ≤ blen s.saved.buf
  idx : s.histIdx ≤ histLen cfg

/-- a history back end as the recall commands see it: `History::len()` and `History::get(i, dir)` -/
structure HStore where
  len : Nat
  get : Nat → Dir → Option (Nat × Text)

/-- the back end of the configuration (default list, or rows with holes when `histRows` is set) -/
def storeOf (cfg : EdCfg) : HStore := ⟨histLen cfg, histGetDir cfg⟩

/-- `get` answers indices below `len` only -/
def StoreOK (H : HStore) : Prop := ∀ i d j e, H.get i d = some (j, e) → j < H.len

/-- leaving the line being typed (index `len`) saves it; elsewhere nothing is saved -/
def navSave (H : HStore) (n : Nav) : Nav :=
  if n.idx = H.len then { n with savedBuf := n.buf, savedPos := n.pos } else n

/-- The store machine (suffix `S`): what `edit_history_next(true)` (Up), `edit_history_next(false)`
    (Down), `edit_history(true)` (M-<) and `edit_history(false)` (M->) do over any back end `H`; the
    index after a recall is the one `get` answered.  `navPrev` … `navLast` below are the same steps
    over a plain list, where that index is the one asked for. -/
def navPrevS (H : HStore) (n : Nav) : Nav :=
  if H.len = 0 then n
  else if n.idx = 0 then n
  else if n.idx - 1 < H.len then
    match H.get (n.idx - 1) .reverse with
    | some (j, e) => { navSave H n with buf := e, pos := blen e, idx := j }
    | none => navSave H n
  else { navSave H n with buf := (navSave H n).savedBuf, pos := (navSave H n).savedPos }

def navNextS (H : HStore) (n : Nav) : Nav :=
  if H.len = 0 ∨ n.idx = H.len then n
  else if n.idx + 1 < H.len then
    match H.get (n.idx + 1) .forward with
    | some (j, e) => { n with buf := e, pos := blen e, idx := j }
    | none => { n with idx := n.idx + 1 }
  else { n with buf := n.savedBuf, pos := n.savedPos, idx := n.idx + 1 }

def navFirstS (H : HStore) (n : Nav) : Nav :=
  if H.len = 0 then n
  else if n.idx = 0 then n
  else match H.get 0 .forward with
    | some (j, e) => if j = n.idx then navSave H n else { navSave H n with buf := e, pos := blen e, idx := j }
    | none => navSave H n

def navLastS (H : HStore) (n : Nav) : Nav :=
  if H.len = 0 ∨ n.idx = H.len then n
  else { n with buf := n.savedBuf, pos := n.savedPos, idx := H.len }

/-- helpers: display work (states with the same `core`) changes neither `navOf` nor `NavOK` -/
theorem C07_navOf_core {s1 s : Ed} (h : s1.core = s.core) : navOf s1 = navOf s := by
  obtain ⟨h1, h2, _, _, h5, _⟩ := Ed.core_eq h
  simp only [navOf, h1, h2, h5]

theorem C07_navOK_core {cfg : EdCfg} {s1 s : Ed} (h : s1.core = s.core) (hn : NavOK cfg s) : NavOK cfg s1 := by
  obtain ⟨h1, h2, _, _, h5, _⟩ := Ed.core_eq h
  exact ⟨h1 ▸ hn.lineGrow, h2 ▸ hn.savedGrow, h1 ▸ hn.linePos, h2 ▸ hn.savedPos, h5 ▸ hn.idx⟩

section
variable (S : Segmenter) (U : UData) (cfg : EdCfg)

/-! The three state changes of a recall command, on `navOf`: it runs `backup` exactly when it leaves
    the in-progress position (`navSave`), and it ends by showing an entry or restoring the saved line
    at a new index, then repainting. -/

theorem C07_wp_leave {s : Ed} (h : NavOK cfg s) {K : Ed → Prop} {E : Rl.Outcome → Ed → Prop}
    (hk : ∀ s1, navOf s1 = navSave (storeOf cfg) (navOf s) → NavOK cfg s1 → K s1) :
    if (s.histIdx == histLen cfg) = true then wp (backup S U) (fun _ s1 => K s1) E s else K s := by
  by_cases he : s.histIdx = histLen cfg
  · rw [if_pos (beq_iff_eq.mpr he)]
    refine wp_backup S U h.savedGrow h.linePos
      (hk _ ?_ ⟨h.lineGrow, h.savedGrow, h.linePos, h.linePos, h.idx⟩)
    simp [navSave, navOf, storeOf, he, LB.updated]
  · rw [if_neg (fun hb => he (beq_iff_eq.mp hb))]
    refine hk s ?_ h
    simp [navSave, navOf, storeOf, he]

theorem C07_wp_show (hnp : cfg.hinterPanicAt = none) {s : Ed} (h : NavOK cfg s) (e : Text) {j : Nat}
    (hj : j ≤ histLen cfg) {Q : Unit → Ed → Prop} {E : Rl.Outcome → Ed → Prop}
    (hq : ∀ s', navOf s' = { navOf s with buf := e, pos := blen e, idx := j } → NavOK cfg s' → Q () s') :
    wp (showEntry S U e (blen e)) (fun _ s' => wp (refreshLine S U cfg) Q E s') E { s with histIdx := j } := by
  refine wp_showEntry S U h.lineGrow (Nat.le_refl _) ?_
  refine wp_refreshLine_np S U cfg hnp fun s' hc => ?_
  exact hq s' (C07_navOf_core hc)
    (C07_navOK_core hc ⟨h.lineGrow, h.savedGrow, Nat.le_refl _, h.savedPos, hj⟩)

theorem C07_wp_restore (hnp : cfg.hinterPanicAt = none) {s : Ed} (h : NavOK cfg s) {j : Nat}
    (hj : j ≤ histLen cfg) {Q : Unit → Ed → Prop} {E : Rl.Outcome → Ed → Prop}
    (hq : ∀ s', navOf s' = { navOf s with buf := s.saved.buf, pos := s.saved.pos, idx := j } → NavOK cfg s' →
      Q () s') :
    wp (restore S U) (fun _ s' => wp (refreshLine S U cfg) Q E s') E { s with histIdx := j } := by
  refine wp_restore S U h.lineGrow h.savedPos ?_
  refine wp_refreshLine_np S U cfg hnp fun s' hc => ?_
  exact hq s' (C07_navOf_core hc)
    (C07_navOK_core hc ⟨h.lineGrow, h.savedGrow, h.savedPos, h.savedPos, hj⟩)

theorem C07_prev_specS (hnp : cfg.hinterPanicAt = none) (hst : StoreOK (storeOf cfg)) (s : Ed)
    (h : NavOK cfg s) :
    wp (editHistoryNext S U cfg true)
      (fun _ s' => navOf s' = navPrevS (storeOf cfg) (navOf s) ∧ NavOK cfg s') (fun _ _ => False) s := by
  unfold editHistoryNext
  simp only [wp_bind, wp_ite, wp_pure, wp_getHistIdx, if_true]
  by_cases hlen : histLen cfg = 0
  · simp [hlen, navPrevS, storeOf]
    exact h
  by_cases h0 : s.histIdx = 0
  · simp [h0, hlen, Ne.symm hlen, navPrevS, navOf, storeOf]
    exact h
  have hl0 : (histLen cfg == 0) = false := by simp [hlen]
  have h0' : (s.histIdx == 0 && true) = false := by simp [h0]
  have hlt : s.histIdx - 1 < histLen cfg := by have := h.idx; omega
  simp only [hl0, h0', hlt, Bool.false_eq_true, if_false, if_true]
  refine C07_wp_leave S U cfg h fun s1 e1 k1 => ?_
  cases hg : histGetDir cfg (s.histIdx - 1) Dir.reverse with
  | none =>
    refine ⟨?_, k1⟩
    rw [e1]
    simp [navOf, navPrevS, storeOf, hlen, h0, hlt, hg]
  | some p =>
    obtain ⟨j, e⟩ := p
    simp only [wp_bind, wp_setHistIdx]
    refine C07_wp_show S U cfg hnp k1 e (Nat.le_of_lt (hst _ .reverse j e hg)) fun s2 e2 k2 => ⟨?_, k2⟩
    rw [e2, e1]
    simp [navOf, navPrevS, storeOf, hlen, h0, hlt, hg]

theorem C07_next_specS (hnp : cfg.hinterPanicAt = none) (hst : StoreOK (storeOf cfg)) (s : Ed)
    (h : NavOK cfg s) :
    wp (editHistoryNext S U cfg false)
      (fun _ s' => navOf s' = navNextS (storeOf cfg) (navOf s) ∧ NavOK cfg s') (fun _ _ => False) s := by
  unfold editHistoryNext
  simp only [wp_bind, wp_ite, wp_pure, wp_getHistIdx, wp_setHistIdx, Bool.false_eq_true, if_false, Bool.and_false]
  by_cases hlen : histLen cfg = 0
  · simp [hlen, navNextS, storeOf]
    exact h
  have hl0 : (histLen cfg == 0) = false := by simp [hlen]
  simp only [hl0, Bool.false_eq_true, if_false]
  by_cases hend : s.histIdx = histLen cfg
  · have he : (s.histIdx == histLen cfg) = true := by simp [hend]
    simp only [he, if_true]
    refine ⟨?_, h⟩
    simp [navNextS, navOf, storeOf, hend]
  have he : (s.histIdx == histLen cfg) = false := by simp [hend]
  simp only [he, Bool.false_eq_true, if_false]
  by_cases hlt : s.histIdx + 1 < histLen cfg
  · simp only [hlt, if_true]
    cases hg : histGetDir cfg (s.histIdx + 1) Dir.forward with
    | none =>
      refine ⟨?_, h.lineGrow, h.savedGrow, h.linePos, h.savedPos, Nat.le_of_lt hlt⟩
      simp [navOf, navNextS, storeOf, hlen, hend, hlt, hg]
    | some p =>
      obtain ⟨j, e⟩ := p
      simp only [wp_bind, wp_setHistIdx]
      refine C07_wp_show S U cfg hnp h e (Nat.le_of_lt (hst (s.histIdx + 1) .forward j e hg)) fun s2 e2 k2 => ⟨?_, k2⟩
      rw [e2]
      simp [navOf, navNextS, storeOf, hlen, hend, hlt, hg]
  · simp only [hlt, if_false]
    have hi := h.idx
    refine C07_wp_restore S U cfg hnp h (by omega) fun s2 e2 k2 => ⟨?_, k2⟩
    rw [e2]
    simp [navOf, navNextS, storeOf, hlen, hend, hlt]

theorem C07_first_specS (hnp : cfg.hinterPanicAt = none) (hst : StoreOK (storeOf cfg)) (s : Ed)
    (h : NavOK cfg s) :
    wp (editHistory S U cfg true)
      (fun _ s' => navOf s' = navFirstS (storeOf cfg) (navOf s) ∧ NavOK cfg s') (fun _ _ => False) s := by
  unfold editHistory
  simp only [wp_bind, wp_ite, wp_pure, wp_getHistIdx, if_true]
  by_cases hlen : histLen cfg = 0
  · simp [hlen, navFirstS, storeOf]
    exact h
  by_cases h0 : s.histIdx = 0
  · simp [h0, hlen, Ne.symm hlen, navFirstS, navOf, storeOf]
    exact h
  have hl0 : (histLen cfg == 0) = false := by simp [hlen]
  have h0' : (s.histIdx == 0 && true) = false := by simp [h0]
  simp only [hl0, h0', Bool.false_eq_true, if_false]
  refine C07_wp_leave S U cfg h fun s1 e1 k1 => ?_
  cases hg : histGetDir cfg 0 Dir.forward with
  | none =>
    refine ⟨?_, k1⟩
    rw [e1]
    simp [navOf, navFirstS, storeOf, hlen, h0, hg]
  | some p =>
    obtain ⟨j, e⟩ := p
    by_cases hj : j = s.histIdx
    · have hj' : (j == s.histIdx) = true := by simp [hj]
      simp only [hj', if_true, wp_pure]
      refine ⟨?_, k1⟩
      rw [e1]
      simp [navOf, navFirstS, storeOf, hlen, h0, hg, hj]
    · have hj' : (j == s.histIdx) = false := by simp [hj]
      simp only [hj', Bool.false_eq_true, if_false, wp_bind, wp_setHistIdx]
      refine C07_wp_show S U cfg hnp k1 e (Nat.le_of_lt (hst 0 .forward j e hg)) fun s2 e2 k2 => ⟨?_, k2⟩
      rw [e2, e1]
      simp [navOf, navFirstS, storeOf, hlen, h0, hg, hj]

theorem C07_last_specS (hnp : cfg.hinterPanicAt = none) (s : Ed) (h : NavOK cfg s) :
    wp (editHistory S U cfg false)
      (fun _ s' => navOf s' = navLastS (storeOf cfg) (navOf s) ∧ NavOK cfg s') (fun _ _ => False) s := by
  unfold editHistory
  simp only [wp_bind, wp_ite, wp_pure, wp_getHistIdx, wp_setHistIdx, Bool.false_eq_true, if_false, Bool.and_false]
  by_cases hlen : histLen cfg = 0
  · simp [hlen, navLastS, storeOf]
    exact h
  have hl0 : (histLen cfg == 0) = false := by simp [hlen]
  simp only [hl0, Bool.false_eq_true, if_false]
  by_cases hend : s.histIdx = histLen cfg
  · have he : (s.histIdx == histLen cfg) = true := by simp [hend]
    simp only [he, if_true]
    refine ⟨?_, h⟩
    simp [navLastS, navOf, storeOf, hend]
  have he : (s.histIdx == histLen cfg) = false := by simp [hend]
  simp only [he, Bool.false_eq_true, if_false]
  refine C07_wp_restore S U cfg hnp h (Nat.le_refl _) fun s2 e2 k2 => ⟨?_, k2⟩
  rw [e2]
  simp [navOf, navLastS, storeOf, hlen, hend]
end

/-- The declarative machine over the list of entries: Up shows `hist[idx-1]` (saving the line being
    typed when leaving it), Down shows `hist[idx+1]` or — arriving at the end — the saved line, M-<
    the oldest entry, M-> the saved line. -/
def navPrev (hist : List Text) (n : Nav) : Nav :=
  if n.idx = 0 then n
  else match hist[n.idx - 1]? with
    | some e =>
      { buf := e, pos := blen e, idx := n.idx - 1,
        savedBuf := if n.idx = hist.length then n.buf else n.savedBuf,
        savedPos := if n.idx = hist.length then n.pos else n.savedPos }
    | none => n

def navNext (hist : List Text) (n : Nav) : Nav :=
  if hist.length ≤ n.idx then n
  else match hist[n.idx + 1]? with
    | some e => { n with buf := e, pos := blen e, idx := n.idx + 1 }
    | none => { n with buf := n.savedBuf, pos := n.savedPos, idx := hist.length }

def navFirst (hist : List Text) (n : Nav) : Nav :=
  if n.idx = 0 then n
  else match hist[0]? with
    | some e =>
      { buf := e, pos := blen e, idx := 0,
        savedBuf := if n.idx = hist.length then n.buf else n.savedBuf,
        savedPos := if n.idx = hist.length then n.pos else n.savedPos }
    | none => n

def navLast (hist : List Text) (n : Nav) : Nav :=
  if hist.length ≤ n.idx then n
  else { n with buf := n.savedBuf, pos := n.savedPos, idx := hist.length }


/-- navigation and editing steps of the declarative machine; `edit` (any change of text and cursor)
    is applied to a recalled entry only -/
inductive NavOp | prev | next | first | last | edit (b : Text) (p : Nat)

def navApply (hist : List Text) (n : Nav) : NavOp → Nav
  | .prev => navPrev hist n
  | .next => navNext hist n
  | .first => navFirst hist n
  | .last => navLast hist n
  | .edit b p => if n.idx < hist.length then { n with buf := b, pos := p } else n

def navApplyS (H : HStore) (n : Nav) : NavOp → Nav
  | .prev => navPrevS H n
  | .next => navNextS H n
  | .first => navFirstS H n
  | .last => navLastS H n
  | .edit b p => if n.idx < H.len then { n with buf := b, pos := p } else n

/-- memory / file history as a store -/
def listStore (hist : List Text) : HStore := ⟨hist.length, fun i _ => (hist[i]?).map (fun e => (i, e))⟩

theorem C07_storeOf_none (cfg : EdCfg) (h : cfg.histRows = none) : storeOf cfg = listStore cfg.hist := by
  unfold storeOf listStore histLen
  rw [h]
  congr 1
  funext i d
  unfold histGetDir
  rw [h]

theorem C07_storeOK_list (hist : List Text) : StoreOK (listStore hist) := by
  intro i d j e h
  simp only [listStore] at h ⊢
  cases hg : hist[i]? with
  | none => rw [hg] at h; cases h
  | some x =>
    rw [hg] at h
    cases h
    exact (List.getElem?_eq_some_iff.mp hg).1

theorem C07_storeOK_none {cfg : EdCfg} (h : cfg.histRows = none) : StoreOK (storeOf cfg) := by
  rw [C07_storeOf_none cfg h]; exact C07_storeOK_list _

theorem C07_navApplyS_list (hist : List Text) (n : Nav) (hi : n.idx ≤ hist.length) (op : NavOp) :
    navApplyS (listStore hist) n op = navApply hist n op := by
  cases op with
  | prev =>
    simp only [navApplyS, navApply]
    unfold navPrevS navPrev navSave listStore
    by_cases h0 : n.idx = 0
    · simp [h0]
    · have hl : hist.length ≠ 0 := by omega
      have hlt : n.idx - 1 < hist.length := by omega
      have hg : hist[n.idx - 1]? = some hist[n.idx - 1] := by simp [hlt]
      simp only [hl, h0, hlt, if_true, if_false, hg, Option.map_some]
      by_cases he : n.idx = hist.length <;> simp [he]
  | next =>
    simp only [navApplyS, navApply]
    unfold navNextS navNext listStore
    by_cases he : n.idx = hist.length
    · simp [he]
    · have hlt : ¬ hist.length ≤ n.idx := by omega
      have hl : hist.length ≠ 0 := by omega
      by_cases h1 : n.idx + 1 < hist.length
      · have hg : hist[n.idx + 1]? = some hist[n.idx + 1] := by simp [h1]
        simp [hl, he, hlt, h1]
      · have hg : hist[n.idx + 1]? = none := by simp; omega
        have : n.idx + 1 = hist.length := by omega
        simp [hl, he, hlt, this]
  | first =>
    simp only [navApplyS, navApply]
    unfold navFirstS navFirst navSave listStore
    by_cases h0 : n.idx = 0
    · simp [h0]
    · have hl : hist.length ≠ 0 := by omega
      have hg : hist[0]? = some hist[0] := List.getElem?_eq_getElem (by omega)
      have h0' : ¬ 0 = n.idx := fun h => h0 h.symm
      simp only [hl, h0, if_false, hg, Option.map_some, h0']
      by_cases he : n.idx = hist.length <;> simp [he]
  | last =>
    simp only [navApplyS, navApply]
    unfold navLastS navLast listStore
    by_cases he : n.idx = hist.length
    · simp [he]
    · have hlt : ¬ hist.length ≤ n.idx := by omega
      have hl : hist.length ≠ 0 := by omega
      simp [hl, he, hlt]
  | edit b p => rfl

theorem C07_model_prev : C07_model_prev_statement := by
  intro S U cfg s s' e hrows h0 h5 hge h1 hrun
  have hL : histLen cfg = cfg.hist.length := by unfold histLen; rw [hrows]
  have hG : histGetDir cfg (s.histIdx - 1) Dir.reverse = some (s.histIdx - 1, e) := by
    unfold histGetDir; rw [hrows]; simp only [hge, Option.map_some]
  have hw : wp (editHistoryNext S U cfg true)
      (fun _ s' => s'.line.buf = e ∧ s'.line.pos = blen e ∧ s'.histIdx = s.histIdx - 1) (fun _ _ => True) s := by
    unfold editHistoryNext
    simp only [wp_bind, wp_ite, wp_pure, wp_getHistIdx, if_true, hL]
    have hlen : cfg.hist.length ≠ 0 := by omega
    have hl0 : (cfg.hist.length == 0) = false := by simp [hlen]
    have hlt : s.histIdx - 1 < cfg.hist.length := by omega
    have h0' : (s.histIdx == 0 && true) = false := by simp; omega
    simp only [hl0, Bool.false_eq_true, if_false, hlt, if_true, h0', hG, wp_bind, wp_setHistIdx]
    have tail : ∀ s1 : Ed, s1.line = s.line →
        wp (showEntry S U e (blen e))
          (fun _ s' => wp (refreshLine S U cfg)
            (fun _ s' => s'.line.buf = e ∧ s'.line.pos = blen e ∧ s'.histIdx = s.histIdx - 1) (fun _ _ => True) s')
          (fun _ _ => True) { s1 with histIdx := s.histIdx - 1 } := by
      intro s1 hl
      refine wp_showEntry S U (by simp only []; rw [hl]; exact h1) (Nat.le_refl _) ?_
      refine wp_refreshLine S U cfg (fun s' hc => ?_) (fun _ _ _ => trivial)
      obtain ⟨c1, _, _, _, c5, _, _⟩ := Ed.core_eq hc
      rw [c1, c5]; exact ⟨rfl, rfl, rfl⟩
    split
    · exact wp_backup_any S U (fun sv => tail { s with saved := sv } rfl) trivial
    · exact tail s rfl
  have := wp_ok hw hrun
  exact this

def navIter (f : Nav → Nav) : Nat → Nav → Nav
  | 0, n => n
  | k + 1, n => navIter f k (f n)

theorem C07_navIter_succ (f : Nav → Nav) : ∀ (k : Nat) (m : Nav), navIter f (k + 1) m = f (navIter f k m) := by
  intro k
  induction k with
  | zero => intro m; rfl
  | succ k ih => intro m; rw [navIter, ih (f m)]; rfl

theorem C07_navIter_navPrev (hist : List Text) (n : Nav) (hi : n.idx ≤ hist.length) :
    ∀ (k : Nat) (e : Text), 0 < k → k ≤ n.idx → hist[n.idx - k]? = some e →
      navIter (navPrev hist) k n = ⟨e, blen e, n.idx - k,
        if n.idx = hist.length then n.buf else n.savedBuf, if n.idx = hist.length then n.pos else n.savedPos⟩ := by
  intro k
  induction k with
  | zero => intro e hk; omega
  | succ k ih =>
    intro e _ hkl he
    rw [C07_navIter_succ]
    by_cases hk0 : k = 0
    · subst hk0
      have hne : ¬ n.idx = 0 := by omega
      rw [navIter, navPrev, if_neg hne, he]
    · have hlt : n.idx - k < hist.length := by omega
      rw [ih hist[n.idx - k] (by omega) (by omega) (List.getElem?_eq_getElem hlt)]
      have h1 : ¬ n.idx - k = 0 := by omega
      have h2 : n.idx - k - 1 = n.idx - (k + 1) := by omega
      have h3 : ¬ n.idx - k = hist.length := by omega
      simp only [navPrev, h1, h2, he, h3, if_false]

theorem C07_navPrev_iterate (hist : List Text) : ∀ (k : Nat) (n : Nav), n.idx = k → k ≤ hist.length →
    navIter (navPrev hist) k n = navFirst hist n := by
  intro k n h hk
  by_cases h0 : k = 0
  · subst h0; simp only [navIter, navFirst, h, if_true]
  · have hz : hist[0]? = some hist[0] := List.getElem?_eq_getElem (by omega)
    rw [C07_navIter_navPrev hist n (by omega) k hist[0] (by omega) (by omega) (by rw [h, Nat.sub_self]; exact hz)]
    simp only [navFirst, h0, if_false, hz, h, Nat.sub_self]

theorem C07_navNext_iterate (hist : List Text) : ∀ (k : Nat) (n : Nav), n.idx + k = hist.length →
    navIter (navNext hist) k n = navLast hist n := by
  intro k
  induction k with
  | zero => intro n h; simp [navLast, navIter]; omega
  | succ k ih =>
    intro n h
    have hlt : ¬ hist.length ≤ n.idx := by omega
    rw [navIter]
    cases k with
    | zero =>
      have hnone : hist[n.idx + 1]? = none := by simp; omega
      simp [navNext, navLast, hlt, hnone, navIter]
    | succ j =>
      have hl2 : n.idx + 1 < hist.length := by omega
      have hge : hist[n.idx + 1]? = some hist[n.idx + 1] := by simp [hl2]
      have hp : navNext hist n = { n with buf := hist[n.idx + 1], pos := blen hist[n.idx + 1], idx := n.idx + 1 } := by
        simp [navNext, hlt, hge]
      rw [ih (navNext hist n) (by rw [hp]; simp only []; omega), hp]
      have : ¬ hist.length ≤ n.idx + 1 := by omega
      simp [navLast, this, hlt]

/-- **Recall over any back end** (default or SQLite; helpers that do not panic): from a navigable state
    `editHistoryNext` / `editHistory` never panic and do exactly the declarative step of the store
    machine (`navPrevS` … `navLastS` over `History::len` / `History::get`): Up shows the nearest stored
    entry at or before `idx - 1` verbatim with the cursor at its end and takes ITS index; Down the
    nearest at or after `idx + 1`, or — arriving at `len` — exactly the saved text and cursor. -/
theorem C07_prev_refines_store (S : Segmenter) (U : UData) (cfg : EdCfg) (hnp : cfg.hinterPanicAt = none)
    (hst : StoreOK (storeOf cfg)) (s : Ed) (h : NavOK cfg s) :
    ∃ s', editHistoryNext S U cfg true s = .ok ((), s') ∧
      navOf s' = navPrevS (storeOf cfg) (navOf s) ∧ NavOK cfg s' :=
  returns_of_wp (C07_prev_specS S U cfg hnp hst s h)

theorem C07_next_refines_store (S : Segmenter) (U : UData) (cfg : EdCfg) (hnp : cfg.hinterPanicAt = none)
    (hst : StoreOK (storeOf cfg)) (s : Ed) (h : NavOK cfg s) :
    ∃ s', editHistoryNext S U cfg false s = .ok ((), s') ∧
      navOf s' = navNextS (storeOf cfg) (navOf s) ∧ NavOK cfg s' :=
  returns_of_wp (C07_next_specS S U cfg hnp hst s h)

theorem C07_first_refines_store (S : Segmenter) (U : UData) (cfg : EdCfg) (hnp : cfg.hinterPanicAt = none)
    (hst : StoreOK (storeOf cfg)) (s : Ed) (h : NavOK cfg s) :
    ∃ s', editHistory S U cfg true s = .ok ((), s') ∧
      navOf s' = navFirstS (storeOf cfg) (navOf s) ∧ NavOK cfg s' :=
  returns_of_wp (C07_first_specS S U cfg hnp hst s h)

theorem C07_last_refines_store (S : Segmenter) (U : UData) (cfg : EdCfg) (hnp : cfg.hinterPanicAt = none)
    (s : Ed) (h : NavOK cfg s) :
    ∃ s', editHistory S U cfg false s = .ok ((), s') ∧
      navOf s' = navLastS (storeOf cfg) (navOf s) ∧ NavOK cfg s' :=
  returns_of_wp (C07_last_specS S U cfg hnp s h)

theorem C07_navOK_idx_none {cfg : EdCfg} {s : Ed} (hrows : cfg.histRows = none) (h : NavOK cfg s) :
    (navOf s).idx ≤ cfg.hist.length := by
  have := h.idx
  unfold histLen at this
  rw [hrows] at this
  exact this

theorem C07_list_transport {cfg : EdCfg} (hrows : cfg.histRows = none) {m : EM Unit} {s : Ed}
    (h : NavOK cfg s) (op : NavOp)
    (hst : ∃ s', m s = .ok ((), s') ∧ navOf s' = navApplyS (storeOf cfg) (navOf s) op ∧ NavOK cfg s') :
    ∃ s', m s = .ok ((), s') ∧ navOf s' = navApply cfg.hist (navOf s) op ∧ NavOK cfg s' := by
  rw [C07_storeOf_none cfg hrows, C07_navApplyS_list _ _ (C07_navOK_idx_none hrows h)] at hst
  exact hst

/-- **Up / C-p / k**, default back end (`histRows = none`; helpers that do not panic, here and in the
    three theorems below): the model never panics and does exactly the declarative
    step: shows `hist[i-1]` verbatim with the cursor at its end, saves (text, cursor) iff it leaves the
    in-progress line (`idx = len`), stops at the oldest entry. -/
theorem C07_prev_refines (S : Segmenter) (U : UData) (cfg : EdCfg) (hnp : cfg.hinterPanicAt = none)
    (hrows : cfg.histRows = none) (s : Ed) (h : NavOK cfg s) :
    ∃ s', editHistoryNext S U cfg true s = .ok ((), s') ∧ navOf s' = navPrev cfg.hist (navOf s) ∧ NavOK cfg s' :=
  C07_list_transport hrows h .prev (C07_prev_refines_store S U cfg hnp (C07_storeOK_none hrows) s h)

/-- **Down / C-n / j**, default back end: shows `hist[i+1]`, or — arriving at `len` — restores exactly
    the saved text and cursor; stops at the in-progress line. -/
theorem C07_next_refines (S : Segmenter) (U : UData) (cfg : EdCfg) (hnp : cfg.hinterPanicAt = none)
    (hrows : cfg.histRows = none) (s : Ed) (h : NavOK cfg s) :
    ∃ s', editHistoryNext S U cfg false s = .ok ((), s') ∧ navOf s' = navNext cfg.hist (navOf s) ∧ NavOK cfg s' :=
  C07_list_transport hrows h .next (C07_next_refines_store S U cfg hnp (C07_storeOK_none hrows) s h)

/-- **M-<** behaves like `idx` Ups (on line, cursor, index and saved line), default back end. -/
theorem C07_first_is_iterated_prev (S : Segmenter) (U : UData) (cfg : EdCfg) (hnp : cfg.hinterPanicAt = none)
    (hrows : cfg.histRows = none) (s : Ed) (h : NavOK cfg s) :
    ∃ s', editHistory S U cfg true s = .ok ((), s') ∧
      navOf s' = navIter (navPrev cfg.hist) s.histIdx (navOf s) ∧ NavOK cfg s' :=
  let ⟨s', h1, h2, h3⟩ := C07_list_transport hrows h .first
    (C07_first_refines_store S U cfg hnp (C07_storeOK_none hrows) s h)
  ⟨s', h1, h2.trans (C07_navPrev_iterate cfg.hist s.histIdx (navOf s) rfl (C07_navOK_idx_none hrows h)).symm, h3⟩

/-- **M->** behaves like `len - idx` Downs, default back end. -/
theorem C07_last_is_iterated_next (S : Segmenter) (U : UData) (cfg : EdCfg) (hnp : cfg.hinterPanicAt = none)
    (hrows : cfg.histRows = none) (s : Ed) (h : NavOK cfg s) :
    ∃ s', editHistory S U cfg false s = .ok ((), s') ∧
      navOf s' = navIter (navNext cfg.hist) (cfg.hist.length - s.histIdx) (navOf s) ∧ NavOK cfg s' := by
  obtain ⟨s', h1, h2, h3⟩ := C07_list_transport hrows h .last (C07_last_refines_store S U cfg hnp s h)
  have hi := C07_navOK_idx_none hrows h
  exact ⟨s', h1,
    h2.trans (C07_navNext_iterate cfg.hist _ (navOf s) (by simp only [navOf] at hi ⊢; omega)).symm, h3⟩

/-- the saved line is written only when leaving the in-progress position, with the text and cursor
    of that moment; moving down never writes it -/
theorem C07_saved_once (hist : List Text) (n : Nav) :
    ((navPrev hist n).savedBuf, (navPrev hist n).savedPos) =
      (if n.idx = hist.length ∧ n.idx ≠ 0 then (n.buf, n.pos) else (n.savedBuf, n.savedPos)) ∧
    (navNext hist n).savedBuf = n.savedBuf ∧ (navNext hist n).savedPos = n.savedPos := by
  refine ⟨?_, ?_, ?_⟩
  · unfold navPrev
    by_cases h0 : n.idx = 0
    · simp [h0]
    · simp only [h0, if_false]
      cases hg : hist[n.idx - 1]? with
      | none =>
        have : ¬ n.idx = hist.length := by
          intro h; rw [List.getElem?_eq_none_iff] at hg; omega
        simp [this]
      | some e =>
        by_cases hl : n.idx = hist.length
        · have hne : hist.length ≠ 0 := by omega
          simp [hl, hne]
        · simp [hl]
  · unfold navNext; split; rfl; split <;> rfl
  · unfold navNext; split; rfl; split <;> rfl

/-- the line being typed (text, cursor) as the navigation state carries it: the edit line while
    `idx = len`, the saved line while an entry is shown -/
def typedN (H : HStore) (n : Nav) : Text × Nat :=
  if n.idx = H.len then (n.buf, n.pos) else (n.savedBuf, n.savedPos)

theorem C07_typedN_of_eq {H : HStore} {n : Nav} (h : n.idx = H.len) : typedN H n = (n.buf, n.pos) := if_pos h

theorem C07_typedN_of_ne {H : HStore} {n : Nav} (h : n.idx ≠ H.len) : typedN H n = (n.savedBuf, n.savedPos) :=
  if_neg h

theorem C07_navSave_typed (H : HStore) (n : Nav) :
    (navSave H n).idx = n.idx ∧ typedN H (navSave H n) = typedN H n ∧
      ((navSave H n).savedBuf, (navSave H n).savedPos) = typedN H n := by
  unfold navSave
  by_cases h : n.idx = H.len
  · rw [if_pos h, C07_typedN_of_eq h]; exact ⟨rfl, C07_typedN_of_eq h, rfl⟩
  · rw [if_neg h, C07_typedN_of_ne h]; exact ⟨rfl, rfl, rfl⟩

/-- **One step keeps the line being typed** (any back end whose `get` answers indices below `len`,
    i.e. `StoreOK`; any index `≤ len`): each of Up / Down / first / last of the store machine — which
    the editor model refines, `C07_*_refines_store` — and any edit of a recalled entry leaves
    `typedN` (text AND cursor of the line being typed) unchanged and keeps the index `≤ len`.  In
    particular first / last from a recalled entry never overwrite the saved line. -/
theorem C07_typed_step_store (H : HStore) (hst : StoreOK H) (n : Nav) (hi : n.idx ≤ H.len) (op : NavOp) :
    typedN H (navApplyS H n op) = typedN H n ∧ (navApplyS H n op).idx ≤ H.len := by
  obtain ⟨s1, s2, s3⟩ := C07_navSave_typed H n
  have saved : typedN H (navSave H n) = typedN H n ∧ (navSave H n).idx ≤ H.len := ⟨s2, s1 ▸ hi⟩
  -- an entry shown at an index `j < len`: the line being typed is the saved line
  have shown : ∀ {m : Nav} {j : Nat}, j < H.len → (m.savedBuf, m.savedPos) = typedN H n →
      ∀ (b : Text) (p : Nat), typedN H { m with buf := b, pos := p, idx := j } = typedN H n ∧ j ≤ H.len :=
    fun hj hm _ _ => ⟨(C07_typedN_of_ne (Nat.ne_of_lt hj)).trans hm, Nat.le_of_lt hj⟩
  cases op with
  | prev =>
    simp only [navApplyS, navPrevS]
    by_cases hl : H.len = 0
    · rw [if_pos hl]; exact ⟨rfl, hi⟩
    by_cases h0 : n.idx = 0
    · rw [if_neg hl, if_pos h0]; exact ⟨rfl, hi⟩
    rw [if_neg hl, if_neg h0, if_pos (show n.idx - 1 < H.len by omega)]
    cases hg : H.get (n.idx - 1) .reverse with
    | none => exact saved
    | some p => exact shown (hst _ _ _ _ hg) s3 _ _
  | next =>
    simp only [navApplyS, navNextS]
    by_cases hl : H.len = 0 ∨ n.idx = H.len
    · rw [if_pos hl]; exact ⟨rfl, hi⟩
    have hne : n.idx ≠ H.len := fun h => hl (Or.inr h)
    rw [if_neg hl]
    by_cases hlt : n.idx + 1 < H.len
    · rw [if_pos hlt]
      cases hg : H.get (n.idx + 1) .forward with
      | none => exact shown hlt (C07_typedN_of_ne hne).symm n.buf n.pos
      | some p => exact shown (hst _ _ _ _ hg) (C07_typedN_of_ne hne).symm _ _
    · rw [if_neg hlt]
      have he : n.idx + 1 = H.len := by omega
      exact ⟨(C07_typedN_of_eq he).trans (C07_typedN_of_ne hne).symm, Nat.le_of_eq he⟩
  | first =>
    simp only [navApplyS, navFirstS]
    by_cases hl : H.len = 0
    · rw [if_pos hl]; exact ⟨rfl, hi⟩
    by_cases h0 : n.idx = 0
    · rw [if_neg hl, if_pos h0]; exact ⟨rfl, hi⟩
    rw [if_neg hl, if_neg h0]
    cases hg : H.get 0 .forward with
    | none => exact saved
    | some p =>
      simp only []
      split
      · exact saved
      · exact shown (hst _ _ _ _ hg) s3 _ _
  | last =>
    simp only [navApplyS, navLastS]
    by_cases hl : H.len = 0 ∨ n.idx = H.len
    · rw [if_pos hl]; exact ⟨rfl, hi⟩
    rw [if_neg hl]
    exact ⟨(C07_typedN_of_eq rfl).trans (C07_typedN_of_ne fun h => hl (Or.inr h)).symm, Nat.le_refl _⟩
  | edit b p =>
    simp only [navApplyS]
    by_cases hlt : n.idx < H.len
    · rw [if_pos hlt]
      exact shown hlt (C07_typedN_of_ne (Nat.ne_of_lt hlt)).symm b p
    · rw [if_neg hlt]; exact ⟨rfl, hi⟩

/-- **The line being typed is conserved by ANY sequence** of Up / Down / first / last steps mixed
    with edits of recalled entries, from ANY state with index `≤ len` (not only from the line being
    typed), over any `StoreOK` back end — no `RowsView` well-formedness needed.  Generalises
    `C07_return_restores` / `C07_return_restores_rows`. -/
theorem C07_typed_conserved_store (H : HStore) (hst : StoreOK H) (ops : List NavOp) :
    ∀ (n : Nav), n.idx ≤ H.len →
      typedN H (ops.foldl (navApplyS H) n) = typedN H n ∧ (ops.foldl (navApplyS H) n).idx ≤ H.len := by
  induction ops with
  | nil => intro n hn; exact ⟨rfl, hn⟩
  | cons op rest ih =>
    intro n hn
    obtain ⟨h1, h2⟩ := C07_typed_step_store H hst n hn op
    obtain ⟨h3, h4⟩ := ih _ h2
    simp only [List.foldl_cons]
    exact ⟨by rw [h3, h1], h4⟩

theorem C07_typedN_start {H : HStore} {n n0 : Nav} (h0 : n0.idx = H.len) (h : typedN H n = typedN H n0) :
    (n.idx = H.len → n.buf = n0.buf ∧ n.pos = n0.pos) ∧
    (n.idx ≠ H.len → n.savedBuf = n0.buf ∧ n.savedPos = n0.pos) := by
  rw [C07_typedN_of_eq h0] at h
  refine ⟨fun he => ?_, fun he => ?_⟩
  · rw [C07_typedN_of_eq he] at h; exact Prod.mk.inj h
  · rw [C07_typedN_of_ne he] at h; exact Prod.mk.inj h

theorem C07_foldl_list (hist : List Text) (ops : List NavOp) : ∀ (n : Nav), n.idx ≤ hist.length →
    ops.foldl (navApplyS (listStore hist)) n = ops.foldl (navApply hist) n := by
  induction ops with
  | nil => intro n _; rfl
  | cons op rest ih =>
    intro n hn
    simp only [List.foldl_cons]
    rw [← C07_navApplyS_list hist n hn op]
    exact ih _ (C07_typed_step_store _ (C07_storeOK_list hist) n hn op).2

/-- **Coming back restores the in-progress line, character for character with its cursor**: after any
    sequence of Up / Down / first / last steps mixed with arbitrary edits of recalled entries, started
    on the in-progress line `(b, p)`: whenever the index is back at `len` the line and cursor are
    `(b, p)` again, and while an entry is shown the saved line is `(b, p)`. -/
theorem C07_return_restores (hist : List Text) (n0 : Nav) (ops : List NavOp) (h0 : n0.idx = hist.length) :
    let n := ops.foldl (navApply hist) n0
    n.idx ≤ hist.length ∧ (n.idx = hist.length → n.buf = n0.buf ∧ n.pos = n0.pos) ∧
    (n.idx < hist.length → n.savedBuf = n0.buf ∧ n.savedPos = n0.pos) := by
  intro n
  have hle : n0.idx ≤ hist.length := Nat.le_of_eq h0
  obtain ⟨h1, h2⟩ := C07_typed_conserved_store (listStore hist) (C07_storeOK_list hist) ops n0 hle
  rw [C07_foldl_list hist ops n0 hle] at h1 h2
  obtain ⟨r1, r2⟩ := C07_typedN_start (H := listStore hist) h0 h1
  exact ⟨h2, r1, fun hlt => r2 (Nat.ne_of_lt hlt)⟩

/-- non-vacuity: three entries, Up Up Down Down from the in-progress line "xy" (cursor 1) -/
example :
    let hist : List Text := [['a'], ['b'], ['c']]
    let n0 : Nav := ⟨['x', 'y'], 1, 3, [], 0⟩
    let n := [NavOp.prev, .prev, .next, .next].foldl (navApply hist) n0
    (navPrev hist (navPrev hist n0)).buf = ['b'] ∧ n.buf = ['x', 'y'] ∧ n.pos = 1 ∧ n.idx = 3 := by decide

/-- the row store the driver computes from the `add` / `set_max_len` sequence (C20 model): one index
    per entry, strictly increasing, all below `len`, and `len` is the last index plus one -/
structure RowsWF (r : RowStore) (hist : List Text) : Prop where
  len_eq : r.idx.length = hist.length
  sorted : r.idx.Pairwise (· < ·)
  bound : ∀ i ∈ r.idx, i < r.len
  tight : ∀ k, r.idx.getLast? = some k → r.len = k + 1

/-- every answer of `SQLiteHistory::get` is the index of a stored row, hence below `len()` -/
theorem C07_storeOK_rows (cfg : EdCfg) (r : RowStore) (hr : cfg.histRows = some r)
    (hb : ∀ i ∈ r.idx, i < r.len) : StoreOK (storeOf cfg) := by
  intro i d j e h
  simp only [storeOf, histLen, histGetDir, hr] at h ⊢
  split at h
  · cases h
  · have hmem : (j, e) ∈ r.idx.zip cfg.hist := by
      cases d with
      | forward => exact List.mem_of_find?_eq_some h
      | reverse =>
        have := List.mem_of_getLast? h
        exact (List.mem_filter.mp this).1
    exact hb j (List.of_mem_zip hmem).1

/-- position of an index among the stored rows: the number of rows below it (`len` ↦ the number of
    entries, the index of the k-th row ↦ k) -/
def posOf (r : RowStore) (i : Nat) : Nat := (r.idx.filter (· < i)).length

/-- the user's view of a navigation state: positions instead of row indices -/
def absNav (r : RowStore) (n : Nav) : Nav := { n with idx := posOf r n.idx }

/-- an index the store machine can stand on: a stored row, or `len` (the line being typed) -/
def ValidIdx (r : RowStore) (i : Nat) : Prop := i = r.len ∨ i ∈ r.idx

/-- **Holes are invisible** (the theorem is `C07_rows_simulation`; it composes with the refinement
    of the editor to the store machine: `C07_prev_refines_rows` …): seen through
    `absNav`, each step of the store machine over a well-formed non-empty row store is the step of
    the default machine over the entries in row order, and it stays on a valid index. -/
def C07_rows_simulation_statement : Prop :=
  ∀ (cfg : EdCfg) (r : RowStore) (n : Nav),
    cfg.histRows = some r → RowsWF r cfg.hist → r.idx ≠ [] → ValidIdx r n.idx →
    (absNav r (navPrevS (storeOf cfg) n) = navPrev cfg.hist (absNav r n) ∧
      ValidIdx r (navPrevS (storeOf cfg) n).idx) ∧
    (absNav r (navNextS (storeOf cfg) n) = navNext cfg.hist (absNav r n) ∧
      ValidIdx r (navNextS (storeOf cfg) n).idx) ∧
    (absNav r (navFirstS (storeOf cfg) n) = navFirst cfg.hist (absNav r n) ∧
      ValidIdx r (navFirstS (storeOf cfg) n).idx) ∧
    (absNav r (navLastS (storeOf cfg) n) = navLast cfg.hist (absNav r n) ∧
      ValidIdx r (navLastS (storeOf cfg) n).idx)

/-- a store with a hole (the one of the seeded change C07-m4, DESIGN.md §11): add one, two, three, two → row ids 1, 3, 4 -/
def C07_exCfg : EdCfg :=
  { vi := false, hist := [['1'], ['3'], ['2']], histRows := some { idx := [0, 2, 3], len := 4 } }

/-- Up Up Up from the line being typed crosses the hole: it shows "2", "3", "1" (row indices 3, 2, 0),
    a fourth Up stays; seen through positions it is the walk 3 → 2 → 1 → 0 of the default machine. -/
example :
    let H := storeOf C07_exCfg
    let n0 : Nav := ⟨['x'], 1, 4, [], 0⟩
    let n1 := navPrevS H n0
    let n2 := navPrevS H n1
    let n3 := navPrevS H n2
    (n1.buf, n1.idx) = (['2'], 3) ∧ (n2.buf, n2.idx) = (['3'], 2) ∧ (n3.buf, n3.idx) = (['1'], 0) ∧
    navPrevS H n3 = n3 ∧
    absNav ⟨[0, 2, 3], 4⟩ n3 = navPrev C07_exCfg.hist (absNav ⟨[0, 2, 3], 4⟩ n2) ∧
    (navNextS H n3).idx = 2 ∧ navNextS H (navNextS H (navNextS H n3)) = { n0 with savedBuf := ['x'], savedPos := 1 } := by
  decide

/-- seeded change C07-m4 (`get(idx, Forward)` for Up) as a store: asking forward at index 1 answers
    row 2, the entry already shown — Up from "3" would stay on "3" -/
example : histGetDir C07_exCfg 1 .forward = some (2, ['3']) ∧ histGetDir C07_exCfg 1 .reverse = some (0, ['1']) := by
  decide


structure RowsView (cfg : EdCfg) (r : RowStore) : Prop where
  rows : cfg.histRows = some r
  wf : RowsWF r cfg.hist
  nonempty : r.idx ≠ []

theorem C07_storeOK_view {cfg : EdCfg} {r : RowStore} (v : RowsView cfg r) : StoreOK (storeOf cfg) :=
  C07_storeOK_rows cfg r v.rows v.wf.bound

/-- helpers about `posOf` on a well-formed row store: it is at most the number of entries, is that
    number at `len`, is the position of a stored row (and grows by one right after it), and is
    injective on valid indices -/
theorem C07_posOf_le {r : RowStore} {hist : List Text} (wf : RowsWF r hist) (i : Nat) : posOf r i ≤ hist.length :=
  wf.len_eq ▸ List.length_filter_le _ _

theorem C07_posOf_len {r : RowStore} {hist : List Text} (wf : RowsWF r hist) : posOf r r.len = hist.length := by
  rw [← wf.len_eq]; exact Rows.count_lt_of_bound wf.bound

theorem C07_posOf_row {r : RowStore} {hist : List Text} (wf : RowsWF r hist) {i : Nat} (hi : i ∈ r.idx) :
    r.idx[posOf r i]? = some i ∧ posOf r (i + 1) = posOf r i + 1 := by
  obtain ⟨k, hk, rfl⟩ := List.getElem_of_mem hi
  have h1 : posOf r r.idx[k] = k := Rows.count_lt_getElem wf.sorted k hk
  have h2 : posOf r (r.idx[k] + 1) = k + 1 := Rows.count_lt_getElem_succ wf.sorted k hk
  rw [h1, h2]
  exact ⟨List.getElem?_eq_getElem hk, rfl⟩

/-- helper: a valid index is `len`, seen as the position after the last entry, or a stored row below `len` -/
theorem C07_valid_cases {r : RowStore} {hist : List Text} (wf : RowsWF r hist) {i : Nat} (hv : ValidIdx r i) :
    (i = r.len ∧ posOf r i = hist.length) ∨
    (i < r.len ∧ posOf r i < hist.length ∧ r.idx[posOf r i]? = some i) := by
  rcases hv with he | hm
  · exact Or.inl ⟨he, he ▸ C07_posOf_len wf⟩
  · have h := (C07_posOf_row wf hm).1
    exact Or.inr ⟨wf.bound _ hm, wf.len_eq ▸ (List.getElem?_eq_some_iff.mp h).1, h⟩

theorem C07_posOf_inj {r : RowStore} {hist : List Text} (wf : RowsWF r hist) {i j : Nat}
    (hi : ValidIdx r i) (hj : ValidIdx r j) (h : posOf r i = posOf r j) : i = j := by
  rcases C07_valid_cases wf hi with ⟨a1, a2⟩ | ⟨a1, a2, a3⟩ <;>
    rcases C07_valid_cases wf hj with ⟨b1, b2⟩ | ⟨b1, b2, b3⟩
  · rw [a1, b1]
  · omega
  · omega
  · rw [h, b3] at a3; exact (Option.some.inj a3).symm

theorem C07_absNav_inj {r : RowStore} {hist : List Text} (wf : RowsWF r hist) {a b : Nav}
    (ha : ValidIdx r a.idx) (hb : ValidIdx r b.idx) (h : absNav r a = absNav r b) : a = b := by
  obtain ⟨a1, a2, a3, a4, a5⟩ := a
  obtain ⟨b1, b2, b3, b4, b5⟩ := b
  simp only [absNav, Nav.mk.injEq] at h
  obtain ⟨h1, h2, h3, h4, h5⟩ := h
  have := C07_posOf_inj wf ha hb h3
  simp only at this
  subst h1 h2 h4 h5 this
  rfl

section
variable {cfg : EdCfg} {r : RowStore} (v : RowsView cfg r)
include v

theorem C07_view_hist_pos : 0 < cfg.hist.length :=
  v.wf.len_eq ▸ List.length_pos_iff.mpr v.nonempty

/-- because `len` is the last row's index plus one, the indices with a row at or after them are
    exactly those below `len` -/
theorem C07_posOf_lt_iff (i : Nat) : posOf r i < cfg.hist.length ↔ i < r.len := by
  have hn : r.idx.length - 1 < r.idx.length := Nat.sub_one_lt (mt List.length_eq_zero_iff.mp v.nonempty)
  have hlast := v.wf.tight _ (by rw [List.getLast?_eq_getElem?, List.getElem?_eq_getElem hn])
  rw [← v.wf.len_eq]
  constructor
  · intro h
    apply Classical.byContradiction
    intro hge
    have : posOf r i = r.idx.length := Rows.count_lt_of_bound fun j hj => by have := v.wf.bound j hj; omega
    omega
  · intro h
    have h1 := Rows.count_lt_mono r.idx (show i ≤ r.idx[r.idx.length - 1] by omega)
    have h2 := Rows.count_lt_getElem v.wf.sorted _ hn
    unfold posOf
    omega

theorem C07_view_len_ne : r.len ≠ 0 := by
  have := (C07_posOf_lt_iff v 0).mp (by rw [show posOf r 0 = 0 from Rows.count_lt_zero r.idx]; exact C07_view_hist_pos v)
  omega

theorem C07_view_row (k : Nat) (hk : k < cfg.hist.length) :
    ∃ j e, (r.idx.zip cfg.hist)[k]? = some (j, e) ∧ j ∈ r.idx ∧ posOf r j = k ∧ cfg.hist[k]? = some e := by
  have hk' : k < r.idx.length := v.wf.len_eq ▸ hk
  exact ⟨_, _, Rows.zip_getElem? r.idx cfg.hist k hk' hk, List.getElem_mem _,
    Rows.count_lt_getElem v.wf.sorted k hk', List.getElem?_eq_getElem hk⟩

theorem C07_get_forward (i : Nat) :
    (posOf r i = cfg.hist.length ∧ (storeOf cfg).get i .forward = none) ∨
    ∃ j e, (storeOf cfg).get i .forward = some (j, e) ∧ j ∈ r.idx ∧ posOf r j = posOf r i ∧
      cfg.hist[posOf r i]? = some e := by
  have hg : (storeOf cfg).get i .forward = (r.idx.zip cfg.hist)[posOf r i]? :=
    Rows.histGetDir_forward_rows cfg r v.rows v.wf.sorted (C07_view_len_ne v) i
  rw [hg]
  by_cases h : posOf r i < cfg.hist.length
  · exact Or.inr (C07_view_row v _ h)
  · have := C07_posOf_le v.wf i
    refine Or.inl ⟨by omega, List.getElem?_eq_none ?_⟩
    rw [List.length_zip, v.wf.len_eq]; omega

theorem C07_get_reverse (i : Nat) :
    (posOf r (i + 1) = 0 ∧ (storeOf cfg).get i .reverse = none) ∨
    ∃ j e, (storeOf cfg).get i .reverse = some (j, e) ∧ j ∈ r.idx ∧ posOf r j + 1 = posOf r (i + 1) ∧
      cfg.hist[posOf r j]? = some e := by
  have hg : (storeOf cfg).get i .reverse = _ :=
    Rows.histGetDir_reverse_rows cfg r v.rows v.wf.sorted v.wf.len_eq (C07_view_len_ne v) i
  rw [hg]
  by_cases h : posOf r (i + 1) = 0
  · exact Or.inl ⟨h, if_pos h⟩
  · have := C07_posOf_le v.wf (i + 1)
    obtain ⟨j, e, h1, h2, h3, h4⟩ := C07_view_row v (posOf r (i + 1) - 1) (by omega)
    exact Or.inr ⟨j, e, (if_neg h).trans h1, h2, by omega, h3 ▸ h4⟩
end

theorem C07_rows_simulation : C07_rows_simulation_statement := by
  intro cfg r n hr wf hne hv
  have v : RowsView cfg r := ⟨hr, wf, hne⟩
  have hL : (storeOf cfg).len = r.len := Rows.histLen_rows cfg r hr
  have hl0 := C07_view_len_ne v
  have hP0 : posOf r 0 = 0 := Rows.count_lt_zero r.idx
  have hlt := C07_posOf_lt_iff v n.idx
  have hle : n.idx ≤ r.len := hv.elim Nat.le_of_eq fun h => Nat.le_of_lt (wf.bound _ h)
  -- on the line being typed exactly when the position is the number of entries
  have hiff : n.idx = r.len ↔ posOf r n.idx = cfg.hist.length := by
    have := C07_posOf_le wf n.idx; omega
  have hmem : ∀ {j}, j ∈ r.idx → ¬ j = r.len := fun hj => Nat.ne_of_lt (wf.bound _ hj)
  have hsv : (navSave (storeOf cfg) n).savedBuf = (if n.idx = (storeOf cfg).len then n.buf else n.savedBuf) ∧
      (navSave (storeOf cfg) n).savedPos = (if n.idx = (storeOf cfg).len then n.pos else n.savedPos) := by
    unfold navSave; split <;> exact ⟨rfl, rfl⟩
  refine ⟨?_, ?_, ?_, ?_⟩
  · by_cases h0 : n.idx = 0
    · exact ⟨by simp [navPrevS, navPrev, absNav, h0, hP0], by simp only [navPrevS, h0, if_true, ite_self]; exact h0 ▸ hv⟩
    · have hs1 : n.idx - 1 + 1 = n.idx := by omega
      have hlt1 : n.idx - 1 < r.len := by omega
      rcases C07_get_reverse v (n.idx - 1) with ⟨hp, hg⟩ | ⟨j, e, hg, hj, hp, he⟩ <;> rw [hs1] at hp
      · have hne' : ¬ n.idx = r.len := by have := C07_view_hist_pos v; omega
        have e1 : navPrevS (storeOf cfg) n = n := by simp [navPrevS, navSave, hL, hl0, h0, hlt1, hg, hne']
        rw [e1]
        exact ⟨by simp [absNav, navPrev, hp], hv⟩
      · have e1 : navPrevS (storeOf cfg) n = { navSave (storeOf cfg) n with buf := e, pos := blen e, idx := j } := by
          simp [navPrevS, hL, hl0, h0, hlt1, hg]
        rw [e1]
        refine ⟨?_, Or.inr hj⟩
        have hp1 : posOf r n.idx - 1 = posOf r j := by omega
        have hp0 : ¬ posOf r n.idx = 0 := by omega
        simp [absNav, navPrev, hsv.1, hsv.2, hL, hiff, hp0, hp1, he]
        exact ⟨rfl, rfl⟩
  · by_cases he : n.idx = r.len
    · refine ⟨?_, Or.inl ?_⟩ <;> simp [navNextS, navNext, absNav, hL, he, C07_posOf_len wf]
    · have hrow := C07_posOf_row wf (hv.resolve_left he)
      have hnle : ¬ cfg.hist.length ≤ posOf r n.idx := by omega
      have hlt' := C07_posOf_lt_iff v (n.idx + 1)
      rw [hrow.2] at hlt'
      by_cases h1 : n.idx + 1 < r.len
      · rcases C07_get_forward v (n.idx + 1) with ⟨hp, hg⟩ | ⟨j, e, hg, hj, hp, he'⟩ <;> rw [hrow.2] at hp
        · omega
        · have e1 : navNextS (storeOf cfg) n = { n with buf := e, pos := blen e, idx := j } := by
            simp [navNextS, hL, hl0, he, h1, hg]
          rw [e1]
          refine ⟨?_, Or.inr hj⟩
          rw [hrow.2] at he'
          simp [absNav, navNext, hnle, he', hp]
      · have e1 : navNextS (storeOf cfg) n = { n with buf := n.savedBuf, pos := n.savedPos, idx := n.idx + 1 } := by
          simp [navNextS, hL, hl0, he, h1]
        rw [e1]
        refine ⟨?_, Or.inl (by simp only []; omega)⟩
        have hk1 : posOf r n.idx + 1 = cfg.hist.length := by omega
        simp [absNav, navNext, hnle, hrow.2, hk1]
  · by_cases h0 : n.idx = 0
    · exact ⟨by simp [navFirstS, navFirst, absNav, h0, hP0], by simp only [navFirstS, h0, if_true, ite_self]; exact h0 ▸ hv⟩
    · rcases C07_get_forward v 0 with ⟨hp, _⟩ | ⟨j, e, hg, hj, hp, he⟩ <;> rw [hP0] at hp
      · have := C07_view_hist_pos v; omega
      · rw [hP0] at he
        by_cases hjn : j = n.idx
        · have e1 : navFirstS (storeOf cfg) n = n := by
            simp [navFirstS, navSave, hL, hl0, h0, hg, hjn, hmem (hjn ▸ hj)]
          rw [e1]
          exact ⟨by simp [absNav, navFirst, ← hjn, hp], hv⟩
        · have e1 : navFirstS (storeOf cfg) n = { navSave (storeOf cfg) n with buf := e, pos := blen e, idx := j } := by
            simp [navFirstS, hL, hl0, h0, hg, hjn]
          rw [e1]
          refine ⟨?_, Or.inr hj⟩
          have hp0 : ¬ posOf r n.idx = 0 := fun h => hjn (C07_posOf_inj wf (Or.inr hj) hv (hp.trans h.symm))
          simp [absNav, navFirst, hsv.1, hsv.2, hL, hiff, hp0, hp, he]
          exact ⟨rfl, rfl⟩
  · by_cases he : n.idx = r.len
    · refine ⟨?_, Or.inl ?_⟩ <;> simp [navLastS, navLast, absNav, hL, he, C07_posOf_len wf]
    · have hnle : ¬ cfg.hist.length ≤ posOf r n.idx := by omega
      refine ⟨?_, Or.inl ?_⟩ <;> simp [navLastS, navLast, absNav, hL, hl0, he, hnle, C07_posOf_len wf]

theorem C07_navIter_sim (abs : Nav → Nav) (V : Nav → Prop) (f g : Nav → Nav)
    (h : ∀ n, V n → abs (f n) = g (abs n) ∧ V (f n)) :
    ∀ (k : Nat) (n : Nav), V n → abs (navIter f k n) = navIter g k (abs n) ∧ V (navIter f k n) := by
  intro k
  induction k with
  | zero => intro n hn; exact ⟨rfl, hn⟩
  | succ k ih =>
    intro n hn
    obtain ⟨h1, h2⟩ := h n hn
    obtain ⟨h3, h4⟩ := ih (f n) h2
    exact ⟨by rw [navIter, h3, h1, navIter], by rw [navIter]; exact h4⟩

theorem C07_rows_apply_sim {cfg : EdCfg} {r : RowStore} (v : RowsView cfg r) (n : Nav)
    (hv : ValidIdx r n.idx) (op : NavOp) :
    absNav r (navApplyS (storeOf cfg) n op) = navApply cfg.hist (absNav r n) op ∧
      ValidIdx r (navApplyS (storeOf cfg) n op).idx := by
  have hs := C07_rows_simulation cfg r n v.rows v.wf v.nonempty hv
  cases op with
  | prev => exact hs.1
  | next => exact hs.2.1
  | first => exact hs.2.2.1
  | last => exact hs.2.2.2
  | edit b p =>
    have hL : (storeOf cfg).len = r.len := Rows.histLen_rows cfg r v.rows
    have hlt : (absNav r n).idx < cfg.hist.length ↔ n.idx < r.len := C07_posOf_lt_iff v n.idx
    simp only [navApplyS, navApply, hL]
    by_cases h : n.idx < r.len
    · rw [if_pos h, if_pos (hlt.mpr h)]; exact ⟨rfl, hv⟩
    · rw [if_neg h, if_neg (mt hlt.mp h)]; exact ⟨rfl, hv⟩

theorem C07_rows_fold_sim {cfg : EdCfg} {r : RowStore} (v : RowsView cfg r) (ops : List NavOp) :
    ∀ (n : Nav), ValidIdx r n.idx →
      absNav r (ops.foldl (navApplyS (storeOf cfg)) n) = ops.foldl (navApply cfg.hist) (absNav r n) ∧
      ValidIdx r (ops.foldl (navApplyS (storeOf cfg)) n).idx := by
  induction ops with
  | nil => intro n hn; exact ⟨rfl, hn⟩
  | cons op rest ih =>
    intro n hn
    obtain ⟨h1, h2⟩ := C07_rows_apply_sim v n hn op
    obtain ⟨h3, h4⟩ := ih _ h2
    simp only [List.foldl_cons]
    exact ⟨by rw [h3, h1], h4⟩

/-- hole-free machine: `k` Ups from the line being typed show the `k`-th newest entry, cursor at its
    end, with the line being typed (text and cursor) saved -/
theorem C07_prev_iterate (hist : List Text) (n : Nav) (h0 : n.idx = hist.length) :
    ∀ (k : Nat) (e : Text), 0 < k → k ≤ hist.length → hist[hist.length - k]? = some e →
      navIter (navPrev hist) k n = ⟨e, blen e, hist.length - k, n.buf, n.pos⟩ := by
  intro k e hk hkl he
  rw [C07_navIter_navPrev hist n (Nat.le_of_eq h0) k e hk (h0 ▸ hkl) (h0 ▸ he)]
  simp only [h0, if_true]

/-- **k Ups over a store with holes** (row ids after a duplicate was replaced or old rows trimmed):
    from the line being typed, `k` Ups of the store machine (which the editor model refines,
    `C07_prev_refines_store`) show the `k`-th newest EXISTING entry verbatim, cursor at its end, the
    index being that row's, with the line being typed (text and cursor) saved. -/
theorem C07_prev_iterate_rows {cfg : EdCfg} {r : RowStore} (v : RowsView cfg r) (n : Nav) (h0 : n.idx = r.len)
    (k : Nat) (e : Text) (hk : 0 < k) (hkl : k ≤ cfg.hist.length) (he : cfg.hist[cfg.hist.length - k]? = some e) :
    ∃ j, r.idx[cfg.hist.length - k]? = some j ∧
      navIter (navPrevS (storeOf cfg)) k n = ⟨e, blen e, j, n.buf, n.pos⟩ := by
  have hv : ValidIdx r n.idx := Or.inl h0
  obtain ⟨h1, h2⟩ := C07_navIter_sim (absNav r) (fun m => ValidIdx r m.idx) (navPrevS (storeOf cfg))
    (navPrev cfg.hist) (fun m hm => C07_rows_apply_sim v m hm .prev) k n hv
  have ha : (absNav r n).idx = cfg.hist.length := by
    simp only [absNav]; rw [h0]; exact C07_posOf_len v.wf
  rw [C07_prev_iterate cfg.hist (absNav r n) ha k e hk hkl he] at h1
  generalize navIter (navPrevS (storeOf cfg)) k n = m at h1 h2
  obtain ⟨m1, m2, m3, m4, m5⟩ := m
  simp only [absNav, Nav.mk.injEq] at h1
  obtain ⟨e1, e2, e3, e4, e5⟩ := h1
  refine ⟨m3, ?_, by rw [e1, e2, e4, e5]⟩
  rcases C07_valid_cases v.wf h2 with ⟨_, a2⟩ | ⟨_, _, a3⟩
  · simp only at a2; omega
  · simp only at a3; rw [e3] at a3; exact a3

/-- **Coming back restores the line being typed, over a store with holes**: after any sequence of
    Up / Down / first / last steps of the store machine mixed with arbitrary edits of recalled
    entries, started on the line being typed `(b, p)`: the index is `len` or an existing row; whenever
    it is back at `len` the line and cursor are `(b, p)` again, and while an entry is shown the saved
    line is `(b, p)`. -/
theorem C07_return_restores_rows {cfg : EdCfg} {r : RowStore} (v : RowsView cfg r) (n0 : Nav)
    (ops : List NavOp) (h0 : n0.idx = r.len) :
    let n := ops.foldl (navApplyS (storeOf cfg)) n0
    ValidIdx r n.idx ∧ (n.idx = r.len → n.buf = n0.buf ∧ n.pos = n0.pos) ∧
    (n.idx ≠ r.len → n.savedBuf = n0.buf ∧ n.savedPos = n0.pos) := by
  intro n
  have hL : (storeOf cfg).len = r.len := Rows.histLen_rows cfg r v.rows
  have h0' : n0.idx = (storeOf cfg).len := h0.trans hL.symm
  obtain ⟨h1, _⟩ := C07_typed_conserved_store (storeOf cfg) (C07_storeOK_view v) ops n0 (Nat.le_of_eq h0')
  obtain ⟨r1, r2⟩ := C07_typedN_start h0' h1
  rw [hL] at r1 r2
  exact ⟨(C07_rows_fold_sim v ops n0 (Or.inl h0)).2, r1, r2⟩

theorem C07_navFirstS_iterate_rows {cfg : EdCfg} {r : RowStore} (v : RowsView cfg r) (n : Nav)
    (hv : ValidIdx r n.idx) :
    navFirstS (storeOf cfg) n = navIter (navPrevS (storeOf cfg)) (posOf r n.idx) n := by
  obtain ⟨f1, f2⟩ := C07_rows_apply_sim v n hv .first
  obtain ⟨i1, i2⟩ := C07_navIter_sim (absNav r) (fun m => ValidIdx r m.idx) (navPrevS (storeOf cfg))
    (navPrev cfg.hist) (fun m hm => C07_rows_apply_sim v m hm .prev) (posOf r n.idx) n hv
  rw [C07_navPrev_iterate cfg.hist (posOf r n.idx) (absNav r n) rfl (C07_posOf_le v.wf _)] at i1
  exact C07_absNav_inj v.wf f2 i2 (f1.trans i1.symm)

theorem C07_navLastS_iterate_rows {cfg : EdCfg} {r : RowStore} (v : RowsView cfg r) (n : Nav)
    (hv : ValidIdx r n.idx) :
    navLastS (storeOf cfg) n = navIter (navNextS (storeOf cfg)) (cfg.hist.length - posOf r n.idx) n := by
  obtain ⟨f1, f2⟩ := C07_rows_apply_sim v n hv .last
  obtain ⟨i1, i2⟩ := C07_navIter_sim (absNav r) (fun m => ValidIdx r m.idx) (navNextS (storeOf cfg))
    (navNext cfg.hist) (fun m hm => C07_rows_apply_sim v m hm .next) (cfg.hist.length - posOf r n.idx) n hv
  have hle := C07_posOf_le v.wf n.idx
  rw [C07_navNext_iterate cfg.hist _ (absNav r n) (by simp only [absNav]; omega)] at i1
  exact C07_absNav_inj v.wf f2 i2 (f1.trans i1.symm)

theorem C07_rows_transport {cfg : EdCfg} {r : RowStore} {m : EM Unit} {f g : Nav → Nav} {s : Ed}
    (hst : ∃ s', m s = .ok ((), s') ∧ navOf s' = f (navOf s) ∧ NavOK cfg s')
    (hsim : absNav r (f (navOf s)) = g (absNav r (navOf s)) ∧ ValidIdx r (f (navOf s)).idx) :
    ∃ s', m s = .ok ((), s') ∧ navOf s' = f (navOf s) ∧ absNav r (navOf s') = g (absNav r (navOf s)) ∧
      NavOK cfg s' ∧ ValidIdx r s'.histIdx := by
  obtain ⟨s', h1, h2, h3⟩ := hst
  rw [← h2] at hsim
  exact ⟨s', h1, h2, hsim.1, h3, hsim.2⟩

/-- **Up / C-p / k over SQLite history with holes**: from a navigable state on a valid index the
    editor model never panics and, seen through positions, does exactly the declarative step of the
    hole-free machine over the existing entries (`navPrev`); it stays on a valid index.  The three
    theorems below are the same for Down, first and last. -/
theorem C07_prev_refines_rows (S : Segmenter) (U : UData) {cfg : EdCfg} {r : RowStore} (v : RowsView cfg r)
    (hnp : cfg.hinterPanicAt = none) (s : Ed) (h : NavOK cfg s) (hv : ValidIdx r s.histIdx) :
    ∃ s', editHistoryNext S U cfg true s = .ok ((), s') ∧
      absNav r (navOf s') = navPrev cfg.hist (absNav r (navOf s)) ∧ NavOK cfg s' ∧ ValidIdx r s'.histIdx :=
  let ⟨s', h1, _, h2⟩ := C07_rows_transport (C07_prev_refines_store S U cfg hnp (C07_storeOK_view v) s h)
    (C07_rows_apply_sim v (navOf s) hv .prev)
  ⟨s', h1, h2⟩

theorem C07_next_refines_rows (S : Segmenter) (U : UData) {cfg : EdCfg} {r : RowStore} (v : RowsView cfg r)
    (hnp : cfg.hinterPanicAt = none) (s : Ed) (h : NavOK cfg s) (hv : ValidIdx r s.histIdx) :
    ∃ s', editHistoryNext S U cfg false s = .ok ((), s') ∧
      absNav r (navOf s') = navNext cfg.hist (absNav r (navOf s)) ∧ NavOK cfg s' ∧ ValidIdx r s'.histIdx :=
  let ⟨s', h1, _, h2⟩ := C07_rows_transport (C07_next_refines_store S U cfg hnp (C07_storeOK_view v) s h)
    (C07_rows_apply_sim v (navOf s) hv .next)
  ⟨s', h1, h2⟩

theorem C07_first_refines_rows (S : Segmenter) (U : UData) {cfg : EdCfg} {r : RowStore} (v : RowsView cfg r)
    (hnp : cfg.hinterPanicAt = none) (s : Ed) (h : NavOK cfg s) (hv : ValidIdx r s.histIdx) :
    ∃ s', editHistory S U cfg true s = .ok ((), s') ∧
      absNav r (navOf s') = navFirst cfg.hist (absNav r (navOf s)) ∧ NavOK cfg s' ∧ ValidIdx r s'.histIdx :=
  let ⟨s', h1, _, h2⟩ := C07_rows_transport (C07_first_refines_store S U cfg hnp (C07_storeOK_view v) s h)
    (C07_rows_apply_sim v (navOf s) hv .first)
  ⟨s', h1, h2⟩

theorem C07_last_refines_rows (S : Segmenter) (U : UData) {cfg : EdCfg} {r : RowStore} (v : RowsView cfg r)
    (hnp : cfg.hinterPanicAt = none) (s : Ed) (h : NavOK cfg s) (hv : ValidIdx r s.histIdx) :
    ∃ s', editHistory S U cfg false s = .ok ((), s') ∧
      absNav r (navOf s') = navLast cfg.hist (absNav r (navOf s)) ∧ NavOK cfg s' ∧ ValidIdx r s'.histIdx :=
  let ⟨s', h1, _, h2⟩ := C07_rows_transport (C07_last_refines_store S U cfg hnp s h)
    (C07_rows_apply_sim v (navOf s) hv .last)
  ⟨s', h1, h2⟩

/-- **M-< over SQLite history with holes** behaves like as many Ups (of the store machine the editor
    refines) as there are existing rows below the current one; seen through positions that is
    `navPrev` iterated, as for the default back end (`C07_first_is_iterated_prev`). -/
theorem C07_first_is_iterated_prev_rows (S : Segmenter) (U : UData) {cfg : EdCfg} {r : RowStore}
    (v : RowsView cfg r) (hnp : cfg.hinterPanicAt = none) (s : Ed) (h : NavOK cfg s)
    (hv : ValidIdx r s.histIdx) :
    ∃ s', editHistory S U cfg true s = .ok ((), s') ∧
      navOf s' = navIter (navPrevS (storeOf cfg)) (posOf r s.histIdx) (navOf s) ∧
      absNav r (navOf s') = navIter (navPrev cfg.hist) (posOf r s.histIdx) (absNav r (navOf s)) ∧
      NavOK cfg s' ∧ ValidIdx r s'.histIdx := by
  have hst := C07_first_refines_store S U cfg hnp (C07_storeOK_view v) s h
  rw [C07_navFirstS_iterate_rows v (navOf s) hv] at hst
  exact C07_rows_transport hst (C07_navIter_sim (absNav r) (fun m => ValidIdx r m.idx) _ _
    (fun m hm => C07_rows_apply_sim v m hm .prev) _ (navOf s) hv)

/-- **M-> over SQLite history with holes** behaves like as many Downs as there are existing rows at
    or above the current one. -/
theorem C07_last_is_iterated_next_rows (S : Segmenter) (U : UData) {cfg : EdCfg} {r : RowStore}
    (v : RowsView cfg r) (hnp : cfg.hinterPanicAt = none) (s : Ed) (h : NavOK cfg s)
    (hv : ValidIdx r s.histIdx) :
    ∃ s', editHistory S U cfg false s = .ok ((), s') ∧
      navOf s' = navIter (navNextS (storeOf cfg)) (cfg.hist.length - posOf r s.histIdx) (navOf s) ∧
      absNav r (navOf s') =
        navIter (navNext cfg.hist) (cfg.hist.length - posOf r s.histIdx) (absNav r (navOf s)) ∧
      NavOK cfg s' ∧ ValidIdx r s'.histIdx := by
  have hst := C07_last_refines_store S U cfg hnp s h
  rw [C07_navLastS_iterate_rows v (navOf s) hv] at hst
  exact C07_rows_transport hst (C07_navIter_sim (absNav r) (fun m => ValidIdx r m.idx) _ _
    (fun m hm => C07_rows_apply_sim v m hm .next) _ (navOf s) hv)

def edIter (m : EM Unit) : Nat → EM Unit
  | 0 => pure ()
  | k + 1 => m >>= fun _ => edIter m k

theorem C07_edIter_refines (m : EM Unit) (f : Nav → Nav) (Inv : Ed → Prop)
    (step : ∀ s, Inv s → ∃ s', m s = .ok ((), s') ∧ navOf s' = f (navOf s) ∧ Inv s') :
    ∀ (k : Nat) (s : Ed), Inv s →
      ∃ s', edIter m k s = .ok ((), s') ∧ navOf s' = navIter f k (navOf s) ∧ Inv s' := by
  intro k
  induction k with
  | zero => intro s hs; exact ⟨s, rfl, rfl, hs⟩
  | succ k ih =>
    intro s hs
    obtain ⟨s1, h1, h2, h3⟩ := step s hs
    obtain ⟨s2, g1, g2, g3⟩ := ih s1 h3
    refine ⟨s2, ?_, by rw [g2, h2, navIter], g3⟩
    show (m >>= fun _ => edIter m k) s = _
    rw [EM.bind_apply, h1]
    exact g1

/-- **k Ups in the editor model over SQLite history with holes**: started on the line being typed
    (`histIdx = len`), `k ≤ number of entries` PreviousHistory commands never panic and end showing the
    `k`-th newest EXISTING entry verbatim, cursor at its end, `histIdx` that row's index, the line
    being typed saved with its cursor. -/
theorem C07_prev_iterate_rows_editor (S : Segmenter) (U : UData) {cfg : EdCfg} {r : RowStore}
    (v : RowsView cfg r) (hnp : cfg.hinterPanicAt = none) (s : Ed) (h : NavOK cfg s) (h0 : s.histIdx = r.len)
    (k : Nat) (e : Text) (hk : 0 < k) (hkl : k ≤ cfg.hist.length) (he : cfg.hist[cfg.hist.length - k]? = some e) :
    ∃ s' j, edIter (editHistoryNext S U cfg true) k s = .ok ((), s') ∧
      r.idx[cfg.hist.length - k]? = some j ∧
      s'.line.buf = e ∧ s'.line.pos = blen e ∧ s'.histIdx = j ∧
      s'.saved.buf = s.line.buf ∧ s'.saved.pos = s.line.pos := by
  obtain ⟨s', h1, h2, _⟩ := C07_edIter_refines (editHistoryNext S U cfg true) (navPrevS (storeOf cfg)) (NavOK cfg)
    (fun s hs => C07_prev_refines_store S U cfg hnp (C07_storeOK_view v) s hs) k s h
  obtain ⟨j, hj, hn⟩ := C07_prev_iterate_rows v (navOf s) h0 k e hk hkl he
  rw [hn] at h2
  simp only [navOf, Nav.mk.injEq] at h2
  obtain ⟨e1, e2, e3, e4, e5⟩ := h2
  exact ⟨s', j, h1, hj, e1, e2, e3, e4, e5⟩

/-- non-vacuity of the corollaries: the example store is a well-formed non-empty view, two Ups from
    the line being typed cross no hole yet, the third one does -/
example : RowsView C07_exCfg ⟨[0, 2, 3], 4⟩ :=
  ⟨rfl, ⟨rfl, by decide, by decide, by decide⟩, by decide⟩

/-- three Ups over the example store end on "1" (row index 0) with the line being typed saved: the
    instance `k = 3` of `C07_prev_iterate_rows` -/
example : navIter (navPrevS (storeOf C07_exCfg)) 3 ⟨['x'], 1, 4, [], 0⟩ = ⟨['1'], 1, 0, ['x'], 1⟩ := by decide

/-- the hypotheses of `C07_rows_simulation_statement` are needed.  `RowsWF.tight` (`len` = last index
    + 1): with one row at index 0 and `len = 3`, Down from that row asks for index 1, finds nothing
    and steps onto the hole, where the hole-free machine returns to the line being typed. -/
example :
    let cfg : EdCfg := { vi := false, hist := [['a']], histRows := some ⟨[0], 3⟩ }
    let n : Nav := ⟨['a'], 1, 0, ['x'], 1⟩
    absNav ⟨[0], 3⟩ (navNextS (storeOf cfg) n) ≠ navNext cfg.hist (absNav ⟨[0], 3⟩ n) := by decide

/-- … and `r.idx ≠ []`: a store without rows whose `len` is not 0 lets Up overwrite the saved line
    (`backup`) although nothing is shown. -/
example :
    let cfg : EdCfg := { vi := false, hist := [], histRows := some ⟨[], 3⟩ }
    let n : Nav := ⟨['x'], 1, 3, [], 0⟩
    absNav ⟨[], 3⟩ (navPrevS (storeOf cfg) n) ≠ navPrev cfg.hist (absNav ⟨[], 3⟩ n) := by decide

/-- the remaining case, an empty SQLite history (`len() = 0`): the four recall steps change nothing -/
theorem C07_rows_empty (cfg : EdCfg) (r : RowStore) (n : Nav) (hr : cfg.histRows = some r) (h0 : r.len = 0) :
    navPrevS (storeOf cfg) n = n ∧ navNextS (storeOf cfg) n = n ∧
    navFirstS (storeOf cfg) n = n ∧ navLastS (storeOf cfg) n = n := by
  have hL : (storeOf cfg).len = 0 := by rw [← h0]; exact Rows.histLen_rows cfg r hr
  simp [navPrevS, navNextS, navFirstS, navLastS, hL]


/-- **Going past either end is a no-op**: on the line being typed (`idx = len`) Down and last change
    nothing at all; at index 0 Up and first change nothing at all (shown entry, cursor, index and
    saved line are kept).  Any back end, no hypotheses on the store. -/
theorem C07_past_end_noop_store (H : HStore) (n : Nav) :
    (n.idx = H.len → navNextS H n = n ∧ navLastS H n = n) ∧
    (n.idx = 0 → navPrevS H n = n ∧ navFirstS H n = n) := by
  refine ⟨fun h => ?_, fun h => ?_⟩
  · simp [navNextS, navLastS, h]
  · simp [navPrevS, navFirstS, h]

def typedE (cfg : EdCfg) (s : Ed) : Text × Nat := typedN (storeOf cfg) (navOf s)

/-- what a sequence of editor steps is made of: the four recall commands of the model
    (`editHistoryNext true/false`, `editHistory true/false`), an arbitrary editor command run always
    (`cmd`), and an arbitrary editor command applied only while a recalled entry is shown (`onEntry`,
    the counterpart of `NavOp.edit`) -/
inductive EdNavOp where
  | up | down | first | last
  | onEntry (m : EM Unit)
  | cmd (m : EM Unit)

/-- an editor command that is not a recall command: from a navigable state it returns, stays
    navigable and leaves the history index and the saved line alone (it may change the edit line and
    its cursor in any way).  `C07_navFrame_motion` shows cursor motions through `editMove` are such. -/
def NavFrameOK (cfg : EdCfg) (m : EM Unit) : Prop :=
  ∀ s, NavOK cfg s → ∃ s', m s = .ok ((), s') ∧ NavOK cfg s' ∧ s'.histIdx = s.histIdx ∧
    s'.saved.buf = s.saved.buf ∧ s'.saved.pos = s.saved.pos

def edNavStep (S : Segmenter) (U : UData) (cfg : EdCfg) : EdNavOp → EM Unit
  | .up => editHistoryNext S U cfg true
  | .down => editHistoryNext S U cfg false
  | .first => editHistory S U cfg true
  | .last => editHistory S U cfg false
  | .onEntry m => fun s => if s.histIdx = histLen cfg then .ok ((), s) else m s
  | .cmd m => m

def edNavRun (S : Segmenter) (U : UData) (cfg : EdCfg) : List EdNavOp → EM Unit
  | [] => pure ()
  | o :: r => edNavStep S U cfg o >>= fun _ => edNavRun S U cfg r

theorem C07_editor_typed_step (S : Segmenter) (U : UData) (cfg : EdCfg) (hnp : cfg.hinterPanicAt = none)
    (hst : StoreOK (storeOf cfg)) (o : EdNavOp) (ho : ∀ m, o = .onEntry m ∨ o = .cmd m → NavFrameOK cfg m)
    (s : Ed) (h : NavOK cfg s) :
    ∃ s', edNavStep S U cfg o s = .ok ((), s') ∧ NavOK cfg s' ∧
      ((∀ m, o = .cmd m → s.histIdx ≠ histLen cfg) → typedE cfg s' = typedE cfg s) := by
  have hi : (navOf s).idx ≤ (storeOf cfg).len := h.idx
  have nav : ∀ {m : EM Unit} {P : Prop} (op : NavOp),
      (∃ s', m s = .ok ((), s') ∧ navOf s' = navApplyS (storeOf cfg) (navOf s) op ∧ NavOK cfg s') →
      ∃ s', m s = .ok ((), s') ∧ NavOK cfg s' ∧ (P → typedE cfg s' = typedE cfg s) :=
    fun op ⟨s', h1, h2, h3⟩ =>
      ⟨s', h1, h3, fun _ => (congrArg (typedN _) h2).trans (C07_typed_step_store _ hst _ hi op).1⟩
  cases o with
  | up => exact nav .prev (C07_prev_refines_store S U cfg hnp hst s h)
  | down => exact nav .next (C07_next_refines_store S U cfg hnp hst s h)
  | first => exact nav .first (C07_first_refines_store S U cfg hnp hst s h)
  | last => exact nav .last (C07_last_refines_store S U cfg hnp s h)
  | onEntry m =>
    by_cases he : s.histIdx = histLen cfg
    · exact ⟨s, by simp [edNavStep, he], h, fun _ => rfl⟩
    · obtain ⟨s', h1, h2, h3, h4, h5⟩ := ho m (Or.inl rfl) s h
      refine ⟨s', by simp [edNavStep, he, h1], h2, fun _ => ?_⟩
      have he' : ¬ s'.histIdx = histLen cfg := by rw [h3]; exact he
      simp [typedE, typedN, navOf, storeOf, he, he', h4, h5]
  | cmd m =>
    obtain ⟨s', h1, h2, h3, h4, h5⟩ := ho m (Or.inr rfl) s h
    refine ⟨s', h1, h2, fun hc => ?_⟩
    have he : ¬ s.histIdx = histLen cfg := hc m rfl
    have he' : ¬ s'.histIdx = histLen cfg := by rw [h3]; exact he
    simp [typedE, typedN, navOf, storeOf, he, he', h4, h5]

/-- **Captured once, when leaving** (fully general sequences, commands may also run ON the line being
    typed): after any list of recall commands and frame-respecting commands, either the line being
    typed is the initial one, or the list splits at the LAST command `m` that ran on the line being
    typed (`histIdx = len` just before it) and the line being typed at the end is exactly the one that
    command left — whatever entries were visited or edited afterwards. -/
theorem C07_editor_typed_last_edit (S : Segmenter) (U : UData) (cfg : EdCfg) (hnp : cfg.hinterPanicAt = none)
    (hst : StoreOK (storeOf cfg)) (ops : List EdNavOp)
    (hops : ∀ m, EdNavOp.onEntry m ∈ ops ∨ EdNavOp.cmd m ∈ ops → NavFrameOK cfg m) :
    ∀ (s : Ed), NavOK cfg s →
      ∃ s', edNavRun S U cfg ops s = .ok ((), s') ∧ NavOK cfg s' ∧
        (typedE cfg s' = typedE cfg s ∨
          ∃ pre m post s1 s2, ops = pre ++ EdNavOp.cmd m :: post ∧
            edNavRun S U cfg pre s = .ok ((), s1) ∧ s1.histIdx = histLen cfg ∧ m s1 = .ok ((), s2) ∧
            edNavRun S U cfg post s2 = .ok ((), s') ∧ typedE cfg s' = typedE cfg s2) := by
  induction ops with
  | nil => intro s h; exact ⟨s, rfl, h, Or.inl rfl⟩
  | cons o rest ih =>
    intro s h
    obtain ⟨s1, h1, h2, h3⟩ := C07_editor_typed_step S U cfg hnp hst o
      (fun m hm => by
        rcases hm with hm | hm
        · exact hops m (Or.inl (by rw [hm]; exact List.mem_cons_self))
        · exact hops m (Or.inr (by rw [hm]; exact List.mem_cons_self))) s h
    obtain ⟨s2, g1, g2, g3⟩ := ih (fun m hm => hops m (hm.imp (List.mem_cons_of_mem _) (List.mem_cons_of_mem _))) s1 h2
    have hrun : edNavRun S U cfg (o :: rest) s = .ok ((), s2) := by
      show (edNavStep S U cfg o >>= fun _ => edNavRun S U cfg rest) s = _
      rw [EM.bind_apply, h1]; exact g1
    refine ⟨s2, hrun, g2, ?_⟩
    rcases g3 with g3 | ⟨pre, m, post, t1, t2, e1, e2, e3, e4, e5, e6⟩
    · by_cases hc : ∀ m, o = .cmd m → s.histIdx ≠ histLen cfg
      · exact Or.inl (by rw [g3, h3 hc])
      · have : ∃ m, o = .cmd m ∧ s.histIdx = histLen cfg := by
          apply Classical.byContradiction
          intro hn
          exact hc fun m hm he => hn ⟨m, hm, he⟩
        obtain ⟨m, hm, he⟩ := this
        subst hm
        exact Or.inr ⟨[], m, rest, s, s1, rfl, rfl, he, h1, g1, g3⟩
    · refine Or.inr ⟨o :: pre, m, post, t1, t2, by rw [e1]; rfl, ?_, e3, e4, e5, e6⟩
      show (edNavStep S U cfg o >>= fun _ => edNavRun S U cfg pre) s = _
      rw [EM.bind_apply, h1]; exact e2

/-- **Editor model, arbitrary sequences**: for every list of Up / Down / first / last commands mixed
    with arbitrary frame-respecting commands applied to recalled entries (cursor motions, edits), run
    by the model's own code from ANY navigable state: no panic, the state stays navigable and the line
    being typed (text and cursor — the edit line when `histIdx = len`, the saved line otherwise) is
    the same at the end as at the start.  Hypotheses: hinter that does not panic; `StoreOK` (holds for
    the default back end, `C07_storeOK_list`, and for SQLite rows, `C07_storeOK_rows`); each
    `onEntry m` in the list satisfies `NavFrameOK`; no unguarded `cmd` (see
    `C07_editor_typed_last_edit` for those). -/
theorem C07_editor_typed_conserved (S : Segmenter) (U : UData) (cfg : EdCfg) (hnp : cfg.hinterPanicAt = none)
    (hst : StoreOK (storeOf cfg)) (ops : List EdNavOp)
    (hops : ∀ m, EdNavOp.onEntry m ∈ ops → NavFrameOK cfg m) (hnc : ∀ m, EdNavOp.cmd m ∉ ops) :
    ∀ (s : Ed), NavOK cfg s →
      ∃ s', edNavRun S U cfg ops s = .ok ((), s') ∧ NavOK cfg s' ∧ typedE cfg s' = typedE cfg s := by
  intro s h
  obtain ⟨s', h1, h2, h3⟩ := C07_editor_typed_last_edit S U cfg hnp hst ops
    (fun m hm => hm.elim (hops m) fun hc => absurd hc (hnc m)) s h
  refine ⟨s', h1, h2, h3.resolve_right ?_⟩
  rintro ⟨pre, m, post, _, _, e, _⟩
  exact hnc m (e ▸ List.mem_append_right _ List.mem_cons_self)

/-- **Coming back restores the line being typed, in the editor model**: started on the line being
    typed, after any such sequence: if the index is back at `len` the edit line and cursor are exactly
    the initial ones; otherwise the saved line and cursor are. Same hypotheses as
    `C07_editor_typed_conserved`. -/
theorem C07_editor_return_restores (S : Segmenter) (U : UData) (cfg : EdCfg) (hnp : cfg.hinterPanicAt = none)
    (hst : StoreOK (storeOf cfg)) (ops : List EdNavOp)
    (hops : ∀ m, EdNavOp.onEntry m ∈ ops → NavFrameOK cfg m) (hnc : ∀ m, EdNavOp.cmd m ∉ ops)
    (s : Ed) (h : NavOK cfg s) (h0 : s.histIdx = histLen cfg) :
    ∃ s', edNavRun S U cfg ops s = .ok ((), s') ∧ s'.histIdx ≤ histLen cfg ∧
      (s'.histIdx = histLen cfg → s'.line.buf = s.line.buf ∧ s'.line.pos = s.line.pos) ∧
      (s'.histIdx ≠ histLen cfg → s'.saved.buf = s.line.buf ∧ s'.saved.pos = s.line.pos) := by
  obtain ⟨s', h1, h2, h3⟩ := C07_editor_typed_conserved S U cfg hnp hst ops hops hnc s h
  obtain ⟨r1, r2⟩ := C07_typedN_start (H := storeOf cfg) (n := navOf s') (n0 := navOf s) h0 h3
  exact ⟨s', h1, h2.idx, r1, r2⟩

/-- cursor motions run through `editMove` (the `edit_move_*` functions) respect the frame (`MotionOK`: the motion does not fail on
    a cursor inside the text, keeps the text, leaves the cursor inside the text; proved for
    `moveBufferStart` / `moveBufferEnd` in Rl/Lemmas/RecallFrame.lean) -/
theorem C07_navFrame_motion (S : Segmenter) (U : UData) (cfg : EdCfg) (op : LM Bool) (hop : MotionOK op) :
    NavFrameOK cfg (editMove S U cfg op) := by
  intro s h
  obtain ⟨r, l', ns, e1, e2, e3, e4⟩ := hop s.line h.linePos
  obtain ⟨s', g1, g2, g3, g4⟩ := editMove_frame S U cfg e1
  refine ⟨s', g1, ⟨?_, ?_, ?_, ?_, ?_⟩, g4, by rw [g3], by rw [g3]⟩
  · rw [g2, e3]; exact h.lineGrow
  · rw [g3]; exact h.savedGrow
  · rw [g2]; exact e4
  · rw [g3]; exact h.savedPos
  · rw [g4]; exact h.idx

/-- the four recall steps are what `execute` runs for `PreviousHistory` (C-p), `NextHistory` (C-n),
    `BeginningOfHistory` (M-<), `EndOfHistory` (M->) -/
theorem C07_execute_recall_cmds (S : Segmenter) (U : UData) (cfg : EdCfg) (s : Ed) :
    execute S U cfg .previousHistory s = (edNavStep S U cfg .up >>= fun _ => pure Status.proceed) s ∧
    execute S U cfg .nextHistory s = (edNavStep S U cfg .down >>= fun _ => pure Status.proceed) s ∧
    execute S U cfg .beginningOfHistory s = (edNavStep S U cfg .first >>= fun _ => pure Status.proceed) s ∧
    execute S U cfg .endOfHistory s = (edNavStep S U cfg .last >>= fun _ => pure Status.proceed) s :=
  ⟨rfl, rfl, rfl, rfl⟩

/-- **Up arrow / vi k on the top line recalls**: when no newline precedes the cursor (text `x ++ y`,
    cursor after `x`, `'\n' ∉ x`) `LineUpOrPreviousHistory n` is exactly the Up recall step. -/
theorem C07_arrow_up_recalls_on_top_line (S : Segmenter) (U : UData) (cfg : EdCfg) (n : Nat) (s : Ed)
    (x y : Text) (hb : s.line.buf = x ++ y) (hp : s.line.pos = blen x) (hx : '\n' ∉ x) :
    execute S U cfg (.lineUpOrPreviousHistory n) s =
      (edNavStep S U cfg .up >>= fun _ => pure Status.proceed) s := by
  have hst : sliceTo s.line.buf s.line.pos = .ok x := by rw [hb, hp]; exact sliceTo_mid x y
  have hf : rfindChar '\n' x = none := vm_rfindChar_none hx
  have hm : ∀ pc, LB.moveToLineUp S U n pc s.line = .ok (false, s.line, []) := by
    intro pc
    unfold LB.moveToLineUp
    simp [LM.bind_apply, LM.get, LM.lift, hst, hf]
  show (do
    let pc ← getPromptCol
    if ← lbQuiet (LB.moveToLineUp S U n pc) then moveCursor S U cfg
    else editHistoryNext S U cfg true
    pure Status.proceed : EM Status) s = _
  simp only [EM.bind_apply, getPromptCol, lbQuiet_ok (hm _)]
  rfl

/-- **Down arrow / vi j on the bottom line recalls**: when no newline follows the cursor
    `LineDownOrNextHistory n` is exactly the Down recall step. -/
theorem C07_arrow_down_recalls_on_bottom_line (S : Segmenter) (U : UData) (cfg : EdCfg) (n : Nat) (s : Ed)
    (x y : Text) (hb : s.line.buf = x ++ y) (hp : s.line.pos = blen x) (hy : '\n' ∉ y) :
    execute S U cfg (.lineDownOrNextHistory n) s =
      (edNavStep S U cfg .down >>= fun _ => pure Status.proceed) s := by
  have hsf : sliceFrom s.line.buf s.line.pos = .ok y := by rw [hb, hp]; exact sliceFrom_mid x y
  have hf : findChar '\n' y = none := vm_findChar_none hy
  have hm : ∀ pc, LB.moveToLineDown S U n pc s.line = .ok (false, s.line, []) := by
    intro pc
    unfold LB.moveToLineDown
    simp [LM.bind_apply, LM.get, LM.lift, hsf, hf]
  show (do
    let pc ← getPromptCol
    if ← lbQuiet (LB.moveToLineDown S U n pc) then moveCursor S U cfg
    else editHistoryNext S U cfg false
    pure Status.proceed : EM Status) s = _
  simp only [EM.bind_apply, getPromptCol, lbQuiet_ok (hm _)]
  rfl

/-- the state `readline` starts from is navigable and on the line being typed, so the theorems above
    apply to every read (whatever the history, the kill ring and the input) -/
theorem C07_navOK_initEd (cfg : EdCfg) (ring : KillRing) (input : Input) :
    NavOK cfg (initEd cfg ring input) ∧ (initEd cfg ring input).histIdx = histLen cfg :=
  ⟨⟨rfl, rfl, Nat.le_refl _, Nat.le_refl _, Nat.le_refl _⟩, rfl⟩

/-- non-vacuity: the whole-buffer motions are admissible `onEntry` / `cmd` steps for every configuration -/
example (S : Segmenter) (U : UData) (cfg : EdCfg) :
    NavFrameOK cfg (editMove S U cfg (LB.moveBufferStart S U)) ∧
    NavFrameOK cfg (editMove S U cfg (LB.moveBufferEnd S U)) :=
  ⟨C07_navFrame_motion S U cfg _ (motionOK_moveBufferStart S U),
   C07_navFrame_motion S U cfg _ (motionOK_moveBufferEnd S U)⟩

/-- non-vacuity of `C07_typed_conserved_store` on the SQLite example store with a hole: M-< from the
    line being typed, an edit of the entry, Down over the hole, M-< again from a recalled entry (the
    step a faulty implementation would use to overwrite the saved line), then M->: back on "x", cursor 1 -/
example :
    let H := storeOf C07_exCfg
    let n0 : Nav := ⟨['x'], 1, 4, [], 0⟩
    let n := [NavOp.first, .edit ['q'] 0, .next, .first, .last].foldl (navApplyS H) n0
    StoreOK H ∧ n0.idx ≤ H.len ∧ n = ⟨['x'], 1, 4, ['x'], 1⟩ ∧ typedN H n = (['x'], 1) := by
  refine ⟨C07_storeOK_rows C07_exCfg ⟨[0, 2, 3], 4⟩ rfl (by decide), by decide, by decide, by decide⟩

def C07_searchCfg : EdCfg := { vi := false, hist := [['x']] }

/-- **Finding (outside the property's key list; reachable through a custom binding only):
    `HistorySearchBackward` leaves the line being typed WITHOUT saving it.**  Witness: history ["x"],
    "q" typed (cursor 1, on the line being typed).  `edit_history_search(Reverse)` decrements the
    history index before searching, finds no entry starting with "q", and returns with the index at 0
    while the edit line still shows "q" and `backup` was never called: what counts as the line being
    typed is then the (stale) saved line.  So the conservation theorems above do not extend to the
    prefix-search commands. -/
theorem C07_history_search_drops_typed_line (S : Segmenter) (U : UData) (s : Ed)
    (hl : s.line.buf = ['q']) (hp : s.line.pos = 1) (hi : s.histIdx = 1) :
    editHistorySearch S U C07_searchCfg .reverse s = .ok ((), { s with histIdx := 0 }) ∧
    typedE C07_searchCfg s = (['q'], 1) ∧
    typedE C07_searchCfg { s with histIdx := 0 } = (s.saved.buf, s.saved.pos) := by
  refine ⟨?_, ?_, ?_⟩
  · have hs : sliceTo s.line.buf s.line.pos = .ok ['q'] := by
      rw [hl, hp]; exact sliceTo_mid ['q'] []
    have hm : (memHist C07_searchCfg).startsWith ['q'] 0 .reverse = none := by decide
    unfold editHistorySearch
    have hlen : C07_searchCfg.hist.length = 1 := rfl
    simp [EM.bind_apply, getHistIdx, hi, setHistIdx, EM.modify, getLine, EM.liftP, hs, hm, hlen]
  · simp [typedE, typedN, navOf, storeOf, histLen, C07_searchCfg, hi, hl, hp]
  · simp [typedE, typedN, navOf, storeOf, histLen, C07_searchCfg]

/-- … and the next Down (`NextHistory`) "returns" to the line being typed by restoring that stale
    saved line (the empty line on a fresh read): the typed "q" is gone from the edit line. -/
theorem C07_history_search_then_down_loses_line (S : Segmenter) (U : UData) (s : Ed)
    (h : NavOK C07_searchCfg s) (hl : s.line.buf = ['q']) (hp : s.line.pos = 1) (hi : s.histIdx = 1) :
    ∃ s1 s2, editHistorySearch S U C07_searchCfg .reverse s = .ok ((), s1) ∧
      editHistoryNext S U C07_searchCfg false s1 = .ok ((), s2) ∧
      s2.histIdx = 1 ∧ s2.line.buf = s.saved.buf ∧ s2.line.pos = s.saved.pos := by
  obtain ⟨e1, _, _⟩ := C07_history_search_drops_typed_line S U s hl hp hi
  have hst : StoreOK (storeOf C07_searchCfg) := C07_storeOK_none rfl
  have h1 : NavOK C07_searchCfg { s with histIdx := 0 } :=
    ⟨h.lineGrow, h.savedGrow, h.linePos, h.savedPos, Nat.zero_le _⟩
  obtain ⟨s2, g1, g2, _⟩ := C07_next_refines_store S U C07_searchCfg rfl hst _ h1
  refine ⟨_, s2, e1, g1, ?_⟩
  have hget : (storeOf C07_searchCfg).len = 1 := rfl
  simp only [navOf, navNextS, hget] at g2
  simp at g2
  exact ⟨g2.2.2.1, g2.1, g2.2.1⟩
