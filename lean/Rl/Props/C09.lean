/-
  Property C09 — history store: newest entries, in order, within bound; searches are truthful.
  Model: Rl/History.lean (transliteration of src/history.rs), Rl/Hint.lean (`HistoryHinter`).
  Spec: Rl/Spec/History.lean, Rl/Spec/Hint.lean (written from the property text).
  Lemmas: Rl/Lemmas/History.lean (store and searches), Rl/Lemmas/Hint.lean (the hinter),
  Rl/Lemmas/HistoryLog.lean (`accLog`: the accepted lines of an operation sequence).
-/
import Rl.History
import Rl.Spec.History
import Rl.Lemmas.History
import Rl.Hint
import Rl.Spec.Hint
import Rl.Lemmas.Hint
import Rl.Lemmas.HistoryLog
open Rl Rl.MemHist

/-- the spec state a store stands for -/
def C09_abs (h : MemHist) : Spec.HState :=
  { entries := h.entries, max := h.maxLen, ignoreSpace := h.ignoreSpace, ignoreDups := h.ignoreDups }

/-- The size bound holds after any sequence of public operations from a fresh history
    (the eviction in `insert` tests `len == max_len`, so this invariant is what makes it work). -/
theorem C09_len_le_max (ws : Char → Bool) (m : Nat) (isp idp : Bool) (ops : List HOp) :
    (MemHist.run ws (MemHist.new m isp idp) ops).1.entries.length
      ≤ (MemHist.run ws (MemHist.new m isp idp) ops).1.maxLen :=
  run_inv (h := MemHist.new m isp idp) ws (Nat.zero_le m) ops

/-- `add` reports acceptance truthfully: a line is refused iff it is empty, the limit is zero,
    it starts with a blank while ignore-space is on, or it equals the newest entry while
    ignore-duplicates is on. -/
theorem C09_add_iff (ws : Char → Bool) (h : MemHist) (l : Text) :
    (h.add ws l).2 = false ↔
      (l = [] ∨ h.maxLen = 0 ∨ (h.ignoreSpace = true ∧ ∃ c t, l = c :: t ∧ ws c = true)
        ∨ (h.ignoreDups = true ∧ h.entries.getLast? = some l)) :=
  add_refused_iff ws h l

/-- An accepted line becomes the newest entry and the store is cut from the old end. -/
theorem C09_add_accepted (ws : Char → Bool) (h : MemHist) (l : Text)
    (hi : h.entries.length ≤ h.maxLen) (ha : (h.add ws l).2 = true) :
    (h.add ws l).1.entries = Spec.takeLast h.maxLen (h.entries ++ [l]) := by
  have hg : h.ignore ws l = false := by rw [add_snd] at ha; simpa using ha
  rw [add_of_not_ignore hg]
  exact insert_entries hi ((ignore_eq_false_iff ws h l).mp hg).1 l

/-- One operation on the model is the declarative step on the abstract state, with the same
    observation.  The bound is needed for `add` only (`insert` evicts iff `len == max_len`). -/
theorem C09_step_abs (ws : Char → Bool) (h : MemHist) (hi : h.entries.length ≤ h.maxLen) (op : HOp) :
    Spec.step ws (C09_abs h) op = (C09_abs (h.step ws op).1, (h.step ws op).2) := by
  have hadd : ∀ l, Spec.step ws (C09_abs h) (.add l) = (C09_abs (h.add ws l).1, .bool (h.add ws l).2) := by
    intro l
    have hr : Spec.refused ws (C09_abs h) l = h.ignore ws l := refused_eq_ignore ws h l
    simp only [Spec.step, hr]
    rcases add_cases ws h l with ⟨hg, e⟩ | ⟨hg, hm, e⟩ <;> rw [e, hg]
    · rfl
    · simp only [C09_abs, insert_entries hi hm l]
      rfl
  cases op with
  | add l => exact hadd l
  | addOwned l => exact hadd l
  | setMax n =>
    simp only [Spec.step, MemHist.step, C09_abs, setMaxLen_entries, setMaxLen_cfg]
  | search t s d => exact congrArg (fun r => (C09_abs h, HObs.found r)) (search_eq_find h t s d).symm
  | startsWith t s d =>
    exact congrArg (fun r => (C09_abs h, HObs.found r)) (startsWith_eq_find h t s d).symm
  | _ => rfl

/-- State and observations of a whole run. -/
theorem C09_run_spec (ws : Char → Bool) (h : MemHist) (hi : h.entries.length ≤ h.maxLen)
    (ops : List HOp) :
    Spec.run ws (C09_abs h) ops = (C09_abs (MemHist.run ws h ops).1, (MemHist.run ws h ops).2) := by
  induction ops generalizing h with
  | nil => rfl
  | cons op ops ih =>
    simp only [Spec.run, MemHist.run, C09_step_abs ws h hi op, ih _ (step_inv ws hi op)]

/-- Every observable of every operation sequence is the one the declarative spec prescribes
    (entries oldest first = accepted lines cut to the limit; `get`; `len`; both searches). -/
theorem C09_run_eq_spec (ws : Char → Bool) (h : MemHist) (hi : h.entries.length ≤ h.maxLen)
    (ops : List HOp) :
    (MemHist.run ws h ops).2 = (Spec.run ws (C09_abs h) ops).2 := by
  rw [C09_run_spec ws h hi ops]

/-- Indexing returns the i-th oldest entry. -/
theorem C09_index (h : MemHist) (i : Nat) : h.get i = h.entries[i]? := rfl

/-- Substring search is truthful: a reported hit is a stored entry that really contains the text
    at the reported byte offset (its first occurrence), on the requested side of `start`
    (inclusive), and no nearer entry in that direction contains the text. -/
theorem C09_search_sound (h : MemHist) (t : Text) (s : Nat) (d : Dir) (i : Nat) (e : Text) (off : Nat)
    (hs : h.search t s d = some (i, e, off)) :
    h.entries[i]? = some e ∧ OccursAt t e off ∧ (∀ o, OccursAt t e o → off ≤ o) ∧
    (d = .forward → s ≤ i ∧ ∀ (j : Nat) (e' : Text), s ≤ j → j < i → h.entries[j]? = some e' → ∀ o, ¬ OccursAt t e' o) ∧
    (d = .reverse → i ≤ s ∧ ∀ (j : Nat) (e' : Text), i < j → j ≤ s → h.entries[j]? = some e' → ∀ o, ¬ OccursAt t e' o) := by
  obtain ⟨_, _, hget, htest, hf, hr⟩ := (searchMatch_iff (findSub_eq_none_iff t)).mp hs
  exact ⟨hget, (findSub_some htest).1, (findSub_some htest).2, hf, hr⟩

/-- Substring search is complete: `none` only if the text is empty, the start is out of range,
    or no entry on the requested side contains it; and it *is* `none` in the first two cases. -/
theorem C09_search_none (h : MemHist) (t : Text) (s : Nat) (d : Dir) :
    (h.search t s d = none →
      t = [] ∨ h.entries.length ≤ s ∨
      ((d = .forward → ∀ (j : Nat) (e' : Text), s ≤ j → h.entries[j]? = some e' → ∀ o, ¬ OccursAt t e' o) ∧
       (d = .reverse → ∀ (j : Nat) (e' : Text), j ≤ s → h.entries[j]? = some e' → ∀ o, ¬ OccursAt t e' o))) ∧
    (t = [] ∨ h.entries.length ≤ s → h.search t s d = none) :=
  ⟨searchMatch_none_of (findSub_eq_none_iff t), searchMatch_guard⟩

/-- Prefix search is truthful and nearest; the offset is the length of the text. -/
theorem C09_starts_with_sound (h : MemHist) (t : Text) (s : Nat) (d : Dir) (i : Nat) (e : Text) (off : Nat)
    (hs : h.startsWith t s d = some (i, e, off)) :
    h.entries[i]? = some e ∧ t <+: e ∧ off = blen t ∧
    (d = .forward → s ≤ i ∧ ∀ (j : Nat) (e' : Text), s ≤ j → j < i → h.entries[j]? = some e' → ¬ t <+: e') ∧
    (d = .reverse → i ≤ s ∧ ∀ (j : Nat) (e' : Text), i < j → j ≤ s → h.entries[j]? = some e' → ¬ t <+: e') := by
  obtain ⟨_, _, hget, htest, hf, hr⟩ := (searchMatch_iff (prefixTest_eq_none_iff t)).mp hs
  obtain ⟨hp, hoff⟩ := (prefixTest_eq_some_iff t e off).mp htest
  exact ⟨hget, hp, hoff, hf, hr⟩

/-- Prefix search is complete, as `C09_search_none` for the substring search. -/
theorem C09_starts_with_none (h : MemHist) (t : Text) (s : Nat) (d : Dir) :
    (h.startsWith t s d = none →
      t = [] ∨ h.entries.length ≤ s ∨
      ((d = .forward → ∀ (j : Nat) (e' : Text), s ≤ j → h.entries[j]? = some e' → ¬ t <+: e') ∧
       (d = .reverse → ∀ (j : Nat) (e' : Text), j ≤ s → h.entries[j]? = some e' → ¬ t <+: e'))) ∧
    (t = [] ∨ h.entries.length ≤ s → h.startsWith t s d = none) :=
  ⟨searchMatch_none_of (prefixTest_eq_none_iff t), searchMatch_guard⟩

/-- `FileHistory`'s unsaved-entries counter never exceeds the store. -/
theorem C09_new_entries_le (ws : Char → Bool) (f : FileHist) (l : Text)
    (h : f.newEntries ≤ f.mem.entries.length) :
    (f.add ws l).1.newEntries ≤ (f.add ws l).1.mem.entries.length := by
  unfold FileHist.add
  cases hm : f.mem.add ws l with
  | mk m ok =>
    cases ok
    · simpa using h
    · simp; omega

/-! Non-vacuity: concrete, non-trivial instances (kernel-evaluated). -/
example :
    let h := (MemHist.run (fun c => c == ' ') (MemHist.new 2 true true)
      [.add "a".toList, .add "a".toList, .add " x".toList, .add "bé".toList, .add "c".toList]).1
    h.entries = ["bé".toList, "c".toList] ∧ h.search "é".toList 1 .reverse = some (0, "bé".toList, 1) := by
  decide

/-! ## The history hinter (`src/hint.rs`, model `Rl/Hint.lean`, spec `Rl/Spec/Hint.lean`) -/

/-- Hinter soundness.  If `HistoryHinter::hint(line, pos, ctx)` (model `historyHint`, `idx` =
    `ctx.history_index()`) returns a hint `r`, then `line` is non-empty, the cursor is not before
    its end, and there is a stored entry `e` at an index `i` such that: `i` is at or before the
    start index (`hintStart`: `idx`, or the last entry when `idx = len`), `e` starts with `line`,
    no entry strictly between `i` and the start index (inclusive) starts with `line` (it is the
    nearest, towards older entries), `e ≠ line`, and `r` is `e` from byte `pos` on.  When the cursor
    is exactly at the end of the line (the documented use), `line ++ r` is that stored entry and
    `r ≠ []`.  No hypotheses on the history. -/
theorem C09_hinter_sound (h : MemHist) (idx : Nat) (line : Text) (pos : Nat) (r : Text)
    (hs : historyHint h idx line pos = some (some r)) :
    line ≠ [] ∧ blen line ≤ pos ∧
    ∃ i e, NearestPrefix h.entries line (hintStart h idx) i e ∧ e ≠ line ∧
      (∃ a, e = a ++ r ∧ blen a = pos) ∧
      (pos = blen line → e = line ++ r ∧ r ≠ []) := by
  rcases historyHint_cases h idx line pos with ⟨_, e0⟩ | ⟨hl, hpos, ⟨_, e0⟩ | ⟨i, e, _, hn, e0⟩⟩ <;>
    rw [e0] at hs
  · cases hs
  · cases hs
  · refine ⟨hl, hpos, i, e, hn, ?_⟩
    by_cases hne : e = line
    · rw [if_pos hne] at hs; cases hs
    · rw [if_neg hne, Option.map_eq_some_iff] at hs
      obtain ⟨⟨a, r'⟩, hsp, hr⟩ := hs
      obtain rfl : r' = r := Option.some.inj hr
      obtain ⟨h1, h2⟩ := splitAtByte_some hsp
      refine ⟨hne, ⟨a, h1, h2.symm⟩, fun hp => ?_⟩
      subst hp
      rw [splitAtByte_prefix hn.2.2.1] at hsp
      obtain ⟨rfl, rfl⟩ := Prod.mk.inj (Option.some.inj hsp)
      exact ⟨h1, fun hr0 => hne (by rw [h1, hr0, List.append_nil])⟩

/-- Hinter completeness (exact characterisation of "no hint").  The hinter answers `None` (without
    panicking) iff the line is empty, or the cursor is before the end of the line, or the start
    index is outside the store (empty history, or a context index beyond `len`), or no entry at or
    before the start index starts with `line`, or the nearest such entry *equals* `line` (then the
    code gives up and does not look further back for a longer entry). -/
theorem C09_hinter_none (h : MemHist) (idx : Nat) (line : Text) (pos : Nat) :
    historyHint h idx line pos = some none ↔
      (line = [] ∨ pos < blen line ∨ h.entries.length ≤ hintStart h idx ∨
       (∀ (j : Nat) (e' : Text), j ≤ hintStart h idx → h.entries[j]? = some e' → ¬ line <+: e') ∨
       (∃ i, NearestPrefix h.entries line (hintStart h idx) i line)) := by
  rcases historyHint_cases h idx line pos with ⟨hg, e0⟩ | ⟨hl, hpos, ⟨hsw, e0⟩ | ⟨i, e, hlt, hn, e0⟩⟩ <;>
    rw [e0]
  · exact iff_of_true rfl (hg.elim Or.inl fun hg => Or.inr (Or.inl hg))
  · refine iff_of_true rfl ?_
    rcases (C09_starts_with_none h line _ .reverse).1 hsw with h1 | h1 | ⟨_, h1⟩
    · exact Or.inl h1
    · exact Or.inr (Or.inr (Or.inl h1))
    · exact Or.inr (Or.inr (Or.inr (Or.inl (h1 rfl))))
  · by_cases he : e = line
    · subst he
      rw [if_pos rfl]
      exact iff_of_true rfl (Or.inr (Or.inr (Or.inr (Or.inr ⟨i, hn⟩))))
    · rw [if_neg he]
      refine iff_of_false (by cases splitAtByte e pos <;> simp) ?_
      rintro (h1 | h1 | h1 | h1 | ⟨i', h1⟩)
      · exact hl h1
      · exact Nat.not_lt.mpr hpos h1
      · exact Nat.not_lt.mpr h1 hlt
      · exact h1 i e hn.1 hn.2.1 hn.2.2.1
      · exact he (nearestPrefix_unique hn h1).2

/-- The hinter never panics when the cursor is inside the line (`pos ≤ len(line)`), for any
    history and any context index.  (With `pos > len(line)` the slice `entry[pos..]` can panic:
    see the counter-example below.) -/
theorem C09_hinter_no_panic (h : MemHist) (idx : Nat) (line : Text) (pos : Nat)
    (hp : pos ≤ blen line) : historyHint h idx line pos ≠ none := by
  rcases historyHint_cases h idx line pos with ⟨_, e0⟩ | ⟨_, hpos, ⟨_, e0⟩ | ⟨i, e, _, hn, e0⟩⟩ <;>
    rw [e0]
  · exact Option.some_ne_none _
  · exact Option.some_ne_none _
  · obtain rfl : pos = blen line := Nat.le_antisymm hp hpos
    split
    · exact Option.some_ne_none _
    · rw [splitAtByte_prefix hn.2.2.1]; exact Option.some_ne_none _

/-- Refinement: for a context index within the store (`idx ≤ len`) and the cursor inside the line,
    the hinter returns exactly what the declarative spec `Spec.hint` prescribes. -/
theorem C09_hinter_eq_spec (h : MemHist) (idx : Nat) (line : Text) (pos : Nat)
    (hidx : idx ≤ h.entries.length) (hp : pos ≤ blen line) :
    historyHint h idx line pos = some (Spec.hint h.entries idx line pos) := by
  rw [historyHint_unfold]
  unfold Spec.hint
  have hiff : (line = [] ∨ pos < blen line) ↔ (line = [] ∨ pos ≠ blen line) :=
    or_congr Iff.rfl ⟨Nat.ne_of_lt, Nat.lt_of_le_of_ne hp⟩
  by_cases hg : line = [] ∨ pos ≠ blen line
  · rw [if_pos (hiff.mpr hg), if_pos hg]
  · rw [if_neg (mt hiff.mp hg), if_neg hg]
    have hl : line ≠ [] := fun hh => hg (Or.inl hh)
    have hpe : pos = blen line := Classical.not_not.mp fun hh => hg (Or.inr hh)
    have hstart : min idx (h.entries.length - 1) = hintStart h idx := by
      unfold hintStart; split <;> omega
    rw [hstart, startsWith_eq_find]
    unfold Spec.find
    simp only [Bool.false_eq_true, if_false, hl, false_or]
    by_cases hlen : hintStart h idx ≥ h.entries.length
    · have h0 : h.entries.length = 0 := by
        unfold hintStart at hlen; split at hlen <;> omega
      have hnil : h.entries = [] := List.eq_nil_of_length_eq_zero h0
      simp [hnil, Spec.nearest]
    · simp only [hlen, if_false]
      cases hn : Spec.nearest (fun e => line.isPrefixOf e) h.entries (hintStart h idx) .reverse with
      | none => rfl
      | some i =>
        obtain ⟨e, hget, hp0, _⟩ := nearest_eq_some_iff.mp hn
        simp only [hget]
        by_cases he : e = line
        · simp only [he, if_true]
        · simp only [he, if_false, hpe, splitAtByte_prefix (List.isPrefixOf_iff_prefix.mp hp0)]

/-- Through the public API (`Context::new`, index = `len`) the hint, when the cursor is at the end
    of a non-empty line, completes the line to the newest stored entry that starts with it. -/
theorem C09_hinter_new_sound (h : MemHist) (line r : Text)
    (hs : historyHintNew h line (blen line) = some (some r)) :
    r ≠ [] ∧ ∃ i, i < h.entries.length ∧ h.entries[i]? = some (line ++ r) ∧
      ∀ (j : Nat) (e' : Text), i < j → h.entries[j]? = some e' → ¬ line <+: e' := by
  obtain ⟨_, _, i, e, hn, _, _, hp⟩ := C09_hinter_sound h _ line _ r hs
  obtain ⟨he, hr⟩ := hp rfl
  subst he
  obtain ⟨h1, h2, _, h4⟩ := hn
  refine ⟨hr, i, (List.getElem?_eq_some_iff.mp h2).1, h2, ?_⟩
  intro j e' hij hj
  have hjl : j < h.entries.length := (List.getElem?_eq_some_iff.mp hj).1
  apply h4 j e' hij _ hj
  simp only [hintStart, if_true]; omega

/-- a hint is produced: history `ab`, `aéb`, `b`; line `a` -> `éb` (the newer of the two matches) -/
example :
    historyHintNew ((MemHist.new 10 false false).addAll (fun c => c == ' ')
      ["ab".toList, "aéb".toList, "b".toList]) "a".toList 1 = some (some "éb".toList) := by decide

/-- Surprising but faithful to the code: when the newest entry starting with the line IS the line,
    there is no hint, although an older entry (`abc`) would complete it. -/
theorem C09_hinter_stops_at_equal_entry :
    historyHintNew ((MemHist.new 10 false false).addAll (fun c => c == ' ')
      ["abc".toList, "ab".toList]) "ab".toList 2 = some none := by decide

/-- `pos ≤ len(line)` is needed for `C09_hinter_no_panic`: with the cursor past the end of the line
    the slice panics (entry `ab`, line `a`, pos 3) — also when `pos` falls inside a character
    (entry `aé`, pos 2) — and at `pos = 2` an EMPTY hint `Some("")` is returned. -/
theorem C09_hinter_panics_past_end :
    historyHintNew ((MemHist.new 10 false false).addAll (fun c => c == ' ') ["ab".toList]) "a".toList 3 = none ∧
    historyHintNew ((MemHist.new 10 false false).addAll (fun c => c == ' ') ["aé".toList]) "a".toList 2 = none ∧
    historyHintNew ((MemHist.new 10 false false).addAll (fun c => c == ' ') ["ab".toList]) "a".toList 2 = some (some []) := by
  decide

/-- One `add` on the model is the declarative `add` step on the abstract state. -/
theorem C09_add_abs (ws : Char → Bool) (h : MemHist) (hi : h.entries.length ≤ h.maxLen) (l : Text) :
    (Spec.step ws (C09_abs h) (.add l)).1 = C09_abs (h.add ws l).1 := by
  rw [C09_step_abs ws h hi (.add l)]; rfl

/-- The history the harness builds (`add` for every entry of the request, in order) has, on the
    model, the entries the declarative store spec prescribes, and keeps the size bound. -/
theorem C09_addAll_abs (ws : Char → Bool) (h : MemHist) (hi : h.entries.length ≤ h.maxLen) (ls : List Text) :
    C09_abs (h.addAll ws ls) = Spec.addAll ws (C09_abs h) ls ∧
      (h.addAll ws ls).entries.length ≤ (h.addAll ws ls).maxLen := by
  induction ls generalizing h with
  | nil => exact ⟨rfl, hi⟩
  | cons l ls ih =>
    have hi' : (h.add ws l).1.entries.length ≤ (h.add ws l).1.maxLen := step_inv ws hi (.add l)
    simp only [MemHist.addAll, Spec.addAll]
    rw [C09_add_abs ws h hi l]
    exact ih _ hi'

/-- End-to-end statement of what the `hint` correspondence target compares: a fresh history filled
    with `add`, `Context::new`, cursor inside the line — the hinter model returns what the
    declarative hint spec prescribes over the declarative store. -/
theorem C09_hinter_pipeline (ws : Char → Bool) (m : Nat) (isp idp : Bool) (es : List Text)
    (line : Text) (pos : Nat) (hp : pos ≤ blen line) :
    historyHintNew ((MemHist.new m isp idp).addAll ws es) line pos =
      some (Spec.hint (Spec.addAll ws { max := m, ignoreSpace := isp, ignoreDups := idp } es).entries
        (Spec.addAll ws { max := m, ignoreSpace := isp, ignoreDups := idp } es).entries.length line pos) := by
  obtain ⟨ha, _⟩ := C09_addAll_abs ws (MemHist.new m isp idp) (Nat.zero_le m) es
  have he : (Spec.addAll ws { max := m, ignoreSpace := isp, ignoreDups := idp } es).entries
      = ((MemHist.new m isp idp).addAll ws es).entries := by
    have : C09_abs (MemHist.new m isp idp) = { max := m, ignoreSpace := isp, ignoreDups := idp } := rfl
    rw [← this, ← ha]; rfl
  rw [he]
  exact C09_hinter_eq_spec _ _ line pos (Nat.le_refl _) hp

/-- The log of accepted lines of an operation sequence run on the model from `h`: the lines for
    which `add` / `add_owned` answered `true` since the last `clear`, oldest first, appended to
    `acc` (`Rl.accLog`; which lines are answered `true` is exactly characterised by `C09_add_iff`,
    with the Unicode white-space predicate `ws` applied to the first CHARACTER of the line). -/
def C09_accepted (ws : Char → Bool) (h : MemHist) (acc : List Text) (ops : List HOp) : List Text :=
  accLog ws h acc ops

/-- For EVERY operation sequence (add, add_owned, set_max_len raised or lowered, ignore_dups,
    ignore_space, clear, queries) from ANY store `h`, the final entries are a contiguous newest
    block (a list suffix) of "the entries of `h` followed by the lines accepted since, restarting at
    `clear`": nothing refused is ever stored, nothing is reordered or duplicated, and an older
    line is never kept while a newer accepted one is dropped.  No hypotheses. -/
theorem C09_entries_suffix_of_accepted (ws : Char → Bool) (h : MemHist) (ops : List HOp) :
    (MemHist.run ws h ops).1.entries <:+ C09_accepted ws h h.entries ops :=
  run_suffix ws (List.suffix_refl _) ops

/-- The same from a fresh history: the store is always a newest block of the accepted lines. -/
theorem C09_fresh_entries_suffix_of_accepted (ws : Char → Bool) (m : Nat) (isp idp : Bool)
    (ops : List HOp) :
    (MemHist.run ws (MemHist.new m isp idp) ops).1.entries
      <:+ C09_accepted ws (MemHist.new m isp idp) [] ops :=
  run_suffix ws (List.suffix_refl _) ops

/-- Exact content.  From any store within its bound, for every operation sequence in which no
    `set_max_len` RAISES the limit above its current value (lowering, flag changes, `clear`, adds
    and queries are unrestricted), the final entries are exactly the newest `max_len` (final limit)
    lines of "old entries followed by the accepted lines, restarting at `clear`", oldest first.
    In particular lowering the limit in the middle of a sequence drops exactly the oldest lines. -/
theorem C09_entries_eq_window (ws : Char → Bool) (h : MemHist) (hi : h.entries.length ≤ h.maxLen)
    (ops : List HOp) (hnr : nonRaising h.maxLen ops) :
    (MemHist.run ws h ops).1.entries
      = Spec.takeLast (MemHist.run ws h ops).1.maxLen (C09_accepted ws h h.entries ops) := by
  exact run_win ws (takeLast_eq_self hi).symm ops hnr

/-- From a fresh history (limit `m`), with the limit never raised: the store is exactly the newest
    `max_len` accepted lines since the last `clear`. -/
theorem C09_fresh_entries_eq_window (ws : Char → Bool) (m : Nat) (isp idp : Bool)
    (ops : List HOp) (hnr : nonRaising m ops) :
    (MemHist.run ws (MemHist.new m isp idp) ops).1.entries
      = Spec.takeLast (MemHist.run ws (MemHist.new m isp idp) ops).1.maxLen
          (C09_accepted ws (MemHist.new m isp idp) [] ops) :=
  C09_entries_eq_window ws (MemHist.new m isp idp) (Nat.zero_le m) ops hnr

/-- non-vacuity of `C09_entries_eq_window`: limit 3 lowered to 2, a duplicate and a blank-first
    line refused, a multi-byte line accepted. -/
example :
    nonRaising 3 [.add "a".toList, .add "a".toList, .add "\u3000x".toList, .setMax 2, .add "bé".toList, .addOwned "c".toList] ∧
    C09_accepted (fun c => c == '\u3000') (MemHist.new 3 true true) []
      [.add "a".toList, .add "a".toList, .add "\u3000x".toList, .setMax 2, .add "bé".toList, .addOwned "c".toList]
      = ["a".toList, "bé".toList, "c".toList] := by
  refine ⟨by simp [nonRaising], by decide⟩

/-- The "never raised" hypothesis of `C09_entries_eq_window` is necessary (and this is the intended
    behaviour, not a defect): lines dropped by lowering the limit do not come back when it is raised
    again, so after lower-then-raise the store is a newest block of the accepted lines
    (`C09_entries_suffix_of_accepted`) that is SHORTER than the limit allows. -/
theorem C09_raise_does_not_restore :
    let ops : List HOp := [.add "a".toList, .add "b".toList, .setMax 1, .setMax 5, .add "c".toList]
    (MemHist.run (fun c => c == ' ') (MemHist.new 5 false false) ops).1.entries = ["b".toList, "c".toList] ∧
    C09_accepted (fun c => c == ' ') (MemHist.new 5 false false) [] ops = ["a".toList, "b".toList, "c".toList] := by
  decide

/-- `set_max_len n` on ANY store (no hypothesis): the limit becomes `n`, the flags are unchanged,
    the entries become exactly the newest `n` old entries (the oldest `len - n` are dropped, nothing
    else), the new length is `min len n`, and the new i-th entry is the old `(i + (len - n))`-th. -/
theorem C09_set_max_len (h : MemHist) (n : Nat) :
    (h.setMaxLen n).maxLen = n ∧ (h.setMaxLen n).ignoreSpace = h.ignoreSpace ∧
    (h.setMaxLen n).ignoreDups = h.ignoreDups ∧
    (h.setMaxLen n).entries = h.entries.drop (h.entries.length - n) ∧
    (h.setMaxLen n).entries.length = min h.entries.length n ∧
    ∀ i, (h.setMaxLen n).get i = h.get (i + (h.entries.length - n)) := by
  have he : (h.setMaxLen n).entries = h.entries.drop (h.entries.length - n) := setMaxLen_entries h n
  obtain ⟨hm, hs, hd⟩ := setMaxLen_cfg h n
  refine ⟨hm, hs, hd, he, ?_, ?_⟩
  · rw [he, List.length_drop]; omega
  · intro i
    simp only [MemHist.get, he, List.getElem?_drop]
    congr 1; omega

/-- Substring search finds what is there: if the text is non-empty, the start index is in range
    and SOME entry on the requested side of `start` (inclusive) contains the text, the search
    answers a hit whose index lies between `start` and that entry (so it is never missed and never
    farther away). -/
theorem C09_search_finds (h : MemHist) (t : Text) (s : Nat) (d : Dir) (j : Nat) (e' : Text) (o : Nat)
    (ht : t ≠ []) (hs : s < h.entries.length) (hj : h.entries[j]? = some e') (ho : OccursAt t e' o)
    (hside : (d = .forward → s ≤ j) ∧ (d = .reverse → j ≤ s)) :
    ∃ i e off, h.search t s d = some (i, e, off) ∧
      (d = .forward → s ≤ i ∧ i ≤ j) ∧ (d = .reverse → j ≤ i ∧ i ≤ s) :=
  searchMatch_finds ht hs hj (fun hn => findSub_none hn o ho) hside

/-- Prefix search finds what is there (same as `C09_search_finds` for `starts_with`). -/
theorem C09_starts_with_finds (h : MemHist) (t : Text) (s : Nat) (d : Dir) (j : Nat) (e' : Text)
    (ht : t ≠ []) (hs : s < h.entries.length) (hj : h.entries[j]? = some e') (hp : t <+: e')
    (hside : (d = .forward → s ≤ j) ∧ (d = .reverse → j ≤ s)) :
    ∃ i e, h.startsWith t s d = some (i, e, blen t) ∧
      (d = .forward → s ≤ i ∧ i ≤ j) ∧ (d = .reverse → j ≤ i ∧ i ≤ s) := by
  obtain ⟨i, e, c, hres, hb⟩ : ∃ i e c, h.startsWith t s d = some (i, e, c) ∧ _ :=
    searchMatch_finds ht hs hj (fun hn => (prefixTest_eq_none_iff t e').mp hn hp) hside
  obtain rfl := (C09_starts_with_sound h t s d i e c hres).2.2.1
  exact ⟨i, e, hres, hb⟩

/-- non-vacuity of the two `finds` theorems: a two-byte term found at byte offset 1, reverse,
    nearest of two candidates. -/
example :
    let h := (MemHist.run (fun c => c == ' ') (MemHist.new 5 false false)
      [.add "aéb".toList, .add "zéb".toList, .add "q".toList]).1
    h.search "é".toList 2 .reverse = some (1, "zéb".toList, 1) ∧
    h.startsWith "zé".toList 0 .forward = some (1, "zéb".toList, 3) := by
  decide

/-- One public mutating operation on `FileHistory` (model `FileHist`: `add`/`add_owned`,
    `set_max_len`, `clear` are the model's own functions; `ignore_dups` / `ignore_space` delegate to
    the inner `MemHistory` as in `src/history.rs`; queries do not change the state). -/
def C09_fileStep (ws : Char → Bool) (f : FileHist) : HOp → FileHist
  | .add l | .addOwned l => (f.add ws l).1
  | .setMax n => f.setMaxLen n
  | .dups b => { f with mem := f.mem.setIgnoreDups b }
  | .space b => { f with mem := f.mem.setIgnoreSpace b }
  | .clear => f.clear
  | _ => f

/-- `FileHistory` run of an operation sequence. -/
def C09_fileRun (ws : Char → Bool) (f : FileHist) : List HOp → FileHist
  | [] => f
  | op :: ops => C09_fileRun ws (C09_fileStep ws f op) ops

/-- For every operation sequence, the in-memory part of the file history is exactly the
    `MemHistory` obtained by the same sequence (so every C09 theorem about the store — bound,
    content, acceptance — holds for `FileHistory` too), and the unsaved-entries counter never
    exceeds the number of stored entries if it did not at the start.  (Lifts the single-step
    `C09_new_entries_le` to arbitrary sequences including `set_max_len` and `clear`.) -/
theorem C09_file_run (ws : Char → Bool) (f : FileHist) (ops : List HOp)
    (h0 : f.newEntries ≤ f.mem.entries.length) :
    (C09_fileRun ws f ops).mem = (MemHist.run ws f.mem ops).1 ∧
    (C09_fileRun ws f ops).newEntries ≤ (C09_fileRun ws f ops).mem.entries.length := by
  induction ops generalizing f with
  | nil => exact ⟨rfl, h0⟩
  | cons op ops ih =>
    have hstep : (C09_fileStep ws f op).mem = (f.mem.step ws op).1 ∧
        (C09_fileStep ws f op).newEntries ≤ (C09_fileStep ws f op).mem.entries.length := by
      cases op with
      | add l | addOwned l => exact ⟨(FileHist.add_mem ws f l).1, C09_new_entries_le ws f l h0⟩
      | setMax n =>
        refine ⟨rfl, ?_⟩
        simp only [C09_fileStep, FileHist.setMaxLen]
        have := (C09_set_max_len f.mem n).2.2.2.2.1
        rw [this]; omega
      | clear => exact ⟨rfl, Nat.le_refl 0⟩
      | _ => exact ⟨rfl, h0⟩
    obtain ⟨ih1, ih2⟩ := ih (C09_fileStep ws f op) hstep.2
    simp only [C09_fileRun, MemHist.run]
    exact ⟨by rw [ih1, hstep.1], ih2⟩

/-- non-vacuity of `C09_file_run`: a fresh file history satisfies the hypothesis, and after a
    sequence with eviction and a lowered limit the counter is capped by the store. -/
example :
    (FileHist.new 3 false true).newEntries ≤ (FileHist.new 3 false true).mem.entries.length ∧
    (C09_fileRun (fun c => c == ' ') (FileHist.new 3 false true)
      [.add "a".toList, .add "a".toList, .add "b".toList, .add "c".toList, .add "d".toList, .setMax 2]).newEntries = 2 := by
  decide

/-- The model's `ignore` test is the declarative refusal rule of the spec (empty line, limit zero,
    first CHARACTER is white space — the Unicode predicate `ws`, not a byte test — while
    ignore-space is on, equal to the newest entry while ignore-duplicates is on), on every store. -/
theorem C09_ignore_eq_refused (ws : Char → Bool) (h : MemHist) (l : Text) :
    h.ignore ws l = Spec.refused ws (C09_abs h) l :=
  (refused_eq_ignore ws h l).symm

/-- What the log of accepted lines (used by `C09_entries_suffix_of_accepted` /
    `C09_entries_eq_window`) records, in declarative terms: an `add` appends its line to the log
    iff the spec's refusal rule does not hold at the store reached so far; `clear` empties the log;
    nothing else touches it. -/
theorem C09_accepted_unfold (ws : Char → Bool) (h : MemHist) (acc : List Text) (ops : List HOp) :
    (∀ l, C09_accepted ws h acc (.add l :: ops)
        = C09_accepted ws (h.add ws l).1 (if Spec.refused ws (C09_abs h) l then acc else acc ++ [l]) ops) ∧
    (∀ l, C09_accepted ws h acc (.addOwned l :: ops)
        = C09_accepted ws (h.add ws l).1 (if Spec.refused ws (C09_abs h) l then acc else acc ++ [l]) ops) ∧
    C09_accepted ws h acc (.clear :: ops) = C09_accepted ws h.clear [] ops ∧
    (∀ n, C09_accepted ws h acc (.setMax n :: ops) = C09_accepted ws (h.setMaxLen n) acc ops) ∧
    (∀ b, C09_accepted ws h acc (.dups b :: ops) = C09_accepted ws (h.setIgnoreDups b) acc ops) ∧
    (∀ b, C09_accepted ws h acc (.space b :: ops) = C09_accepted ws (h.setIgnoreSpace b) acc ops) := by
  have hadd : ∀ l, (h.add ws l).2 = !(Spec.refused ws (C09_abs h) l) := fun l => by
    rw [← C09_ignore_eq_refused, add_snd]
  refine ⟨?_, ?_, rfl, fun _ => rfl, fun _ => rfl, fun _ => rfl⟩
  · intro l
    simp only [C09_accepted, accLog, MemHist.step, hadd l]
    cases Spec.refused ws (C09_abs h) l <;> rfl
  · intro l
    simp only [C09_accepted, accLog, MemHist.step, hadd l]
    cases Spec.refused ws (C09_abs h) l <;> rfl

/-- State refinement for arbitrary operation sequences: running the declarative spec from the
    abstraction of a store within its bound ends in the abstraction of the model's final store
    (entries, limit and both flags), not only with equal observations (`C09_run_eq_spec`). -/
theorem C09_run_abs (ws : Char → Bool) (h : MemHist) (hi : h.entries.length ≤ h.maxLen)
    (ops : List HOp) :
    (Spec.run ws (C09_abs h) ops).1 = C09_abs (MemHist.run ws h ops).1 := by
  rw [C09_run_spec ws h hi ops]

/-- The size bound holds after any operation sequence from ANY store within its bound (not only
    from a fresh one, cf. `C09_len_le_max`), e.g. a store filled by `load`. -/
theorem C09_len_le_max_from (ws : Char → Bool) (h : MemHist) (hi : h.entries.length ≤ h.maxLen)
    (ops : List HOp) :
    (MemHist.run ws h ops).1.entries.length ≤ (MemHist.run ws h ops).1.maxLen :=
  run_inv ws hi ops

/-- Exact characterisation of a substring-search answer (soundness and completeness in one
    statement): `search` answers `(i, e, off)` IF AND ONLY IF the text is non-empty, the start is in
    range, `e` is the `i`-th oldest entry, `off` is the byte offset of the FIRST occurrence of the
    text in `e` (byte offsets, so multi-byte characters before the match count with their UTF-8
    length), `i` is on the requested side of `start` (inclusive) and no entry strictly nearer to
    `start` in that direction contains the text.  No hypotheses on the store. -/
theorem C09_search_iff (h : MemHist) (t : Text) (s : Nat) (d : Dir) (i : Nat) (e : Text) (off : Nat) :
    h.search t s d = some (i, e, off) ↔
      (t ≠ [] ∧ s < h.entries.length ∧ h.entries[i]? = some e ∧ OccursAt t e off ∧
       (∀ o, OccursAt t e o → off ≤ o) ∧
       (d = .forward → s ≤ i ∧ ∀ (j : Nat) (e' : Text), s ≤ j → j < i → h.entries[j]? = some e' → ∀ o, ¬ OccursAt t e' o) ∧
       (d = .reverse → i ≤ s ∧ ∀ (j : Nat) (e' : Text), i < j → j ≤ s → h.entries[j]? = some e' → ∀ o, ¬ OccursAt t e' o)) := by
  rw [MemHist.search, searchMatch_iff (findSub_eq_none_iff t), findSub_eq_some_iff, and_assoc]

/-- Exact characterisation of a prefix-search answer: `starts_with` answers `(i, e, off)` IF AND
    ONLY IF the text is non-empty, the start is in range, `e` is the `i`-th oldest entry and starts
    with the text, `off` is the BYTE length of the text, `i` is on the requested side of `start`
    (inclusive) and no entry strictly nearer to `start` in that direction starts with the text. -/
theorem C09_starts_with_iff (h : MemHist) (t : Text) (s : Nat) (d : Dir) (i : Nat) (e : Text) (off : Nat) :
    h.startsWith t s d = some (i, e, off) ↔
      (t ≠ [] ∧ s < h.entries.length ∧ h.entries[i]? = some e ∧ t <+: e ∧ off = blen t ∧
       (d = .forward → s ≤ i ∧ ∀ (j : Nat) (e' : Text), s ≤ j → j < i → h.entries[j]? = some e' → ¬ t <+: e') ∧
       (d = .reverse → i ≤ s ∧ ∀ (j : Nat) (e' : Text), i < j → j ≤ s → h.entries[j]? = some e' → ¬ t <+: e')) := by
  rw [MemHist.startsWith, searchMatch_iff (prefixTest_eq_none_iff t), prefixTest_eq_some_iff, and_assoc]

/-- non-vacuity of the hypothesis `h.entries.length ≤ h.maxLen` used by `C09_run_abs`,
    `C09_len_le_max_from`, `C09_entries_eq_window`: a non-fresh store within its bound. -/
example :
    let h : MemHist := { entries := ["x".toList, "é".toList], maxLen := 2, ignoreSpace := true, ignoreDups := false }
    h.entries.length ≤ h.maxLen ∧
    (MemHist.run (fun c => c == ' ') h [.add "y".toList, .setMax 1]).1.entries = ["y".toList] := by
  decide
