/-
  Property C10 — saving and loading the history file reproduces every entry byte for byte.
  Model: Rl/HistFile.lean (transliteration of `save_to` / `load_from` / `save` / `append` / `load`
  of src/history.rs; D11: carriage returns are escaped).
  Spec (oracle on the implementation): Rl/Spec/HistFile.lean.  Lemmas: Rl/Lemmas/HistFile.lean.

  `Storable ws max isp idp es` (Rl/Lemmas/HistFile.lean) is "what a history with these settings
  can hold": at most `max` entries, none empty, none starting with a blank if ignore-space, no
  two equal neighbours if ignore-dups.  There is no restriction on the characters.
-/
import Rl.HistFile
import Rl.Lemmas.HistFile
open Rl

/-- The escaping is injective, and an escaped entry contains neither a line feed nor a carriage
    return (so the line reader can neither split it nor strip its end). -/
theorem C10_esc_inj :
    (∀ a b : Text, escEntry a = escEntry b → a = b) ∧
    (∀ e : Text, '\n' ∉ escEntry e ∧ '\r' ∉ escEntry e) ∧
    (∀ e : Text, escEntry e = [] ↔ e = []) := by
  refine ⟨?_, fun e => ⟨esc_not_mem (.inl rfl) e, esc_not_mem (.inr rfl) e⟩, fun e => esc_eq_nil⟩
  intro a b h
  have ha := unescChars_esc a
  rw [h, unescChars_esc b] at ha
  exact (Option.some.inj ha).symm

/-- Round trip: the file `save` writes for a storable entry list, loaded into a fresh history
    with the same settings, gives exactly these entries, in order, with status ok, and the
    file is recognised as appendable.  Any characters: line feeds, carriage returns, backslashes,
    `\n` look-alikes, `#V2`, blanks, any Unicode. -/
theorem C10_roundtrip (ws : Char → Bool) (max : Nat) (isp idp : Bool) (es : List Text)
    (hs : Storable ws max isp idp es) :
    (loadFrom ws (atomsOf (fileOf es)) (FileHist.new max isp idp)).status = .ok ∧
    (loadFrom ws (atomsOf (fileOf es)) (FileHist.new max isp idp)).h.mem.entries = es ∧
    (loadFrom ws (atomsOf (fileOf es)) (FileHist.new max isp idp)).appendable = true ∧
    (loadFrom ws (atomsOf (fileOf es)) (FileHist.new max isp idp)).h.newEntries = 0 := by
  have hA := addAll_storable ws es [] (FileHist.new max isp idp) rfl hs
  rw [loadFrom_fileOf_ok ws es hs.nonempty]
  exact ⟨rfl, hA.1, hA.2.1, rfl⟩

/-- The hypothesis of the round trip is exactly "a history with these settings": whatever lines
    are added, in whatever order, to a fresh history, its entries are storable. -/
theorem C10_storable_reachable (ws : Char → Bool) (max : Nat) (isp idp : Bool) (ls : List Text) :
    Storable ws max isp idp (addAll ws (FileHist.new max isp idp) ls).mem.entries :=
  storable_addAll ws (FileHist.new max isp idp) (Storable.nil ws max isp idp) ls

/-- Round trip for every reachable history: add any lines to a fresh history, save, load into a
    fresh history with the same settings — the same entries come back. -/
theorem C10_roundtrip_reachable (ws : Char → Bool) (max : Nat) (isp idp : Bool) (ls : List Text) :
    (loadFrom ws (atomsOf (fileOf (addAll ws (FileHist.new max isp idp) ls).mem.entries))
        (FileHist.new max isp idp)).h.mem.entries
      = (addAll ws (FileHist.new max isp idp) ls).mem.entries :=
  (C10_roundtrip ws max isp idp _ (C10_storable_reachable ws max isp idp ls)).2.1

/-- `save` (when there is something new) replaces the file by the header followed by one escaped
    line per entry of the history, oldest first. -/
theorem C10_save_writes (w : World) (hne : w.sess.fh.mem.entries ≠ []) (hn0 : w.sess.fh.newEntries ≠ 0) :
    w.save.2 = .ok ∧ w.save.1.file = some (atomsOf (fileOf w.sess.fh.mem.entries)) ∧
    w.save.1.sess.fh.mem = w.sess.fh.mem := by
  unfold World.save
  simp [hne, hn0]

/-- Appending to a missing file is a save. -/
theorem C10_append_new (ws : Char → Bool) (w : World) (h : w.file = none) :
    w.append ws = w.save := by
  unfold World.append World.save
  simp only [h]
  split <;> rfl

/-- The fast path of `append` adds exactly the lines of the new entries to the file. -/
theorem C10_append_fast (ws : Char → Bool) (w : World) (f : List Atom) (hf : w.file = some f)
    (hne : w.sess.fh.mem.entries ≠ []) (hn0 : w.sess.fh.newEntries ≠ 0)
    (hnm : w.sess.fh.newEntries ≠ w.sess.fh.mem.maxLen) (hc : w.canJustAppend = true) :
    (w.append ws).2 = .ok ∧
    (w.append ws).1.file = some (f ++ atomsOf (linesOf (newOnes w.sess.fh))) ∧
    (w.append ws).1.sess.fh.mem = w.sess.fh.mem := by
  unfold World.append
  simp [hf, hne, hn0, hnm, hc]

/-- Append after save = save of the concatenation, on the file BYTES, for any number of append
    batches: the file `save` writes for `es`, extended by the lines `append` writes for the batches
    `bs` one after the other, is byte for byte the file `save` writes for `es ++ bs.flatten`.  No
    hypothesis on the entries. -/
theorem C10_append_chain_bytes (es : List Text) (bs : List (List Text)) :
    appendedFile es bs = atomsOf (fileOf (es ++ bs.flatten)) :=
  appendedFile_eq es bs

/-- … and therefore such a file loads as the saved entries followed by all appended ones, in
    order, byte for byte (within the limit: the combined list is storable). -/
theorem C10_append_chain_loads (ws : Char → Bool) (max : Nat) (isp idp : Bool) (es : List Text)
    (bs : List (List Text)) (hs : Storable ws max isp idp (es ++ bs.flatten)) :
    (loadFrom ws (appendedFile es bs) (FileHist.new max isp idp)).status = .ok ∧
    (loadFrom ws (appendedFile es bs) (FileHist.new max isp idp)).h.mem.entries = es ++ bs.flatten := by
  rw [appendedFile_eq]
  exact ⟨(C10_roundtrip ws max isp idp _ hs).1, (C10_roundtrip ws max isp idp _ hs).2.1⟩

/-- Append to an existing file: the old lines followed by the lines of the new entries load as
    the old entries followed by the new ones (within the limit: the combined list is storable). -/
theorem C10_append_old (ws : Char → Bool) (max : Nat) (isp idp : Bool) (es₁ es₂ : List Text)
    (hs : Storable ws max isp idp (es₁ ++ es₂)) :
    (loadFrom ws (atomsOf (fileOf es₁) ++ atomsOf (linesOf es₂)) (FileHist.new max isp idp)).status = .ok ∧
    (loadFrom ws (atomsOf (fileOf es₁) ++ atomsOf (linesOf es₂)) (FileHist.new max isp idp)).h.mem.entries
      = es₁ ++ es₂ := by
  have := C10_append_chain_loads ws max isp idp es₁ [es₂] (by simpa using hs)
  simpa [appendedFile] using this

/-- The rewrite path of `append` (no usable `path_info`, or the limit would be exceeded): the file
    is re-read, the new entries are added and everything is written again; for a file this
    library wrote and a combined list within the settings, the result is the file of the old
    entries followed by the new ones. -/
theorem C10_append_rewrite (ws : Char → Bool) (w : World) (es₁ : List Text)
    (hf : w.file = some (atomsOf (fileOf es₁)))
    (hne : w.sess.fh.mem.entries ≠ []) (hn0 : w.sess.fh.newEntries ≠ 0)
    (hnm : w.sess.fh.newEntries ≠ w.sess.fh.mem.maxLen) (hc : w.canJustAppend = false)
    (hs : Storable ws w.sess.fh.mem.maxLen w.sess.fh.mem.ignoreSpace w.sess.fh.mem.ignoreDups
            (es₁ ++ newOnes w.sess.fh)) :
    (w.append ws).2 = .ok ∧
    (w.append ws).1.file = some (atomsOf (fileOf (es₁ ++ newOnes w.sess.fh))) ∧
    (w.append ws).1.sess.fh.mem = w.sess.fh.mem := by
  have hs1 : Storable ws w.sess.fh.mem.maxLen w.sess.fh.mem.ignoreSpace w.sess.fh.mem.ignoreDups es₁ := by
    have := hs.take es₁.length
    simpa using this
  have hA := addAll_storable ws es₁ [] (freshHist w.sess.fh) rfl hs1
  have hload := loadFrom_fileOf_ok ws es₁ hs1.nonempty (freshHist w.sess.fh)
  obtain ⟨hAe, _, hAmax, hAsp, hAd⟩ := hA
  simp only [List.nil_append] at hAe
  have hB := addAll_storable ws (newOnes w.sess.fh) es₁
    { addAll ws (freshHist w.sess.fh) es₁ with newEntries := 0 } hAe
    (by simp only; rw [hAmax, hAsp, hAd]; exact hs)
  unfold World.append
  simp only [hf, hload]
  simp [hne, hn0, hnm, hc, hB.1]

/-- Whichever path `append` takes, the file it leaves loads — into a fresh history with the same
    settings — as the old entries followed by the new ones, in order, byte for byte. -/
theorem C10_append_loads (ws : Char → Bool) (w : World) (es₁ : List Text)
    (hf : w.file = some (atomsOf (fileOf es₁)))
    (hne : w.sess.fh.mem.entries ≠ []) (hn0 : w.sess.fh.newEntries ≠ 0)
    (hnm : w.sess.fh.newEntries ≠ w.sess.fh.mem.maxLen)
    (hs : Storable ws w.sess.fh.mem.maxLen w.sess.fh.mem.ignoreSpace w.sess.fh.mem.ignoreDups
            (es₁ ++ newOnes w.sess.fh)) :
    ∃ f, (w.append ws).1.file = some f ∧ (w.append ws).2 = .ok ∧
      (loadFrom ws f (FileHist.new w.sess.fh.mem.maxLen w.sess.fh.mem.ignoreSpace
        w.sess.fh.mem.ignoreDups)).status = .ok ∧
      (loadFrom ws f (FileHist.new w.sess.fh.mem.maxLen w.sess.fh.mem.ignoreSpace
        w.sess.fh.mem.ignoreDups)).h.mem.entries = es₁ ++ newOnes w.sess.fh := by
  cases hc : w.canJustAppend
  · obtain ⟨h1, h2, _⟩ := C10_append_rewrite ws w es₁ hf hne hn0 hnm hc hs
    have := C10_roundtrip ws _ _ _ _ hs
    exact ⟨_, h2, h1, this.1, this.2.1⟩
  · obtain ⟨h1, h2, _⟩ := C10_append_fast ws w _ hf hne hn0 hnm hc
    have := C10_append_old ws _ _ _ es₁ (newOnes w.sess.fh) hs
    exact ⟨_, h2, h1, this.1, this.2⟩

/-- one save/load cycle: the entries a fresh history reads from the file written for `es` -/
def C10_cycle (ws : Char → Bool) (max : Nat) (isp idp : Bool) (es : List Text) : List Text :=
  (loadFrom ws (atomsOf (fileOf es)) (FileHist.new max isp idp)).h.mem.entries

/-- Any number of save/load cycles is the identity on storable entry lists (and so on the file). -/
theorem C10_cycles (ws : Char → Bool) (max : Nat) (isp idp : Bool) (es : List Text)
    (hs : Storable ws max isp idp es) (k : Nat) :
    Nat.repeat (C10_cycle ws max isp idp) k es = es ∧
    fileOf (Nat.repeat (C10_cycle ws max isp idp) k es) = fileOf es := by
  have h1 : C10_cycle ws max isp idp es = es := (C10_roundtrip ws max isp idp es hs).2.1
  have : Nat.repeat (C10_cycle ws max isp idp) k es = es := by
    induction k with
    | zero => rfl
    | succ k ih => rw [Nat.repeat, ih, h1]
  rw [this]; exact ⟨rfl, rfl⟩

/-- A legacy (header-less) file: every line is handed to `add` verbatim — no unescaping, nothing
    stripped — so every non-empty line is loaded as it is (empty lines are refused by `add`).
    Lines are any texts without line feed that do not end in a carriage return (which would be
    part of a CRLF line ending); the first one is not the version header. -/
theorem C10_legacy (ws : Char → Bool) (ls : List Text) (h : FileHist)
    (hnl : ∀ l ∈ ls, '\n' ∉ l) (hcr : ∀ l ∈ ls, l.getLast? ≠ some '\r')
    (hhd : ls.head? ≠ some header) :
    (loadFrom ws (atomsOf (legacyText ls)) h).status = .ok ∧
    (loadFrom ws (atomsOf (legacyText ls)) h).h.mem = (addAll ws h ls).mem ∧
    (loadFrom ws (atomsOf (legacyText ls)) h).appendable = false := by
  cases ls with
  | nil => simp [legacyText, atomsOf, loadFrom, splitLines, addAll]
  | cons l ls =>
    have := loadFrom_legacy ws l ls hnl hcr (by simpa using hhd) [] h
    rw [List.append_nil] at this
    rw [this]
    exact ⟨rfl, rfl, rfl⟩

/-- The same when the last line has no line feed (a file not ending in a line break): that line
    is taken verbatim too — even a trailing carriage return stays, since it is only removed
    together with a line feed. -/
theorem C10_legacy_unterminated (ws : Char → Bool) (ls : List Text) (last : Text) (h : FileHist)
    (hnl : ∀ l ∈ ls, '\n' ∉ l) (hcr : ∀ l ∈ ls, l.getLast? ≠ some '\r')
    (hlast : last ≠ []) (hlnl : '\n' ∉ last)
    (hhd : (ls ++ [last]).head? ≠ some header) :
    (loadFrom ws (atomsOf (legacyText ls) ++ atomsOf last) h).status = .ok ∧
    (loadFrom ws (atomsOf (legacyText ls) ++ atomsOf last) h).h.mem = (addAll ws h (ls ++ [last])).mem := by
  have hsl : splitLines (atomsOf last) = [(atomsOf last, false)] :=
    splitLines_last _ (by rw [mem_atomsOf]; exact hlnl) (by simp [atomsOf, hlast])
  have hemp : last.isEmpty = false := by simp [hlast]
  cases ls with
  | nil =>
    have hl : last ≠ header := by simpa using hhd
    simp [show atomsOf (legacyText []) = [] from rfl, loadFrom, hsl, decodeLine, lineText_atomsOf, hl, loadLines, addAll]
  | cons l ls =>
    rw [loadFrom_legacy ws l ls hnl hcr (by simpa using hhd), hsl]
    simp [loadLines, decodeLine, lineText_atomsOf, hemp, addAll_append, addAll]

/-! Non-vacuity and the D11 witnesses (kernel-evaluated): entries ending in a carriage return,
    the entry "\r", an entry that looks like the header, one that looks like an escape. -/
example :
    let es := ["abc\r".toList, "\r".toList, "#V2".toList, "\\n".toList, "x\ny\\z".toList, " é".toList]
    (loadFrom (fun c => c == ' ') (atomsOf (fileOf es)) (FileHist.new 10 false true)).h.mem.entries = es ∧
    fileOf ["a\rb\n\\".toList] = "#V2\na\\rb\\n\\\\\n".toList := by
  decide

/-- The reader's unescape loop — the byte-indexed one of `load_from`, with its `find`, slices and
    index — inverts the writer's escaping on EVERY entry: any mixture of backslashes, line feeds,
    carriage returns, text that looks like an escape (`\n`, `\r`, `\\`), multi-byte characters. -/
theorem C10_unescape_escape (e : Text) : unescape (escEntry e) = some e := by
  rw [unescape_eq, unescChars_esc]; rfl

/-- Load-then-save is a normalisation, and it is idempotent — for ARBITRARY file bytes `f` (foreign,
    legacy, torn, invalid UTF-8), whatever the load's outcome: the entries `es` obtained from `f`,
    once saved, load back as exactly `es` with status ok; hence saving again produces the same
    bytes: `save (load (save (load f))) = save (load f)`. -/
theorem C10_normalise_idempotent (ws : Char → Bool) (max : Nat) (isp idp : Bool) (f : List Atom) :
    let es := (loadFrom ws f (FileHist.new max isp idp)).h.mem.entries
    (loadFrom ws (atomsOf (fileOf es)) (FileHist.new max isp idp)).status = .ok ∧
    (loadFrom ws (atomsOf (fileOf es)) (FileHist.new max isp idp)).h.mem.entries = es ∧
    fileOf (loadFrom ws (atomsOf (fileOf es)) (FileHist.new max isp idp)).h.mem.entries = fileOf es := by
  intro es
  have hs : Storable ws max isp idp es := by
    obtain ⟨added, ha⟩ := loadFrom_only_adds ws f (FileHist.new max isp idp)
    show Storable ws max isp idp (loadFrom ws f (FileHist.new max isp idp)).h.mem.entries
    rw [ha]
    exact C10_storable_reachable ws max isp idp added
  have hr := C10_roundtrip ws max isp idp es hs
  exact ⟨hr.1, hr.2.1, by rw [hr.2.1]⟩

/-- The fast path of `FileHistory::append` keeps the file in that shape: if the file is a saved
    list followed by appended batches, then after the call it is the same with the new entries as
    one more batch — i.e. byte for byte what `save` would write for all of them together. -/
theorem C10_append_fast_chain (ws : Char → Bool) (w : World) (es : List Text) (bs : List (List Text))
    (hf : w.file = some (appendedFile es bs))
    (hne : w.sess.fh.mem.entries ≠ []) (hn0 : w.sess.fh.newEntries ≠ 0)
    (hnm : w.sess.fh.newEntries ≠ w.sess.fh.mem.maxLen) (hc : w.canJustAppend = true) :
    (w.append ws).1.file = some (appendedFile es (bs ++ [newOnes w.sess.fh])) ∧
    (w.append ws).1.file = some (atomsOf (fileOf (es ++ bs.flatten ++ newOnes w.sess.fh))) := by
  have h1 := (C10_append_fast ws w _ hf hne hn0 hnm hc).2.1
  have h2 : appendedFile es bs ++ atomsOf (linesOf (newOnes w.sess.fh))
      = appendedFile es (bs ++ [newOnes w.sess.fh]) := by
    simp [appendedFile]
  rw [h1, h2]
  refine ⟨rfl, ?_⟩
  rw [appendedFile_eq]
  simp

/-- A whole session: from any world whose history has something new (any file, stale or not), the
    operation sequence save · load-into-a-fresh-history · dump reports ok, ok and exactly the
    entries of the saving history, in order, byte for byte — whatever they contain. -/
theorem C10_session_roundtrip (ws : Char → Bool) (w : World)
    (hne : w.sess.fh.mem.entries ≠ []) (hn0 : w.sess.fh.newEntries ≠ 0)
    (hs : Storable ws w.sess.fh.mem.maxLen w.sess.fh.mem.ignoreSpace w.sess.fh.mem.ignoreDups
            w.sess.fh.mem.entries) :
    (World.run ws w [.save, .freshLoad, .dump]).2
      = [.status .ok, .status .ok, .all w.sess.fh.mem.entries] := by
  have hr := C10_roundtrip ws _ _ _ _ hs
  simp [World.run, World.step, World.save, World.load, hne, hn0, freshHist, hr.1, hr.2.1, hr.2.2.1]

example :
    let w : World := { sess := { fh := addAll (fun c => c == ' ') (FileHist.new 5 true true)
                                   ["a\r".toList, "\\n".toList, "#V2".toList], pathSize := none },
                       file := some [Atom.bad 255], stale := true }
    w.sess.fh.mem.entries ≠ [] ∧ w.sess.fh.newEntries ≠ 0 ∧ w.sess.fh.mem.entries.length = 3 := by
  decide
