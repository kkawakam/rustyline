/-
  Property C11 — sessions sharing one history file never lose or reorder each other's entries.
  Model: Rl/FileSession.lean (transliteration of `FileHistory::{load, add, append, save}`,
  `can_just_append`, `update_path` of src/history.rs; D14: `save` truncates the file only once it
  holds the lock).  Spec (oracle on the implementation):
  Rl/Spec/FileSession.lean.  Lemmas: Rl/Lemmas/FileSession.lean, Rl/Lemmas/FileSession2.lean
  (the simulation sub-operation ⊑ operation-atomic, the counting invariant, the reference model).

  The theorems are about ANY number of sessions (`Sys.sess : Nat → Sess`), any limits and
  settings per session, any interleaving of the calls (lists of `Op`, induction, no bound) and
  any modification times the environment hands out (`mt` is an arbitrary number).
  `Good s` (Rl/Lemmas/FileSession.lean) is the invariant "the file, if any, is `fileOf es` for
  non-empty entries; every session's store is within its limit and `new_entries <= len`"; it
  holds of every initial state (`init_good`) and is preserved by every step (`step_good`).
-/
import Rl.FileSession
import Rl.Spec.FileSession
import Rl.Lemmas.FileSession
import Rl.Lemmas.FileSession2
open Rl Rl.FS

/-- Whatever the sessions do, in whatever order, the file stays one that `save_to` wrote for some
    list of non-empty entries, and such a file loads without error into any history. -/
theorem C11_always_loads (ws : Char → Bool) (es0 : List Text) (m0 : Nat) (cfg : Nat → Nat × Bool × Bool)
    (hne : ∀ e ∈ es0, e ≠ []) (ops : List Op) :
    ∃ es m, ((Sys.init (some { content := atomsOf (fileOf es0), mtime := m0 }) cfg).run ws ops).file
        = some { content := atomsOf (fileOf es), mtime := m } ∧
      (∀ e ∈ es, e ≠ []) ∧
      ∀ h : FileHist, (loadFrom ws (atomsOf (fileOf es)) h).status = .ok ∧
        (loadFrom ws (atomsOf (fileOf es)) h).h.mem = (addAll ws h es).mem := by
  have hg0 := init_good es0 m0 cfg hne
  have hg := run_good ws ops _ hg0
  have hsome := run_file_some ws ops _ hg0.1 rfl
  rcases hg.1.1 with hnone | ⟨es, ⟨m, hf⟩, hes⟩
  · rw [hnone] at hsome; cases hsome
  · exact ⟨es, m, hf, hes, fun h => by rw [loadFrom_fileOf_ok ws es hes h]; exact ⟨rfl, rfl⟩⟩

/-- The same from any good state, also when the file does not exist at the start: it is missing
    or loads. -/
theorem C11_always_loads_from (ws : Char → Bool) (s : Sys) (hg : Good s) (ops : List Op) :
    (s.run ws ops).file = none ∨
    ∃ es m, (s.run ws ops).file = some { content := atomsOf (fileOf es), mtime := m } ∧
      ∀ h : FileHist, (loadFrom ws (atomsOf (fileOf es)) h).status = .ok := by
  rcases (run_good ws ops s hg).1.1 with hnone | ⟨es, ⟨m, hf⟩, hes⟩
  · exact Or.inl hnone
  · exact Or.inr ⟨es, m, hf, fun h => by rw [loadFrom_fileOf_ok ws es hes h]⟩

/-- No call of the model ever fails or panics on files this library wrote: `append` and `save`
    return ok, `load` returns ok (or the I/O error for a missing file). -/
theorem C11_calls_succeed (ws : Char → Bool) (s : Sys) (hg : Good s) (i mt : Nat) :
    (s.append ws i mt).2 = .ok ∧ (s.save i mt).2 = .ok ∧
    ((s.load ws i).2 = .ok ∨ (s.file = none ∧ (s.load ws i).2 = .io)) := by
  refine ⟨?_, ?_, ?_⟩
  · rcases append_cases ws s i mt hg.1 with ⟨_, h⟩ | ⟨_, _, _, h, _⟩ <;> rw [h]
  · rcases save_cases s i mt hg.1 with ⟨_, h⟩ | ⟨_, _, _, h, _⟩ <;> rw [h]
  · rcases hg.1.1 with hn | ⟨es, ⟨fm, hf⟩, hne⟩
    · exact Or.inr ⟨hn, by rw [load_missing ws s i hn]⟩
    · exact Or.inl (by rw [load_eq ws s i fm es hf hne])

/-- After an append by session `i` that has new lines, the file holds what it held before,
    possibly minus oldest entries / consecutive duplicates (exactly the three cases of
    `Spec.FS.shapeOk`), followed by the session's new lines; the session's counter of unwritten
    lines is back to zero, its entries and every other session are untouched. -/
theorem C11_append_shape (ws : Char → Bool) (s : Sys) (hg : Good s) (i mt fm : Nat) (es : List Text)
    (hf : s.file = some { content := atomsOf (fileOf es), mtime := fm }) (hne : ∀ e ∈ es, e ≠ [])
    (hnew : (s.sess i).fh.newEntries ≠ 0) :
    ∃ es', (s.append ws i mt).1.file = some { content := atomsOf (fileOf es'), mtime := mt } ∧
      (s.append ws i mt).2 = .ok ∧
      Spec.FS.shapeOk ws (cfgOf (s.sess i).fh.mem) es (newOnes (s.sess i).fh) es' = true ∧
      ((s.append ws i mt).1.sess i).fh = { (s.sess i).fh with newEntries := 0 } ∧
      ∀ j, j ≠ i → (s.append ws i mt).1.sess j = s.sess j := by
  have hflag := nothingNew_false s i (hg.2 i).2 hnew
  rw [append_eq ws s i mt fm es hf hne hflag]
  exact ⟨_, rfl, rfl, appendOut_shapeOk ws _ fm es (hg.2 i), by rw [wrote_sess_same],
    fun j hj => wrote_sess_other s _ mt _ hj⟩

/-- An append by a session that has nothing new is the identity on the whole system. -/
theorem C11_append_nothing_new (ws : Char → Bool) (s : Sys) (i mt : Nat)
    (h : (s.sess i).fh.newEntries = 0) : s.append ws i mt = (s, .ok) := by
  simp [Sys.append, h]

/-- After any append (or save) the session has no unwritten lines left. -/
theorem C11_write_resets (ws : Char → Bool) (s : Sys) (hg : Good s) (i mt : Nat) :
    ((s.append ws i mt).1.sess i).fh.newEntries = 0 ∧ ((s.save i mt).1.sess i).fh.newEntries = 0 := by
  constructor
  · rcases append_cases ws s i mt hg.1 with ⟨hn, h⟩ | ⟨_, _, _, h, _⟩ <;> rw [h]
    · exact (nothingNew_iff s i (hg.2 i).2).mp hn
    · rw [wrote_sess_same]
  · rcases save_cases s i mt hg.1 with ⟨hn, h⟩ | ⟨_, _, _, h, _⟩ <;> rw [h]
    · exact (nothingNew_iff s i (hg.2 i).2).mp hn
    · rw [wrote_sess_same]

/-- Once a session has appended, a second append by it — whatever the OTHER sessions (and the
    clock) did in between, in any number and order — writes nothing: it leaves the file and every
    session exactly as they are.  So none of its lines is ever written twice. -/
theorem C11_no_double (ws : Char → Bool) (s : Sys) (hg : Good s) (i mt mt' : Nat) (ops : List Op)
    (hops : ∀ op ∈ ops, opOf i op = false) :
    (((s.append ws i mt).1.run ws ops).append ws i mt') = ((s.append ws i mt).1.run ws ops, .ok) := by
  apply C11_append_nothing_new
  have h0 := (C11_write_resets ws s hg i mt).1
  have hgt : Good (s.append ws i mt).1 := step_good ws s (.append i mt) hg
  generalize (s.append ws i mt).1 = t at h0 hgt
  induction ops generalizing t with
  | nil => exact h0
  | cons op ops ih =>
    refine ih (fun o ho => hops o (by simp [ho])) _ ?_ (step_good ws t op hgt)
    rw [step_other ws t i op hgt.1 (hops op (by simp))]; exact h0

/-- One append, any path (fast, rewrite, `save` shortcut): if the old entries followed by the new
    lines are something the session's store can hold (`Storable`: within the limit, nothing it
    refuses, no equal neighbours under ignore-dups) then the new file is exactly the old entries
    followed by the new lines — nothing removed, nothing reordered, nothing added twice. -/
theorem C11_append_keeps (ws : Char → Bool) (s : Sys) (hg : Good s) (i mt fm : Nat) (es : List Text)
    (hf : s.file = some { content := atomsOf (fileOf es), mtime := fm })
    (hnew : (s.sess i).fh.newEntries ≠ 0)
    (hs : Storable ws (s.sess i).fh.mem.maxLen (s.sess i).fh.mem.ignoreSpace (s.sess i).fh.mem.ignoreDups
            (es ++ newOnes (s.sess i).fh)) :
    (s.append ws i mt).1.file
      = some { content := atomsOf (fileOf (es ++ newOnes (s.sess i).fh)), mtime := mt } := by
  have hne : NonEmpty es := fun e he => hs.nonempty e (by simp [he])
  have hflag := nothingNew_false s i (hg.2 i).2 hnew
  rw [append_eq ws s i mt fm es hf hne hflag, appendOut_fits ws _ fm es (hg.2 i) hs]
  rfl

/-! ### sub-operation granularity: the windows the lock does not cover (D14)

  `SubSys` splits `save` into "open/create the file" ; "[lock] write" and `append` into
  "`path.exists()`" ; "[open, lock] the rest".  `truncFirst = true`: `File::create` truncates before the
  lock is taken and the locked part then writes from offset 0 without truncating again (the code
  with D14); `truncFirst = false`: the file is opened without truncation and `set_len(0)` runs
  under the lock (`save` of src/history.rs). -/

/-- the blank test of the examples: only the space -/
def C11_ws : Char → Bool := fun c => c == ' '
/-- session 0 has limit 1 (its `append` takes the `save` shortcut), the others limit 3 -/
def C11_cfg : Nat → Nat × Bool × Bool := fun i => if i = 0 then (1, false, false) else (3, false, false)
/-- all sessions fresh with `C11_cfg`, no session inside a call -/
def C11_start (file : Option FileVal) (truncFirst : Bool) : SubSys :=
  SubSys.init (Sys.init file C11_cfg) truncFirst
/-- a file holding the one entry `i`, modification time 0 -/
def C11_fileI : Option FileVal := some { content := atomsOf (fileOf ["i".toList]), mtime := 0 }

/-- the schedule: session 1 loads and enters `bbbbbbbb`, session 0 enters `a`; session 0 starts its
    append (→ `save` → the file is opened/created); session 1 appends under the lock; session 0
    gets the lock and writes -/
def C11_D14_schedule : List SubOp :=
  [.load 1, .add 1 "bbbbbbbb".toList, .add 0 "a".toList,
   .appendCheck 0, .saveOpen 0 1,
   .appendCheck 1, .appendLocked 1 2,
   .saveWrite 0 3]

/-- the entries a fresh history with a large limit reads from the file -/
def C11_entriesOf (t : SubSys) : Option (List String) :=
  t.sys.file.map (fun f =>
    (loadFrom C11_ws f.content (FileHist.new 100 false false)).h.mem.entries.map String.ofList)

/-- D14, `truncFirst = true`: under this schedule the file ends up holding the line `bbbbbb`, which
    nobody entered (the tail of session 1's longer file survives session 0's write from offset 0),
    so the per-append shape and "the file holds only entered lines" fail; and right after
    `File::create` every reader — even one holding the shared lock — sees an empty file, not a
    file this library wrote. -/
theorem C11_subop_D14_counterexample :
    C11_entriesOf ((C11_start C11_fileI true).run C11_ws C11_D14_schedule) = some ["a", "bbbbbb"] ∧
    (((C11_start C11_fileI true).run C11_ws (C11_D14_schedule.take 5)).sys.file.map (·.content)) = some [] := by
  decide +kernel

/-- With `truncFirst = false` the same schedule is harmless: nothing is truncated before the lock is held
    (session 1 sees and rewrites the full file), and session 0's write replaces the file by its own
    single entry, as an atomic `append` with limit 1 does. -/
theorem C11_subop_D14_repaired :
    C11_entriesOf ((C11_start C11_fileI false).run C11_ws C11_D14_schedule) = some ["a"] ∧
    C11_entriesOf ((C11_start C11_fileI false).run C11_ws (C11_D14_schedule.take 7)) = some ["i", "bbbbbbbb"] ∧
    C11_entriesOf ((C11_start C11_fileI false).run C11_ws (C11_D14_schedule.take 5)) = some ["i"] := by
  decide +kernel

/-- Outside the property's quantifier (the file does NOT exist at the start), also with
    `truncFirst = false`: two sessions that both find the file missing both take `save`, and the second
    overwrites the first one's line; at operation granularity both lines survive. -/
theorem C11_subop_missing_file_race :
    C11_entriesOf ((C11_start none false).run C11_ws
      [.add 1 "a".toList, .add 2 "b".toList, .appendCheck 1, .appendCheck 2,
       .saveOpen 1 1, .saveWrite 1 2, .saveOpen 2 3, .saveWrite 2 4]) = some ["b"] ∧
    C11_entriesOf (SubSys.init ((Sys.init none C11_cfg).run C11_ws
      [.add 1 "a".toList, .add 2 "b".toList, .append 1 1, .append 2 2]) false) = some ["a", "b"] := by
  decide +kernel

/-- `truncFirst = false`, file present: every state the sub-operation system reaches is a state
    the operation-atomic system reaches — `saveWrite` commits a `save`, `appendLocked` commits an
    `append`, the other sub-steps change no data.  Proved: `C11_subop_refines`. -/
def C11_subop_refines_statement : Prop :=
  ∀ (ws : Char → Bool) (s : Sys) (subops : List SubOp), Good s → s.file.isSome = true →
    ∃ ops : List Op, ((SubSys.init s false).run ws subops).sys.file = (s.run ws ops).file ∧
      ∀ i, ((SubSys.init s false).run ws subops).sys.sess i = (s.run ws ops).sess i

/-- One sub-step with `truncFirst = false`, in any state reachable with the file present (`SubInv`:
    good data, file present, `truncFirst = false`, every session that is inside a call still has
    something to write): the invariant is kept, and the data part (file, clock, every session) is
    unchanged — a stutter: `saveOpen`, `appendCheck`, any step that is not enabled — or is the result
    of exactly ONE step of the operation-atomic system (`load`, `add`, `touch` as themselves,
    `saveWrite` as `save`, `appendLocked` as `append`). -/
theorem C11_subop_step (ws : Char → Bool) (t : SubSys) (op : SubOp) (h : SubInv t) :
    SubInv (t.step ws op) ∧
    ((t.step ws op).sys = t.sys ∨ ∃ o : Op, (t.step ws op).sys = (t.sys.step ws o).1) :=
  subStep_sim ws t op h

/-- Refinement, strong form: the whole data part (file, clock and every session, as one `Sys`)
    that the sub-operation system with `truncFirst = false` reaches from a good state with the file
    present is reached by the operation-atomic system with the list of the committed operations. -/
theorem C11_subop_refines_sys (ws : Char → Bool) (s : Sys) (subops : List SubOp) (hg : Good s)
    (hf : s.file.isSome = true) :
    ∃ ops : List Op, ((SubSys.init s false).run ws subops).sys = s.run ws ops :=
  (subRun_sim ws subops _ (subInv_init s hg hf)).2

/-- With `truncFirst = false` and the file present, the windows the lock does not
    cover (`File` opened before the lock is taken, `path.exists()` before the lock) are harmless —
    every reachable state is one of the operation-atomic system, so every theorem above about
    `Sys.run` (always loads, shapes, no loss, the bound) holds of it. -/
theorem C11_subop_refines : C11_subop_refines_statement := by
  intro ws s subops hg hf
  obtain ⟨ops, h⟩ := C11_subop_refines_sys ws s subops hg hf
  exact ⟨ops, by rw [h], fun i => by rw [h]⟩

/-- A consequence, as an example of the transfer: at sub-operation granularity too, the file of
    `truncFirst = false` is at every moment — also between `saveOpen` and `saveWrite` of any number of
    sessions — a file `save_to` wrote, and it loads without error into any history. -/
theorem C11_subop_always_loads (ws : Char → Bool) (es0 : List Text) (m0 : Nat) (cfg : Nat → Nat × Bool × Bool)
    (hne : ∀ e ∈ es0, e ≠ []) (subops : List SubOp) :
    ∃ es m, ((SubSys.init (Sys.init (some { content := atomsOf (fileOf es0), mtime := m0 }) cfg) false).run ws subops).sys.file
        = some { content := atomsOf (fileOf es), mtime := m } ∧
      ∀ h : FileHist, (loadFrom ws (atomsOf (fileOf es)) h).status = .ok := by
  obtain ⟨ops, h⟩ := C11_subop_refines_sys ws _ subops (init_good es0 m0 cfg hne) rfl
  obtain ⟨es, m, hf, _, hl⟩ := C11_always_loads ws es0 m0 cfg hne ops
  exact ⟨es, m, by rw [h]; exact hf, fun x => (hl x).1⟩

/-- `truncFirst = false` is needed for the refinement: the state the `truncFirst = true` system
    reaches after `File::create` in the D14 schedule (an empty file) is not a state of the
    operation-atomic system, whatever operations it runs. -/
theorem C11_subop_refines_needs_repair :
    ¬ ∃ ops : List Op, (((C11_start C11_fileI true).run C11_ws (C11_D14_schedule.take 5)).sys.file.map (·.content))
        = (((Sys.init C11_fileI C11_cfg).run C11_ws ops).file.map (·.content)) := by
  rintro ⟨ops, h⟩
  rw [C11_subop_D14_counterexample.2] at h
  obtain ⟨es, m, hf, _, _⟩ := C11_always_loads C11_ws ["i".toList] 0 C11_cfg (by decide) ops
  have hf' : (Sys.init C11_fileI C11_cfg).run C11_ws ops
      = (Sys.init (some { content := atomsOf (fileOf ["i".toList]), mtime := 0 }) C11_cfg).run C11_ws ops := rfl
  rw [hf', hf] at h
  simp [fileOf, atomsOf, header] at h

/-- "The file is present" is needed too (outside the property's quantifier): when it is missing,
    `save` creates it empty before it takes the lock, and an empty file is not a state of the
    operation-atomic system either (there the file is missing or has the version header). -/
theorem C11_subop_refines_needs_file :
    ¬ ∃ ops : List Op, (((C11_start none false).run C11_ws [.add 1 "a".toList, .saveOpen 1 5]).sys.file)
        = ((Sys.init none C11_cfg).run C11_ws ops).file := by
  rintro ⟨ops, h⟩
  have h0 : ((C11_start none false).run C11_ws [.add 1 "a".toList, .saveOpen 1 5]).sys.file
      = some { content := [], mtime := 5 } := by decide
  rw [h0] at h
  rcases C11_always_loads_from C11_ws _ (init_good_missing C11_cfg) ops with hn | ⟨es, m, hf, _⟩
  · rw [hn] at h; cases h
  · rw [hf] at h
    simp [fileOf, atomsOf, header] at h

/-- One append in a state where the remembered sizes are accurate (`Accurate`, an invariant of
    runs with distinguishable modification times, see `C11_bound`): afterwards the file holds at
    most `max_len` entries of the appending session. -/
theorem C11_bound_step (ws : Char → Bool) (s : Sys) (hg : Good s) (hacc : Accurate s) (i mt : Nat)
    (hnew : (s.sess i).fh.newEntries ≠ 0) :
    ∃ F', (s.append ws i mt).1.file = some { content := atomsOf (fileOf F'), mtime := mt } ∧
      F'.length ≤ (s.sess i).fh.mem.maxLen := by
  obtain ⟨F, fm, hf, hne, hfm, hall⟩ := hacc
  have hflag := nothingNew_false s i (hg.2 i).2 hnew
  rw [append_eq ws s i mt fm F hf hne hflag]
  exact ⟨_, rfl, (appendOut_bound ws s i fm F hg (fun pm size hp => (hall i pm size hp).2)).1⟩

/-- The size limit.  Start from an existing file and fresh sessions (any number, any limits); let
    them run ANY interleaving of load-at-start / add / append / save in which every write gets a
    modification time distinguishable from all earlier ones (`DistRun`: `mt > clock`, no outside
    touch, loads only into empty histories).  Then after a further append by any session `i` that
    has something new, the file holds at most `max_len i` entries — and every list of entries that
    produces this file has that length. -/
theorem C11_bound (ws : Char → Bool) (es0 : List Text) (m0 : Nat) (cfg : Nat → Nat × Bool × Bool)
    (hne : ∀ e ∈ es0, e ≠ []) (ops : List Op)
    (hd : DistRun ws (Sys.init (some { content := atomsOf (fileOf es0), mtime := m0 }) cfg) ops)
    (i mt : Nat)
    (hnew : (((Sys.init (some { content := atomsOf (fileOf es0), mtime := m0 }) cfg).run ws ops).sess i).fh.newEntries ≠ 0) :
    ∃ F', (((Sys.init (some { content := atomsOf (fileOf es0), mtime := m0 }) cfg).run ws ops).append ws i mt).1.file
        = some { content := atomsOf (fileOf F'), mtime := mt } ∧
      F'.length ≤ (cfg i).1 ∧
      ∀ F'', atomsOf (fileOf F'') = atomsOf (fileOf F') → F''.length ≤ (cfg i).1 := by
  have h := run_accurate ws ops _ (init_good es0 m0 cfg hne) (init_accurate es0 m0 cfg hne) hd
  obtain ⟨F', hF, hlen⟩ := C11_bound_step ws _ h.2 h.1 i mt hnew
  have hmax : (((Sys.init (some { content := atomsOf (fileOf es0), mtime := m0 }) cfg).run ws ops).sess i).fh.mem.maxLen
      = (cfg i).1 := run_maxLen ws ops _ cfg (init_good es0 m0 cfg hne).1 i
  rw [hmax] at hlen
  exact ⟨F', hF, hlen, fun F'' h' => by rw [fileOf_length_inj h']; exact hlen⟩

/-- Why "load at start" is needed (outside the property): `load` into a NON-empty history records
    `len_after - len_before` as the file's size; with a full history that is 0, the next append
    takes the fast path and the file exceeds the limit although every time is distinguishable.
    (limit 3: history p,q,r; file x,y; load; add u,v; append → x,y,u,v) -/
theorem C11_bound_needs_load_at_start :
    let s := (Sys.init (some { content := atomsOf (fileOf ["x".toList, "y".toList]), mtime := 0 })
        (fun _ => (3, false, false))).run C11_ws
      [.add 0 "p".toList, .add 0 "q".toList, .add 0 "r".toList, .load 0,
       .add 0 "u".toList, .add 0 "v".toList, .append 0 1]
    C11_entriesOf (SubSys.init s false) = some ["x", "y", "u", "v"] := by
  decide +kernel

/-! ### no loss along whole traces

  A ghost list follows the run: it starts as the entries of the file and every append that has
  something new adds that session's new lines (`newOnes`: the lines it accepted since its last
  write) at the end — nothing is ever removed from it.  `C11_fitsRun` is "the limit is not
  exceeded": at every append the ghost list followed by the new lines is something the appending
  session's store can hold (`Storable`), and no `save` with something new occurs (`save` overwrites
  by design).  Then the file IS the ghost list after every step: every line any append wrote is
  still there, in append order, exactly once. -/

def C11_hasNew (s : Sys) (i : Nat) : Bool :=
  !((s.sess i).fh.mem.entries.isEmpty || (s.sess i).fh.newEntries == 0)

def C11_ghost (s : Sys) (F : List Text) : Op → List Text
  | .append i _ => if C11_hasNew s i then F ++ newOnes (s.sess i).fh else F
  | _ => F

def C11_fits (ws : Char → Bool) (s : Sys) (F : List Text) : Op → Prop
  | .append i _ => C11_hasNew s i = true →
      Storable ws (s.sess i).fh.mem.maxLen (s.sess i).fh.mem.ignoreSpace (s.sess i).fh.mem.ignoreDups
        (F ++ newOnes (s.sess i).fh)
  | .save i _ => C11_hasNew s i = false
  | _ => True

def C11_fitsRun (ws : Char → Bool) : Sys → List Text → List Op → Prop
  | _, _, [] => True
  | s, F, op :: ops => C11_fits ws s F op ∧ C11_fitsRun ws (s.step ws op).1 (C11_ghost s F op) ops

def C11_ghostRun (ws : Char → Bool) : Sys → List Text → List Op → List Text
  | _, F, [] => F
  | s, F, op :: ops => C11_ghostRun ws (s.step ws op).1 (C11_ghost s F op) ops

/-- One step of `C11_no_loss`: a step that fits keeps "the file is the ghost list". -/
theorem C11_no_loss_step (ws : Char → Bool) (s : Sys) (F : List Text) (op : Op) (hg : Good s)
    (hf : FileIs s F) (hfit : C11_fits ws s F op) : FileIs (s.step ws op).1 (C11_ghost s F op) := by
  cases op with
  | load i => exact Exists.imp (fun m h => (load_file ws s i).trans h) hf
  | add i l => exact hf
  | touch mt => exact touch_fileIs s mt hf
  | save i mt =>
    show FileIs (s.save i mt).1 F
    rw [save_nothing s i mt (Bool.not_eq_eq_eq_not.mp hfit)]; exact hf
  | append i mt =>
    obtain ⟨fm, hf⟩ := hf
    simp only [Sys.step, C11_ghost]
    cases hn : C11_hasNew s i
    · rw [append_nothing ws s i mt (Bool.not_eq_eq_eq_not.mp hn)]; exact ⟨fm, hf⟩
    · have hnew : (s.sess i).fh.newEntries ≠ 0 := by
        intro h; simp [C11_hasNew, h] at hn
      exact ⟨mt, by simpa using C11_append_keeps ws s hg i mt fm F hf hnew (hfit hn)⟩

/-- No loss, for any number of sessions and any interleaving: while the limit is not exceeded the
    file holds exactly its original entries followed by the lines of every append, in the order
    the appends happened; in particular the file only ever grows at the end. -/
theorem C11_no_loss (ws : Char → Bool) (ops : List Op) (s : Sys) (F : List Text) (hg : Good s)
    (hf : FileIs s F) (hfit : C11_fitsRun ws s F ops) :
    FileIs (s.run ws ops) (C11_ghostRun ws s F ops) ∧ F <+: C11_ghostRun ws s F ops := by
  induction ops generalizing s F with
  | nil => exact ⟨hf, List.prefix_refl _⟩
  | cons op ops ih =>
    have h := ih _ _ (step_good ws s op hg) (C11_no_loss_step ws s F op hg hf hfit.1) hfit.2
    refine ⟨h.1, List.IsPrefix.trans ?_ h.2⟩
    cases op <;> simp only [C11_ghost] <;> try exact List.prefix_refl _
    split
    · exact List.prefix_append _ _
    · exact List.prefix_refl _

/-- The counting form of "the limit is not exceeded" — fresh sessions with a common ignore-space
    setting, a trace of load / add / append, pairwise distinct lines, and
    `|initial entries| + number of adds ≤ max_len` of every session — implies the per-append form
    `C11_fitsRun` that `C11_no_loss` assumes.  Proved: `C11_no_loss_counting`. -/
def C11_no_loss_counting_statement : Prop :=
  ∀ (ws : Char → Bool) (es0 : List Text) (m0 : Nat) (cfg : Nat → Nat × Bool × Bool) (isp : Bool) (ops : List Op),
    (∀ i, (cfg i).2.1 = isp) →
    (∀ e ∈ es0, e ≠ [] ∧ (isp = true → ∀ c t, e = c :: t → ws c = false)) →
    (∀ op ∈ ops, match op with | .save _ _ => False | .touch _ => True | _ => True) →
    (es0 ++ ops.filterMap (fun op => match op with | .add _ l => some l | _ => none)).Nodup →
    (∀ i, es0.length + (ops.filter (fun op => match op with | .add _ _ => true | _ => false)).length ≤ (cfg i).1) →
    C11_fitsRun ws (Sys.init (some { content := atomsOf (fileOf es0), mtime := m0 }) cfg) es0 ops

/-- The counting invariant gives the per-append form, from any state.  `U` is every line there is
    (initial entries and every line ever entered, pairwise distinct), every store has room for all
    of `U` and the sessions agree on ignore-space (`CfgOk`); `CInv` (Rl/Lemmas/FileSession2.lean):
    the file entries `F` followed by the unwritten lines of any one session have no repetition,
    are lines of `U` that are not entered again and that a store accepts, and the unwritten lines
    of two sessions are disjoint; no store holds a line that is still to be entered (`MemInv`).
    Every step without `save` is then a step of the reference model (`count_step`: `add` moves the
    entered line from the future to the session's unwritten lines — or drops it when the store
    refuses it; `load` forgets the session's unwritten lines; `append` moves them to the end of the
    file), the ghost list is the reference file, and under the invariant `F ++ unwritten i` is
    `Storable` by the pigeonhole principle. -/
theorem C11_fitsRun_of_counting (ws : Char → Bool) (isp : Bool) (U : List Text) (ops : List Op) (s : Sys)
    (F : List Text) (hg : Good s) (hf : FileIs s F) (hc : CfgOk isp U s)
    (hinv : CInv ws isp U (pend s) F (addsOf ops)) (hm : MemInv s (addsOf ops))
    (hns : ∀ op ∈ ops, notSave op) : C11_fitsRun ws s F ops := by
  induction ops generalizing s F with
  | nil => trivial
  | cons op ops ih =>
    rw [addsOf_cons] at hinv hm
    have hns1 := hns op (by simp)
    obtain ⟨h1, _, h3, h4⟩ := count_step ws isp U s F (addsOf ops) op hg hf hc hinv hm hns1
    -- the ghost list is the file of the reference model
    have hgh : C11_ghost s F op = (refStep (accepts ws isp) F (pend s) op).1 := by
      cases op with
      | append i mt =>
        show (if C11_hasNew s i then F ++ pend s i else F) = F ++ pend s i
        cases hn : C11_hasNew s i
        · rw [pend_nothingNew s i (Bool.not_eq_eq_eq_not.mp hn), List.append_nil]; rfl
        · rfl
      | add i l => rw [refStep_add]; rfl
      | load i => rfl
      | save i mt => rfl
      | touch mt => rfl
    refine ⟨?_, by
      rw [hgh]
      exact ih _ _ (step_good ws s op hg) h1 (cfgOk_step ws isp U s op hg hc) h3 h4
        (fun o ho => hns o (by simp [ho]))⟩
    cases op with
    | append i mt => exact fun _ => cinv_storable ws isp U s F _ i hc hinv
    | save i mt => exact hns1.elim
    | load i => trivial
    | add i l => trivial
    | touch mt => trivial

/-- **The counting form of "the limit is not exceeded" implies the per-append form.**
    (`C11_no_loss_counting_statement`, true as written.) -/
theorem C11_no_loss_counting : C11_no_loss_counting_statement := by
  intro ws es0 m0 cfg isp ops hisp hok hns hnd hlen
  have hU : ∀ i, (es0 ++ addsOf ops).length ≤ (cfg i).1 := fun i => by
    rw [List.length_append, addsOf_length]; exact hlen i
  exact C11_fitsRun_of_counting ws isp (es0 ++ addsOf ops) ops _ es0
    (init_good es0 m0 cfg (fun e he => (hok e he).1)) ⟨m0, rfl⟩
    (cfgOk_init isp _ _ cfg hisp hU) (cinv_init ws isp es0 (addsOf ops) m0 cfg hok hnd)
    (memInv_init _ cfg _) (fun op hop => notSave_of (hns op hop))

/-! `refRun` (Rl/Lemmas/FileSession2.lean) is the property text as a program: a file of lines and one
  queue per session; under the counting hypothesis the real system is this program. -/

/-- **The file, exactly.**  Under the counting hypothesis (as in `C11_no_loss_counting_statement`)
    the file after the trace holds exactly the reference file — the initial entries followed, for
    every append in trace order, by the lines its session entered since its previous append (or
    load), in the order entered — and every session's unwritten lines are its reference queue.
    Consequently: the initial entries come first; no line is in the file twice, nor both in the
    file and still unwritten; the file holds only initial entries and entered lines. -/
theorem C11_counting_file (ws : Char → Bool) (es0 : List Text) (m0 : Nat) (cfg : Nat → Nat × Bool × Bool)
    (isp : Bool) (ops : List Op)
    (hisp : ∀ i, (cfg i).2.1 = isp)
    (hok : ∀ e ∈ es0, e ≠ [] ∧ (isp = true → ∀ c t, e = c :: t → ws c = false))
    (hns : ∀ op ∈ ops, match op with | .save _ _ => False | .touch _ => True | _ => True)
    (hnd : (es0 ++ ops.filterMap (fun op => match op with | .add _ l => some l | _ => none)).Nodup)
    (hlen : ∀ i, es0.length + (ops.filter (fun op => match op with | .add _ _ => true | _ => false)).length ≤ (cfg i).1) :
    FileIs ((Sys.init (some { content := atomsOf (fileOf es0), mtime := m0 }) cfg).run ws ops)
        (refRun (accepts ws isp) es0 (fun _ => []) ops).1 ∧
    (∀ i, newOnes (((Sys.init (some { content := atomsOf (fileOf es0), mtime := m0 }) cfg).run ws ops).sess i).fh
        = (refRun (accepts ws isp) es0 (fun _ => []) ops).2 i) ∧
    es0 <+: (refRun (accepts ws isp) es0 (fun _ => []) ops).1 ∧
    (∀ i, ((refRun (accepts ws isp) es0 (fun _ => []) ops).1 ++ (refRun (accepts ws isp) es0 (fun _ => []) ops).2 i).Nodup) ∧
    (∀ e ∈ (refRun (accepts ws isp) es0 (fun _ => []) ops).1, e ∈ es0 ∨
      e ∈ ops.filterMap (fun op => match op with | .add _ l => some l | _ => none)) := by
  have hU : ∀ i, (es0 ++ addsOf ops).length ≤ (cfg i).1 := fun i => by
    rw [List.length_append, addsOf_length]; exact hlen i
  have hns' : ∀ op ∈ ops, notSave op := fun op hop => notSave_of (hns op hop)
  obtain ⟨h1, h2, h3⟩ := count_run ws isp (es0 ++ addsOf ops) ops _ es0
    (init_good es0 m0 cfg (fun e he => (hok e he).1)) ⟨m0, rfl⟩
    (cfgOk_init isp _ _ cfg hisp hU) (cinv_init ws isp es0 (addsOf ops) m0 cfg hok hnd)
    (memInv_init _ cfg _) hns'
  rw [pend_init] at h1 h2 h3
  refine ⟨h1, fun i => congrFun h2 i, refRun_prefix _ ops es0 _, fun i => ?_, fun e he => ?_⟩
  · have := h3.nodup i
    rw [h2] at this; exact this
  · have := (h3.mem 0 e (by simp [he])).1
    exact List.mem_append.mp this

/-- **Every entered line exactly once, in order.**  Under the counting hypothesis, for a session
    `i` whose loads come before the lines it enters (the trace splits into a part where `i` enters
    nothing and a part where `i` does not load — the property's programs `load;(add|append)*`):
    the lines of session `i` that the file holds after the trace, in file order, followed by the
    lines it has not written yet, are exactly the lines it entered and its store accepts
    (`entered`: not empty, not blank-led under ignore-space), in the order entered.  So none of
    them is lost, none is in the file twice, they are in the order entered, and once the session
    has appended (nothing unwritten) they are all in the file. -/
theorem C11_counting_session (ws : Char → Bool) (es0 : List Text) (m0 : Nat) (cfg : Nat → Nat × Bool × Bool)
    (isp : Bool) (pre rest : List Op) (i : Nat)
    (hisp : ∀ j, (cfg j).2.1 = isp)
    (hok : ∀ e ∈ es0, e ≠ [] ∧ (isp = true → ∀ c t, e = c :: t → ws c = false))
    (hns : ∀ op ∈ pre ++ rest, match op with | .save _ _ => False | .touch _ => True | _ => True)
    (hnd : (es0 ++ (pre ++ rest).filterMap (fun op => match op with | .add _ l => some l | _ => none)).Nodup)
    (hlen : ∀ j, es0.length + ((pre ++ rest).filter (fun op => match op with | .add _ _ => true | _ => false)).length ≤ (cfg j).1)
    (hpre : ∀ l, Op.add i l ∉ pre) (hrest : ∀ op ∈ rest, op ≠ .load i) :
    ∃ G, FileIs ((Sys.init (some { content := atomsOf (fileOf es0), mtime := m0 }) cfg).run ws (pre ++ rest)) G ∧
      es0 <+: G ∧ G.Nodup ∧
      G.filter (fun e => decide (e ∈ entered (accepts ws isp) i (pre ++ rest)))
          ++ newOnes (((Sys.init (some { content := atomsOf (fileOf es0), mtime := m0 }) cfg).run ws (pre ++ rest)).sess i).fh
        = entered (accepts ws isp) i (pre ++ rest) := by
  obtain ⟨h1, h2, h3, h4, _⟩ := C11_counting_file ws es0 m0 cfg isp (pre ++ rest) hisp hok hns hnd hlen
  refine ⟨_, h1, h3, (List.nodup_append.mp (h4 0)).1, ?_⟩
  rw [h2 i]
  exact refRun_session_total (accepts ws isp) i es0 pre rest hnd hpre hrest

/-- Non-vacuity / a concrete instance of the two theorems above: two sessions with limit 4 on a
    file holding `i`; session 1 loads, enters `a`, `b`; session 2 enters `c` (without loading) and
    appends; session 1 appends.  The file is `i, c, a, b`. -/
theorem C11_counting_example :
    C11_entriesOf (SubSys.init ((Sys.init C11_fileI (fun _ => (4, false, false))).run C11_ws
      [.load 1, .add 1 "a".toList, .add 2 "c".toList, .add 1 "b".toList, .append 2 1, .append 1 2]) false)
      = some ["i", "c", "a", "b"] ∧
    (refRun (accepts C11_ws false) ["i".toList] (fun _ => [])
      [.load 1, .add 1 "a".toList, .add 2 "c".toList, .add 1 "b".toList, .append 2 1, .append 1 2]).1
      = ["i".toList, "c".toList, "a".toList, "b".toList] := by
  decide

/-- Why the counting hypothesis asks for a COMMON ignore-space setting: session 1 (ignore-space
    off) writes the blank-led line ` x`; session 2 (ignore-space on, limit far away) then appends
    `y` by rewriting the file through its own store, which refuses ` x` — the line is lost although
    no limit is near. -/
theorem C11_counting_needs_common_ignore_space :
    C11_entriesOf (SubSys.init ((Sys.init C11_fileI (fun i => if i = 1 then (4, false, false) else (4, true, false))).run C11_ws
      [.add 1 " x".toList, .append 1 1, .add 2 "y".toList, .append 2 2]) false)
      = some ["i", "y"] := by
  decide

/-- **`path_info` records the true size after an append.**  In a state where the remembered sizes
    are accurate (`Accurate`: the invariant of runs with distinguishable times) an append by
    session `i` that has something new — fast path, merge-and-rewrite or the `save` shortcut —
    leaves `path_info` of `i` = (the new modification time, the number of entries the file now
    holds); and that number is a function of the file (every entry list that produces the file has
    that length).  (A fast-path append that adds a wrong number to the remembered size violates
    this.) -/
theorem C11_append_records_size (ws : Char → Bool) (s : Sys) (hg : Good s) (hacc : Accurate s) (i mt : Nat)
    (hnew : (s.sess i).fh.newEntries ≠ 0) :
    ∃ F', (s.append ws i mt).1.file = some { content := atomsOf (fileOf F'), mtime := mt } ∧
      ((s.append ws i mt).1.sess i).pathInfo = some (mt, F'.length) ∧
      ∀ F'', atomsOf (fileOf F'') = atomsOf (fileOf F') → F''.length = F'.length := by
  obtain ⟨F, fm, hf, hne, hfm, hall⟩ := hacc
  have hflag := nothingNew_false s i (hg.2 i).2 hnew
  rw [append_eq ws s i mt fm F hf hne hflag]
  have hb := appendOut_bound ws s i fm F hg (fun pm size hp => (hall i pm size hp).2)
  exact ⟨_, rfl, by rw [wrote_sess_same, hb.2], fun F'' h => fileOf_length_inj h⟩

/-- **`save`: file, bound and bookkeeping, with no assumption on modification times.**  A save by
    a session that has something new replaces the file by exactly that session's entries — at
    most `max_len` of them — and records (new time, that number) as `path_info`. -/
theorem C11_save_bound (s : Sys) (hg : Good s) (i mt : Nat) (hnew : (s.sess i).fh.newEntries ≠ 0) :
    (s.save i mt).1.file = some { content := atomsOf (fileOf (s.sess i).fh.mem.entries), mtime := mt } ∧
    (s.sess i).fh.mem.entries.length ≤ (s.sess i).fh.mem.maxLen ∧
    ((s.save i mt).1.sess i).pathInfo = some (mt, (s.sess i).fh.mem.entries.length) := by
  have hflag := nothingNew_false s i (hg.2 i).2 hnew
  rw [save_eq s i mt hflag]
  exact ⟨rfl, (hg.2 i).1, by rw [wrote_sess_same]⟩

/-- **Whenever the fast path is open, the remembered size is the true size.**  Existing file, fresh
    sessions (any number, any limits), ANY interleaving with distinguishable modification times
    (`DistRun`): in the state reached, if `can_just_append` holds for a session `j`, then the size
    in its `path_info` is exactly the number of entries in the file, and appending its new lines
    keeps the file within its limit. -/
theorem C11_fast_path_size_exact (ws : Char → Bool) (es0 : List Text) (m0 : Nat) (cfg : Nat → Nat × Bool × Bool)
    (hne : ∀ e ∈ es0, e ≠ []) (ops : List Op)
    (hd : DistRun ws (Sys.init (some { content := atomsOf (fileOf es0), mtime := m0 }) cfg) ops) (j : Nat) :
    ∃ F fm, ((Sys.init (some { content := atomsOf (fileOf es0), mtime := m0 }) cfg).run ws ops).file
        = some { content := atomsOf (fileOf F), mtime := fm } ∧
      (canJustAppend (((Sys.init (some { content := atomsOf (fileOf es0), mtime := m0 }) cfg).run ws ops).sess j)
          { content := atomsOf (fileOf F), mtime := fm } = true →
        ∃ pm, (((Sys.init (some { content := atomsOf (fileOf es0), mtime := m0 }) cfg).run ws ops).sess j).pathInfo
            = some (pm, F.length) ∧
          F.length + (((Sys.init (some { content := atomsOf (fileOf es0), mtime := m0 }) cfg).run ws ops).sess j).fh.newEntries
            ≤ (cfg j).1) := by
  have h := run_accurate ws ops _ (init_good es0 m0 cfg hne) (init_accurate es0 m0 cfg hne) hd
  have hmax := run_maxLen ws ops _ cfg (init_good es0 m0 cfg hne).1 j
  obtain ⟨F, fm, hf, _, _, hall⟩ := h.1
  refine ⟨F, fm, hf, fun hc => ?_⟩
  obtain ⟨pm, size, hp, hpm, hlt, hle⟩ := (canJustAppend_iff _ _).mp hc
  have hsz : size = F.length := by
    rcases (hall j pm size hp).2 hpm with h | h
    · exact h
    · omega
  subst hsz
  exact ⟨pm, hp, by rw [← hmax]; exact hle⟩

/-- **The size limit as an invariant of the whole trace.**  Existing file holding `es0`, fresh
    sessions (any number, any limits), ANY interleaving with distinguishable modification times:
    at every moment the file still holds `es0` untouched, or holds at most `max_len j` entries for
    some session `j` (the last one that wrote).  In particular, if `L` is at least every limit and
    at least the initial size, the file never holds more than `L` entries. -/
theorem C11_bound_always (ws : Char → Bool) (es0 : List Text) (m0 : Nat) (cfg : Nat → Nat × Bool × Bool)
    (hne : ∀ e ∈ es0, e ≠ []) (ops : List Op)
    (hd : DistRun ws (Sys.init (some { content := atomsOf (fileOf es0), mtime := m0 }) cfg) ops) :
    ∃ F m, ((Sys.init (some { content := atomsOf (fileOf es0), mtime := m0 }) cfg).run ws ops).file
        = some { content := atomsOf (fileOf F), mtime := m } ∧
      (F = es0 ∨ ∃ j, F.length ≤ (cfg j).1) ∧
      ∀ L, (∀ j, (cfg j).1 ≤ L) → es0.length ≤ L → F.length ≤ L := by
  obtain ⟨F, ⟨m, hf⟩, hF⟩ := run_bounded ws es0 ops _ (init_good es0 m0 cfg hne)
    (init_accurate es0 m0 cfg hne) ⟨es0, ⟨m0, rfl⟩, Or.inl rfl⟩ hd
  have hF' : F = es0 ∨ ∃ j, F.length ≤ (cfg j).1 :=
    hF.imp id (fun ⟨j, hj⟩ => ⟨j, by rw [run_maxLen ws ops _ cfg (init_good es0 m0 cfg hne).1 j] at hj; exact hj⟩)
  refine ⟨F, m, hf, hF', fun L hL h0 => ?_⟩
  rcases hF' with rfl | ⟨j, hj⟩
  · exact h0
  · exact Nat.le_trans hj (hL j)

example : DistRun C11_ws (Sys.init C11_fileI (fun _ => (3, false, false)))
    [.load 1, .load 2, .add 1 "a".toList, .append 1 1, .add 2 "b".toList, .add 2 "c".toList, .append 2 2] :=
  ⟨by show _ = []; decide, by show _ = []; decide, trivial, by show _ < _; decide, trivial, trivial, by show _ < _; decide, trivial⟩

/-- **Without distinguishable times: what one append can do.**  NO assumption on modification
    times or on `path_info`.  An append by session `i` that has something new either leaves at
    most `max_len i` entries in the file, or it took the fast path: then the new file is the WHOLE
    old file followed by the new lines (nothing is removed), the session's `path_info` matched the
    file's modification time, and the file exceeds the limit by at most `|old file| - remembered
    size`, the number of entries others wrote without the modification time changing.  So the
    only clause of C11 that needs distinguishable times is the bound; "always loads", the shape
    of an append, no loss and no double write are proved above without any such hypothesis. -/
theorem C11_append_overshoot (ws : Char → Bool) (s : Sys) (hg : Good s) (i mt fm : Nat) (F : List Text)
    (hf : s.file = some { content := atomsOf (fileOf F), mtime := fm }) (hne : ∀ e ∈ F, e ≠ [])
    (hnew : (s.sess i).fh.newEntries ≠ 0) :
    ∃ F', (s.append ws i mt).1.file = some { content := atomsOf (fileOf F'), mtime := mt } ∧
      (F'.length ≤ (s.sess i).fh.mem.maxLen ∨
        (F' = F ++ newOnes (s.sess i).fh ∧
          ∃ pm size, (s.sess i).pathInfo = some (pm, size) ∧ pm = fm ∧
            ((s.append ws i mt).1.sess i).pathInfo = some (mt, size + (s.sess i).fh.newEntries) ∧
            F'.length ≤ (s.sess i).fh.mem.maxLen + (F.length - size))) := by
  have hflag := nothingNew_false s i (hg.2 i).2 hnew
  rw [append_eq ws s i mt fm F hf hne hflag]
  refine ⟨_, rfl, ?_⟩
  rcases appendOut_bound_or_fast ws (s.sess i) fm F (hg.2 i) with h | ⟨h1, pm, size, hp, hpm, h2, h3⟩
  · exact Or.inl h
  · exact Or.inr ⟨h1, pm, size, hp, hpm, by rw [wrote_sess_same, h2], h3⟩

/-- **The bound needs distinguishable times (and only the bound is lost).**  Limit 3, file `i`;
    sessions 1 and 2 load; 1 enters `a` and appends, and that write leaves the modification time
    it found (0); 2 enters `b`, `c` and appends: its remembered (time 0, size 1) still matches, it
    takes the fast path and the file holds 4 entries `i a b c` — every line is there, in order,
    the file loads, only the limit is exceeded.  With distinguishable times (1, then 2) session 2
    merges and rewrites: `a b c`. -/
theorem C11_bound_needs_distinguishable :
    C11_entriesOf (SubSys.init ((Sys.init C11_fileI (fun _ => (3, false, false))).run C11_ws
      [.load 1, .load 2, .add 1 "a".toList, .append 1 0, .add 2 "b".toList, .add 2 "c".toList, .append 2 0]) false)
      = some ["i", "a", "b", "c"] ∧
    C11_entriesOf (SubSys.init ((Sys.init C11_fileI (fun _ => (3, false, false))).run C11_ws
      [.load 1, .load 2, .add 1 "a".toList, .append 1 1, .add 2 "b".toList, .add 2 "c".toList, .append 2 2]) false)
      = some ["a", "b", "c"] := by
  decide +kernel

/-- **`path_info` = the true size, along whole traces.**  Existing file, fresh sessions, any
    interleaving with distinguishable times, then an append by any session `i` that has something
    new (with ANY time): the size `i` remembers is the number of entries the file now holds. -/
theorem C11_path_info_size_exact (ws : Char → Bool) (es0 : List Text) (m0 : Nat) (cfg : Nat → Nat × Bool × Bool)
    (hne : ∀ e ∈ es0, e ≠ []) (ops : List Op)
    (hd : DistRun ws (Sys.init (some { content := atomsOf (fileOf es0), mtime := m0 }) cfg) ops)
    (i mt : Nat)
    (hnew : (((Sys.init (some { content := atomsOf (fileOf es0), mtime := m0 }) cfg).run ws ops).sess i).fh.newEntries ≠ 0) :
    ∃ F', (((Sys.init (some { content := atomsOf (fileOf es0), mtime := m0 }) cfg).run ws ops).append ws i mt).1.file
        = some { content := atomsOf (fileOf F'), mtime := mt } ∧
      ((((Sys.init (some { content := atomsOf (fileOf es0), mtime := m0 }) cfg).run ws ops).append ws i mt).1.sess i).pathInfo
        = some (mt, F'.length) := by
  have h := run_accurate ws ops _ (init_good es0 m0 cfg hne) (init_accurate es0 m0 cfg hne) hd
  obtain ⟨F', h1, h2, _⟩ := C11_append_records_size ws _ h.2 h.1 i mt hnew
  exact ⟨F', h1, h2⟩

/-- Non-vacuity of the hypotheses `Good`, `Accurate`, "something new" used above: the state after
    session 1 loaded the file `i` and entered `a`. -/
example : ∃ s : Sys, Good s ∧ Accurate s ∧ (s.sess 1).fh.newEntries ≠ 0 ∧ s.file = C11_fileI :=
  have h := run_accurate C11_ws [.load 1, .add 1 "a".toList]
    (Sys.init (some { content := atomsOf (fileOf ["i".toList]), mtime := 0 }) (fun _ => (3, false, false)))
    (init_good _ 0 _ (by show ∀ e ∈ ["i".toList], e ≠ []; decide))
    (init_accurate _ 0 _ (by show ∀ e ∈ ["i".toList], e ≠ []; decide))
    ⟨by show _ = []; decide, trivial, trivial⟩
  ⟨_, h.2, h.1, by decide, by decide⟩
