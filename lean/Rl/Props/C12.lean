/-
  Property C12 — a torn or foreign history file never crashes the load and never invents entries.
  Model: Rl/HistFile.lean (transliteration of `load_from` of src/history.rs; D19: a backslash left
  dangling at the end of a line is dropped, the unescaped prefix is kept).
  Spec (oracle on the implementation): Rl/Spec/HistFile.lean.  Lemmas: Rl/Lemmas/HistFile.lean.

  In the model every slice / index of the unescape loop is an `Option` (`hfSliceTo`, `byteAt`,
  `hfSliceFrom`), a `none` is reported as status `panic`; so "never panics" is a theorem about the
  byte arithmetic, not a consequence of totality.
-/
import Rl.HistFile
import Rl.Lemmas.HistFile
open Rl

/-- The unescape loop never slices off a character boundary and never indexes out of range, on
    any line whatsoever: after a backslash only one ASCII byte is skipped, and the index is
    guarded. -/
theorem C12_unescape_total (line : Text) : ∃ r, unescape line = some r :=
  ⟨_, unescape_eq line⟩

/-- Loading arbitrary bytes (any list of atoms: invalid UTF-8, lone backslashes, CR/LF mixes, empty
    file, header only …) into any history never panics: the status is ok, invalid-data — never
    `panic` (and `io` is not produced by the reader either). -/
theorem C12_no_panic (ws : Char → Bool) (f : List Atom) (h : FileHist) :
    (loadFrom ws f h).status = .ok ∨ (loadFrom ws f h).status = .invalidData :=
  loadFrom_status ws f h

/-- Whatever the file and whatever the outcome, the history afterwards is the history before with
    some lines added through `add` — nothing is cleared, replaced or altered, so the store
    invariants of C09 (size bound, order) keep holding and the history stays usable. -/
theorem C12_load_only_adds (ws : Char → Bool) (f : List Atom) (h : FileHist) :
    ∃ added, (loadFrom ws f h).h.mem = (addAll ws h added).mem :=
  loadFrom_only_adds ws f h

/-- An error keeps what was loaded before it: if the file consists of complete lines `good` that
    load without error, followed by a line `b` that is not valid UTF-8, followed by anything, then
    the load returns invalid-data and the history holds exactly what loading `good` alone gives. -/
theorem C12_error_keeps_loaded (ws : Char → Bool) (good b rest : List Atom) (h : FileHist)
    (hgood : good = [] ∨ ∃ g, good = g ++ [Atom.chr '\n'])
    (hb : lineText b = none) (hbnl : Atom.chr '\n' ∉ b)
    (hrest : rest = [] ∨ ∃ r, rest = Atom.chr '\n' :: r)
    (hok : (loadFrom ws good h).status = .ok) :
    (loadFrom ws (good ++ b ++ rest) h).status = .invalidData ∧
    (loadFrom ws (good ++ b ++ rest) h).h.mem = (loadFrom ws good h).h.mem := by
  have hbne : b ≠ [] := by intro h'; subst h'; simp [lineText] at hb
  -- the bad line as a `lines()` item
  obtain ⟨term, L2, hbl⟩ : ∃ term L2, splitLines (b ++ rest) = (b, term) :: L2 := by
    rcases hrest with h' | ⟨r, h'⟩
    · subst h'; exact ⟨false, [], by rw [List.append_nil]; exact splitLines_last b hbnl hbne⟩
    · subst h'; exact ⟨true, splitLines r, splitLines_line b hbnl r⟩
  have hsplit : splitLines (good ++ b ++ rest) = splitLines good ++ (b, term) :: L2 := by
    rcases hgood with rfl | ⟨g, rfl⟩
    · simpa [splitLines] using hbl
    · have := splitLines_complete g (b ++ rest)
      rw [hbl] at this
      simpa [List.append_assoc] using this
  have := loadFrom_bad_line ws hb hsplit h
  exact ⟨this.2 hok, this.1⟩

/-- Torn file: for every storable entry list, every configuration and EVERY cut offset `k ≥ 4`
    (bytes, so cuts inside multi-byte characters and inside escapes are included; 4 = the length
    of the header line `#V2\n`, for a cut inside it see `C12_header_cut`), loading the
    first `k` bytes of the written file into a fresh history gives status ok or invalid-data (the
    latter exactly when a character was cut), and the entries are the written entries in order:
    the first `j` complete and identical, then at most one more, which is a prefix of the `j`-th
    written entry.  Nothing else: no entry altered, duplicated or invented.  And nothing complete
    is lost: every entry whose line lies entirely within the first `k` bytes is among the `j`. -/
theorem C12_prefix (ws : Char → Bool) (max : Nat) (isp idp : Bool) (es : List Text)
    (hs : Storable ws max isp idp es) (k : Nat) (h4 : 4 ≤ k) :
    ((loadFrom ws (cutAtoms (atomsOf (fileOf es)) k) (FileHist.new max isp idp)).status = .ok ∨
     (loadFrom ws (cutAtoms (atomsOf (fileOf es)) k) (FileHist.new max isp idp)).status = .invalidData) ∧
    ∃ j, j ≤ es.length ∧
      (∀ m, m ≤ es.length → blen (fileOf (es.take m)) ≤ k → m ≤ j) ∧
      (loadFrom ws (cutAtoms (atomsOf (fileOf es)) k) (FileHist.new max isp idp)).h.mem.entries.take j = es.take j ∧
      ((loadFrom ws (cutAtoms (atomsOf (fileOf es)) k) (FileHist.new max isp idp)).h.mem.entries.length = j ∨
       ((loadFrom ws (cutAtoms (atomsOf (fileOf es)) k) (FileHist.new max isp idp)).h.mem.entries.length = j + 1 ∧
        ∃ e g, es[j]? = some e ∧
          (loadFrom ws (cutAtoms (atomsOf (fileOf es)) k) (FileHist.new max isp idp)).h.mem.entries[j]? = some g ∧
          g <+: e)) := by
  -- The cut file is: the file of `es.take j`, then a prefix `q` of the escaped `j`-th entry (no
  -- LF in it), then the bytes `bads` of a cut character.  Loading the first part gives
  -- `es.take j`; the last, unterminated line gives nothing (`bads ≠ []`: not UTF-8; `q = []`), or
  -- the unescaped `q`, a prefix of `es[j]`.  Maximality of `j`: count the LFs in `k` bytes.
  obtain ⟨k', rfl⟩ : ∃ k', k = k' + 4 := ⟨k - 4, by omega⟩
  obtain ⟨p, bads, hp, hcut, hbads⟩ := cutAtoms_atomsOf (linesOf es) k'
  obtain ⟨j, q, hj, hpq, hq⟩ := prefix_linesOf es p hp
  have hfile : cutAtoms (atomsOf (fileOf es)) (k' + 4)
      = atomsOf (fileOf (es.take j)) ++ (atomsOf q ++ bads) := by
    rw [cutAtoms_fileOf, hcut, hpq]
    simp [fileOf, atomsOf]
  have hqnl : '\n' ∉ q := by
    rcases hq with hq | ⟨e, _, hq⟩
    · subst hq; simp
    · exact fun h' => esc_not_mem (.inl rfl) e (hq.subset h')
  have hbnl : Atom.chr '\n' ∉ bads := by
    intro h'
    obtain ⟨b, hb⟩ := hbads _ h'
    simp at hb
  have hmax : ∀ m, m ≤ es.length → blen (fileOf (es.take m)) ≤ k' + 4 → m ≤ j := by
    intro m _ hb
    have hb' : blen (linesOf (es.take m)) ≤ k' := by
      have : blen (fileOf (es.take m)) = 4 + blen (linesOf (es.take m)) := by
        simp only [fileOf, header, blen_cons, List.cons_append, List.nil_append]
        rw [show ('#' : Char).utf8Size = 1 from rfl, show ('V' : Char).utf8Size = 1 from rfl,
          show ('2' : Char).utf8Size = 1 from rfl, show ('\n' : Char).utf8Size = 1 from rfl]
        omega
      omega
    have hpre : linesOf (es.take m) <+: linesOf es := by
      conv => rhs; rw [← List.take_append_drop m es, linesOf_append]
      exact List.prefix_append _ _
    have h1 := cutAtoms_prefix_max _ _ _ hpre hb'
    rw [hcut, hpq] at h1
    have h2 := h1.sublist.count_le (Atom.chr '\n')
    have hq0 := count_nl_atomsOf_of_not_mem hqnl
    have hb0 := List.count_eq_zero.mpr hbnl
    rw [count_nl_linesOf, List.count_append, atomsOf_append, List.count_append, count_nl_linesOf, hq0, hb0] at h2
    simp at h2
    omega
  have hsj := hs.take j
  have hlenj : (es.take j).length = j := by simp; omega
  have hA := addAll_storable ws (es.take j) [] (FileHist.new max isp idp) rfl hsj
  refine ⟨loadFrom_status .., j, hj, hmax, ?_⟩
  rw [hfile, loadFrom_fileOf ws (es.take j) hsj.nonempty]
  generalize hAdef : addAll ws (FileHist.new max isp idp) (List.take j es) = A at hA
  generalize acceptAll ws (FileHist.new max isp idp) (List.take j es) = app
  obtain ⟨hAe, _, hAmax, _, _⟩ := hA
  simp only [List.nil_append] at hAe
  by_cases htail : atomsOf q ++ bads = []
  · -- cut exactly at the end of a line
    rw [htail]
    simp only [splitLines, loadLines]
    exact ⟨by rw [hAe, List.take_take, Nat.min_self], Or.inl (by rw [hAe, hlenj])⟩
  · have hnonl : Atom.chr '\n' ∉ atomsOf q ++ bads := by
      rw [List.mem_append, mem_atomsOf]; exact fun h' => h'.elim hqnl hbnl
    rw [splitLines_last _ hnonl htail]
    simp only [loadLines, decodeLine, lineText_bads q bads hbads, Bool.false_eq_true, if_false]
    by_cases hb0 : bads = []
    · subst hb0
      have hqne : q ≠ [] := by intro h'; subst h'; simp [atomsOf] at htail
      rcases hq with hq | ⟨e, hej, hq⟩
      · exact absurd hq hqne
      · obtain ⟨e', he', hu⟩ := unescChars_esc_prefix e q hq
        have hjlt : j < es.length := (List.getElem?_eq_some_iff.mp hej).1
        have hlt : A.mem.entries.length < A.mem.maxLen := by
          rw [hAe, hlenj, hAmax]; simp [FileHist.new, MemHist.new]; have := hs.1; omega
        simp only [if_true, Option.map_some, List.isEmpty_iff, hqne, if_false, unescape_eq, hu,
          Option.getD_some]
        rcases add_entries ws A e' hlt with h1 | h1
        · rw [h1, hAe]
          exact ⟨by rw [List.take_take, Nat.min_self], Or.inl hlenj⟩
        · rw [h1, hAe]
          refine ⟨by simp [hlenj], Or.inr ⟨by simp [hlenj], e, e', hej, ?_, he'⟩⟩
          rw [List.getElem?_append_right (by simp [hlenj])]
          simp [hlenj]
    · simp only [hb0, if_false, Option.map_none]
      exact ⟨by rw [hAe, List.take_take, Nat.min_self], Or.inl (by rw [hAe, hlenj])⟩

/-- loading an empty file changes no entry -/
theorem C12_empty_file (ws : Char → Bool) (h : FileHist) :
    (loadFrom ws [] h).status = .ok ∧ (loadFrom ws [] h).h.mem = h.mem := by
  simp [loadFrom, splitLines]

/-! Non-vacuity and the D19 witnesses (kernel-evaluated): the entry "\n" is written as `\n`; the
    file cut after the backslash (offset 5) yields no entry (D19: not the invented entry
    "\"); `x⏎y\z` cut inside its second escape yields the prefix `x⏎y`; a cut inside `é` gives
    invalid-data and keeps the complete entry before it. -/
example :
    (loadFrom (fun c => c == ' ') (cutAtoms (atomsOf (fileOf ["\n".toList])) 5) (FileHist.new 9 false false)).h.mem.entries = [] ∧
    (loadFrom (fun c => c == ' ') (cutAtoms (atomsOf (fileOf ["x\ny\\z".toList])) 9) (FileHist.new 9 false false)).h.mem.entries
      = ["x\ny".toList] ∧
    (loadFrom (fun c => c == ' ') (cutAtoms (atomsOf (fileOf ["ab".toList, "é".toList])) 8) (FileHist.new 9 false false)).status
      = .invalidData ∧
    (loadFrom (fun c => c == ' ') (cutAtoms (atomsOf (fileOf ["ab".toList, "é".toList])) 8) (FileHist.new 9 false false)).h.mem.entries
      = ["ab".toList] ∧
    cutAtoms (atomsOf (fileOf ["ab".toList, "é".toList])) 8 = atomsOf "#V2\nab\n".toList ++ [Atom.bad 195] := by
  decide

/-- Exact outcome of a load of ARBITRARY bytes, into any history: the load reports invalid-data
    if and only if the file contains a byte that is not part of a validly encoded character, and
    succeeds if and only if it contains none.  (So lone backslashes, unknown escapes, CR/LF mixes,
    empty lines, a missing or repeated header … can never make a load fail, let alone panic.) -/
theorem C12_status_exact (ws : Char → Bool) (f : List Atom) (h : FileHist) :
    ((loadFrom ws f h).status = .invalidData ↔ ∃ b, Atom.bad b ∈ f) ∧
    ((loadFrom ws f h).status = .ok ↔ ∀ b, Atom.bad b ∉ f) := by
  have h1 := loadFrom_status_iff ws f h
  exact ⟨h1, by rw [loadFrom_ok_iff, h1, not_exists]⟩

/-- No panic anywhere in a whole session.  From ANY world (any history, any file content, stale
    or not) and for EVERY sequence of operations — adds, saves, appends (fast path and re-read
    path), loads into the current or a fresh history, and outside events that truncate the file
    at any byte offset, replace it by arbitrary bytes or remove it — no call ever reports the
    status `panic`: each save / append / load ends with ok, invalid-data or (file missing) io. -/
theorem C12_session_never_panics (ws : Char → Bool) (ops : List FOp) (w : World) :
    ∀ o ∈ (World.run ws w ops).2, o ≠ FObs.status HfStatus.panic := by
  have hsave : ∀ w : World, w.save.2 = .ok := by
    intro w; simp only [World.save]; split <;> rfl
  have hnp : ∀ f h, (loadFrom ws f h).status ≠ .panic := by
    intro f h; rcases C12_no_panic ws f h with h' | h' <;> simp [h']
  have hload : ∀ w : World, (w.load ws).2 ≠ .panic := by
    intro w
    cases hf : w.file with
    | none => simp [World.load, hf]
    | some f => rw [(World.load_some ws w f hf).1]; exact hnp _ _
  have happ : ∀ w : World, (w.append ws).2 ≠ .panic := by
    intro w
    simp only [World.append]
    repeat' split
    all_goals first | exact hnp _ _ | (rw [hsave]; simp) | simp
  induction ops generalizing w with
  | nil => simp [World.run]
  | cons op ops ih =>
    intro o ho
    simp only [World.run, List.mem_cons] at ho
    rcases ho with ho | ho
    · subst ho
      cases op with
      | save => simp [World.step, hsave]
      | append => simpa [World.step] using happ w
      | freshLoad => simpa [World.step] using hload _
      | load => simpa [World.step] using hload w
      | cut k =>
        simp only [World.step]
        repeat' split
        all_goals simp
      | _ => simp [World.step]
    · exact ih _ o ho

/-- The conclusion of the torn-file theorem, for a load result `r` of a file that was cut after `k`
    bytes, relative to the written entry list `es`: status ok or invalid-data; the first `j` entries
    are complete and identical, every entry whose line lies within the first `k` bytes is among
    them, and there is at most one more entry, which is a prefix of the `j`-th written one. -/
def C12_TornOutcome (es : List Text) (k : Nat) (r : LoadRes) : Prop :=
  (r.status = .ok ∨ r.status = .invalidData) ∧
  ∃ j, j ≤ es.length ∧
    (∀ m, m ≤ es.length → blen (fileOf (es.take m)) ≤ k → m ≤ j) ∧
    r.h.mem.entries.take j = es.take j ∧
    (r.h.mem.entries.length = j ∨
     (r.h.mem.entries.length = j + 1 ∧
      ∃ e g, es[j]? = some e ∧ r.h.mem.entries[j]? = some g ∧ g <+: e))

/-- Torn file after `save` + any number of `append`s: the file that `save` wrote for `es` and that
    was then extended by the fast path of `append` with the batches `bs` (any number of batches,
    each any list of entries), cut at EVERY byte offset `k ≥ 4` — inside the saved part, inside any
    appended batch, inside a multi-byte character, between a backslash and its escape letter —
    loads without panic as the entries `es ++ bs.flatten` in order, the last one possibly cut
    short, nothing altered, duplicated or invented (hypothesis: the combined list fits the
    settings, which is what the fast path checks). -/
theorem C12_prefix_appended (ws : Char → Bool) (max : Nat) (isp idp : Bool) (es : List Text)
    (bs : List (List Text)) (hs : Storable ws max isp idp (es ++ bs.flatten)) (k : Nat) (h4 : 4 ≤ k) :
    C12_TornOutcome (es ++ bs.flatten) k
      (loadFrom ws (cutAtoms (appendedFile es bs) k) (FileHist.new max isp idp)) := by
  rw [appendedFile_eq]
  exact C12_prefix ws max isp idp _ hs k h4

example : Storable (fun c => c == ' ') 9 false false (["a\n".toList] ++ [["é".toList], ["\r".toList, "z".toList]].flatten) ∧
    appendedFile ["a\n".toList] [["é".toList], ["\r".toList, "z".toList]]
      = atomsOf "#V2\na\\n\né\n\\r\nz\n".toList := by
  refine ⟨⟨by decide, ?_, by simp⟩, by decide⟩
  intro e he
  simp only [List.flatten_cons, List.flatten_nil, List.append_nil, List.cons_append, List.nil_append,
    List.mem_cons, List.not_mem_nil, or_false] at he
  rcases he with rfl | rfl | rfl | rfl <;> exact ⟨by decide, by simp⟩

/-- Torn HEADER (the case the property excludes, stated so that the boundary is exact): a cut at
    offset `k < 4` never fails, and the load yields nothing for `k = 0` and `k = 3` (`#V2` without
    its line feed is still recognised), but for `k = 1` / `k = 2` the fragment `#` / `#V` is taken
    for a legacy file and handed to `add` as an ENTRY.  The hypothesis `4 ≤ k` of the torn-file
    theorem is therefore necessary: see the witness below. -/
theorem C12_header_cut (ws : Char → Bool) (max : Nat) (isp idp : Bool) (es : List Text) (k : Nat)
    (hk : k < 4) :
    (loadFrom ws (cutAtoms (atomsOf (fileOf es)) k) (FileHist.new max isp idp)).status = .ok ∧
    (loadFrom ws (cutAtoms (atomsOf (fileOf es)) k) (FileHist.new max isp idp)).h.mem
      = (addAll ws (FileHist.new max isp idp)
          (if k = 1 then [['#']] else if k = 2 then [['#', 'V']] else [])).mem := by
  have h1 : ('#' : Char).utf8Size = 1 := rfl
  have h2 : ('V' : Char).utf8Size = 1 := rfl
  have h3 : ('2' : Char).utf8Size = 1 := rfl
  have hk' : k = 0 ∨ k = 1 ∨ k = 2 ∨ k = 3 := by omega
  rcases hk' with rfl | rfl | rfl | rfl <;>
    simp [fileOf, header, atomsOf, cutAtoms, h1, h2, h3, loadFrom, splitLines, decodeLine, lineText,
      loadLines, addAll]

/-- witness: a history file torn inside its header makes the next load invent the entry `#` -/
theorem C12_header_cut_invents_entry :
    (loadFrom (fun c => c == ' ') (cutAtoms (atomsOf (fileOf ["ab".toList])) 1) (FileHist.new 9 false false)).h.mem.entries
      = ["#".toList] ∧
    (loadFrom (fun c => c == ' ') (cutAtoms (atomsOf (fileOf ["ab".toList])) 2) (FileHist.new 9 false false)).h.mem.entries
      = ["#V".toList] := by
  decide

/-- When exactly a torn file gives an error.  For EVERY entry list (storable or not), every
    history loaded into and EVERY cut offset `k` (header included): loading the first `k` bytes of
    the written file reports invalid-data if and only if the cut falls strictly inside the file and
    not on a character boundary (it splits a multi-byte character); in every other case — a cut on
    a character boundary anywhere: inside the header, between a backslash and its escape letter,
    in the middle of a line — the load succeeds. -/
theorem C12_torn_status_exact (ws : Char → Bool) (es : List Text) (h : FileHist) (k : Nat) :
    ((loadFrom ws (cutAtoms (atomsOf (fileOf es)) k) h).status = .invalidData ↔
      (k < blen (fileOf es) ∧ ¬ ∃ p, p <+: fileOf es ∧ blen p = k)) ∧
    ((loadFrom ws (cutAtoms (atomsOf (fileOf es)) k) h).status = .ok ↔
      (blen (fileOf es) ≤ k ∨ ∃ p, p <+: fileOf es ∧ blen p = k)) := by
  have h1 := (loadFrom_status_iff ws (cutAtoms (atomsOf (fileOf es)) k) h).trans (cutAtoms_bad_iff _ k)
  exact ⟨h1, by rw [loadFrom_ok_iff, h1, Classical.not_and_iff_not_or_not, Nat.not_lt, Classical.not_not]⟩

/-- both outcomes occur: `é` occupies offsets 4–5 of the file of `["é"]` -/
example :
    (loadFrom (fun c => c == ' ') (cutAtoms (atomsOf (fileOf ["é".toList])) 5) (FileHist.new 9 false false)).status = .invalidData ∧
    (loadFrom (fun c => c == ' ') (cutAtoms (atomsOf (fileOf ["é".toList])) 6) (FileHist.new 9 false false)).status = .ok := by
  decide

/-- The torn-file theorem as a SESSION: in any world whose file is what `save` wrote for `es`
    followed by any `append` batches `bs`, the outside event "the file is truncated to its first
    `k` bytes" (any `k ≥ 4`, also beyond the end of the file, where nothing happens) followed by a
    new session that loads the file reports a status `st` and leaves a history such that the
    torn-file outcome holds: ok or invalid-data, the written entries in order, the last one
    possibly cut short, nothing altered, duplicated or invented. -/
theorem C12_session_torn (ws : Char → Bool) (w : World) (es : List Text) (bs : List (List Text))
    (hf : w.file = some (appendedFile es bs))
    (hs : Storable ws w.sess.fh.mem.maxLen w.sess.fh.mem.ignoreSpace w.sess.fh.mem.ignoreDups
            (es ++ bs.flatten)) (k : Nat) (h4 : 4 ≤ k) :
    ∃ st, (World.run ws w [.cut k, .freshLoad]).2 = [.unit, .status st] ∧
      C12_TornOutcome (es ++ bs.flatten) k
        { h := (World.run ws w [.cut k, .freshLoad]).1.sess.fh, status := st, appendable := false } := by
  have hp := C12_prefix_appended ws _ _ _ es bs hs k h4
  obtain ⟨w1, hw1, hfile1, hsess1⟩ : ∃ w1, w.step ws (.cut k) = (w1, .unit) ∧
      w1.file = some (cutAtoms (appendedFile es bs) k) ∧ w1.sess = w.sess := by
    simp only [World.step, hf]
    split
    · exact ⟨_, rfl, rfl, rfl⟩
    · exact ⟨_, rfl, by rw [hf, cutAtoms_of_size_le _ _ (by omega)], rfl⟩
  have hl := World.load_some ws { w1 with sess := { fh := freshHist w1.sess.fh, pathSize := none } } _ hfile1
  have hrun : World.run ws w [.cut k, .freshLoad]
      = ((w1.step ws .freshLoad).1, [.unit, (w1.step ws .freshLoad).2]) := by
    simp only [World.run]; rw [hw1]
  rw [hrun]
  simp only [World.step]
  refine ⟨_, rfl, ?_⟩
  unfold C12_TornOutcome at hp ⊢
  simp only [hsess1, freshHist] at hl ⊢
  simp only [hl.1, hl.2]
  exact hp
