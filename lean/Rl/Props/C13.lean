/-
  Property C13 — Enter returns a line only if the validator accepts exactly that line.
  Model: `execAccept` / `acceptDecision` / `validate` in Rl/Editor.lean (command.rs:132-156, edit.rs:237-262).
  The non-terminal clause is proved in Rl/Props/C18.lean (`C18_validator…`).
  Second half (`C13_bracket_*`, `C13_highlight_*`): the bracket matching of `MatchingBracketHighlighter`
  (src/highlight.rs, model Rl/Highlight.lean): the partner it reports is the nearest balanced one and equals the
  counting oracle of Rl/Spec/Highlight.lean; on the line it was computed for, `highlight` does not panic.
-/
import Rl.Editor
import Rl.Lemmas.EditorM
import Rl.Lemmas.EditorOps
import Rl.Props.C03
import Rl.Highlight
import Rl.Lemmas.Highlight
import Rl.Spec.Highlight
import Rl.Lemmas.HighlightOracle
open Rl

/-- The decision table: Enter submits only on a Valid verdict. -/
theorem C13_table_submit (aim valid hasMsg atEnd : Bool)
    (h : acceptDecision aim valid hasMsg atEnd = .submit) : valid = true := by
  unfold acceptDecision at h
  cases valid <;> cases hasMsg <;> simp at h ⊢

/-- With `accept_in_the_middle` (the binding of Enter / C-j / C-m) a Valid verdict always submits. -/
theorem C13_table_valid_submits (hasMsg atEnd : Bool) :
    acceptDecision true true hasMsg atEnd = .submit := by
  unfold acceptDecision; simp

/-- Incomplete (no message): a line break is inserted. -/
theorem C13_table_incomplete (aim atEnd : Bool) :
    acceptDecision aim false false atEnd = .insertNewline := by
  unfold acceptDecision; simp

/-- Invalid with a message: the text is left alone. -/
theorem C13_table_invalid_msg (aim atEnd : Bool) :
    acceptDecision aim false true atEnd = .stay := by
  unfold acceptDecision; simp

/-- Full statement at the level of the editor step: if the Enter command submits, the validator
    judged the buffer Valid and the buffer is what is returned. -/
def C13_submit_requires_valid_statement : Prop :=
  ∀ (S : Segmenter) (U : UData) (cfg : EdCfg) (aim : Bool) (s s' : Ed),
    execAccept S U cfg aim s = .ok (.submit, s') →
    s'.line = s.line ∧ (cfg.hasHelper = true → ∃ m, cfg.validator s.line.buf = .valid m)

theorem C13_act_submit_valid (U : UData) (cfg : EdCfg) (aim : Bool) (s : Ed)
    (h : acceptActOf U cfg aim s = .submit) :
    (cfg.hasHelper = true → ∃ m, cfg.validator s.line.buf = .valid m) ∧
    (aim = false → LB.isEndOfInput U s.line = true) := by
  unfold acceptActOf at h
  have hv := C13_table_submit _ _ _ _ h
  constructor
  · intro hh
    unfold verdictOf at hv
    rw [if_pos hh] at hv
    cases hc : cfg.validator s.line.buf with
    | valid m => exact ⟨m, rfl⟩
    | _ => rw [hc] at hv; simp [Verdict.isValid] at hv
  · intro ha
    subst ha
    unfold acceptDecision at h
    cases he : LB.isEndOfInput U s.line with
    | true => rfl
    | false =>
      rw [he] at h
      cases hv1 : (verdictOf cfg s.line.buf).isValid <;> cases hv2 : (verdictOf cfg s.line.buf).hasMsg <;>
        simp [hv1, hv2] at h

/-- **Enter submits only what the validator accepted, unchanged** (the statement above, proved): the
    line handed back is exactly the line that was validated, and the verdict on it was Valid. -/
theorem C13_submit_requires_valid : C13_submit_requires_valid_statement := by
  intro S U cfg aim s s' h
  have hs := wp_ok (execAccept_spec S U cfg aim s) h
  obtain ⟨_, _, _, _, _, hm⟩ := hs
  cases ha : acceptActOf U cfg aim s with
  | submit =>
    rw [ha] at hm
    exact ⟨hm.2, (C13_act_submit_valid U cfg aim s ha).1⟩
  | insertNewline => rw [ha] at hm; exact absurd hm.1 (by decide)
  | stay => rw [ha] at hm; exact absurd hm.1 (by decide)

/-- what `execute (AcceptOrInsertLine aim)` does, by the action of the decision table; the last exit
    is a helper's own panic (a hinter scripted to panic while the inserted line break is displayed) -/
theorem C13_execute_by_action (S : Segmenter) (U : UData) (cfg : EdCfg) (aim : Bool) (s : Ed) :
    wp (execute S U cfg (.acceptOrInsertLine aim))
      (fun st s' => verdictOf cfg s.line.buf ≠ .error ∧
        match acceptActOf U cfg aim s with
        | .submit => st = .submit ∧ s'.line = s.line
        | .insertNewline => st = .proceed ∧ ∃ r ns, LB.insert S U '\n' 1 s.line = .ok (r, s'.line, ns)
        | .stay => st = .proceed ∧ s'.line = s.line)
      (fun o s' => (s'.line = s.line ∧
        ((o = .helperError ∧ cfg.hasHelper = true ∧ cfg.validator s.line.buf = .error) ∨
         (o = .panic ∧ cfg.hasHelper = true ∧ cfg.validator s.line.buf = .panic) ∨
         (o = .panic ∧ verdictOf cfg s.line.buf ≠ .error ∧ acceptActOf U cfg aim s = .insertNewline ∧
           ∃ e, LB.insert S U '\n' 1 s.line = .error e))) ∨
        (o = .panic ∧ cfg.hinterPanicAt ≠ none ∧ verdictOf cfg s.line.buf ≠ .error ∧
          acceptActOf U cfg aim s = .insertNewline))
      s := by
  rw [execute_acceptOrInsertLine]
  refine wp_withPreAccept S U cfg fun s1 hc => ?_
  obtain ⟨hl, _⟩ := Ed.core_eq hc
  have hact : acceptActOf U cfg aim s1 = acceptActOf U cfg aim s := by unfold acceptActOf; rw [hl]
  refine wp_mono (execAccept_spec S U cfg aim s1) ?_ ?_
  · intro st s2 ⟨hne, _, _, _, _, hm⟩
    rw [hact, hl] at hm
    exact ⟨hl ▸ hne, hm⟩
  · intro o s2 hE
    rw [hact, hl] at hE
    rcases hE with ⟨h1, h2⟩ | h3
    · exact .inl ⟨h1, h2⟩
    · exact .inr h3

/-- The same for the whole `execute` step of the command bound to Enter / C-j / C-m (which first
    clears hint and highlight from the display); without `accept_in_the_middle` the cursor was
    moreover at the end of the input. -/
theorem C13_execute_submit (S : Segmenter) (U : UData) (cfg : EdCfg) (aim : Bool) (s s' : Ed)
    (h : execute S U cfg (.acceptOrInsertLine aim) s = .ok (.submit, s')) :
    s'.line = s.line ∧ (cfg.hasHelper = true → ∃ m, cfg.validator s.line.buf = .valid m) ∧
    (aim = false → LB.isEndOfInput U s.line = true) := by
  have hm := (wp_ok (C13_execute_by_action S U cfg aim s) h).2
  cases ha : acceptActOf U cfg aim s with
  | submit => rw [ha] at hm; exact ⟨hm.2, C13_act_submit_valid U cfg aim s ha⟩
  | insertNewline => rw [ha] at hm; exact absurd hm.1 (by decide)
  | stay => rw [ha] at hm; exact absurd hm.1 (by decide)

/-- **Incomplete**: a line break is inserted at the cursor (the line becomes exactly what
    `LineBuffer::insert('\n', 1)` makes of it) and the read goes on.  For helpers that do not panic
    (`hinterPanicAt = none`: the hinter is asked again once the line break is in; a panicking helper
    is C16's business). -/
theorem C13_incomplete_inserts_newline (S : Segmenter) (U : UData) (cfg : EdCfg) (aim : Bool) (s : Ed)
    (r : Option Bool) (l : LB) (ns : List Notif)
    (hh : cfg.hasHelper = true) (hv : cfg.validator s.line.buf = .incomplete)
    (hnp : cfg.hinterPanicAt = none)
    (hi : LB.insert S U '\n' 1 s.line = .ok (r, l, ns)) :
    ∃ s', execute S U cfg (.acceptOrInsertLine aim) s = .ok (.proceed, s') ∧ s'.line = l := by
  have hact : acceptActOf U cfg aim s = .insertNewline := by
    unfold acceptActOf verdictOf; rw [if_pos hh, hv]; exact C13_table_incomplete aim _
  rcases wp_cases (C13_execute_by_action S U cfg aim s) with ⟨st, s', hx, _, hm⟩ | ⟨o, s', _, hE⟩
  · rw [hact] at hm
    obtain ⟨rfl, r', ns', hi'⟩ := hm
    cases hi.symm.trans hi'
    exact ⟨s', hx, rfl⟩
  · rcases hE with ⟨_, ⟨_, _, h⟩ | ⟨_, _, h⟩ | ⟨_, _, _, e, h⟩⟩ | ⟨_, hne, _⟩
    · cases hv.symm.trans h
    · cases hv.symm.trans h
    · cases hi.symm.trans h
    · exact absurd hnp hne

/-- the insertion itself cannot fail from a state whose cursor is on a character boundary (C03);
    helpers that do not panic -/
theorem C13_incomplete_total (S : Segmenter) (U : UData) (cfg : EdCfg) (aim : Bool) (s : Ed)
    (hwf : WF s.line) (hh : cfg.hasHelper = true) (hv : cfg.validator s.line.buf = .incomplete)
    (hnp : cfg.hinterPanicAt = none) :
    ∃ s' r ns, execute S U cfg (.acceptOrInsertLine aim) s = .ok (.proceed, s') ∧
      LB.insert S U '\n' 1 s.line = .ok (r, s'.line, ns) := by
  obtain ⟨r, l, ns, hi, _⟩ := C03_insert_total_wf S U '\n' 1 s.line hwf
  obtain ⟨s', h1, h2⟩ := C13_incomplete_inserts_newline S U cfg aim s r l ns hh hv hnp hi
  exact ⟨s', r, ns, h1, h2 ▸ hi⟩

/-- **Invalid with a message**: the text (and cursor) is left unchanged and the read goes on. -/
theorem C13_invalid_msg_keeps_text (S : Segmenter) (U : UData) (cfg : EdCfg) (aim : Bool) (s : Ed)
    (hh : cfg.hasHelper = true) (hv : cfg.validator s.line.buf = .invalid true) :
    ∃ s', execute S U cfg (.acceptOrInsertLine aim) s = .ok (.proceed, s') ∧ s'.line = s.line := by
  have hact : acceptActOf U cfg aim s = .stay := by
    unfold acceptActOf verdictOf; rw [if_pos hh, hv]; exact C13_table_invalid_msg aim _
  rcases wp_cases (C13_execute_by_action S U cfg aim s) with ⟨st, s', hx, _, hm⟩ | ⟨o, s', _, hE⟩
  · rw [hact] at hm
    obtain ⟨rfl, hl⟩ := hm
    exact ⟨s', hx, hl⟩
  · rcases hE with ⟨_, ⟨_, _, h⟩ | ⟨_, _, h⟩ | ⟨_, _, h, _⟩⟩ | ⟨_, _, _, h⟩
    · cases hv.symm.trans h
    · cases hv.symm.trans h
    · cases hact.symm.trans h
    · cases hact.symm.trans h

/-- **Validator error**: the step ends the read with the error outcome — never with a line, and
    never by continuing to edit; the text is untouched. -/
theorem C13_error_propagates (S : Segmenter) (U : UData) (cfg : EdCfg) (aim : Bool) (s : Ed)
    (hh : cfg.hasHelper = true) (hv : cfg.validator s.line.buf = .error) :
    ∃ s', execute S U cfg (.acceptOrInsertLine aim) s = .error (.helperError, s') ∧ s'.line = s.line := by
  have hverr : verdictOf cfg s.line.buf = .error := by unfold verdictOf; rw [if_pos hh, hv]
  rcases wp_cases (C13_execute_by_action S U cfg aim s) with ⟨_, _, _, h, _⟩ | ⟨o, s', hx, hE⟩
  · exact absurd hverr h
  · rcases hE with ⟨hl, ⟨rfl, _, _⟩ | ⟨_, _, h⟩ | ⟨_, h, _⟩⟩ | ⟨_, _, h, _⟩
    · exact ⟨s', hx, hl⟩
    · cases hv.symm.trans h
    · exact absurd hverr h
    · exact absurd hverr h

/-- non-vacuity: every action of the table occurs -/
example : acceptDecision true true false false = .submit ∧ acceptDecision false true false false = .insertNewline
    ∧ acceptDecision true false true true = .stay := by decide

/-! ## Bracket matching of `MatchingBracketHighlighter` (`src/highlight.rs`, model `Rl/Highlight.lean`,
    spec `Rl/Spec/Highlight.lean`); the bracket *validator* is modelled in `Rl/Direct.lean`. -/
section BracketMatching
open Rl.Highlight

/-- Bracket matching, forward (`find_matching_bracket` for an opening bracket `br` remembered at
    byte `pos`).  If a partner `(m, q)` is reported then `m` is the closing bracket of the same kind,
    `q` is after `pos`, byte `q` of the line is `m`, the bytes strictly between `pos` and `q`
    contain as many `m` as `br` (balanced for this kind), and in no prefix of them do the closing
    brackets outnumber the opening ones — so no earlier byte closes the bracket: `q` is the nearest
    position that does.  Hypothesis: `br` is one of `( [ {`. -/
theorem C13_bracket_match_open (bs : Bytes) (pos : Nat) (br m : UInt8) (q : Nat)
    (ho : isOpenB br = true)
    (h : findMatchingBracket bs pos br = some (some (m, q))) :
    m = matchingBracket br ∧ pos < q ∧ bs[q]? = some m ∧
    (((bs.drop (pos + 1)).take (q - (pos + 1))).count m
        = ((bs.drop (pos + 1)).take (q - (pos + 1))).count br) ∧
    ∀ n, n ≤ q - (pos + 1) →
      ((bs.drop (pos + 1)).take n).count m ≤ ((bs.drop (pos + 1)).take n).count br := by
  simp only [findMatchingBracket_open ho, Option.ite_none_left_eq_some, Option.some.injEq,
    Option.map_eq_some_iff, Prod.mk.injEq] at h
  obtain ⟨_, k, hk, rfl, rfl⟩ := h
  obtain ⟨hj, hc, hp⟩ := scan_start_some (matching_ne (.inl ho)) hk
  rw [Nat.add_sub_cancel_left]
  rw [List.getElem?_drop] at hj
  exact ⟨rfl, by omega, hj, hc, hp⟩

/-- Bracket matching, backward (closing bracket `br` remembered at byte `pos`): the partner `(m, q)`
    is the opening bracket of the same kind, before `pos`, byte `q` is `m`, and the bytes between
    `q` and `pos` — read from `pos` towards `q` — are balanced for this kind with no prefix in
    which the opening brackets outnumber the closing ones (nearest partner).  Hypothesis: `br` is
    one of `) ] }`. -/
theorem C13_bracket_match_close (bs : Bytes) (pos : Nat) (br m : UInt8) (q : Nat)
    (hc : isCloseB br = true) (ho : isOpenB br = false)
    (h : findMatchingBracket bs pos br = some (some (m, q))) :
    m = matchingBracket br ∧ q < pos ∧ bs[q]? = some m ∧
    ((((bs.take pos).reverse).take (pos - 1 - q)).count m
        = (((bs.take pos).reverse).take (pos - 1 - q)).count br) ∧
    ∀ n, n ≤ pos - 1 - q →
      (((bs.take pos).reverse).take n).count m ≤ (((bs.take pos).reverse).take n).count br := by
  simp only [findMatchingBracket_close ho, Option.ite_none_left_eq_some, Option.some.injEq,
    Option.map_eq_some_iff, Prod.mk.injEq] at h
  obtain ⟨hlen, k, hk, rfl, rfl⟩ := h
  obtain ⟨hj, hcn, hp⟩ := scan_start_some (matching_ne (.inr hc)) hk
  have hkl := (List.getElem?_eq_some_iff.1 hj).1
  rw [List.length_reverse, List.length_take, Nat.min_eq_left (Nat.le_of_not_gt hlen)] at hkl
  rw [List.getElem?_reverse (by rw [List.length_take]; omega), List.length_take,
    Nat.min_eq_left (Nat.le_of_not_gt hlen), List.getElem?_take_of_lt (by omega),
    Nat.sub_right_comm] at hj
  rw [show pos - 1 - (pos - k - 1) = k by omega]
  exact ⟨rfl, by omega, hj, hcn, hp⟩

/-- Completeness of the partner search: if no partner is reported (and there was no panic), then
    in every prefix of the bytes after `pos` (opening bracket) / of the bytes before `pos` read
    backwards (closing bracket) the brackets of the partner kind do not outnumber those of the
    remembered kind: no byte of the line closes it. -/
theorem C13_bracket_no_match (bs : Bytes) (pos : Nat) (br : UInt8)
    (hb : isOpenB br = true ∨ isCloseB br = true)
    (h : findMatchingBracket bs pos br = some none) :
    (isOpenB br = true → ∀ n,
      ((bs.drop (pos + 1)).take n).count (matchingBracket br) ≤ ((bs.drop (pos + 1)).take n).count br) ∧
    (isOpenB br = false → ∀ n,
      (((bs.take pos).reverse).take n).count (matchingBracket br) ≤ (((bs.take pos).reverse).take n).count br) := by
  constructor <;> intro ho
  · simp only [findMatchingBracket_open ho, Option.ite_none_left_eq_some, Option.some.injEq,
      Option.map_eq_none_iff] at h
    exact scan_start_none (matching_ne hb) h.2
  · simp only [findMatchingBracket_close ho, Option.ite_none_left_eq_some, Option.some.injEq,
      Option.map_eq_none_iff] at h
    exact scan_start_none (matching_ne hb) h.2

/-- `find_matching_bracket` does not panic when the remembered position is inside the line. -/
theorem C13_bracket_no_panic (bs : Bytes) (pos : Nat) (br : UInt8) (hp : pos < bs.length) :
    findMatchingBracket bs pos br ≠ none := by
  cases ho : isOpenB br
  · rw [findMatchingBracket_close ho, if_neg (by omega)]; exact Option.some_ne_none _
  · rw [findMatchingBracket_open ho, if_neg (by omega)]; exact Option.some_ne_none _

/-- `check_bracket` is truthful: the remembered `(br, p)` is a bracket byte of the line at `p`,
    `p` is the cursor byte, the byte before it, or (cursor at / past the end) the last byte; and when
    the cursor is inside the line an opening bracket is never the last byte and a closing bracket
    never the first one.  It never panics (it is a total function in the model: every index is
    guarded in the code). -/
theorem C13_check_bracket_sound (bs : Bytes) (cur : Nat) (br : UInt8) (p : Nat)
    (h : checkBracket bs cur = some (br, p)) :
    p < bs.length ∧ bs[p]? = some br ∧ (isOpenB br = true ∨ isCloseB br = true) ∧
    (p = cur ∨ p + 1 = cur ∨ (bs.length ≤ cur ∧ p + 1 = bs.length)) ∧
    (cur < bs.length → (isOpenB br = true → p + 1 < bs.length) ∧ (isCloseB br = true → 0 < p)) := by
  unfold checkBracket at h
  by_cases he : bs.isEmpty = true
  · rw [if_pos he] at h; cases h
  rw [if_neg he] at h
  by_cases hge : cur ≥ bs.length
  · rw [if_pos hge] at h; dsimp only at h
    cases hb : bs[bs.length - 1]? with
    | none => rw [hb] at h; cases h
    | some b =>
      have hl := (List.getElem?_eq_some_iff.1 hb).1
      rw [hb] at h; dsimp only at h
      cases hcl : isCloseB b
      · rw [hcl, if_neg Bool.false_ne_true] at h; cases h
      · rw [hcl, if_pos rfl] at h; cases h
        exact ⟨hl, hb, .inr hcl, .inr (.inr ⟨hge, by omega⟩), fun hh => by omega⟩
  rw [if_neg hge] at h
  cases hr : checkAt bs cur with
  | some r =>
    rw [hr] at h; subst h
    obtain ⟨rfl, k2, k3, k4, k5, k6⟩ := checkAt_some hr
    exact ⟨k2, k3, k4, .inl rfl, fun _ => ⟨k5, k6⟩⟩
  | none =>
    rw [hr] at h
    by_cases hpos : cur > 0
    · rw [if_pos hpos] at h
      cases hr' : checkAt bs (cur - 1) with
      | some r =>
        rw [hr'] at h; subst h
        obtain ⟨rfl, k2, k3, k4, k5, k6⟩ := checkAt_some hr'
        exact ⟨k2, k3, k4, .inr (.inl (by omega)), fun _ => ⟨k5, k6⟩⟩
      | none => rw [hr'] at h; cases h
    · rw [if_neg hpos] at h; cases h

/-- The way the editor uses the highlighter (`highlight_char` on the current line, then `highlight`
    of the SAME line): the partner search cannot panic. -/
theorem C13_bracket_same_line_no_panic (line : Text) (cur : Nat) (kind : Kind) (br : UInt8) (p : Nat)
    (h : (highlightChar line cur kind).1 = some (br, p)) :
    findMatchingBracket (bytesOf line) p br ≠ none := by
  unfold highlightChar at h
  split at h
  · simp at h
  · exact C13_bracket_no_panic _ _ _ (C13_check_bracket_sound _ _ _ _ h).1

/-! Non-vacuity (kernel-evaluated): nested brackets with a multi-byte character in between,
    an interleaved other kind, the bracket before the cursor at the end of the line. -/
example : findMatchingBracket (bytesOf "(()é)x".toList) 0 40 = some (some (41, 5)) := by decide +kernel
example : findMatchingBracket (bytesOf "[(])".toList) 3 41 = some (some (40, 1)) := by decide +kernel
example : checkBracket (bytesOf "x(y)".toList) 4 = some (41, 3) := by decide +kernel

/-- Through the public API the two calls can be given different lines; then the remembered position
    can lie outside the new line and `highlight` panics (slice out of range): `highlight_char("() )", 4)`
    followed by `highlight("()")`.  Confirmed on the implementation by the `hl` target.  The editor
    itself always calls `highlight_char` on the current line before `highlight`. -/
theorem C13_bracket_stale_state_panics :
    run none [.hchar "() )".toList 4 .other, .hl "()".toList] = none := by decide +kernel

end BracketMatching

section BracketOracle
open Rl.Highlight

/-- The model's partner search (`find_matching_bracket`: a scan with a depth counter) computes
    exactly the declarative oracle `Rl.Spec.Highlight.partner` (pure counting: for an opening
    bracket the first later byte position at which the closing brackets of the same kind, counted
    from just after the bracket, outnumber the opening ones by one; for a closing bracket the last
    earlier position with the symmetric property).  For EVERY byte string `bs`, position `pos` and
    byte `br`: if `br` is one of `( [ { ) ] }` and the model does not panic (returns `some r`), then
    `r` is `none` exactly when the oracle finds no partner, and `some (matching bracket of br, q)`
    exactly when the oracle's partner is `q`.  No hypothesis that byte `pos` of `bs` is `br`, nor
    that `pos` is inside `bs`, is needed. -/
theorem C13_bracket_find_eq_oracle (bs : Bytes) (pos : Nat) (br : UInt8)
    (hb : (isOpenB br || isCloseB br) = true) (r : Option (UInt8 × Nat))
    (h : findMatchingBracket bs pos br = some r) :
    r = (Rl.Spec.Highlight.partner bs pos br).map (fun q => (matchingBracket br, q)) :=
  find_eq_partner bs pos br hb r h

/-- Same fact for the way the editor uses it (remembered position inside the line): the model does
    not panic and its answer is the oracle's. -/
theorem C13_bracket_find_eq_oracle_in_line (bs : Bytes) (pos : Nat) (br : UInt8)
    (hb : (isOpenB br || isCloseB br) = true) (hp : pos < bs.length) :
    findMatchingBracket bs pos br
      = some ((Rl.Spec.Highlight.partner bs pos br).map (fun q => (matchingBracket br, q))) := by
  cases h : findMatchingBracket bs pos br with
  | none => exact absurd h (C13_bracket_no_panic bs pos br hp)
  | some r => rw [find_eq_partner bs pos br hb r h]

/-- The bracket hypothesis cannot be dropped: for a non-bracket byte the model (which then scans
    backwards for the byte itself) and the oracle differ.  `check_bracket` only ever remembers
    bracket bytes (`C13_check_bracket_sound`), so this input does not arise in the editor. -/
theorem C13_bracket_oracle_needs_bracket :
    findMatchingBracket [120, 120] 1 120 = some (some (120, 0))
      ∧ Rl.Spec.Highlight.partner [120, 120] 1 120 = none :=
  find_ne_partner_non_bracket

/-! Non-vacuity (kernel-evaluated): both directions, a found and a missing partner. -/
example : findMatchingBracket (bytesOf "(()é)x".toList) 0 40 = some (some (41, 5))
    ∧ Rl.Spec.Highlight.partner (bytesOf "(()é)x".toList) 0 40 = some 5 := by decide +kernel
example : findMatchingBracket (bytesOf "[(])".toList) 3 41 = some (some (40, 1))
    ∧ Rl.Spec.Highlight.partner (bytesOf "[(])".toList) 3 41 = some 1 := by decide +kernel
example : findMatchingBracket (bytesOf "(()".toList) 0 40 = some none
    ∧ Rl.Spec.Highlight.partner (bytesOf "(()".toList) 0 40 = none := by decide +kernel
example : findMatchingBracket (bytesOf "x))".toList) 0 41 = some none
    ∧ Rl.Spec.Highlight.partner (bytesOf "x))".toList) 0 41 = none := by decide +kernel

/-- A reported partner is an ASCII bracket byte of the line, hence a whole one-byte character: the
    line splits at its offset (what `replace_range(idx..=idx)` needs). -/
theorem C13_bracket_partner_is_char (line : Text) (p : Nat) (br m : UInt8) (idx : Nat)
    (hbr : isOpenB br = true ∨ isCloseB br = true)
    (hf : findMatchingBracket (bytesOf line) p br = some (some (m, idx))) :
    m = matchingBracket br ∧ ∃ a c b, splitAtByte line idx = some (a, c :: b) ∧ c.utf8Size = 1 := by
  have hmq : m = matchingBracket br ∧ (bytesOf line)[idx]? = some m := by
    by_cases ho : isOpenB br = true
    · have := C13_bracket_match_open _ _ _ _ _ ho hf
      exact ⟨this.1, this.2.2.1⟩
    · have := C13_bracket_match_close _ _ _ _ _ (hbr.resolve_left ho) (eq_false_of_ne_true ho) hf
      exact ⟨this.1, this.2.2.1⟩
  exact ⟨hmq.1, split_at_ascii line idx m hmq.2 (hmq.1 ▸ matching_toNat_lt hbr)⟩

/-- `highlight` as the editor uses it never panics.  For every line, cursor byte offset and
    command kind: if the highlighter state `st` is the one produced by `highlight_char` on this
    line, then `highlight st line` on the SAME line is not a panic — neither the slice in
    `find_matching_bracket` nor the character-boundary check of `replace_range(idx..=idx)` can
    fail, because the reported partner is an ASCII bracket byte of the line, hence a whole
    one-byte character (every byte of a multi-byte UTF-8 encoding is ≥ 128).  No hypothesis on
    the line (any Unicode text) or on the cursor (need not be a boundary, may be past the end). -/
theorem C13_highlight_same_line_no_panic (line : Text) (cur : Nat) (kind : Kind) (st : HlState)
    (h : (highlightChar line cur kind).1 = st) : highlight st line ≠ none := by
  unfold highlight
  split
  · simp
  · split
    · simp
    · rename_i br p
      have hcb : checkBracket (bytesOf line) cur = some (br, p) := by
        unfold highlightChar at h
        split at h
        · simp at h
        · exact h
      obtain ⟨hp, _, hbr, _, _⟩ := C13_check_bracket_sound _ _ _ _ hcb
      split
      · rename_i hf
        exact absurd hf (C13_bracket_no_panic _ _ _ hp)
      · simp
      · rename_i m idx hf
        obtain ⟨_, a, c, b, hs, hc1⟩ := C13_bracket_partner_is_char line p br m idx hbr hf
        rw [hs]
        simp [hc1]

/-! Non-vacuity: a highlighted copy is produced on a line with a multi-byte character before the
    partner; the state comes from `highlight_char`. -/
example : (highlightChar "(é)".toList 0 .other).1 = some (40, 0)
    ∧ highlight (some (40, 0)) "(é)".toList
        = some (some ("(é".toList ++ escOn ++ [')'] ++ escOff)) := by decide +kernel

/-- The model of `highlight` agrees with the declarative oracle `Rl.Spec.Highlight.highlight`
    whenever the oracle gives an answer.  The oracle answers (is `some o`) when the line is at most
    one byte long, when nothing is remembered, or when the remembered `(br, p)` is a bracket byte
    that really is byte `p` of this line; it does not answer for a stale position.  In all those
    cases the model does not panic and returns the same observation: "borrowed" (line unchanged)
    exactly when the oracle says so, and otherwise the owned copy with the escape sequences around
    the partner found by counting.  Holds for every line and state; no further hypotheses. -/
theorem C13_highlight_eq_oracle (st : HlState) (line : Text) (o : Rl.Highlight.Obs)
    (h : Rl.Spec.Highlight.highlight st line = some o) :
    (o = .borrowed ∧ highlight st line = some none) ∨
    (∃ t, o = .owned t ∧ highlight st line = some (some t)) := by
  unfold Rl.Spec.Highlight.highlight at h
  unfold highlight
  split at h
  · rename_i hb
    simp only [hb, if_true]
    left; simp at h; exact ⟨h.symm, by first | rfl | trivial⟩
  · rename_i hb
    simp only [hb, if_false]
    split at h
    · left; simp at h; exact ⟨h.symm, by first | rfl | trivial⟩
    · rename_i br p
      simp only at h
      dsimp only
      split at h
      · simp at h
      · rename_i hcond
        have hget : (bytesOf line)[p]? = some br := by
          by_cases hh : (bytesOf line)[p]? = some br
          · exact hh
          · exact absurd (Or.inl hh) hcond
        have hbr : (isOpenB br || isCloseB br) = true := by
          by_cases hh : (isOpenB br || isCloseB br) = true
          · exact hh
          · exact absurd (Or.inr hh) hcond
        have hbr' : isOpenB br = true ∨ isCloseB br = true := by simpa using hbr
        have hp := (List.getElem?_eq_some_iff.1 hget).1
        have hfind := C13_bracket_find_eq_oracle_in_line _ _ _ hbr hp
        cases hpar : Rl.Spec.Highlight.partner (bytesOf line) p br with
        | none =>
          rw [hpar] at h hfind
          rw [hfind]
          left; simp at h; exact ⟨h.symm, by first | rfl | trivial⟩
        | some q =>
          rw [hpar] at h hfind
          simp only [Option.map_some] at hfind
          rw [hfind]
          simp only at h ⊢
          obtain ⟨_, a, c, b, hs, hc1⟩ := C13_bracket_partner_is_char line p br _ q hbr' hfind
          rw [hs] at h ⊢
          simp only [hc1, beq_self_eq_true, if_true]
          right
          simp only [Option.some.injEq] at h
          exact ⟨_, h.symm, rfl⟩

/-- Lifted to sequences of calls on one highlighter (the shape the differential harness target `hl`
    replays): whenever the oracle's run answers `some os`, the model's run gives the same
    observations (in particular it does not panic). -/
theorem C13_highlight_run_eq_oracle (st : HlState) (ops : List Rl.Highlight.Op) (os : List Rl.Highlight.Obs)
    (h : Rl.Spec.Highlight.run st ops = some os) : run st ops = some os := by
  induction ops generalizing st os with
  | nil => simpa [Rl.Spec.Highlight.run, run] using h
  | cons op ops ih =>
    cases op with
    | hchar l p k =>
      simp only [Rl.Spec.Highlight.run, run] at h ⊢
      cases hr : Rl.Spec.Highlight.run (highlightChar l p k).1 ops with
      | none => rw [hr] at h; simp at h
      | some os' => rw [hr] at h; rw [ih _ _ hr]; exact h
    | hl l =>
      simp only [Rl.Spec.Highlight.run, run] at h ⊢
      cases ho : Rl.Spec.Highlight.highlight st l with
      | none => rw [ho] at h; simp at h
      | some o =>
        rw [ho] at h; simp only at h
        cases hr : Rl.Spec.Highlight.run st ops with
        | none => rw [hr] at h; simp at h
        | some os' =>
          rw [hr] at h
          rcases C13_highlight_eq_oracle st l o ho with ⟨rfl, hm⟩ | ⟨t, rfl, hm⟩
          · rw [hm]; simp only; rw [ih _ _ hr]; exact h
          · rw [hm]; simp only; rw [ih _ _ hr]; exact h

/-! Non-vacuity: the oracle does answer, with an owned copy, on a two-call sequence. -/
example : Rl.Spec.Highlight.run none [.hchar "[(é)]".toList 0 .other, .hl "[(é)]".toList]
    = some [.bool true, .owned ("[(é)".toList ++ escOn ++ [']'] ++ escOff)] := by decide +kernel

end BracketOracle
