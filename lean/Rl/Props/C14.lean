/-
  Property C14 — completion replaces only the word being completed and can always be backed out.
  Model: `completeLine`, `completeCircular` in Rl/Editor.lean; oracle: `Spec.oracleC14`.
-/
import Rl.Editor
import Rl.Spec.OracleComplete
import Rl.Lemmas.EditorLoops
import Rl.Lemmas.CompleteLoop
import Rl.Lemmas.CompleteUndo
import Rl.Lemmas.CompleteList
import Rl.Lemmas.CompleteUndoCursor
open Rl Rl.Spec

/-- Shift-Tab is the inverse permutation of Tab. -/
theorem C14_prev_next (n i : Nat) (h : i ≤ n) : compPrev n (compNext n i) = i := by
  unfold compPrev compNext
  by_cases hi : i = n
  · subst hi; simp
  · have h1 : (i + 1) % (n + 1) = i + 1 := Nat.mod_eq_of_lt (by omega)
    rw [h1]
    have h2 : (i + 1 == 0) = false := by simp
    simp only [h2, Bool.false_eq_true, if_false, Nat.add_sub_cancel]
    exact Nat.mod_eq_of_lt (by omega)

theorem C14_next_prev (n i : Nat) (h : i ≤ n) : compNext n (compPrev n i) = i := by
  unfold compPrev compNext
  by_cases hi : i = 0
  · subst hi; simp
  · have h0 : (i == 0) = false := by simp [hi]
    simp only [h0, Bool.false_eq_true, if_false]
    have h1 : (i - 1) % (n + 1) = i - 1 := Nat.mod_eq_of_lt (by omega)
    rw [h1]
    have : i - 1 + 1 = i := by omega
    rw [this]
    exact Nat.mod_eq_of_lt (by omega)

/-- `k` Tabs from the first candidate -/
def tabs (n : Nat) : Nat → Nat
  | 0 => 0
  | k + 1 => compNext n (tabs n k)

/-- k Tabs from the first candidate show candidate `k mod (n+1)` (index n = the original text). -/
theorem C14_k_tabs (n k : Nat) : tabs n k = k % (n + 1) := by
  induction k with
  | zero => simp [tabs]
  | succ k ih =>
    simp only [tabs, ih, compNext]
    simp [Nat.add_mod]

/-- Spec: what is shown for a candidate leaves the text before `start` and after the cursor intact. -/
theorem C14_spec_span_only (st : CompSt) (c : Text) :
    (spliceCand st c).1 = takeB st.backup.1 st.start ++ c ++ st.tail ∧
    (spliceCand st c).2 = blen (takeB st.backup.1 st.start) + blen c := by
  simp [spliceCand]

/-- "Esc / C-g in the circular loop restores text and cursor" with no hypothesis on the line buffer.
    It then also speaks of fixed-capacity buffers whose text is longer than their capacity (never the
    editor's: `initEd` makes both buffers growable); there `LineBuffer::update` cuts the restored text
    (`C14_update_truncates_fixed_buffer`), hence the hypothesis "growable" of `C14_abort_restores`. -/
def C14_abort_restores_statement : Prop :=
  ∀ (S : Segmenter) (U : UData) (cfg : EdCfg) (s s' : Ed) (fuel : Nat),
    completeLine S U cfg fuel s = .ok (none, s') → cfg.listCompletion = false →
    s'.line.buf = s.line.buf ∧ s'.line.pos = s.line.pos

/-- **Abort restores**: whenever circular completion ends without handing a command back (no
    candidates, or Esc / C-g after any number of Tab / Shift-Tab presses and whatever keys were
    decoded in between), the text and the cursor are exactly those from before the completion
    (and the buffer is still growable). -/
theorem C14_abort_restores (S : Segmenter) (U : UData) (cfg : EdCfg) (s s' : Ed) (fuel : Nat)
    (hrun : completeLine S U cfg fuel s = .ok (none, s')) (hcirc : cfg.listCompletion = false)
    (hg : s.line.canGrow = true) (hp : s.line.pos ≤ blen s.line.buf) :
    s'.line.buf = s.line.buf ∧ s'.line.pos = s.line.pos ∧ s'.line.canGrow = true := by
  rcases completeLine_circular S U cfg hcirc hrun with ⟨_, rfl⟩ | ⟨_, hrun⟩
  · exact ⟨rfl, rfl, hg⟩
  · exact wp_ok (completeCircular_abort S U cfg _ _ _ _ _ hp fuel 0 { s with changes := s.changes.begin.1 } hg) hrun rfl

/-- the reason for the hypothesis: on a fixed-capacity buffer `update` cuts the text to the capacity -/
theorem C14_update_truncates_fixed_buffer (S : Segmenter) (U : UData) :
    LB.update S U ['a', 'b'] 2 { buf := [], pos := 0, cap := 1, canGrow := false } =
      .ok ((), { buf := ['a'], pos := 1, cap := 1, canGrow := false },
           [.del 0 [] .forward, .insStr 0 ['a']]) := by
  rfl

/-- `complete_line` in circular mode with at least one candidate is the circular loop started at
    index 0 after `begin` -/
theorem C14_completeLine_circular_eq (S : Segmenter) (U : UData) (cfg : EdCfg) (s : Ed) (fuel : Nat)
    (hcirc : cfg.listCompletion = false) (hne : (cfg.completer s.line.buf s.line.pos).2.isEmpty = false) :
    completeLine S U cfg fuel s =
      completeCircular S U cfg (cfg.completer s.line.buf s.line.pos).1 (cfg.completer s.line.buf s.line.pos).2
        s.changes.undos.length s.line.buf s.line.pos fuel 0 { s with changes := s.changes.begin.1 } :=
  completeLine_circular_eq S U cfg s fuel hcirc hne

/-- **Every exit of circular completion shows what the spec prescribes** (clauses "Tab rewrites only the
    span", "Esc restores", "any other key keeps the shown candidate and is handed back").
    Hypotheses: circular mode; growable line buffer; the cursor and the completer's start are on
    character boundaries of the line and start ≤ cursor.  Whatever keys are decoded inside the loop,
    if `complete_line` returns then either it returns `none` with text and cursor exactly as before, or
    it returns `some cmd` where `cmd` is none of `Complete` / `CompleteBackward` / `Abort`, and for some
    index `j ≤ n` the line and cursor are `Spec.shownFor` of `j`: candidate `j` spliced over the span
    (`Spec.spliceCand`), or the original text for `j = n`. -/
theorem C14_circular_exit_shows_spec (S : Segmenter) (U : UData) (cfg : EdCfg) (s s' : Ed) (fuel : Nat)
    (r : Option Cmd)
    (hrun : completeLine S U cfg fuel s = .ok (r, s')) (hcirc : cfg.listCompletion = false)
    (hg : s.line.canGrow = true) (hpos : IsBoundary s.line.buf s.line.pos)
    (hstart : IsBoundary s.line.buf (cfg.completer s.line.buf s.line.pos).1)
    (hle : (cfg.completer s.line.buf s.line.pos).1 ≤ s.line.pos) :
    match r with
    | none => s'.line.buf = s.line.buf ∧ s'.line.pos = s.line.pos
    | some cmd => Cmd.endsCompletion cmd ∧ ∃ j, j ≤ (cfg.completer s.line.buf s.line.pos).2.length ∧
        (s'.line.buf, s'.line.pos) =
          shownFor (compSt (cfg.completer s.line.buf s.line.pos).1 (cfg.completer s.line.buf s.line.pos).2
            s.line.buf s.line.pos j) := by
  rcases completeLine_circular S U cfg hcirc hrun with ⟨rfl, rfl⟩ | ⟨_, hrun⟩
  · exact ⟨rfl, rfl⟩
  · obtain ⟨x, y, z, _, hbuf, hx, hp⟩ := split3_of_boundaries hstart hpos hle
    generalize (cfg.completer s.line.buf s.line.pos).1 = start at *
    generalize (cfg.completer s.line.buf s.line.pos).2 = cands at *
    subst hx
    have hw := completeCircular_shows S U cfg x y z cands
      s.changes.undos.length fuel 0 { s with changes := s.changes.begin.1 } (Nat.zero_le _) hg ⟨y, hbuf, hp⟩
    rw [hbuf, hp] at hrun ⊢
    have h := wp_ok hw hrun
    cases r with
    | none => exact h.2
    | some cmd =>
      obtain ⟨_, hc, j, hj, hsh⟩ := h
      exact ⟨hc, j, hj, hsh⟩

/-- **Accept rewrites only the span**: under the hypotheses of `C14_circular_exit_shows_spec`, after a
    completion that hands a command back the line is `before ++ c ++ after` where `before` is the
    original text up to the completer's start and `after` the original text from the cursor on. -/
theorem C14_accept_span_only (S : Segmenter) (U : UData) (cfg : EdCfg) (s s' : Ed) (fuel : Nat) (cmd : Cmd)
    (hrun : completeLine S U cfg fuel s = .ok (some cmd, s')) (hcirc : cfg.listCompletion = false)
    (hg : s.line.canGrow = true) (hpos : IsBoundary s.line.buf s.line.pos)
    (hstart : IsBoundary s.line.buf (cfg.completer s.line.buf s.line.pos).1)
    (hle : (cfg.completer s.line.buf s.line.pos).1 ≤ s.line.pos) :
    ∃ c, s'.line.buf = takeB s.line.buf (cfg.completer s.line.buf s.line.pos).1 ++ c ++ dropB s.line.buf s.line.pos ∧
         s'.line.pos = (cfg.completer s.line.buf s.line.pos).1 + blen c := by
  obtain ⟨x, y, z, _, hbuf, hx, hp⟩ := split3_of_boundaries hstart hpos hle
  obtain ⟨_, j, _, hsh⟩ := C14_circular_exit_shows_spec S U cfg s s' fuel (some cmd) hrun hcirc hg hpos hstart hle
  generalize (cfg.completer s.line.buf s.line.pos).1 = start at *
  generalize (cfg.completer s.line.buf s.line.pos).2 = cands at *
  subst hx
  rw [hbuf, hp] at hsh ⊢
  rw [shownFor_compSt] at hsh
  rw [dropB_append3, List.append_assoc x y z, takeB_append]
  cases hc : cands[j]? with
  | none =>
    rw [hc] at hsh
    simp only [Prod.mk.injEq] at hsh
    exact ⟨y, by rw [hsh.1], hsh.2⟩
  | some c =>
    rw [hc] at hsh
    simp only [Prod.mk.injEq] at hsh
    exact ⟨c, hsh.1, hsh.2⟩

/-- **Circular completion, key by key** (clauses "successive Tabs show each candidate in order, then the
    original text, then wrap; Shift-Tab in reverse" and "any other key keeps the shown candidate and is
    handed back").  After any sequence `ks` of Tab / Shift-Tab presses inside the loop (`CircPath`, a
    prefix of the model's own run: `CircPath.run`), (a) the index is `compWalk n 0 ks`; (b) the next
    command is decoded while line and cursor are exactly `Spec.shownFor` of that index — hence at
    EVERY turn of the loop; (c) if that command is not `Complete` / `CompleteBackward` / `Abort`,
    `complete_line` returns it and the line stays the shown one (only the undo group is closed). -/
theorem C14_circular_key_by_key (S : Segmenter) (U : UData) (cfg : EdCfg) (s : Ed) (fuel : Nat)
    (hcirc : cfg.listCompletion = false) (hne : (cfg.completer s.line.buf s.line.pos).2.isEmpty = false)
    (hg : s.line.canGrow = true) (hpos : IsBoundary s.line.buf s.line.pos)
    (hstart : IsBoundary s.line.buf (cfg.completer s.line.buf s.line.pos).1)
    (hle : (cfg.completer s.line.buf s.line.pos).1 ≤ s.line.pos)
    (ks : List Bool) (fuel' i' : Nat) (sk s1 : Ed) (cmd : Cmd)
    (hpath : CircPath S U cfg (cfg.completer s.line.buf s.line.pos).1 (cfg.completer s.line.buf s.line.pos).2
      s.line.buf s.line.pos fuel 0 { s with changes := s.changes.begin.1 } ks (fuel' + 1) i' sk)
    (hturn : circTurn S U cfg (cfg.completer s.line.buf s.line.pos).1 (cfg.completer s.line.buf s.line.pos).2
      s.line.buf s.line.pos fuel' i' sk = .ok (cmd, s1)) :
    i' = compWalk (cfg.completer s.line.buf s.line.pos).2.length 0 ks ∧
    (s1.line.buf, s1.line.pos) =
      shownFor (compSt (cfg.completer s.line.buf s.line.pos).1 (cfg.completer s.line.buf s.line.pos).2
        s.line.buf s.line.pos i') ∧
    (Cmd.endsCompletion cmd →
      completeLine S U cfg fuel s = .ok (some cmd, { s1 with changes := s1.changes.end_.1 })) := by
  have heq := C14_completeLine_circular_eq S U cfg s fuel hcirc hne
  obtain ⟨x, y, z, _, hbuf, hx, hp⟩ := split3_of_boundaries hstart hpos hle
  generalize (cfg.completer s.line.buf s.line.pos).1 = start at *
  generalize (cfg.completer s.line.buf s.line.pos).2 = cands at *
  subst hx
  rw [hbuf, hp] at hpath hturn heq ⊢
  obtain ⟨hi, _, hgk, hsk⟩ := hpath.inv S U cfg x y z cands (Nat.zero_le _) hg ⟨y, hbuf, hp⟩
  obtain ⟨hsh, _⟩ := circTurn_shows S U cfg x y z cands fuel' i' sk s1 cmd hgk hsk hturn
  refine ⟨hi, hsh, fun hc => ?_⟩
  obtain ⟨m', e⟩ := hpath.run S U cfg s.changes.undos.length
  rw [heq, e]
  exact completeCircular_accept S U cfg _ _ _ _ _ _ _ _ _ _ hc hturn

/-- after `k` Tabs (and nothing else) the index shown is `k mod (n + 1)` = `tabs n k` (index `n` = the
    original text): each candidate in order, then the original text, then wrap -/
theorem C14_k_tabs_walk (n k : Nat) : compWalk n 0 (List.replicate k true) = tabs n k := by
  rw [compWalk_tabs n k 0 (Nat.zero_le _), C14_k_tabs, Nat.zero_add]

/-- Shift-Tab undoes Tab on the index walk: `ks ++ [Tab, Shift-Tab]` ends where `ks` ends -/
theorem C14_walk_tab_backtab (n i : Nat) (ks : List Bool) (hi : i ≤ n) :
    compWalk n i (ks ++ [true, false]) = compWalk n i ks := by
  induction ks generalizing i with
  | nil => simp only [List.nil_append, compWalk]; exact C14_prev_next n i hi
  | cons k ks ih =>
    cases k
    · simp only [List.cons_append, compWalk]; exact ih _ (compPrev_le n i)
    · simp only [List.cons_append, compWalk]; exact ih _ (compNext_le n i)

/-- **One Undo after an accepted completion restores the pre-completion text** (emacs mode, circular
    completion, no undo group open when Tab is pressed, the undo stack an exact log of the line:
    `hlog`, which is `UndoLogInv` of `Rl/Lemmas/EditorUndoSafe.lean` with its witness `t0`).  For EVERY key sequence inside the loop, if `complete_line` hands a
    command back, (a) the undo stack is the stack from before plus ONE closed group
    `End :: body ++ Begin :: …` with `body` non-empty and free of markers, and is again an exact log;
    (b) `Changeset::undo` with count 1 succeeds, leaves exactly the pre-completion text and the undo
    stack from before the completion. -/
theorem C14_undo_after_accept (S : Segmenter) (U : UData) (cfg : EdCfg) (hvi : cfg.vi = false)
    (hcirc : cfg.listCompletion = false) (s s' : Ed) (fuel : Nat) (cmd : Cmd) (t0 : Text)
    (hrun : completeLine S U cfg fuel s = .ok (some cmd, s'))
    (hg : s.line.canGrow = true) (hl0 : s.changes.level = 0)
    (hlog : replayLog s.changes.undos.reverse t0 = some s.line.buf) :
    (∃ body, body ≠ [] ∧ (∀ ch ∈ body, ch.isMarker = false) ∧
      s'.changes.undos = .end_ :: body ++ .begin :: s.changes.undos ∧ s'.changes.level = 0 ∧
      replayLog s'.changes.undos.reverse t0 = some s'.line.buf) ∧
    ∃ c' lb' undone, s'.changes.undo S U s'.line 1 = .ok (c', lb', undone) ∧
      lb'.buf = s.line.buf ∧ c'.undos = s.changes.undos := by
  rcases completeLine_circular S U cfg hcirc hrun with ⟨h, _⟩ | ⟨hpos, hrun⟩
  · cases h
  · have hw := completeCircular_accept_log S U cfg hvi s.changes t0 hl0
      (cfg.completer s.line.buf s.line.pos).1 (cfg.completer s.line.buf s.line.pos).2 s.line.buf s.line.pos
      fuel s.changes.undos.length 0 { s with changes := s.changes.begin.1 } []
      ⟨GroupLog.start s.changes, hg, (C05_log_markers s.changes t0 _ hlog).1⟩ (Or.inr hpos)
    obtain ⟨body, hb1, hb2, hb3, hb4, hb5⟩ := wp_ok hw hrun cmd rfl
    exact ⟨⟨body, hb1, hb2, hb3, hb4, hb5⟩, undo_one_group S U s'.changes body s.changes.undos t0 s.line.buf s'.line hb3 hb2 hb5 hlog⟩

/-- **List mode rewrites the span to the longest common prefix, or nothing** (model level, every exit).
    Hypotheses: list mode, at least one candidate, cursor and completer start on character boundaries,
    start ≤ cursor.  Whatever follows the first Tab (another key handed back, or a second Tab that lists
    the candidates — the cursor goes to the end and comes back), when `complete_line` returns the line
    and cursor are: `Spec.spliceCand` of the prefix `lcp` that the model's `lcpChars` returns, when
    `blen lcp > cursor − start` or there is exactly one candidate; the original line and cursor otherwise.
    Text before the start and after the cursor is intact in both cases (`C14_spec_span_only`). -/
theorem C14_list_lcp (S : Segmenter) (U : UData) (cfg : EdCfg) (s s' : Ed) (fuel : Nat) (r : Option Cmd)
    (hrun : completeLine S U cfg fuel s = .ok (r, s')) (hlist : cfg.listCompletion = true)
    (hne : (cfg.completer s.line.buf s.line.pos).2.isEmpty = false)
    (hpos : IsBoundary s.line.buf s.line.pos)
    (hstart : IsBoundary s.line.buf (cfg.completer s.line.buf s.line.pos).1)
    (hle : (cfg.completer s.line.buf s.line.pos).1 ≤ s.line.pos) :
    (s'.line.buf, s'.line.pos) =
      match lcpChars (cfg.completer s.line.buf s.line.pos).2 with
      | some lcp =>
        if blen lcp > s.line.pos - (cfg.completer s.line.buf s.line.pos).1 ||
            (cfg.completer s.line.buf s.line.pos).2.length == 1 then
          spliceCand (compSt (cfg.completer s.line.buf s.line.pos).1 (cfg.completer s.line.buf s.line.pos).2
            s.line.buf s.line.pos 0) lcp
        else (s.line.buf, s.line.pos)
      | none => (s.line.buf, s.line.pos) := by
  obtain ⟨x, y, z, _, hbuf, hx, hp⟩ := split3_of_boundaries hstart hpos hle
  have hc : cfg.completer s.line.buf s.line.pos = (blen x, (cfg.completer s.line.buf s.line.pos).2) := by
    rw [← hx]
  have hw := completeLine_list S U cfg x y z (cfg.completer s.line.buf s.line.pos).2 fuel s hlist hne hbuf hp hc
  have h := wp_ok hw hrun
  rw [h]
  generalize (cfg.completer s.line.buf s.line.pos).1 = start at *
  generalize (cfg.completer s.line.buf s.line.pos).2 = cands at *
  subst hx
  unfold listShown
  rw [hbuf, hp]
  have hsub : blen x + blen y - blen x = blen y := by omega
  cases lcpChars cands with
  | none => rfl
  | some lcp => simp only [hsub, spliceCand_compSt]

/-- the model's prefix is the spec's `lcpOf` (for two or more candidates, when non-empty; the single
    candidate itself for one), and `lcpOf` is a prefix of EVERY candidate -/
theorem C14_lcp_is_common_prefix (cands : List Text) (p : Text) (h : lcpChars cands = some p) :
    p = lcpOf cands ∧ ∀ c ∈ cands, p <+: c := by
  have hp : p = lcpOf cands := by
    rw [lcpChars_spec] at h
    match cands, h with
    | [c], h => simp only [Option.some.injEq] at h; rw [← h]; rfl
    | c :: d :: cs, h =>
      simp only [] at h
      by_cases he : (lcpOf (c :: d :: cs)).isEmpty = true
      · rw [if_pos he] at h; cases h
      · rw [if_neg he] at h; exact (Option.some.inj h).symm
  exact ⟨hp, fun c hc => by rw [hp]; exact lcpOf_prefix cands c hc⟩

/-- **List mode against the oracle's formula.**  Under the hypotheses of `C14_list_lcp` and unless the
    only candidate is the empty string, the line after list-mode completion is what `Spec.oracleC14`
    prescribes: with `lcp = lcpOf cands`, `spliceCand lcp` when `lcp` is non-empty and
    (`blen lcp > cursor − start` or there is one candidate), the original line otherwise. -/
theorem C14_list_matches_oracle (S : Segmenter) (U : UData) (cfg : EdCfg) (s s' : Ed) (fuel : Nat) (r : Option Cmd)
    (hrun : completeLine S U cfg fuel s = .ok (r, s')) (hlist : cfg.listCompletion = true)
    (hne : (cfg.completer s.line.buf s.line.pos).2.isEmpty = false)
    (hnot : (cfg.completer s.line.buf s.line.pos).2 ≠ [[]])
    (hpos : IsBoundary s.line.buf s.line.pos)
    (hstart : IsBoundary s.line.buf (cfg.completer s.line.buf s.line.pos).1)
    (hle : (cfg.completer s.line.buf s.line.pos).1 ≤ s.line.pos) :
    (s'.line.buf, s'.line.pos) =
      if (!(lcpOf (cfg.completer s.line.buf s.line.pos).2).isEmpty &&
          (blen (lcpOf (cfg.completer s.line.buf s.line.pos).2) > s.line.pos - (cfg.completer s.line.buf s.line.pos).1 ||
           (cfg.completer s.line.buf s.line.pos).2.length == 1)) = true then
        spliceCand (compSt (cfg.completer s.line.buf s.line.pos).1 (cfg.completer s.line.buf s.line.pos).2
          s.line.buf s.line.pos 0) (lcpOf (cfg.completer s.line.buf s.line.pos).2)
      else (s.line.buf, s.line.pos) := by
  rw [C14_list_lcp S U cfg s s' fuel r hrun hlist hne hpos hstart hle]
  generalize (cfg.completer s.line.buf s.line.pos).1 = start at *
  generalize (cfg.completer s.line.buf s.line.pos).2 = cands at *
  rw [lcpChars_spec]
  match cands, hne, hnot with
  | [c], _, hnot =>
    have hc : c.isEmpty = false := by
      cases c with
      | nil => exact absurd rfl hnot
      | cons a l => rfl
    simp [lcpOf, hc]
  | c :: d :: cs, _, _ =>
    by_cases he : (lcpOf (c :: d :: cs)).isEmpty = true
    · simp [he]
    · simp [he]

/-- witness data: one cluster per character (`charSeg`), width = number of chars -/
def C14_wit_udata : UData :=
  { alnum := Char.isAlphanum, ws := Char.isWhitespace, upper := fun c => [c], lower := fun c => [c],
    width := List.length }

/-- emacs mode, circular completion, a completer that offers "foo" and "fu" for the word starting at byte 3 -/
def C14_wit_cfg : EdCfg :=
  { vi := false, hasHelper := true, hasCompleter := true, completer := (fun _ _ => (3, [['f','o','o'], ['f','u']])) }

/-- line "ls f x" with the cursor after the "f" (byte 4), empty undo log, pending input `keys` -/
def C14_wit_state (keys : List (List UInt8)) : Ed :=
  { line := { buf := ['l','s',' ','f',' ','x'], pos := 4, cap := 64, canGrow := true },
    saved := { buf := [], pos := 0, cap := 64, canGrow := true },
    changes := Changeset.new, ring := KillRing.new 60, histIdx := 0,
    inp := {}, hint := none, highlightChar := false, defaultPrompt := true,
    input := { buf := [], avail := [], future := keys }, obs := [], validatorCalls := [] }

/-- the hypotheses of `C14_circular_exit_shows_spec` / `C14_circular_key_by_key` / `C14_undo_after_accept`
    hold of the witness state (non-vacuity) -/
example (keys : List (List UInt8)) :
    C14_wit_cfg.listCompletion = false ∧ C14_wit_cfg.vi = false ∧
    (C14_wit_state keys).line.canGrow = true ∧ (C14_wit_state keys).changes.level = 0 ∧
    IsBoundary (C14_wit_state keys).line.buf (C14_wit_state keys).line.pos ∧
    IsBoundary (C14_wit_state keys).line.buf
      (C14_wit_cfg.completer (C14_wit_state keys).line.buf (C14_wit_state keys).line.pos).1 ∧
    (C14_wit_cfg.completer (C14_wit_state keys).line.buf (C14_wit_state keys).line.pos).1 ≤ (C14_wit_state keys).line.pos ∧
    replayLog (C14_wit_state keys).changes.undos.reverse ['l','s',' ','f',' ','x'] = some (C14_wit_state keys).line.buf :=
  ⟨rfl, rfl, rfl, rfl, ⟨['l','s',' ','f'], [' ','x'], rfl, rfl⟩, ⟨['l','s',' '], ['f',' ','x'], rfl, rfl⟩,
    (by show 3 ≤ 4; omega), rfl⟩

/-- a whole run: Tab was pressed; inside the loop Tab, Tab, Tab (second candidate, original text, wrap to
    the first candidate), then `x`: the loop hands `SelfInsert x` back with "ls foo x", cursor after "foo";
    text before byte 3 and after the original cursor is intact -/
example :
    (completeLine charSeg C14_wit_udata C14_wit_cfg 8 (C14_wit_state [[0x09], [0x09], [0x09], [0x78]])).toOption.map
      (fun r => (r.1 == some (.selfInsert 1 'x'), r.2.line.buf, r.2.line.pos)) =
    some (true, ['l','s',' ','f','o','o',' ','x'], 6) := by decide +kernel

/-- … and one Undo on the result gives the pre-completion text back, with the log from before -/
example :
    (match completeLine charSeg C14_wit_udata C14_wit_cfg 8 (C14_wit_state [[0x09], [0x09], [0x09], [0x78]]) with
     | .ok (_, s) => (match s.changes.undo charSeg C14_wit_udata s.line 1 with
                      | .ok (c, l, _) => some (l.buf, c.undos)
                      | .error _ => none)
     | .error _ => none) = some (['l','s',' ','f',' ','x'], []) := by decide +kernel

/-- Esc after two candidates: nothing is handed back, text, cursor and undo log are as before -/
example :
    (completeLine charSeg C14_wit_udata C14_wit_cfg 8 (C14_wit_state [[0x09], [0x07]])).toOption.map
      (fun r => (r.1.isNone, r.2.line.buf, r.2.line.pos, r.2.changes.undos, r.2.changes.level)) =
    some (true, ['l','s',' ','f',' ','x'], 4, [], 0) := by decide +kernel

/-- "One Undo after an accepted completion restores the pre-completion text" for EVERY mode and log
    state (the hypotheses `emacs mode` and `no group open` of `C14_undo_after_accept` dropped) -/
def C14_undo_after_accept_statement : Prop :=
  ∀ (S : Segmenter) (U : UData) (cfg : EdCfg) (s s' : Ed) (fuel : Nat) (cmd : Cmd) (t0 : Text),
    cfg.listCompletion = false → completeLine S U cfg fuel s = .ok (some cmd, s') →
    s.line.canGrow = true → replayLog s.changes.undos.reverse t0 = some s.line.buf →
    ∃ c' lb' undone, s'.changes.undo S U s'.line 1 = .ok (c', lb', undone) ∧ lb'.buf = s.line.buf

/-- vi insert mode with the insert session's group open (`[Insert(0,"ab"), Begin]`, level 1), line "ab",
    one candidate "abc" -/
def C14_wit_vi_cfg : EdCfg :=
  { vi := true, hasHelper := true, hasCompleter := true, completer := (fun _ _ => (0, [['a','b','c']])) }

def C14_wit_vi_state : Ed :=
  { line := { buf := ['a','b'], pos := 2, cap := 64, canGrow := true },
    saved := { buf := [], pos := 0, cap := 64, canGrow := true },
    changes := { level := 1, undos := [.insert 0 ['a','b'], .begin], redos := [] }, ring := KillRing.new 60, histIdx := 0,
    inp := {}, hint := none, highlightChar := false, defaultPrompt := true,
    input := { buf := [], avail := [], future := [[0x78]] }, obs := [], validatorCalls := [] }

/-- vi insert mode: accepting the completion (`changes.end()` closes ALL open groups) also closes the
    insert session's group, so one Undo afterwards takes back the whole session — the line is "" and not
    the pre-completion "ab" (as in vi, where `u` undoes an insert session as a whole) -/
theorem C14_vi_undo_after_accept_takes_session :
    (match completeLine charSeg C14_wit_udata C14_wit_vi_cfg 8 C14_wit_vi_state with
     | .ok (r, s) => (match s.changes.undo charSeg C14_wit_udata s.line 1 with
                      | .ok (_, l, _) => some (r.isSome, s.line.buf, l.buf)
                      | .error _ => none)
     | .error _ => none) = some (true, ['a','b','c'], []) := by decide +kernel

/-- **the undo clause without "emacs mode, no group open" is false** (witness above; benign: vi semantics) -/
theorem C14_undo_after_accept_statement_false : ¬ C14_undo_after_accept_statement := by
  intro h
  have w := C14_vi_undo_after_accept_takes_session
  cases hr : completeLine charSeg C14_wit_udata C14_wit_vi_cfg 8 C14_wit_vi_state with
  | error e => rw [hr] at w; cases w
  | ok r =>
    obtain ⟨o, s'⟩ := r
    rw [hr] at w
    cases o with
    | none =>
      simp only [] at w
      split at w <;> simp at w
    | some cmd =>
      obtain ⟨c', lb', u, hu, hb⟩ := h charSeg C14_wit_udata C14_wit_vi_cfg C14_wit_vi_state s' 8 cmd [] rfl hr rfl rfl
      simp only [hu, Option.some.injEq, Prod.mk.injEq] at w
      rw [hb] at w
      exact absurd w.2.2 (by decide)

/-- list mode, ONE candidate which is the empty string, word "f" before the cursor -/
def C14_wit_list_cfg : EdCfg :=
  { vi := false, listCompletion := true, hasHelper := true, hasCompleter := true, completer := (fun _ _ => (3, [[]])) }

/-- **list mode with the empty string as the only candidate deletes the word**: `longest_common_prefix`
    returns the single candidate as it is and `candidates.len() == 1` forces the replacement, so "ls f x"
    becomes "ls  x" — the span does not "become the longest common prefix when that extends it", and
    `Spec.oracleC14` (which asks for a non-empty prefix) prescribes the unchanged line here.  This is the
    case excluded by `hnot` in `C14_list_matches_oracle`; model and `src/lib.rs:153-158` agree. -/
theorem C14_list_single_empty_candidate_deletes_span :
    (completeLine charSeg C14_wit_udata C14_wit_list_cfg 8 (C14_wit_state [])).toOption.map
      (fun r => (r.1.isNone, r.2.line.buf, r.2.line.pos)) = some (true, ['l','s',' ',' ','x'], 3) ∧
    (if (!(lcpOf [([] : Text)]).isEmpty && (blen (lcpOf [([] : Text)]) > 4 - 3 || [([] : Text)].length == 1)) = true
     then spliceCand (compSt 3 [[]] ['l','s',' ','f',' ','x'] 4 0) (lcpOf [[]])
     else ((['l','s',' ','f',' ','x'] : Text), 4)) = (['l','s',' ','f',' ','x'], 4) := by
  constructor
  · decide +kernel
  · rfl

/-- non-vacuity of the path hypothesis of `C14_circular_key_by_key`: on the witness state with the
    pending keys Tab, `x` there is a one-Tab path from the first loop head to the head with index 1, and
    the turn there reads `SelfInsert x` -/
example :
    ∃ s1 s2,
      CircPath charSeg C14_wit_udata C14_wit_cfg 3 [['f','o','o'], ['f','u']] ['l','s',' ','f',' ','x'] 4 8 0
        { C14_wit_state [[0x09], [0x78]] with changes := (C14_wit_state [[0x09], [0x78]]).changes.begin.1 }
        [true] (6 + 1) 1 s1 ∧
      circTurn charSeg C14_wit_udata C14_wit_cfg 3 [['f','o','o'], ['f','u']] ['l','s',' ','f',' ','x'] 4 6 1 s1 =
        .ok (.selfInsert 1 'x', s2) := by
  have w : (match circTurn charSeg C14_wit_udata C14_wit_cfg 3 [['f','o','o'], ['f','u']] ['l','s',' ','f',' ','x'] 4 7 0
        { C14_wit_state [[0x09], [0x78]] with changes := (C14_wit_state [[0x09], [0x78]]).changes.begin.1 } with
      | .ok (c1, s1) =>
        (match circTurn charSeg C14_wit_udata C14_wit_cfg 3 [['f','o','o'], ['f','u']] ['l','s',' ','f',' ','x'] 4 6 1 s1 with
         | .ok (c2, _) => some (c1, c2)
         | .error _ => none)
      | .error _ => none) = some (Cmd.complete, Cmd.selfInsert 1 'x') := by decide +kernel
  cases h1 : circTurn charSeg C14_wit_udata C14_wit_cfg 3 [['f','o','o'], ['f','u']] ['l','s',' ','f',' ','x'] 4 7 0
      { C14_wit_state [[0x09], [0x78]] with changes := (C14_wit_state [[0x09], [0x78]]).changes.begin.1 } with
  | error e => rw [h1] at w; cases w
  | ok r1 =>
    obtain ⟨c1, s1⟩ := r1
    rw [h1] at w
    simp only [] at w
    cases h2 : circTurn charSeg C14_wit_udata C14_wit_cfg 3 [['f','o','o'], ['f','u']] ['l','s',' ','f',' ','x'] 4 6 1 s1 with
    | error e => rw [h2] at w; cases w
    | ok r2 =>
      obtain ⟨c2, s2⟩ := r2
      rw [h2] at w
      simp only [Option.some.injEq, Prod.mk.injEq] at w
      obtain ⟨rfl, rfl⟩ := w
      exact ⟨s1, s2, CircPath.tab h1 (CircPath.nil _ _ _), h2⟩

/-- **One Undo after an accepted completion restores the pre-completion text AND cursor** (hypotheses of
    `C14_undo_after_accept` and of `C14_circular_exit_shows_spec`).  Every `Change::undo` step sets the
    cursor (`Replace idx old new` ↦ `idx + old.len()`), so one Undo of the group leaves it where the
    undo step of the group's OLDEST change puts it.  For EVERY key sequence inside the loop, if
    `complete_line` hands a command back, (a) the group logged by the completion is
    `End :: pre ++ [Replace start y n] ++ Begin :: log before` where `y` is the ORIGINAL text between
    the completer's start and the cursor (the first candidate shown is logged as this `Replace`, later
    ones are merged into it or pushed above); (b) `Changeset::undo` with count 1 leaves the
    pre-completion text, the cursor at `start + |y|` = the pre-completion cursor, and the undo stack
    from before. -/
theorem C14_undo_after_accept_cursor (S : Segmenter) (U : UData) (cfg : EdCfg) (hvi : cfg.vi = false)
    (hcirc : cfg.listCompletion = false) (s s' : Ed) (fuel : Nat) (cmd : Cmd) (t0 : Text)
    (hrun : completeLine S U cfg fuel s = .ok (some cmd, s'))
    (hg : s.line.canGrow = true) (hl0 : s.changes.level = 0)
    (hlog : replayLog s.changes.undos.reverse t0 = some s.line.buf)
    (hpos : IsBoundary s.line.buf s.line.pos)
    (hstart : IsBoundary s.line.buf (cfg.completer s.line.buf s.line.pos).1)
    (hle : (cfg.completer s.line.buf s.line.pos).1 ≤ s.line.pos) :
    (∃ pre n y, (∀ ch ∈ pre, ch.isMarker = false) ∧
      s.line.buf = takeB s.line.buf (cfg.completer s.line.buf s.line.pos).1 ++ y ++ dropB s.line.buf s.line.pos ∧
      (cfg.completer s.line.buf s.line.pos).1 + blen y = s.line.pos ∧
      s'.changes.undos = .end_ :: (pre ++ [.replace (cfg.completer s.line.buf s.line.pos).1 y n])
        ++ .begin :: s.changes.undos) ∧
    ∃ c' lb' undone, s'.changes.undo S U s'.line 1 = .ok (c', lb', undone) ∧
      lb'.buf = s.line.buf ∧ lb'.pos = s.line.pos ∧ c'.undos = s.changes.undos := by
  obtain ⟨⟨body, _, hb2, hb3, _, hb5⟩, _⟩ :=
    C14_undo_after_accept S U cfg hvi hcirc s s' fuel cmd t0 hrun hg hl0 hlog
  rcases completeLine_circular S U cfg hcirc hrun with ⟨h, _⟩ | ⟨hlen, hrun⟩
  · cases h
  · obtain ⟨x, y, z, _, hbuf, hx, hp⟩ := split3_of_boundaries hstart hpos hle
    generalize (cfg.completer s.line.buf s.line.pos).1 = start at *
    generalize (cfg.completer s.line.buf s.line.pos).2 = cands at *
    subst hx
    have hrun' := hrun
    rw [hbuf, hp] at hrun'
    have hw := completeCircular_accept_oldest S U cfg hvi s.changes.undos x y z cands fuel
      s.changes.undos.length 0 { s with changes := s.changes.begin.1 }
      (Or.inl ⟨hg, hbuf, hp, rfl, hlen⟩)
    obtain ⟨pre, n, hR⟩ := wp_ok hw hrun' cmd rfl
    -- the two descriptions of the stack agree: `body = pre' ++ [Replace …]`
    have hcancel : Change.end_ :: body = pre ++ [.replace (blen x) y n] := by
      have e : (Change.end_ :: body) ++ (Change.begin :: s.changes.undos)
          = (pre ++ [.replace (blen x) y n]) ++ (Change.begin :: s.changes.undos) := by
        rw [← hb3, hR]; simp
      exact List.append_cancel_right e
    cases pre with
    | nil => simp at hcancel
    | cons p pre' =>
      simp only [List.cons_append, List.cons.injEq] at hcancel
      obtain ⟨_, hbody⟩ := hcancel
      subst hbody
      have hmp : ∀ ch ∈ pre', ch.isMarker = false := fun ch hch => hb2 ch (List.mem_append_left _ hch)
      have hu : s'.changes.undos = .end_ :: (pre' ++ [.replace (blen x) y n]) ++ .begin :: s.changes.undos := hb3
      refine ⟨⟨pre', n, y, hmp, ?_, hp.symm, hu⟩, ?_⟩
      · rw [hp]
        conv => rhs; rw [hbuf]
        rw [dropB_append3, List.append_assoc x y z, takeB_append]
        exact hbuf
      · obtain ⟨c', lb', undone, h1, h2, h3, h4⟩ :=
          undo_one_group_cursor S U s'.changes pre' s.changes.undos (blen x) y n t0 s.line.buf s'.line hu hmp hb5 hlog
        exact ⟨c', lb', undone, h1, h2, by rw [h3, hp], h4⟩

/-- the whole run of the witness (Tab, then Tab Tab Tab `x` inside the loop): one Undo gives back the
    pre-completion text, the pre-completion CURSOR (byte 4) and the log from before -/
example :
    (match completeLine charSeg C14_wit_udata C14_wit_cfg 8 (C14_wit_state [[0x09], [0x09], [0x09], [0x78]]) with
     | .ok (_, s) => (match s.changes.undo charSeg C14_wit_udata s.line 1 with
                      | .ok (c, l, _) => some (l.buf, l.pos, c.undos)
                      | .error _ => none)
     | .error _ => none) = some (['l','s',' ','f',' ','x'], 4, []) := by decide +kernel

/-- **The command that ends a completion is then executed normally** (clause "any other key keeps the
    shown candidate and is then executed"; mirror of `C08_exit_command_dispatched`): with a helper
    configured, the dispatcher `preCmds` on `Complete` runs `complete_line` and feeds the command it
    hands back to itself again, on the state the completion left, exactly as if it had been typed there.
    No hypothesis besides the run itself (any mode, circular or list). -/
theorem C14_accept_command_dispatched (S : Segmenter) (U : UData) (cfg : EdCfg) (s s' : Ed) (fuel : Nat) (cmd : Cmd)
    (hh : cfg.hasHelper = true)
    (hrun : completeLine S U cfg fuel s = .ok (some cmd, s')) :
    preCmds S U cfg (fuel + 1) .complete s = preCmds S U cfg fuel cmd s' := by
  rw [preCmds_complete S U cfg hh, EM.bind_apply, hrun]

/-- … and when `complete_line` hands nothing back (Esc, no candidates, list shown) the dispatcher
    returns to the main loop with no command -/
theorem C14_abort_nothing_dispatched (S : Segmenter) (U : UData) (cfg : EdCfg) (s s' : Ed) (fuel : Nat)
    (hh : cfg.hasHelper = true)
    (hrun : completeLine S U cfg fuel s = .ok (none, s')) :
    preCmds S U cfg (fuel + 1) .complete s = .ok (none, s') := by
  rw [preCmds_complete S U cfg hh, EM.bind_apply, hrun]
  rfl

/-- **Any other key keeps the shown candidate and is then executed** (circular mode, key by key).
    Under the hypotheses of `C14_circular_key_by_key` (the turn of the loop that decodes `cmd` on the
    state `s1` showing index `i'`), if `cmd` is none of `Complete` / `CompleteBackward` / `Abort`, then the
    dispatcher started on the Tab (`preCmds … Complete`) continues as `preCmds … cmd` on `s1` with only
    the undo group closed — a state whose line and cursor are exactly `Spec.shownFor` of `i'`; and if
    moreover `cmd` needs no extra input (it is not `ReverseSearchHistory`) the dispatcher returns `cmd`
    on that very state, which is what `mainLoop` then passes to `execute`. -/
theorem C14_other_key_keeps_candidate_and_executes (S : Segmenter) (U : UData) (cfg : EdCfg) (s : Ed) (fuel : Nat)
    (hh : cfg.hasHelper = true)
    (hcirc : cfg.listCompletion = false) (hne : (cfg.completer s.line.buf s.line.pos).2.isEmpty = false)
    (hg : s.line.canGrow = true) (hpos : IsBoundary s.line.buf s.line.pos)
    (hstart : IsBoundary s.line.buf (cfg.completer s.line.buf s.line.pos).1)
    (hle : (cfg.completer s.line.buf s.line.pos).1 ≤ s.line.pos)
    (ks : List Bool) (fuel' i' : Nat) (sk s1 : Ed) (cmd : Cmd)
    (hpath : CircPath S U cfg (cfg.completer s.line.buf s.line.pos).1 (cfg.completer s.line.buf s.line.pos).2
      s.line.buf s.line.pos fuel 0 { s with changes := s.changes.begin.1 } ks (fuel' + 1) i' sk)
    (hturn : circTurn S U cfg (cfg.completer s.line.buf s.line.pos).1 (cfg.completer s.line.buf s.line.pos).2
      s.line.buf s.line.pos fuel' i' sk = .ok (cmd, s1))
    (hend : Cmd.endsCompletion cmd) :
    let s2 : Ed := { s1 with changes := s1.changes.end_.1 }
    (s2.line.buf, s2.line.pos) =
      shownFor (compSt (cfg.completer s.line.buf s.line.pos).1 (cfg.completer s.line.buf s.line.pos).2
        s.line.buf s.line.pos i') ∧
    preCmds S U cfg (fuel + 1) .complete s = preCmds S U cfg fuel cmd s2 ∧
    (cmd ≠ .reverseSearchHistory → ∀ f, fuel = f + 1 → preCmds S U cfg (fuel + 1) .complete s = .ok (some cmd, s2)) := by
  obtain ⟨_, hsh, hc⟩ := C14_circular_key_by_key S U cfg s fuel hcirc hne hg hpos hstart hle ks fuel' i' sk s1 cmd hpath hturn
  have hrun := hc hend
  have hd := C14_accept_command_dispatched S U cfg s _ fuel cmd hh hrun
  refine ⟨hsh, hd, fun hr f hf => ?_⟩
  rw [hd, hf]
  unfold preCmds
  have h1 : (cmd == Cmd.complete && cfg.hasHelper) = false := by
    have : (cmd == Cmd.complete) = false := by
      cases h : cmd == Cmd.complete with
      | false => rfl
      | true => exact absurd (by simpa using h) hend.1
    rw [this]; rfl
  have h2 : (cmd == Cmd.reverseSearchHistory) = false := by
    cases h : cmd == Cmd.reverseSearchHistory with
    | false => rfl
    | true => exact absurd (by simpa using h) hr
  simp only [h1, h2, Bool.false_eq_true, if_false]
  rfl

/-- non-vacuity of the dispatch theorems on the witness: a helper is configured, and the dispatcher
    started on Tab with `Tab`, `x` pending returns `SelfInsert x` on the line showing the second
    candidate "fu" (cursor after it) -/
example : C14_wit_cfg.hasHelper = true := rfl
example :
    (preCmds charSeg C14_wit_udata C14_wit_cfg 9 .complete (C14_wit_state [[0x09], [0x78]])).toOption.map
      (fun r => (r.1 == some (.selfInsert 1 'x'), r.2.line.buf, r.2.line.pos)) =
    some (true, ['l','s',' ','f','u',' ','x'], 5) := by decide +kernel
