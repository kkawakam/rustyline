/-
  Property C15 — file name completion offers exactly the matches, quoted so they read back intact.
  Model: Rl/Completion.lean (transliteration of src/completion.rs).
  Spec: Rl/Spec/Completion.lean (written from the property text).
  Lemmas: Rl/Lemmas/Completion.lean (escape / unescape, `extract_word`, the quote scanner,
  `longest_common_prefix`), Rl/Lemmas/CompletionReplacement.lean (what a candidate's replacement
  is, the trailing separator).
-/
import Rl.Completion
import Rl.Spec.Completion
import Rl.Lemmas.Completion
import Rl.Lemmas.CompletionReplacement
open Rl Rl.Completion

/-- Escaping then unescaping is the identity, for every text, every break set that contains the
    escape character, in the bare and the double-quote context. -/
theorem C15_unescape_escape (e : Char) (isBreak : Char → Bool) (hb : isBreak e = true)
    (q : Quote) (hq : q ≠ .single) (s : Text) :
    unescape (some e) (escape (some e) isBreak q s) = s := by
  rw [unescape_some, escape_eq_flatMap e isBreak q hq]
  have := unescapeGo_flatMap_escChar e isBreak hb s []
  simpa [unescapeGo] using this

/-- Inside single quotes nothing is escaped and nothing is unescaped (`esc_char = None`). -/
theorem C15_unescape_escape_single (isBreak : Char → Bool) (s : Text) :
    unescape none (escape none isBreak .single s) = s := by
  simp [unescape, escape]

/-- the hypothesis of `C15_unescape_escape` is needed: with an escape character that is not a
    break character a name containing it is not read back -/
example : unescape (some '\\') (escape (some '\\') (fun c => c = ' ') .none "a\\b".toList) ≠ "a\\b".toList := by
  decide +kernel

/-- non-vacuity: both unix parameter sets satisfy the hypothesis -/
example : defaultBreak '\\' = true ∧ dqSpecial '\\' = true := by decide +kernel

/-- For the public helper `extract_word` (reverse scan, quotes not interpreted).
    Syntactic, decidable condition on what is typed before the partial path in the bare context:
    nothing, or a break character other than the escape character that is preceded by an even
    number (possibly zero) of escape characters. -/
def C15_unquoted (e : Char) (B : Char → Bool) (pre : Text) : Bool :=
  match pre.reverse with
  | [] => true
  | b :: r => B b && b != e && (r.takeWhile (· == e)).length % 2 == 0

/-- Decidable condition for the quoted contexts: the quote scanner is in its normal mode after
    the prefix (every quote opened in it is closed, it does not end in a pending escape). -/
def C15_closed (pre : Text) : Bool := (scanGo pre 0 .normal 0).1 == .normal

/-- the Boolean test `C15_unquoted` decides the condition `UnquotedRev` of the theorems -/
theorem C15_unquoted_sound (e : Char) (B : Char → Bool) (pre : Text) :
    C15_unquoted e B pre = true → UnquotedRev e B pre.reverse := by
  unfold C15_unquoted UnquotedRev
  cases pre.reverse with
  | nil => intro; exact Or.inl rfl
  | cons b r =>
    intro h
    simp only [Bool.and_eq_true, bne_iff_ne, ne_eq, beq_iff_eq] at h
    exact Or.inr ⟨b, r, rfl, h.1.1, h.1.2, h.2⟩

/-- Bare context.  After an unquoted prefix, with the cursor at the end of the inserted
    (escaped) text, `extract_word` returns exactly the inserted text and where it starts —
    for every text `s`, whatever blanks, quotes, backslashes or multi-byte characters it has. -/
theorem C15_extract_inverts (e : Char) (B : Char → Bool) (he : B e = true) (pre s : Text)
    (hpre : C15_unquoted e B pre = true) :
    extractWord (pre ++ escape (some e) B .none s) (blen (pre ++ escape (some e) B .none s)) (some e) B
      = some (blen pre, escape (some e) B .none s) := by
  rw [escape_eq_flatMap e B .none (by decide)]
  exact extractWord_escaped e B he pre s (C15_unquoted_sound e B pre hpre)

/-- Double-quote context: after a closed prefix, an opening `"` and the escaped text, the
    scanner reports that quote as the unclosed one. -/
theorem C15_quote_inverts (D : Char → Bool) (h1 : D '"' = true) (h2 : D '\\' = true) (pre s : Text)
    (hpre : C15_closed pre = true) :
    findUnclosedQuote (pre ++ ['"'] ++ escape (some '\\') D .double s) = some (blen pre, .double) := by
  rw [escape_eq_flatMap '\\' D .double (by decide)]
  unfold findUnclosedQuote
  have hm : (scanGo pre 0 .normal 0).1 = .normal := by simpa [C15_closed] using hpre
  simp only [List.append_assoc, scanGo_append, hm]
  simp [scanGo, scanStep, scanGo_escaped_dq D h1 h2]

/-- Single-quote context, for texts without a single quote (no escape exists there). -/
theorem C15_quote_inverts_single (pre s : Text) (hs : '\'' ∉ s) (hpre : C15_closed pre = true) :
    findUnclosedQuote (pre ++ ['\''] ++ s) = some (blen pre, .single) := by
  unfold findUnclosedQuote
  have hm : (scanGo pre 0 .normal 0).1 = .normal := by simpa [C15_closed] using hpre
  simp only [List.append_assoc, scanGo_append, hm]
  simp [scanGo, scanStep, scanGo_sq s hs]

/-- Bare context: the escaped text opens no quote. -/
theorem C15_bare_opens_no_quote (B : Char → Bool) (h1 : B '"' = true) (h2 : B '\\' = true)
    (h3 : B '\'' = true) (pre s : Text) (hpre : C15_closed pre = true) :
    findUnclosedQuote (pre ++ escape (some '\\') B .none s) = none := by
  rw [escape_eq_flatMap '\\' B .none (by decide)]
  unfold findUnclosedQuote
  have hm : (scanGo pre 0 .normal 0).1 = .normal := by simpa [C15_closed] using hpre
  simp only [scanGo_append, hm]
  simp [scanGo_escaped_bare B h1 h2 h3]

/-- Decidable condition on what is typed before the partial path in the bare context, for the
    completer: its scan, run on the prefix alone, ends outside quotes and escapes with the empty
    word (nothing typed, or the last thing read is a break character that is neither escaped nor
    quoted - a blank, `=`, a closing quote …). -/
def C15_bare_prefix (B : Char → Bool) (pre : Text) : Bool :=
  bareGo B pre 0 .normal 0 == (.normal, blen pre)

/-- The completer's word scan and `find_unclosed_quote` agree about what is quoted: their loops
    are in the same mode at the cursor, for every text and every break set. -/
theorem C15_scanners_agree (B : Char → Bool) (l : Text) :
    (bareGo B l 0 .normal 0).1 = (scanGo l 0 .normal 0).1 :=
  bareGo_mode B l 0 0 0 .normal

/-- … hence a bare prefix is a closed one -/
theorem C15_bare_prefix_closed (B : Char → Bool) (pre : Text) (h : C15_bare_prefix B pre = true) :
    C15_closed pre = true := by
  have h' : bareGo B pre 0 .normal 0 = (.normal, blen pre) := by simpa [C15_bare_prefix] using h
  have := C15_scanners_agree B pre
  rw [h'] at this
  simp [C15_closed, ← this]

/-- The prefix condition composes: whatever stands before (closed quoted segments ending in
    backslashes included), once the scan is outside quotes and escapes, one more break character
    that is not a backslash or a quote makes a bare prefix. -/
theorem C15_bare_prefix_after_break (B : Char → Bool) (pre : Text) (b : Char)
    (hm : (bareGo B pre 0 .normal 0).1 = .normal) (hb : B b = true)
    (h1 : b ≠ '"') (h2 : b ≠ '\\') (h3 : b ≠ '\'') :
    C15_bare_prefix B (pre ++ [b]) = true := by
  unfold C15_bare_prefix
  rw [bareGo_append, hm]
  simp [bareGo, bareStep, h1, h2, h3, hb]

/-- The slice `&line[start..pos]` taken by `complete_path` never panics: the scan ends on a
    character boundary, for every line and every break set. -/
theorem C15_bare_word_total (B : Char → Bool) (l : Text) :
    ∃ a w, l = a ++ w ∧ splitAtByte l (bareWordStart B l) = some (a, w) := by
  obtain ⟨a, w, h1, _, h3⟩ := bareWordStart_split B l
  exact ⟨a, w, h1, h3⟩

/-- Bare context, completer.  After a bare prefix, with the cursor at the end of the inserted
    (escaped) text, the completer's scan starts the word exactly at the inserted text — for every
    text `s`, whatever blanks, quotes, backslashes or multi-byte characters it has. -/
theorem C15_completer_inverts (B : Char → Bool) (h1 : B '"' = true) (h2 : B '\\' = true)
    (h3 : B '\'' = true) (pre s : Text) (hpre : C15_bare_prefix B pre = true) :
    bareWordStart B (pre ++ escape (some '\\') B .none s) = blen pre := by
  rw [escape_eq_flatMap '\\' B .none (by decide)]
  exact bareWordStart_escaped B h1 h2 h3 pre s (by simpa [C15_bare_prefix] using hpre)

/-- Bare: the parse step of `complete_path` on `pre ++ escape path` yields `path` again, the same
    start, the bare context.  (The only hypothesis on the prefix is the completer's own:
    `C15_bare_prefix`, which implies `C15_closed`.) -/
theorem C15_reparse_bare (B D : Char → Bool) (h1 : B '"' = true) (h2 : B '\\' = true)
    (h3 : B '\'' = true) (pre path : Text) (hu : C15_bare_prefix B pre = true) :
    parsePath B D (pre ++ escape (some '\\') B .none path)
        (blen (pre ++ escape (some '\\') B .none path))
      = some (blen pre, path, some '\\', B, Quote.none) := by
  unfold parsePath
  rw [splitAtByte_full]
  simp only [C15_bare_opens_no_quote B h1 h2 h3 pre path (C15_bare_prefix_closed B pre hu),
    C15_completer_inverts B h1 h2 h3 pre path hu, splitAtByte_append,
    C15_unescape_escape '\\' B h2 .none (by decide)]

/-- Double quote: same, the start is right after the quote. -/
theorem C15_reparse_double (B D : Char → Bool) (h1 : D '"' = true) (h2 : D '\\' = true)
    (pre path : Text) (hc : C15_closed pre = true) :
    parsePath B D (pre ++ ['"'] ++ escape (some '\\') D .double path)
        (blen (pre ++ ['"'] ++ escape (some '\\') D .double path))
      = some (blen pre + 1, path, some '\\', D, Quote.double) := by
  unfold parsePath
  rw [splitAtByte_full]
  simp only [C15_quote_inverts D h1 h2 pre path hc]
  have hb : blen pre + 1 = blen (pre ++ ['"']) := by simp; decide
  rw [hb, splitAtByte_append]
  simp only [if_true, C15_unescape_escape '\\' D h2 .double (by decide)]

/-- Single quote: same, nothing to unescape. -/
theorem C15_reparse_single (B D : Char → Bool) (pre path : Text) (hs : '\'' ∉ path)
    (hc : C15_closed pre = true) :
    parsePath B D (pre ++ ['\''] ++ path) (blen (pre ++ ['\''] ++ path))
      = some (blen pre + 1, path, none, B, Quote.single) := by
  unfold parsePath
  rw [splitAtByte_full]
  simp only [C15_quote_inverts_single pre path hs hc]
  have hb : blen pre + 1 = blen (pre ++ ['\'']) := by simp; decide
  rw [hb, splitAtByte_append]
  simp

/-- Bare context, end to end: `pre` is what stands before the word; the first completion parsed
    the word to `path` and offered the file `d` with replacement `r` (= the escaped directory part
    and name; for a directory candidate the trailing separator is taken off first).  After
    inserting `r` in place of the word, completing at the end of `pre ++ r` starts at the same
    place and offers `d` with the same replacement. -/
theorem C15_offered_again_bare (B D : Char → Bool) (h1 : B '"' = true) (h2 : B '\\' = true)
    (h3 : B '\'' = true) (fs : Listing) (pre path : Text) (hu : C15_bare_prefix B pre = true)
    (ms : List (Text × Text)) (h : filenameComplete fs path (some '\\') B .none = some ms)
    (d r : Text) (hm : (d, r) ∈ ms) (hd : '/' ∉ d)
    (hr : r = escape (some '\\') B .none ((splitPath path).1 ++ d)) :
    ∃ cs, completePath B D fs (pre ++ r) (blen (pre ++ r)) = .ok (blen pre, cs) ∧ (d, r) ∈ cs := by
  subst hr
  exact completePath_again B D fs path _ B .none ms h d _ hm hd _ _
    (C15_reparse_bare B D h1 h2 h3 pre _ hu)

/-- Double-quote context, end to end (the line is `pre`, the opening quote, the replacement). -/
theorem C15_offered_again_double (B D : Char → Bool) (h1 : D '"' = true) (h2 : D '\\' = true)
    (fs : Listing) (pre path : Text) (hc : C15_closed pre = true)
    (ms : List (Text × Text)) (h : filenameComplete fs path (some '\\') D .double = some ms)
    (d r : Text) (hm : (d, r) ∈ ms) (hd : '/' ∉ d)
    (hr : r = escape (some '\\') D .double ((splitPath path).1 ++ d)) :
    ∃ cs, completePath B D fs (pre ++ ['"'] ++ r) (blen (pre ++ ['"'] ++ r)) = .ok (blen pre + 1, cs)
      ∧ (d, r) ∈ cs := by
  subst hr
  exact completePath_again B D fs path _ D .double ms h d _ hm hd _ _
    (C15_reparse_double B D h1 h2 pre _ hc)

/-- Single-quote context, end to end, for names and directory parts without a single quote. -/
theorem C15_offered_again_single (B D : Char → Bool) (fs : Listing) (pre path : Text)
    (hc : C15_closed pre = true)
    (ms : List (Text × Text)) (h : filenameComplete fs path none B .single = some ms)
    (d r : Text) (hm : (d, r) ∈ ms) (hd : '/' ∉ d)
    (hr : r = (splitPath path).1 ++ d) (hq : '\'' ∉ r) :
    ∃ cs, completePath B D fs (pre ++ ['\''] ++ r) (blen (pre ++ ['\''] ++ r)) = .ok (blen pre + 1, cs)
      ∧ (d, r) ∈ cs := by
  subst hr
  exact completePath_again B D fs path _ B .single ms h d _ hm hd _ _
    (C15_reparse_single B D pre _ hq hc)

/-- non-vacuity of the end-to-end statement: a directory with `a b`, `a"c` and a sub-directory
    `x`; the user typed `ls a`: the word is parsed to the path `a`, both files are offered -/
example : (parsePath defaultBreak dqSpecial "ls a".toList 4).map (fun r => (r.1, r.2.1, r.2.2.1, r.2.2.2.2))
      = some (3, "a".toList, some '\\', Quote.none) := by decide +kernel
example :
    filenameComplete [⟨[], "a b".toList, false⟩, ⟨[], "a\"c".toList, false⟩, ⟨[], "x".toList, true⟩]
      "a".toList (some '\\') defaultBreak .none
    = some [("a b".toList, "a\\ b".toList), ("a\"c".toList, "a\\\"c".toList)] := by decide +kernel
/-- … and the directory with its separator, inside double quotes -/
example :
    filenameComplete [⟨[], "a b".toList, false⟩, ⟨[], "x y".toList, true⟩, ⟨"x y".toList, "z".toList, false⟩]
      "x".toList (some '\\') dqSpecial .double
    = some [("x y".toList, "x y/".toList)] := by decide +kernel

/-! non-vacuity: typical prefixes satisfy the hypotheses, the awkward ones do or do not as they should -/
example : C15_bare_prefix defaultBreak "ls -l ".toList = true ∧ C15_unquoted '\\' defaultBreak "ls -l ".toList = true
    ∧ C15_closed "ls -l ".toList = true := by decide +kernel
example : C15_bare_prefix defaultBreak "x=".toList = true ∧ C15_unquoted '\\' defaultBreak "x=".toList = true := by decide +kernel
example : C15_bare_prefix defaultBreak "a\\ b ".toList = true ∧ C15_unquoted '\\' defaultBreak "a\\ b ".toList = true := by
  decide +kernel
example : C15_bare_prefix defaultBreak "\"a b\" ".toList = true ∧ C15_unquoted '\\' defaultBreak "\"a b\" ".toList = true := by
  decide +kernel
/-- D24: an escaped backslash followed by a real blank is an unquoted prefix … -/
example : C15_unquoted '\\' defaultBreak "q\\\\ ".toList = true ∧ C15_bare_prefix defaultBreak "q\\\\ ".toList = true := by
  decide +kernel
/-- … and the word after it is found -/
example : extractWord "q\\\\ a".toList 5 (some '\\') defaultBreak = some (4, "a".toList) := by decide +kernel
/-- an escaped blank is not the end of a prefix; nor is a blank inside an open quote for the completer -/
example : C15_unquoted '\\' defaultBreak "q\\ ".toList = false ∧ C15_bare_prefix defaultBreak "q\\ ".toList = false
    ∧ C15_bare_prefix defaultBreak "'a ".toList = false := by decide +kernel
/-- D26: the prefix `'\'` (a single-quoted backslash) is closed for the quote scanner and a bare
    prefix for the completer; it is not an unquoted prefix for the public helper `extract_word`, whose
    reverse scan does not interpret quotes … -/
example : C15_closed "'\\'".toList = true ∧ C15_bare_prefix defaultBreak "'\\'".toList = true
    ∧ C15_bare_prefix defaultBreak "'a\\' ".toList = true
    ∧ C15_unquoted '\\' defaultBreak "'\\'".toList = false := by decide +kernel
/-- … the helper and the quote scanner disagree on the line `'\'a` (by design of the helper) … -/
example : findUnclosedQuote "'\\'a".toList = none
    ∧ extractWord "'\\'a".toList 4 (some '\\') defaultBreak = some (1, "\\'a".toList) := by decide +kernel
/-- … and the completer reads the word `a` at 3 -/
example : (parsePath defaultBreak dqSpecial "'\\'a".toList 4).map (fun r => (r.1, r.2.1, r.2.2.2.2))
      = some (3, "a".toList, Quote.none) := by decide +kernel
example : (parsePath defaultBreak dqSpecial "ls '\\\\\\'\\ a".toList 11).map (fun r => (r.1, r.2.1, r.2.2.2.2))
      = some (8, " a".toList, Quote.none) := by decide +kernel
example : defaultBreak '"' = true ∧ defaultBreak '\\' = true ∧ defaultBreak '\'' = true
    ∧ dqSpecial '"' = true ∧ dqSpecial '\\' = true := by decide +kernel

/-- The final slice `&candidate[0..n]` never panics: the back-off ends on a character boundary. -/
theorem C15_lcp_total (cs : List Text) : longestCommonPrefix cs ≠ none := by
  match cs with
  | [] => simp [longestCommonPrefix]
  | [c] => simp [longestCommonPrefix]
  | c0 :: c1 :: r =>
    obtain ⟨p, h, _, _⟩ := longestCommonPrefix_cons_cons c0 c1 r
    rw [h]
    exact Option.some_ne_none _

/-- The reported prefix is a prefix, as a sequence of characters, of every candidate; in
    particular it ends on a character boundary of each of them. -/
theorem C15_lcp_common (cs : List Text) (p : Text) (h : longestCommonPrefix cs = some (some p)) :
    ∀ c ∈ cs, p <+: c := by
  match cs, h with
  | [], h => simp [longestCommonPrefix] at h
  | [c], h =>
    simp [longestCommonPrefix] at h
    subst h; intro c' hc'; simp at hc'; subst hc'; exact List.prefix_refl _
  | c0 :: c1 :: r, h =>
    obtain ⟨p', h', hcom, _⟩ := longestCommonPrefix_cons_cons c0 c1 r
    rw [h'] at h
    split at h
    · cases h
    · cases h; exact hcom

/-- The common prefix ends on a character boundary of every candidate, so the `candidate[..n]`
    slice of `longest_common_prefix` does not panic. -/
theorem C15_lcp_boundary (cs : List Text) (p : Text) (h : longestCommonPrefix cs = some (some p)) :
    ∀ c ∈ cs, IsBoundary c (blen p) := by
  intro c hc
  obtain ⟨x, hx⟩ := C15_lcp_common cs p h c hc
  exact ⟨p, x, hx.symm, rfl⟩

/-- It is the longest one: every text that is a prefix of all candidates is a prefix of the
    reported text (of the empty text when nothing is reported). -/
theorem C15_lcp_maximal (cs : List Text) (hne : cs ≠ []) (r : Option Text)
    (h : longestCommonPrefix cs = some r) (q : Text) (hq : ∀ c ∈ cs, q <+: c) :
    q <+: r.getD [] := by
  match cs, hne, h with
  | [c], _, h =>
    simp [longestCommonPrefix] at h
    subst h; exact hq c (by simp)
  | c0 :: c1 :: rest, _, h =>
    obtain ⟨p', h', _, hmax⟩ := longestCommonPrefix_cons_cons c0 c1 rest
    have hqp := hmax q hq
    rw [h'] at h
    cases h
    split
    · rename_i h0
      rw [blen_eq_zero.mp h0] at hqp
      exact hqp
    · exact hqp

/-- non-vacuity / the back-off at work: `é` = C3 A9 and `è` = C3 A8 share their first byte; the
    byte loop stops at 2 inside the character and the prefix is cut back to `f` -/
example : longestCommonPrefix ["fée".toList, "fèe".toList] = some (some "f".toList) := by decide +kernel
example : lcpLoop (["fée".toList, "fèe".toList].map bytes) 5 0 = 2 := by decide +kernel
example : longestCommonPrefix ["é".toList, "è".toList] = some none := by decide +kernel
example : longestCommonPrefix ["".toList] = some (some []) := by decide +kernel

/-- On every text before the cursor - bare, inside an open quote, cut after a backslash, plain or
    not - the completer's scan starts the word exactly where the declarative reader
    (`Spec.Completion.lex`) starts the partial path. -/
theorem C15_word_start_is_readers (l : Text) :
    bareWordStart defaultBreak l = (Spec.Completion.lex defaultBreak l).start := by
  unfold bareWordStart
  rw [bareGo_lex defaultBreak rfl rfl]

/-- … and in the mode the reader is in (bare / after a bare backslash / inside `"` / after a
    backslash inside `"` / inside `'`), which by `C15_scanners_agree` is also the mode of
    `find_unclosed_quote`: one reading of the line for all three. -/
theorem C15_word_mode_is_readers (l : Text) :
    (bareGo defaultBreak l 0 .normal 0).1 = modeOf (Spec.Completion.lex defaultBreak l).mode := by
  rw [bareGo_lex defaultBreak rfl rfl]

/-- the word the completer's scan reports for the text before the cursor: (start, `line[start..pos]`) -/
def C15_completerWord (B : Char → Bool) (l : Text) : Option (Nat × Text) :=
  (splitAtByte l (bareWordStart B l)).map (fun p => (bareWordStart B l, p.2))

/-- On every line that the declarative reader reads as a bare, plain word before the cursor, the
    completer's scan reports that word. -/
theorem C15_completer_word_agrees (l : Text) (w : Nat × Text)
    (h : Spec.Completion.expectedWord defaultBreak l = some w) :
    C15_completerWord defaultBreak l = some w := by
  unfold C15_completerWord
  rw [C15_word_start_is_readers]
  unfold Spec.Completion.expectedWord at h
  simp only at h
  split at h
  · exact h
  · cases h

/-- End to end for the parse step of `complete_path`: on such a line no quote is reported open, the
    start is the reader's, the path is the unescaped word, the context is the bare one. -/
theorem C15_completer_parse_agrees (D : Char → Bool) (l : Text) (w : Nat × Text)
    (h : Spec.Completion.expectedWord defaultBreak l = some w) :
    parsePath defaultBreak D l (blen l)
      = some (w.1, unescape (some '\\') w.2, some '\\', defaultBreak, Quote.none) := by
  have hw := C15_completer_word_agrees l w h
  have hq : findUnclosedQuote l = none := by
    have hm := (C15_scanners_agree defaultBreak l).symm.trans (C15_word_mode_is_readers l)
    unfold Spec.Completion.expectedWord at h
    simp only at h
    split at h
    · rename_i hc
      have hctx := hc.1
      unfold findUnclosedQuote
      simp only [hm]
      revert hctx
      unfold Spec.Completion.Lexed.ctx
      cases (Spec.Completion.lex defaultBreak l).mode <;> simp [modeOf]
    · cases h
  unfold parsePath
  rw [splitAtByte_full]
  simp only [hq]
  unfold C15_completerWord at hw
  cases hs : splitAtByte l (bareWordStart defaultBreak l) with
  | none => simp [hs] at hw
  | some p =>
    simp only [hs, Option.map_some, Option.some.injEq] at hw
    subst hw
    rfl

/-- non-vacuity: the reader does expect a word on the line `'\'a` of D26, and on a line with
    escaped blanks after a closed double quote -/
example : Spec.Completion.expectedWord defaultBreak "'\\'a".toList = some (3, "a".toList) := by decide +kernel
example : Spec.Completion.expectedWord defaultBreak "\"x y\" a\\ b".toList = some (6, "a\\ b".toList) := by
  decide +kernel

/-- The same statement about the public helper `extract_word`: on every line that the declarative
    reader reads as a bare, plain word before the cursor, `extract_word` reports that word. -/
def C15_word_agrees_statement : Prop :=
  ∀ (l : Text) (w : Nat × Text), Spec.Completion.expectedWord defaultBreak l = some w →
    extractWord l (blen l) (some '\\') defaultBreak = some w

/-- It does not hold, by design of the helper: its documented contract is a reverse scan over break
    and escape characters that does not interpret quotes (third-party completers call it on
    ordinary text).  Counter-example: the line `'\'a`; the reader and the completer see a closed
    quote followed by the word `a` at 3, the helper takes the closing quote for an escaped break
    character.  The completer does not use the helper (D26); the correspondence check judges the
    helper against the quote-blind reader `Spec.Completion.expectedWordHelper`. -/
theorem C15_word_agrees_counterexample : ¬ C15_word_agrees_statement := by
  intro h
  have h1 := h "'\\'a".toList (3, "a".toList) (by decide +kernel)
  revert h1
  decide +kernel

/-- Soundness of the offer, on the model of `filename_complete`: every candidate `(d, r)` offered
    for `path` comes from an entry of the listing that lives in the addressed directory
    (`dirKey path` = the normalised directory part of `path`) and whose name `d` starts with the
    typed file-name part; and the replacement `r` is the escape, in the context's rules, of the
    WHOLE path: the directory part exactly as typed, then the name, then the separator when the
    entry is a directory.  (An escape of the name alone, leaving the directory part raw, would
    contradict this.)  Every path, listing, escape character, break set, context. -/
theorem C15_candidate_is_escaped_whole_path (fs : Listing) (path : Text) (esc : Option Char)
    (brk : Char → Bool) (q : Quote) (ms : List (Text × Text))
    (h : filenameComplete fs path esc brk q = some ms) (d r : Text) (hm : (d, r) ∈ ms) :
    ∃ e ∈ fs, e.name = d ∧ (splitPath path).2 <+: d ∧ e.dir = dirKey path ∧
      r = escape esc brk q ((splitPath path).1 ++ d ++ (if e.isDir then ['/'] else [])) :=
  filenameComplete_mem fs path esc brk q ms h d r hm

/-- Completeness of the offer: when the addressed directory is the current one or is present in
    the listing as a directory, EVERY entry of it whose name starts with the typed file-name part
    is offered - display = its name, replacement = escaped (directory part ++ name ++ separator
    for a directory).  With the previous theorem: exactly the matches are offered. -/
theorem C15_every_match_offered (fs : Listing) (path : Text) (esc : Option Char)
    (brk : Char → Bool) (q : Quote) (ms : List (Text × Text))
    (h : filenameComplete fs path esc brk q = some ms)
    (hex : (dirKey path).isEmpty = true ∨ ∃ e ∈ fs, e.isDir = true ∧ e.full = dirKey path)
    (e : Entry) (he : e ∈ fs) (hdir : e.dir = dirKey path) (hp : (splitPath path).2 <+: e.name) :
    (e.name, escape esc brk q ((splitPath path).1 ++ e.name ++ (if e.isDir then ['/'] else []))) ∈ ms :=
  filenameComplete_complete fs path esc brk q ms h hex e he hdir hp

/-- non-vacuity: the sub-directory `x y` of the listing is addressed by the typed `x y/z` -/
example : dirKey "x y/z".toList = "x y".toList ∧ (splitPath "x y/z".toList) = ("x y/".toList, "z".toList) := by
  decide +kernel

/-- Bare context, read-back of the completer's own replacement.  For EVERY candidate `(d, r)`
    offered for `path` (file or directory, directory part and name with any blanks, quotes,
    backslashes, multi-byte characters), after a bare prefix `pre` the parse step of
    `complete_path` at the end of `pre ++ r` reports the start `|pre|`, the bare context and the
    path `directory part ++ d` (followed by the separator for a directory candidate): the
    inserted text names exactly the file that was offered. -/
theorem C15_replacement_reads_back_bare (B D : Char → Bool) (h1 : B '"' = true) (h2 : B '\\' = true)
    (h3 : B '\'' = true) (fs : Listing) (pre path : Text) (hu : C15_bare_prefix B pre = true)
    (ms : List (Text × Text)) (h : filenameComplete fs path (some '\\') B .none = some ms)
    (d r : Text) (hm : (d, r) ∈ ms) :
    ∃ sep, (sep = [] ∨ sep = ['/']) ∧
      parsePath B D (pre ++ r) (blen (pre ++ r))
        = some (blen pre, (splitPath path).1 ++ d ++ sep, some '\\', B, Quote.none) := by
  obtain ⟨e, _, _, _, _, hr⟩ := filenameComplete_mem fs path _ B .none ms h d r hm
  subst hr
  refine ⟨if e.isDir then ['/'] else [], ?_, C15_reparse_bare B D h1 h2 h3 pre _ hu⟩
  cases e.isDir <;> simp

/-- Double-quote context, same statement (line = `pre`, the opening quote, the replacement). -/
theorem C15_replacement_reads_back_double (B D : Char → Bool) (h1 : D '"' = true) (h2 : D '\\' = true)
    (fs : Listing) (pre path : Text) (hc : C15_closed pre = true)
    (ms : List (Text × Text)) (h : filenameComplete fs path (some '\\') D .double = some ms)
    (d r : Text) (hm : (d, r) ∈ ms) :
    ∃ sep, (sep = [] ∨ sep = ['/']) ∧
      parsePath B D (pre ++ ['"'] ++ r) (blen (pre ++ ['"'] ++ r))
        = some (blen pre + 1, (splitPath path).1 ++ d ++ sep, some '\\', D, Quote.double) := by
  obtain ⟨e, _, _, _, _, hr⟩ := filenameComplete_mem fs path _ D .double ms h d r hm
  subst hr
  refine ⟨if e.isDir then ['/'] else [], ?_, C15_reparse_double B D h1 h2 pre _ hc⟩
  cases e.isDir <;> simp

/-- Single-quote context, for replacements without a single quote (no escape exists there): the
    replacement is the raw path and is read back as such. -/
theorem C15_replacement_reads_back_single (B D : Char → Bool)
    (fs : Listing) (pre path : Text) (hc : C15_closed pre = true)
    (ms : List (Text × Text)) (h : filenameComplete fs path none B .single = some ms)
    (d r : Text) (hm : (d, r) ∈ ms) (hq : '\'' ∉ r) :
    ∃ sep, (sep = [] ∨ sep = ['/']) ∧ r = (splitPath path).1 ++ d ++ sep ∧
      parsePath B D (pre ++ ['\''] ++ r) (blen (pre ++ ['\''] ++ r))
        = some (blen pre + 1, r, none, B, Quote.single) := by
  obtain ⟨e, _, _, _, _, hr⟩ := filenameComplete_mem fs path _ B .single ms h d r hm
  refine ⟨if e.isDir then ['/'] else [], ?_, ?_, C15_reparse_single B D pre r hq hc⟩
  · cases e.isDir <;> simp
  · rw [hr]; simp [escape]

/-- Bare context, end to end, with no hypothesis on the shape of the replacement (compare
    `C15_offered_again_bare`).  For every candidate `(d, r)` the completer offers for `path` (names never
    contain the separator; the separator is not a break character): `r` is `r0` for a file and
    `r0 ++ "/"` for a directory, where `r0` is the escaped (directory part ++ name); and completing
    at the end of `pre ++ r0` starts at the same place and offers `d` again with the same `r`. -/
theorem C15_offered_again_bare_any (B D : Char → Bool) (h1 : B '"' = true) (h2 : B '\\' = true)
    (h3 : B '\'' = true) (hsep : B '/' = false) (fs : Listing) (pre path : Text)
    (hu : C15_bare_prefix B pre = true)
    (ms : List (Text × Text)) (h : filenameComplete fs path (some '\\') B .none = some ms)
    (d r : Text) (hm : (d, r) ∈ ms) (hd : '/' ∉ d) :
    (r = escape (some '\\') B .none ((splitPath path).1 ++ d)
        ∨ r = escape (some '\\') B .none ((splitPath path).1 ++ d) ++ ['/']) ∧
      ∃ cs, completePath B D fs (pre ++ escape (some '\\') B .none ((splitPath path).1 ++ d))
              (blen (pre ++ escape (some '\\') B .none ((splitPath path).1 ++ d))) = .ok (blen pre, cs)
        ∧ (d, r) ∈ cs := by
  refine ⟨?_, completePath_again B D fs path _ B .none ms h d r hm hd _ _
    (C15_reparse_bare B D h1 h2 h3 pre _ hu)⟩
  obtain ⟨e, _, _, _, _, hr⟩ := filenameComplete_mem fs path _ B .none ms h d r hm
  subst hr
  cases e.isDir
  · left; simp
  · right; simp only [if_true]; exact escape_append_sep _ B _ hsep _

/-- Double-quote context, end to end, same statement. -/
theorem C15_offered_again_double_any (B D : Char → Bool) (h1 : D '"' = true) (h2 : D '\\' = true)
    (hsep : D '/' = false) (fs : Listing) (pre path : Text) (hc : C15_closed pre = true)
    (ms : List (Text × Text)) (h : filenameComplete fs path (some '\\') D .double = some ms)
    (d r : Text) (hm : (d, r) ∈ ms) (hd : '/' ∉ d) :
    (r = escape (some '\\') D .double ((splitPath path).1 ++ d)
        ∨ r = escape (some '\\') D .double ((splitPath path).1 ++ d) ++ ['/']) ∧
      ∃ cs, completePath B D fs (pre ++ ['"'] ++ escape (some '\\') D .double ((splitPath path).1 ++ d))
              (blen (pre ++ ['"'] ++ escape (some '\\') D .double ((splitPath path).1 ++ d)))
            = .ok (blen pre + 1, cs)
        ∧ (d, r) ∈ cs := by
  refine ⟨?_, completePath_again B D fs path _ D .double ms h d r hm hd _ _
    (C15_reparse_double B D h1 h2 pre _ hc)⟩
  obtain ⟨e, _, _, _, _, hr⟩ := filenameComplete_mem fs path _ D .double ms h d r hm
  subst hr
  cases e.isDir
  · left; simp
  · right; simp only [if_true]; exact escape_append_sep _ D _ hsep _

/-- Single-quote context, end to end, same statement (directory part and name without `'`). -/
theorem C15_offered_again_single_any (B D : Char → Bool) (fs : Listing) (pre path : Text)
    (hc : C15_closed pre = true)
    (ms : List (Text × Text)) (h : filenameComplete fs path none B .single = some ms)
    (d r : Text) (hm : (d, r) ∈ ms) (hd : '/' ∉ d) (hq : '\'' ∉ (splitPath path).1 ++ d) :
    (r = (splitPath path).1 ++ d ∨ r = (splitPath path).1 ++ d ++ ['/']) ∧
      ∃ cs, completePath B D fs (pre ++ ['\''] ++ ((splitPath path).1 ++ d))
              (blen (pre ++ ['\''] ++ ((splitPath path).1 ++ d))) = .ok (blen pre + 1, cs)
        ∧ (d, r) ∈ cs := by
  refine ⟨?_, completePath_again B D fs path _ B .single ms h d r hm hd _ _
    (C15_reparse_single B D pre _ hq hc)⟩
  obtain ⟨e, _, _, _, _, hr⟩ := filenameComplete_mem fs path _ B .single ms h d r hm
  subst hr
  cases e.isDir
  · left; simp [escape]
  · right; simp [escape]

/-- non-vacuity of the hypotheses of the `_any` theorems on the unix parameter sets, and a
    candidate whose DIRECTORY part needs escaping: typed `x\ y/z` (path `x y/z`) in the directory
    `x y` containing `z w`: the replacement escapes the blank of the directory part too -/
example : defaultBreak '/' = false ∧ dqSpecial '/' = false := by decide +kernel
example :
    filenameComplete [⟨[], "x y".toList, true⟩, ⟨"x y".toList, "z w".toList, false⟩]
      "x y/z".toList (some '\\') defaultBreak .none
    = some [("z w".toList, "x\\ y/z\\ w".toList)] := by decide +kernel
example : (parsePath defaultBreak dqSpecial "ls x\\ y/z\\ w".toList 12).map (fun r => (r.1, r.2.1, r.2.2.2.2))
      = some (3, "x y/z w".toList, Quote.none) := by decide +kernel

/-- For a directory candidate (entry `e` of the addressed directory, a real name: not empty, no
    separator, not `.`, `..`, `~`): `filename_complete` on (directory part as typed ++ name ++
    separator) - the path its replacement reads back to - offers exactly the entries of that
    directory (those whose `dir` is the full path of `e`), each with a replacement that extends the
    typed path.  Every listing, escape character, break set, context. -/
theorem C15_directory_candidate_descends (fs : Listing) (path : Text) (esc : Option Char)
    (brk : Char → Bool) (q : Quote) (ms : List (Text × Text))
    (h : filenameComplete fs path esc brk q = some ms)
    (e : Entry) (he : e ∈ fs) (hdir : e.dir = dirKey path) (hisd : e.isDir = true)
    (hne : e.name ≠ []) (hd : '/' ∉ e.name)
    (hdot : e.name ≠ ['.'] ∧ e.name ≠ ['.', '.'] ∧ e.name ≠ ['~']) :
    filenameComplete fs ((splitPath path).1 ++ e.name ++ ['/']) esc brk q =
      some ((fs.filter (fun e' => e'.dir == e.full)).map (fun e' =>
        (e'.name, escape esc brk q ((splitPath path).1 ++ e.name ++ ['/'] ++ e'.name
            ++ (if e'.isDir then ['/'] else []))))) :=
  filenameComplete_into_dir fs path esc brk q ms h e he hdir hisd hne hd hdot

/-- Bare context, end to end at the level of `complete_path`: after a bare prefix `pre`, with the
    replacement `r` of such a directory candidate inserted (`r` = escaped directory part ++ name ++
    separator, as `C15_candidate_is_escaped_whole_path` says the completer builds it), completing
    at the end of `pre ++ r` starts at `|pre|` and offers exactly the content of that directory,
    sorted by name. -/
theorem C15_directory_replacement_descends_bare (B D : Char → Bool) (h1 : B '"' = true)
    (h2 : B '\\' = true) (h3 : B '\'' = true) (fs : Listing) (pre path : Text)
    (hu : C15_bare_prefix B pre = true) (ms : List (Text × Text))
    (h : filenameComplete fs path (some '\\') B .none = some ms)
    (e : Entry) (he : e ∈ fs) (hdir : e.dir = dirKey path) (hisd : e.isDir = true)
    (hne : e.name ≠ []) (hd : '/' ∉ e.name)
    (hdot : e.name ≠ ['.'] ∧ e.name ≠ ['.', '.'] ∧ e.name ≠ ['~'])
    (r : Text) (hr : r = escape (some '\\') B .none ((splitPath path).1 ++ e.name ++ ['/'])) :
    completePath B D fs (pre ++ r) (blen (pre ++ r)) =
      .ok (blen pre, ((fs.filter (fun e' => e'.dir == e.full)).map (fun e' =>
        (e'.name, escape (some '\\') B .none ((splitPath path).1 ++ e.name ++ ['/'] ++ e'.name
            ++ (if e'.isDir then ['/'] else []))))).mergeSort (fun a b => textLe a.1 b.1)) := by
  subst hr
  unfold completePath
  rw [C15_reparse_bare B D h1 h2 h3 pre _ hu]
  simp only [filenameComplete_into_dir fs path _ B .none ms h e he hdir hisd hne hd hdot]

/-- Double-quote context, same statement (line = `pre`, the opening quote, the replacement). -/
theorem C15_directory_replacement_descends_double (B D : Char → Bool) (h1 : D '"' = true)
    (h2 : D '\\' = true) (fs : Listing) (pre path : Text)
    (hc : C15_closed pre = true) (ms : List (Text × Text))
    (h : filenameComplete fs path (some '\\') D .double = some ms)
    (e : Entry) (he : e ∈ fs) (hdir : e.dir = dirKey path) (hisd : e.isDir = true)
    (hne : e.name ≠ []) (hd : '/' ∉ e.name)
    (hdot : e.name ≠ ['.'] ∧ e.name ≠ ['.', '.'] ∧ e.name ≠ ['~'])
    (r : Text) (hr : r = escape (some '\\') D .double ((splitPath path).1 ++ e.name ++ ['/'])) :
    completePath B D fs (pre ++ ['"'] ++ r) (blen (pre ++ ['"'] ++ r)) =
      .ok (blen pre + 1, ((fs.filter (fun e' => e'.dir == e.full)).map (fun e' =>
        (e'.name, escape (some '\\') D .double ((splitPath path).1 ++ e.name ++ ['/'] ++ e'.name
            ++ (if e'.isDir then ['/'] else []))))).mergeSort (fun a b => textLe a.1 b.1)) := by
  subst hr
  unfold completePath
  rw [C15_reparse_double B D h1 h2 pre _ hc]
  simp only [filenameComplete_into_dir fs path _ D .double ms h e he hdir hisd hne hd hdot]

/-- non-vacuity: typed `x`, the directory `x y` is offered with the replacement `x\ y/`; completing
    at the end of `ls x\ y/` lists its content, the replacement extending the typed text -/
example : (parsePath defaultBreak dqSpecial "ls x\\ y/".toList 8).map (fun r => (r.1, r.2.1, r.2.2.2.2))
      = some (3, "x y/".toList, Quote.none) := by decide +kernel
example :
    filenameComplete
      [⟨[], "x y".toList, true⟩, ⟨"x y".toList, "z w".toList, false⟩, ⟨[], "q".toList, false⟩]
      "x y/".toList (some '\\') defaultBreak .none
    = some [("z w".toList, "x\\ y/z\\ w".toList)] := by decide +kernel
