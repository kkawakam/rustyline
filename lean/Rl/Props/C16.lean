/-
  C16 — the terminal is given back in the state it was found, on every way out.

  Theorems about `Rl.RawMode` (transliteration of `enable_raw_mode` / `disable_raw_mode` /
  `PosixMode` in src/tty/unix.rs and of `Guard` / `readline_with` / the Suspend branch in src/lib.rs;
  D27: the saved `libc::termios` is restored as it is, not through nix's typed flags).  They hold for every initial `termios`, every configuration, every number
  of suspend/resume round trips (whatever settings are installed while the process is stopped) and
  every exit except the hang-up, which leaves no terminal to restore (property text; C17).
  Lemmas: Rl/Lemmas/RawMode.lean (one read), Rl/Lemmas/RawModeSession.lean (`Step`, `session`: several
  reads, the suspend loop).
  Trusted, and observed on a pseudo-terminal by harness/src/rawmode.rs: the exits of `readline_edit` are the
  modelled ones, Rust drops a live guard on every way out of its scope, and the kernel stores what
  `tcsetattr` is given.
-/
import Rl.RawMode
import Rl.Lemmas.RawMode
import Rl.Lemmas.RawModeSession
open Rl.RawMode

/-- what `enable_raw_mode` saves in the `PosixMode` converts back to exactly the settings found -/
theorem C16_saved_is_exact (cfg : Cfg) (t : Term) (hc : t.connected = true) :
    ∃ m t1, enableRaw cfg t = (some m, t1) ∧ m.termios.intoLibc = t.termios := by
  rw [enableRaw_eq cfg t hc]
  exact ⟨_, _, rfl, rfl⟩

/-- Every exit flows through the guard's drop: any number of suspends, any exit of `readline_edit`
    including unwinding and the `?` after `add_history_entry`. -/
theorem C16_every_exit (cfg : Cfg) (sc : Script) (t : Term) (hc : t.connected = true) :
    ∃ mode t1, enableRaw cfg t = (some mode, t1) ∧
      (readlineWith cfg sc t).2 = dropGuard cfg mode (readlineEdit cfg mode sc.suspends sc.exit t1).2 :=
  ⟨_, _, enableRaw_eq cfg t hc, congrArg Prod.snd (readlineWith_some (enableRaw_eq cfg t hc) sc)⟩

/-- what one whole read leaves behind, in closed form -/
theorem C16_read_closed_form (cfg : Cfg) (sc : Script) (t : Term) (hc : t.connected = true)
    (hx : sc.exit ≠ .hangup) :
    (readlineWith cfg sc t).2.termios = t.termios ∧
    (readlineWith cfg sc t).2.connected = true ∧
    (readlineWith cfg sc t).2.rawFlag = false ∧
    ∃ X, (readlineWith cfg sc t).2.log = t.log ++ X ∧
      switches X = pasteBlock { cfg := cfg, sc := sc } := by
  obtain ⟨t', he, hc', X, hX, hsw⟩ :=
    readlineEdit_suspends cfg (m := modeOf cfg t) rfl sc.suspends sc.exit (afterEnable cfg t) rfl
  have h2 : (readlineWith cfg sc t).2 = (disableRaw (modeOf cfg t) cfg.writeOk t').2 := by
    rw [readlineWith_some (enableRaw_eq cfg t hc), he, readlineEdit_nil, if_neg hx]
    rfl
  rw [h2, disableRaw_paste rfl hc', hX]
  refine ⟨rfl, rfl, rfl, _, (List.append_assoc ..).trans (List.append_assoc ..), ?_⟩
  rw [switches_append, switches_append, hsw]
  unfold pasteBlock
  cases cfg.paste
  · rw [show roundTrip false = [] from rfl, List.flatten_replicate_nil]
    rfl
  · rfl

/-- C16, settings: after the read they are identical to those before it. -/
theorem C16_restore (cfg : Cfg) (sc : Script) (t : Term) (hc : t.connected = true)
    (hx : sc.exit ≠ .hangup) :
    (readlineWith cfg sc t).2.termios = t.termios :=
  (C16_read_closed_form cfg sc t hc hx).1

/-- the switches written by one read: ON, then OFF/ON per suspend round trip, then OFF — or none -/
theorem C16_paste_switches (cfg : Cfg) (sc : Script) (t : Term) (hc : t.connected = true)
    (hx : sc.exit ≠ .hangup) :
    ∃ X, (readlineWith cfg sc t).2.log = t.log ++ X ∧
      switches X = if cfg.paste then
          Eff.pasteOn :: (List.replicate sc.suspends.length [Eff.pasteOff, Eff.pasteOn]).flatten ++ [Eff.pasteOff]
        else [] :=
  (C16_read_closed_form cfg sc t hc hx).2.2.2

/-- C16, bracketed paste: if a paste switch was written during the read, the last one is OFF. -/
theorem C16_paste_off (cfg : Cfg) (sc : Script) (t : Term) (hc : t.connected = true)
    (hx : sc.exit ≠ .hangup) :
    ∃ X, (readlineWith cfg sc t).2.log = t.log ++ X ∧
      (switches X = [] ∨ (switches X).getLast? = some Eff.pasteOff) := by
  obtain ⟨X, hX, hsw⟩ := (C16_read_closed_form cfg sc t hc hx).2.2.2
  exact ⟨X, hX, hsw ▸ pasteBlock_last _⟩

/-- paste mode is switched on exactly when configured (and the write goes through) -/
theorem C16_paste_on_iff (cfg : Cfg) (sc : Script) (t : Term) (hc : t.connected = true)
    (hx : sc.exit ≠ .hangup) :
    ∃ X, (readlineWith cfg sc t).2.log = t.log ++ X ∧
      (Eff.pasteOn ∈ X ↔ (cfg.bracketedPaste = true ∧ cfg.writeOk = true)) := by
  obtain ⟨X, hX, hsw⟩ := C16_paste_switches cfg sc t hc hx
  refine ⟨X, hX, ?_⟩
  have hmem : Eff.pasteOn ∈ X ↔ Eff.pasteOn ∈ switches X := by
    rw [switches, List.mem_filter]
    exact (and_iff_left rfl).symm
  rw [hmem, hsw, ← Cfg.paste_iff]
  cases cfg.paste
  · exact iff_of_false List.not_mem_nil Bool.false_ne_true
  · exact iff_of_true List.mem_cons_self rfl

/-- n reads in a row on one editor leave the settings unchanged (and the terminal usable) -/
theorem C16_successive (cfg : Cfg) (scs : List Script) (hx : ∀ sc ∈ scs, sc.exit ≠ .hangup) :
    ∀ t : Term, t.connected = true →
      (reads cfg scs t).termios = t.termios ∧ (reads cfg scs t).connected = true := by
  induction scs with
  | nil => intro t hc; exact ⟨rfl, hc⟩
  | cons sc rest ih =>
    intro t hc
    have h1 := C16_read_closed_form cfg sc t hc (hx sc (by simp))
    have h2 := ih (fun s hs => hx s (by simp [hs])) (readlineWith cfg sc t).2 h1.2.1
    simp only [reads]
    exact ⟨h2.1.trans h1.1, h2.2⟩

/-- What raw mode changes is exactly the documented set (plus the bits the nix wrapper has no
    name for, which it drops while the read is in progress): BRKINT, ICRNL, INPCK, ISTRIP, IXON off;
    CS8 on; ECHO, ICANON, IEXTEN off; ISIG off unless signals are enabled, then on; VMIN = 1,
    VTIME = 0; output flags, line discipline and speeds untouched. -/
theorem C16_raw_flags (cfg : Cfg) (t : Term) (hc : t.connected = true) :
    let d := (enableRaw cfg t).2.termios
    d.iflag = t.termios.iflag &&& ~~~(BRKINT ||| ICRNL ||| INPCK ||| ISTRIP ||| IXON ||| ~~~inputKnown) ∧
    d.oflag = t.termios.oflag &&& outputKnown ∧
    d.cflag = (t.termios.cflag &&& controlKnown) ||| CS8 ∧
    d.lflag = (t.termios.lflag &&& ~~~(ECHO ||| ICANON ||| IEXTEN ||| ISIG ||| ~~~localKnown))
                ||| (if cfg.enableSignals then ISIG else 0) ∧
    d.cc = (t.termios.cc.set VMIN 1).set VTIME 0 ∧
    d.line = t.termios.line ∧ d.ispeed = t.termios.ispeed ∧ d.ospeed = t.termios.ospeed := by
  rw [enableRaw_eq cfg t hc]
  refine ⟨and_and_not _ _ _, rfl, rfl, ?_, rfl, rfl, rfl, rfl⟩
  show (if cfg.enableSignals then _ ||| ISIG else _) = _
  cases cfg.enableSignals
  · exact (and_and_not _ _ _).trans BitVec.or_zero.symm
  · exact congrArg (· ||| ISIG) (and_and_not _ _ _)

/-- …and that is a raw mode: no canonical processing, no echo, one byte at a time -/
theorem C16_raw_is_raw (cfg : Cfg) (t : Term) (hc : t.connected = true) (hcc : 6 < t.termios.cc.length) :
    let d := (enableRaw cfg t).2.termios
    d.lflag &&& (ECHO ||| ICANON ||| IEXTEN) = 0 ∧
    d.iflag &&& (ICRNL ||| IXON ||| ISTRIP) = 0 ∧
    (d.lflag &&& ISIG = 0 ↔ cfg.enableSignals = false) ∧
    d.cc[VMIN]? = some 1 ∧ d.cc[VTIME]? = some 0 := by
  have hr := C16_raw_flags cfg t hc
  simp only at hr
  obtain ⟨hi, _, _, hl, hccs, _⟩ := hr
  simp only
  rw [hi, hl, hccs]
  refine ⟨?_, ?_, ?_, ?_, ?_⟩
  · rw [masked_or_and _ _ _ _ (by decide)]
    cases cfg.enableSignals <;> decide
  · exact masked_and _ _ _ (by decide)
  · rw [masked_or_and _ _ _ _ (by decide)]
    cases cfg.enableSignals <;> decide
  · exact (List.getElem?_set_ne (by decide)).trans (List.getElem?_set_self hcc)
  · exact List.getElem?_set_self (by rw [List.length_set]; exact Nat.lt_of_succ_lt hcc)

/-- D27, `disableRawTyped`: restoring through nix's typed flag words loses the bits nix has no name
    for.  Witness: a terminal with `IUCLC` set (`stty iuclc`). -/
theorem C16_typed_restore_counterexample :
    ∃ t : Term, t.connected = true ∧ ∀ cfg : Cfg,
      ∃ m t1, enableRaw cfg t = (some m, t1) ∧ (disableRawTyped m cfg.writeOk t1).2.termios ≠ t.termios := by
  refine ⟨Term.fresh { iflag := IUCLC, oflag := 0, cflag := 0, lflag := 0, line := 0, cc := [], ispeed := 0, ospeed := 0 },
    rfl, fun cfg => ⟨_, _, enableRaw_eq cfg _ rfl, ?_⟩⟩
  rw [(disableRawTyped_termios _ _ _ rfl).1]
  exact fun h => absurd (congrArg Termios.iflag h) (show IUCLC &&& inputKnown ≠ IUCLC by decide)

/-- non-vacuity: a cooked Linux terminal, bracketed paste on, two suspends, a helper panic -/
example :
    let t := Term.fresh { iflag := 0x500, oflag := 0x5, cflag := 0xbf, lflag := 0x8a3b, line := 0,
                          cc := [3, 28, 127, 21, 4, 0, 1, 0, 17, 19, 26, 0, 18, 15, 23, 22], ispeed := 15, ospeed := 15 }
    let r := readlineWith { enableSignals := false, bracketedPaste := true } { suspends := [{}, {}], exit := .helperPanic 2 } t
    r.1 = .unwind ∧ r.2.termios = t.termios ∧
      switches r.2.log = [.pasteOn, .pasteOff, .pasteOn, .pasteOff, .pasteOn, .pasteOff] := by
  decide +kernel

/-- The guard restores from any intermediate state: `disable_raw_mode` with the mode a successful
    `enable_raw_mode` returned — the body of the guard's drop — leaves exactly the settings that
    enable found in force, whatever the read, a helper, a suspended shell or a nested read did to the
    terminal in between and whether or not the paste-off write succeeds. -/
theorem C16_guard_restores_from_any_state (cfg : Cfg) (t t1 : Term) (m : Mode)
    (he : enableRaw cfg t = (some m, t1)) (w : Bool) (t' : Term) (hc' : t'.connected = true) :
    (disableRaw m w t').2.termios = t.termios ∧ (disableRaw m w t').2.connected = true := by
  obtain ⟨-, rfl, -⟩ := enableRaw_some he
  exact disableRaw_termios _ w t' hc'

/-- non-vacuity: the state in between has unrelated settings and a cleared raw flag -/
example :
    let t := Term.fresh { iflag := 0x700, oflag := 0x45, cflag := 0xbf, lflag := 0x8a3f, line := 3,
                          cc := [3, 28, 127, 21, 4, 9, 7, 0], ispeed := 13, ospeed := 15 }
    let r := enableRaw { enableSignals := true, bracketedPaste := true } t
    let t' : Term := { r.2 with termios := { t.termios with iflag := 0, cc := [] }, rawFlag := false }
    ∃ m, r.1 = some m ∧ (disableRaw m false t').2.termios = t.termios := by
  decide +kernel

/-- One enable/disable pair: the disable (explicit, by the guard, or during a suspend), when its own
    write goes through, writes paste-off iff the enable wrote paste-on.  So a paste-on write that
    failed or was not configured is never followed by a stray paste-off, and one that was written is
    always answered. -/
theorem C16_paste_off_iff_on (cfg : Cfg) (t t1 : Term) (m : Mode)
    (he : enableRaw cfg t = (some m, t1)) (t' : Term) (hc' : t'.connected = true) :
    ∃ X Y, t1.log = t.log ++ X ∧ (disableRaw m true t').2.log = t'.log ++ Y ∧
      (Eff.pasteOff ∈ Y ↔ Eff.pasteOn ∈ X) ∧
      (Eff.pasteOn ∈ X ↔ (cfg.bracketedPaste = true ∧ cfg.writeOk = true)) := by
  obtain ⟨-, rfl, rfl⟩ := enableRaw_some he
  rw [disableRaw_eq _ true t' hc' (fun _ => rfl)]
  refine ⟨_, _, rfl, rfl, ?_, ?_⟩
  · show _ ∈ _ :: (if cfg.paste then _ else _) ↔ _
    cases cfg.paste <;> simp
  · rw [← Cfg.paste_iff]
    cases cfg.paste <;> simp

/-- No unguarded change: either `enable_raw_mode` returned `Err` and the read left the terminal
    completely untouched, or the guard was armed on the very state `enable_raw_mode` produced.
    Nothing that can fail lies between the first change to the terminal and the arming of the guard. -/
theorem C16_guard_armed_or_untouched (cfg : Cfg) (sc : Script) (t : Term) :
    readlineWith cfg sc t = (.ret .io, t) ∨
    ∃ mode t1, enableRaw cfg t = (some mode, t1) ∧
      (readlineWith cfg sc t).2 = dropGuard cfg mode (readlineEdit cfg mode sc.suspends sc.exit t1).2 := by
  cases hc : t.connected
  · left
    unfold readlineWith
    rw [enableRaw_disconnected cfg t hc]
  · right
    exact C16_every_exit cfg sc t hc

/-- a failing `enable_raw_mode` has done nothing to the terminal -/
theorem C16_enable_error_is_clean (cfg : Cfg) (t t1 : Term) (h : enableRaw cfg t = (none, t1)) :
    t1 = t :=
  enableRaw_none cfg t t1 h

/-- Nested enables, dropped innermost first: a second `enable_raw_mode` issued while the terminal is
    already raw saves the raw settings; dropping the inner mode gives those back, dropping the outer
    mode afterwards the original ones.  The order matters, see `C16_nested_wrong_order`. -/
theorem C16_nested_lifo (cfg1 cfg2 : Cfg) (t t1 t1' t2 : Term) (m1 m2 : Mode)
    (h1 : enableRaw cfg1 t = (some m1, t1)) (h2 : enableRaw cfg2 t1' = (some m2, t2))
    (w1 w2 : Bool) (mid : Term) (hc : mid.connected = true) :
    (disableRaw m2 w2 mid).2.termios = t1'.termios ∧
    (disableRaw m1 w1 (disableRaw m2 w2 mid).2).2.termios = t.termios := by
  have a := C16_guard_restores_from_any_state cfg2 t1' t2 m2 h2 w2 mid hc
  exact ⟨a.1, (C16_guard_restores_from_any_state cfg1 t t1 m1 h1 w1 _ a.2).1⟩

/-- …and dropping the OUTER mode first leaves the terminal raw: the modes are not a counter.  The
    crate itself never does this (the mode of the re-enable after a suspend is discarded, the guard
    keeps the outer one — `C16_restore`); an application nesting two reads on one terminal and
    releasing them out of order would. -/
theorem C16_nested_wrong_order :
    ∃ (cfg : Cfg) (t t1 t2 : Term) (m1 m2 : Mode),
      enableRaw cfg t = (some m1, t1) ∧ enableRaw cfg t1 = (some m2, t2) ∧
      (disableRaw m2 true (disableRaw m1 true t2).2).2.termios ≠ t.termios := by
  refine ⟨{ enableSignals := false, bracketedPaste := false },
    Term.fresh { iflag := 0x500, oflag := 0x5, cflag := 0xbf, lflag := 0x8a3b, line := 0,
                 cc := [3, 28, 127, 21, 4, 0, 1, 0], ispeed := 15, ospeed := 15 },
    _, _, _, _, rfl, rfl, ?_⟩
  decide +kernel

/-- the exclusion of the hang-up in `C16_restore` is necessary: after a hang-up the model's settings
    stay raw and the raw flag stays set (there is no terminal left to restore; C17) -/
theorem C16_hangup_is_excluded_for_a_reason :
    ∃ (cfg : Cfg) (t : Term), t.connected = true ∧
      (readlineWith cfg { suspends := [], exit := .hangup } t).2.termios ≠ t.termios ∧
      (readlineWith cfg { suspends := [], exit := .hangup } t).2.rawFlag = true := by
  refine ⟨{ enableSignals := false, bracketedPaste := true },
    Term.fresh { iflag := 0x500, oflag := 0x5, cflag := 0xbf, lflag := 0x8a3b, line := 0,
                 cc := [3, 28, 127, 21, 4, 0, 1, 0], ispeed := 15, ospeed := 15 }, rfl, ?_, ?_⟩ <;> decide +kernel

/-- Whole sessions: successive reads on one editor, the application installing settings of its own
    with `tcsetattr` and changing the editor's configuration between them.  Every read leaves exactly
    the settings it found when it started (not those of the first read or of the previous one:
    nothing is cached across reads), hence the settings at the end are the ones the application
    installed last; the paste switches are, read by read, `ON (OFF ON)^n OFF` (n = suspends of that
    read) where bracketed paste is in effect and nothing otherwise. -/
theorem C16_session (steps : List Step) (hx : ∀ s ∈ steps, s.sc.exit ≠ .hangup) :
    ∀ t : Term, t.connected = true →
      (∀ p ∈ (session steps t).1, p.2 = p.1) ∧
      (session steps t).1.length = steps.length ∧
      (session steps t).2.termios = lastSet steps t.termios ∧
      (session steps t).2.connected = true ∧
      (t.rawFlag = false → (session steps t).2.rawFlag = false) ∧
      ∃ X, (session steps t).2.log = t.log ++ X ∧ switches X = (steps.map pasteBlock).flatten := by
  induction steps with
  | nil => exact fun t hc => ⟨fun _ h => (nomatch h), rfl, rfl, hc, id, [], (List.append_nil _).symm, rfl⟩
  | cons s rest ih =>
    intro t hc
    obtain ⟨hac, hat, A, hA, hsA⟩ := appSet_connected s.app t hc
    obtain ⟨h1t, h1c, h1r, X, hX, hsX⟩ :=
      C16_read_closed_form s.cfg s.sc (appSet s.app t) hac (hx s (by simp))
    obtain ⟨i1, i2, i3, i4, i5, Y, hY, hsY⟩ :=
      ih (fun s' hs' => hx s' (by simp [hs'])) (readlineWith s.cfg s.sc (appSet s.app t)).2 h1c
    simp only [session]
    refine ⟨?_, ?_, ?_, i4, fun _ => i5 h1r, A ++ X ++ Y, ?_, ?_⟩
    · intro p hp
      rcases List.mem_cons.mp hp with rfl | hp
      · exact h1t
      · exact i1 p hp
    · exact congrArg (· + 1) i2
    · rw [i3, h1t, hat]; rfl
    · rw [hY, hX, hA, List.append_assoc, List.append_assoc, List.append_assoc]
    · rw [switches_append, switches_append, hsA, hsX, hsY]
      rfl

/-- non-vacuity / illustration: cooked terminal, a read; the application switches echo off and
    changes VEOF, a read with another configuration ending in a helper panic; both reads give back
    what they found, the second one the application's settings. -/
example :
    let tm : Termios := { iflag := 0x500, oflag := 0x5, cflag := 0xbf, lflag := 0x8a3b, line := 0,
                          cc := [3, 28, 127, 21, 4, 0, 1, 0, 17, 19, 26], ispeed := 15, ospeed := 15 }
    let tm2 : Termios := { tm with lflag := 0x8a33, cc := [3, 28, 127, 21, 9, 0, 1, 0, 17, 19, 26] }
    let r := session
      [{ cfg := { enableSignals := false, bracketedPaste := true }, sc := { suspends := [], exit := .line } },
       { app := some tm2, cfg := { enableSignals := true, bracketedPaste := false },
         sc := { suspends := [{}], exit := .helperPanic 1 } }] (Term.fresh tm)
    r.1 = [(tm, tm), (tm2, tm2)] ∧ r.2.termios = tm2 ∧ switches r.2.log = [.pasteOn, .pasteOff] := by
  decide +kernel

/-- Sessions, settings only (the statement a user relies on): each read of a session returns
    the terminal with the settings in force when that read began. -/
theorem C16_session_each_read_restores (steps : List Step) (hx : ∀ s ∈ steps, s.sc.exit ≠ .hangup)
    (t : Term) (hc : t.connected = true) :
    (∀ p ∈ (session steps t).1, p.2 = p.1) ∧ (session steps t).2.termios = lastSet steps t.termios :=
  ⟨(C16_session steps hx t hc).1, (C16_session steps hx t hc).2.2.1⟩

/-- Sessions, bracketed paste: over a whole session as many paste-off switches are written as
    paste-on switches, one is written iff the other is, and if any was written the last one is
    paste-off. -/
theorem C16_session_paste_balanced (steps : List Step) (hx : ∀ s ∈ steps, s.sc.exit ≠ .hangup)
    (t : Term) (hc : t.connected = true) :
    ∃ X, (session steps t).2.log = t.log ++ X ∧
      X.count Eff.pasteOn = X.count Eff.pasteOff ∧
      (Eff.pasteOff ∈ X ↔ Eff.pasteOn ∈ X) ∧
      (switches X = [] ∨ (switches X).getLast? = some Eff.pasteOff) := by
  obtain ⟨_, _, _, _, _, X, hX, hs⟩ := C16_session steps hx t hc
  have hcnt : ∀ e, (e = Eff.pasteOn ∨ e = Eff.pasteOff) → X.count e = (switches X).count e := by
    intro e he
    rw [switches, List.count_filter]
    rcases he with rfl | rfl <;> rfl
  have hbal := blocks_balanced steps
  have hlast := blocks_last steps
  have h1 : X.count Eff.pasteOn = X.count Eff.pasteOff := by
    rw [hcnt _ (Or.inl rfl), hcnt _ (Or.inr rfl), hs, hbal]
  refine ⟨X, hX, h1, ?_, hs ▸ hlast⟩
  rw [← List.count_pos_iff, ← List.count_pos_iff, h1]

/-- The restore neither swallows nor alters the outcome of the read: the caller gets what
    `readline_edit` ended with (`exitFlow`), a helper panic goes on unwinding after the guard has
    run, and the only substitution is the documented one: `Err` from `add_history_entry` under
    `auto_add_history` replaces an accepted line. -/
theorem C16_outcome_preserved (cfg : Cfg) (sc : Script) (t : Term) (hc : t.connected = true) :
    (readlineWith cfg sc t).1 =
      match exitFlow sc.exit with
      | .unwind => .unwind
      | .ret u => if cfg.autoAddHistory && u == .line && cfg.historyAddFails then .ret .historyErr else .ret u := by
  obtain ⟨t', he, -⟩ :=
    readlineEdit_suspends cfg (m := modeOf cfg t) rfl sc.suspends sc.exit (afterEnable cfg t) rfl
  rw [readlineWith_some (enableRaw_eq cfg t hc), he, readlineEdit_nil]
  rfl

/-- a helper panic at any call, after any number of suspends, from any connected terminal: the
    panic propagates to the caller AND the settings are the ones found -/
theorem C16_panic_propagates_and_restores (cfg : Cfg) (ss : List Suspend) (k : Nat) (t : Term)
    (hc : t.connected = true) :
    (readlineWith cfg { suspends := ss, exit := .helperPanic k } t).1 = .unwind ∧
    (readlineWith cfg { suspends := ss, exit := .helperPanic k } t).2.termios = t.termios :=
  ⟨by rw [C16_outcome_preserved cfg _ t hc]; rfl, C16_restore cfg _ t hc (by simp)⟩

/-- Ctrl-Z is an exit too: at every stop of every sequence of suspends, while the process is stopped
    the shell has the terminal as it was found before the read: those settings, the raw flag cleared,
    and (if paste mode had been switched on) a paste-off as the last thing written.  The resume is a
    fresh `enable_raw_mode` on whatever the shell left (`s.env`), whose saved mode is discarded, so
    the guard still holds the settings from before the read. -/
theorem C16_suspend_gives_back (cfg : Cfg) (t0 t1 : Term) (mode : Mode)
    (he : enableRaw cfg t0 = (some mode, t1)) (s : Suspend) (t : Term) (hc : t.connected = true) :
    ∃ tstop, disableRaw mode cfg.writeOk t = (true, tstop) ∧
      tstop.termios = t0.termios ∧ tstop.rawFlag = false ∧ tstop.connected = true ∧
      (Eff.pasteOn ∈ t1.log.drop t0.log.length → tstop.log.getLast? = some Eff.pasteOff) ∧
      (suspendResume cfg mode s t).2 =
        (enableRaw cfg (match s.env with | some v => { tstop with termios := v } | none => tstop)).2 := by
  obtain ⟨-, rfl, rfl⟩ := enableRaw_some he
  refine ⟨_, disableRaw_paste rfl hc, rfl, rfl, rfl, ?_, ?_⟩
  · cases hp : cfg.paste <;> simp [afterEnable, hp]
  · unfold suspendResume
    rw [disableRaw_paste rfl hc]
    simp only [if_true]
    generalize enableRaw cfg _ = r
    obtain ⟨_ | _, _⟩ := r <;> rfl
