/-
  Property C17 — no input can crash or wedge a read.
  Models: Rl/Keys.lean (byte decoder over the terminal input queue), Rl/Editor.lean (editor).
  The runtime part (signals, real select/poll timing) is exercised by the pty harness, not proved.
-/
import Rl.Keys
import Rl.Editor
import Rl.Lemmas.Keys
import Rl.Lemmas.Keymap
import Rl.Lemmas.KeysProgress
import Rl.Lemmas.EditorSafe
import Rl.Lemmas.EditorSafe2
import Rl.Lemmas.EditorRead
import Rl.Lemmas.EditorNext
import Rl.Lemmas.EditorReplaceChar
import Rl.Lemmas.EditorUndoSafe
import Rl.Lemmas.EditorFrame
import Rl.Lemmas.EditorRing
import Rl.Lemmas.EditorPop
import Rl.Lemmas.EditorPopLocal
import Rl.Lemmas.EditorKillReports
import Rl.Lemmas.EditorLog
import Rl.Lemmas.EditorLogViLoops
open Rl

/-- A successful read of one byte consumes exactly one byte of the input (buffer, kernel queue or
    a future key press): the reader never spins without consuming. -/
theorem C17_read_byte_consumes (i i' : Input) (b : UInt8) (h : i.readByte = .ok (b, i')) :
    i'.size + 1 = i.size := Input.readByte_size h

/-- The only way a byte read fails is the hang-up (no byte left anywhere): never a panic. -/
theorem C17_read_byte_error (i : Input) (e : RdErr) (h : i.readByte = .error e) : e = .io :=
  Input.readByte_error h

/-- Waiting for input (`poll` with an infinite time-out) loses nothing. -/
theorem C17_poll_keeps_input (i : Input) : i.pollWait.size = i.size := Input.pollWait_size i

/-- **Decoder progress**: every decoded key consumes at least one byte, so a read cannot loop
    forever on a finite input.  Lifted from the byte layer through `nextChar`, `escapeO`,
    `escapeCsi`, `extendedEscape`, `escapeSequence` and `nextKey` (Rl/Lemmas/KeysProgress.lean). -/
theorem C17_decoder_progress :
    ∀ (i i' : Input) (sea : Bool) (k : KeyEvent), i.nextKey sea = .ok (k, i') → i'.size < i.size := by
  intro i i' sea k h
  have hr := Input.nextKey_res i sea
  rw [h] at hr
  have := hr.1
  omega

/-- A decoded key never looks further than 36 bytes ahead (ESC ESC [ d d ; d d x, four bytes per
    character at most): the decoder cannot swallow an unbounded amount of input for one key. -/
theorem C17_decoder_bounded_lookahead (i i' : Input) (sea : Bool) (k : KeyEvent)
    (h : i.nextKey sea = .ok (k, i')) : i.size ≤ i'.size + 36 := by
  have hr := Input.nextKey_res i sea
  rw [h] at hr
  exact hr.2

/-- **Decoder errors**: a failed decode is an I/O error or invalid data, never anything else (and,
    being a value of `RdErr`, never a panic); and it is an I/O error only when the input ran out
    inside the key: fewer than 36 bytes (the longest sequence the decoder reads) were left when the
    key started.  (`C17_read_byte_error`: a byte read itself fails only on the hang-up.) -/
theorem C17_decoder_errors (i : Input) (sea : Bool) (e : RdErr) (h : i.nextKey sea = .error e) :
    (e = .io ∨ e = .invalidData) ∧ (e = .io → i.size < 36) := by
  have hr := Input.nextKey_res i sea
  rw [h] at hr
  rcases hr with ⟨rfl, hs⟩ | rfl
  · exact ⟨.inl rfl, fun _ => hs⟩
  · exact ⟨.inr rfl, fun h => by cases h⟩

/-- the same for a single character (`next_char`, used by quoted insert and the sub-loops) -/
theorem C17_next_char_progress (i i' : Input) (c : Char) (h : i.nextChar = .ok (c, i')) :
    i'.size < i.size ∧ i.size ≤ i'.size + 4 := by
  have hr := Input.nextChar_res i
  rw [h] at hr
  exact ⟨by have := hr.1; omega, hr.2⟩

/-- with input left to read, the decoder never reports an I/O error: a hang-up is the only source -/
theorem C17_decoder_io_only_at_end (i : Input) (sea : Bool) (h : 36 ≤ i.size) :
    i.nextKey sea ≠ .error .io := by
  intro he
  have := (C17_decoder_errors i sea .io he).2 rfl
  omega

/-- Full statement (editor): from the initial state no key sequence makes the editor model reach
    a panic outcome.  AS WRITTEN IT IS NOT PROVABLE: three of its hypotheses are too weak for what the
    code does (each witnessed below) —
    * the completer contract must also put `start` on a character boundary
      (`C17_completer_start_inside_char_panics`; `String::replace_range`);
    * `Cmd::redo` of vi's `R` converts the byte length of the last insertion to a `RepeatCount`
      (`RepeatCount::try_from(len).unwrap()`): an insertion of more than 65535 bytes followed by
      `Esc .` panics — remote, but a genuine panic of the real code (finding D43);
    * in vi mode a `YankPop` bound by the application underflows `end - yank_size` after `p`/`P`
      (the cursor is moved back over the last pasted cluster).
    Proved instead (hypotheses strengthened exactly as follows: the completer's start is on a character
    boundary at or before the cursor; `indentSize ≤ 255`; the segmenter is `Stable`; the bindings are
    acceptable, `BindsI`; and the conclusion allows the one real panic, D43):
    **`C17_editor_no_panic_emacs`** — in emacs mode, if `readline` ends with the panic outcome then its
    final state has a last insertion longer than 65535 bytes — no further hypothesis; and
    **`C17_editor_no_panic_both`** — the same for both modes with no further hypothesis (that vi's dispatch
    loop keeps the undo-log invariant, `ViPreKeeps`, is the theorem `C17_vi_pre_keeps`).  Covered:
    `next_cmd` in both modes (`C17_next_cmd`, `C17_next_cmd_returns`), every command (`Undo` from the
    undo-log invariant `UndoLogInv`, `YankPop` from `PopOK`, both carried through the read), all
    sub-loops, the main loop by induction on the fuel. -/
def C17_editor_no_panic_statement : Prop :=
  ∀ (S : Segmenter) (U : UData) (cfg : EdCfg) (left right : Text) (inp : Input),
    (∀ t, cfg.validator t ≠ .panic) → cfg.hinterPanicAt = none →
    (∀ t p, (cfg.completer t p).1 ≤ p) →
    (readline S U cfg (KillRing.new 60) left right inp).1 ≠ .panic

/-- the commands for which `execute` is proved panic-free and invariant-preserving from `EdWF` alone:
    all but three.  The other three need more and are proved separately: `Undo` from the undo-log invariant
    (`rsafe_undo`), `YankPop` from `PopOK` (`rsafe_yankPop`), `ReplaceChar` for counts that fit `u16` and a
    stable segmenter (`rsafe_replaceChar`); the read carries what they need (`C17_exec_safe`). -/
def C17_covered : Cmd → Bool
  | .undo _ | .yankPop | .replaceChar _ _ => false
  | _ => true

theorem C17_covered_cases (cmd : Cmd) :
    (C17_covered cmd = true ∧ IsUndo cmd = false) ∨ (∃ n, cmd = .undo n) ∨ cmd = .yankPop ∨
      ∃ n c, cmd = .replaceChar n c := by
  cases cmd
  case undo n => exact Or.inr (Or.inl ⟨n, rfl⟩)
  case yankPop => exact Or.inr (Or.inr (Or.inl rfl))
  case replaceChar n c => exact Or.inr (Or.inr (Or.inr ⟨n, c, rfl⟩))
  all_goals exact Or.inl ⟨rfl, rfl⟩

/-- **Per-command no-panic**: for helpers that do not panic (validator verdict never `panic`,
    `hinterPanicAt = none`; a panicking helper is C16's business) and an indent size that fits the
    code's `u8`, from a state satisfying `EdWF` every covered command returns or exits without the
    panic outcome, and `EdWF` holds again afterwards. -/
theorem C17_execute_safe (S : Segmenter) (U : UData) (cfg : EdCfg) (hv : ∀ t, cfg.validator t ≠ .panic)
    (hnp : cfg.hinterPanicAt = none) (hind : cfg.indentSize ≤ 255)
    (cmd : Cmd) (hc : C17_covered cmd = true) (s : Ed) (h : EdWF cfg s) :
    wp (execute S U cfg cmd) (fun _ s' => EdWF cfg s') (fun o _ => o ≠ .panic) s := by
  -- one arm per constructor of `Cmd` (and of `Movement` under `move` / `kill`), each closed by the `safe_*`
  -- lemma of the edit function that `execute` calls there; the commands that do nothing are the final `all_goals`
  cases cmd
  case undo | yankPop | replaceChar => cases hc
  case move m =>
    cases m
    case beginningOfLine => exact Safe.then_proceed (safe_editMove S U cfg (lmsafe_moveHome S U) h)
    case endOfLine => exact Safe.then_proceed (safe_editMove S U cfg (lmsafe_moveEnd S U) h)
    case backwardChar n => exact Safe.then_proceed (safe_editMove S U cfg (lmsafe_moveBackward S U n) h)
    case forwardChar n => exact Safe.then_proceed (safe_editMove S U cfg (lmsafe_moveForward S U n) h)
    case backwardWord n w => exact Safe.then_proceed (safe_editMove S U cfg (lmsafe_moveToPrevWord S U w n) h)
    case forwardWord n a w => exact Safe.then_proceed (safe_editMove S U cfg (lmsafe_moveToNextWord S U a w n) h)
    case viCharSearch n cs => exact Safe.then_proceed (safe_editMove S U cfg (lmsafe_moveTo S U cs n) h)
    case lineUp n =>
      unfold execute; simp only [wp_bind, wp_pure, wp_getPromptCol]
      exact safe_editMove S U cfg (lmsafe_moveToLineUp S U n _) h
    case lineDown n =>
      unfold execute; simp only [wp_bind, wp_pure, wp_getPromptCol]
      exact safe_editMove S U cfg (lmsafe_moveToLineDown S U n _) h
    case beginningOfBuffer => exact Safe.then_proceed (safe_editMove S U cfg (lmsafe_moveBufferStart S U) h)
    case endOfBuffer => exact Safe.then_proceed (safe_editMove S U cfg (lmsafe_moveBufferEnd S U) h)
    case viFirstPrint => exact Safe.then_proceed (safe_editMove S U cfg (lmsafe_moveToFirstPrint S U) h)
    all_goals exact h
  case selfInsert n c => exact Safe.then_proceed (safe_editInsert S U cfg hnp c n h)
  case newline =>
    rw [show execute S U cfg .newline = withPreAccept S U cfg (do editInsert S U cfg '\n' 1; pure .proceed) by
      unfold execute withPreAccept; simp only []]
    exact safe_withPreAccept S U cfg h fun s1 h1 => Safe.then_proceed (safe_editInsert S U cfg hnp '\n' 1 h1)
  case insert n t => exact Safe.then_proceed (safe_editYank S U cfg t .before n hnp h)
  case completeHint => exact Safe.then_proceed (safe_completeHintLine S U cfg hnp h)
  case transposeChars => exact Safe.then_proceed (safe_grouped S U cfg (lmsafe_transposeChars S U) hnp h)
  case capitalizeWord => exact Safe.then_proceed (safe_grouped S U cfg (lmsafe_editWord S U _) hnp h)
  case downcaseWord => exact Safe.then_proceed (safe_grouped S U cfg (lmsafe_editWord S U _) hnp h)
  case upcaseWord => exact Safe.then_proceed (safe_grouped S U cfg (lmsafe_editWord S U _) hnp h)
  case transposeWords n => exact Safe.then_proceed (safe_grouped S U cfg (lmsafe_transposeWords S U n) hnp h)
  case clearScreen =>
    unfold execute; simp only [wp_bind, wp_pure, logRender, wp_modify]
    exact safe_refreshLine S U cfg hnp (h.of_core rfl)
  case repaint => exact Safe.then_proceed (safe_refreshLine S U cfg hnp h)
  case interrupt =>
    unfold execute; simp only [wp_bind, logRender, wp_modify, wp_exit]
    intro hh; cases hh
  case endOfFile =>
    rw [execute_endOfFile]
    refine safe_withPreAccept S U cfg h fun s1 h1 => ?_
    unfold Safe; simp only [wp_bind, wp_lineEmpty]
    split
    · simp only [wp_exit]; intro hh; cases hh
    · split <;> exact h1
  case acceptLine =>
    rw [show execute S U cfg .acceptLine = withPreAccept S U cfg (do let _ ← validate S U cfg; pure .submit) by
      unfold execute withPreAccept; simp only []]
    refine safe_withPreAccept S U cfg h fun s1 h1 => ?_
    unfold Safe; simp only [wp_bind]
    exact safe_validate S U cfg hv h1
  case kill mvt => exact Safe.then_proceed (safe_editKill S U cfg mvt hnp h)
  case replace mvt text =>
    unfold execute; simp only [wp_bind]
    -- closing the undo group (when no insert session follows) touches the undo log only
    have tail : ∀ s2, EdWF cfg s2 →
        wp (do
          let inserting ← (fun s => .ok (cfg.vi && s.inp.inputMode != .command, s) : EM Bool)
          if !inserting then do let _ ← changesEnd; pure ()
          pure Status.proceed) (fun _ s' => EdWF cfg s') (fun o _ => o ≠ .panic) s2 := by
      intro s2 h2
      rw [wp_bind']
      have key : ∀ a : Bool, wp
          (have __do_jp := fun (_ : Unit) => (pure Status.proceed : EM Status);
           if (!a) = true then do
             let _ ← changesEnd
             __do_jp ()
           else __do_jp ())
          (fun _ s' => EdWF cfg s') (fun o _ => o ≠ Outcome.panic) s2 := by
        intro a
        cases a with
        | true => exact h2
        | false =>
          simp only [Bool.not_false, if_true, wp_bind, wp_changesEnd, wp_pure]
          exact EdWF.mk' h2.line h2.saved h2.ring
      exact key (cfg.vi && s2.inp.inputMode != .command)
    refine wp_mono (safe_editKill S U cfg mvt hnp h) ?_ (fun _ _ h => h)
    intro _ s1 h1
    cases text with
    | none => exact tail s1 h1
    | some t =>
      simp only [wp_bind]
      exact wp_mono (safe_editInsertText S U cfg t hnp h1) (fun _ s2 h2 => tail s2 h2) (fun _ _ h => h)
  case yank n a =>
    unfold execute; simp only [wp_bind]
    refine wp_ringYank_safe cfg h fun t s1 h1 => ?_
    cases t with
    | none => exact h1
    | some t =>
      simp only [wp_bind, wp_pure]
      have h2 : EdWF cfg { s1 with ring := s1.ring.yankCount n } :=
        EdWF.mk' h1.line h1.saved (h1.ring.yankCount n)
      show wp (editYank S U cfg t a n) _ _ { s1 with ring := s1.ring.yankCount n }
      exact safe_editYank S U cfg t a n hnp h2
  case viYankTo mvt =>
    unfold execute; simp only [wp_bind, wp_getLine]
    obtain ⟨r, hr⟩ := C03_copy_total S U mvt s.line h.line
    rw [hr]
    cases r with
    | none => exact h
    | some t =>
      show wp (ringKill t >>= fun _ => pure Status.proceed) _ _ s
      simp only [wp_bind, wp_pure]
      exact safe_ringKill cfg t h
  case overwrite c => exact Safe.then_proceed (safe_editOverwriteChar S U cfg hnp c h)
  case indent m =>
    unfold execute; simp only []
    exact safe_indent S U cfg hnp hind m false h
  case dedent m =>
    unfold execute; simp only []
    exact safe_indent S U cfg hnp hind m true h
  case nextHistory => exact Safe.then_proceed (safe_editHistoryNext S U cfg hnp false h)
  case previousHistory => exact Safe.then_proceed (safe_editHistoryNext S U cfg hnp true h)
  case beginningOfHistory => exact Safe.then_proceed (safe_editHistory S U cfg hnp true h)
  case endOfHistory => exact Safe.then_proceed (safe_editHistory S U cfg hnp false h)
  case historySearchBackward => exact Safe.then_proceed (safe_editHistorySearch S U cfg hnp .reverse h)
  case historySearchForward => exact Safe.then_proceed (safe_editHistorySearch S U cfg hnp .forward h)
  case lineUpOrPreviousHistory n =>
    unfold execute; simp only [wp_bind, wp_getPromptCol]
    refine wp_lbQuiet_safe cfg (lmsafe_moveToLineUp S U n _) h fun b s1 h1 _ _ _ => ?_
    cases b with
    | true => simp only [if_true, wp_bind, wp_pure]; exact safe_moveCursor S U cfg h1
    | false => simp only [Bool.false_eq_true, if_false, wp_bind, wp_pure]; exact safe_editHistoryNext S U cfg hnp true h1
  case lineDownOrNextHistory n =>
    unfold execute; simp only [wp_bind, wp_getPromptCol]
    refine wp_lbQuiet_safe cfg (lmsafe_moveToLineDown S U n _) h fun b s1 h1 _ _ _ => ?_
    cases b with
    | true => simp only [if_true, wp_bind, wp_pure]; exact safe_moveCursor S U cfg h1
    | false => simp only [Bool.false_eq_true, if_false, wp_bind, wp_pure]; exact safe_editHistoryNext S U cfg hnp false h1
  case acceptOrInsertLine aim =>
    rw [execute_acceptOrInsertLine]
    exact safe_withPreAccept S U cfg h fun s1 h1 => safe_execAccept S U cfg hv hnp aim h1
  all_goals exact h

/-- the initial state of a read satisfies the invariant -/
theorem C17_init_wf (cfg : EdCfg) (ring : KillRing) (input : Input) (hr : RingOK ring) :
    EdWF cfg (initEd cfg ring input) :=
  ⟨isBoundary_zero _, isBoundary_zero _, hr.reset⟩

/-- the ring a fresh editor starts with satisfies the ring invariant -/
theorem C17_new_ring_ok (n : Nat) : RingOK (KillRing.new n) := RingOK.new n

/-- resetting the ring at the start of a non-kill command (main loop) keeps the invariant -/
theorem C17_ring_reset_keeps_wf (cfg : EdCfg) (s : Ed) (h : EdWF cfg s) :
    EdWF cfg { s with ring := s.ring.reset } :=
  ⟨h.line, h.saved, RingOK.reset h.ring⟩

/-- reading and decoding the next command (`next_cmd`, all three keymaps, numeric arguments, custom
    bindings, operator + motion) preserves the invariant: it never touches the line, the saved line
    or the history index -/
theorem C17_nextCmd_keeps_wf (S : Segmenter) (U : UData) (cfg : EdCfg) (fuel : Nat) (sea iep : Bool)
    (s s' : Ed) (c : Cmd) (h : EdWF cfg s) (hr : nextCmd S U cfg fuel sea iep s = .ok (c, s')) : EdWF cfg s' :=
  h.of_coreNC ((keeps_nextCmd S U cfg fuel sea iep).ok hr)

/-- what the whole-read theorem `C17_editor_no_panic_partial` asks of a cross-step invariant `J` (intended:
    "the undo log can be undone on the line"; `C17_open_both` supplies `J := UndoLogInv`): from `RdInv` and
    `J`, `Undo` does not panic and re-establishes both (`undo`); every other command keeps `J` (`other`),
    and so do the steps of a read that are not commands (`init` … `insert`).  With `J := fun _ => True`
    the field `undo` is FALSE (there are `RdInv` states whose log does not fit the line).
    Nothing about `YankPop` is asked here: the main loop carries `PopOK` ("the text of the last yank
    stands right before the cursor") itself (`safe_mainLoop` with `PopPre`, `C17_ring_frame`,
    `pop_preCmds`, `popI_execute`), `rsafe_yankPop` makes `YankPop` safe from it, and in vi mode `YankPop`
    is never executed (`C17_next_cmd_returns`). -/
structure C17_Open (S : Segmenter) (U : UData) (cfg : EdCfg) (J : Ed → Prop) : Prop where
  undo : ∀ n s, RdInv cfg s → J s →
    wp (execute S U cfg (.undo n)) (fun _ s' => RdInv cfg s' ∧ J s') PE s
  other : ∀ cmd, (∀ n, cmd ≠ .undo n) → CmdI cfg cmd → KeepsJ J (execute S U cfg cmd)
  init : ∀ ring input, J (initEd cfg ring input)
  initText : ∀ b p, KeepsJ J (lb S U (LB.update S U b p))
  refresh : KeepsJ J (refreshLine S U cfg)
  next : ∀ fuel, KeepsJ J (nextCmd S U cfg fuel false false)
  reset : ∀ s, J s → J { s with ring := s.ring.reset }
  pre : ∀ fuel cmd s, RdInv cfg s → J s → wp (preCmds S U cfg fuel cmd) (fun _ s' => J s') (fun _ _ => True) s
  susp : ∀ s, J s → J { s with suspends := s.suspends + 1 }
  nextChar : KeepsJ J nextChar
  insert : ∀ c, KeepsJ J (editInsert S U cfg c 1)

/-- every `execute` step on a command that `next_cmd` can return (`CmdI`) is safe from the read
    invariant, the cross-step invariant `J` and `PopPre`, and re-establishes `RdInv`, `J` and `PopOK`
    (emacs mode), given `C17_Open` for `J`; the segmenter is stable (cutting a text at its own cluster
    boundaries does not change the clusters: true of the UAX #29 segmenter, `uaxSeg_stable`) -/
theorem C17_exec_safe (S : Segmenter) (U : UData) (cfg : EdCfg) (hS : S.Stable) (hv : ∀ t, cfg.validator t ≠ .panic)
    (hnp : cfg.hinterPanicAt = none) (hind : cfg.indentSize ≤ 255) {J : Ed → Prop} (ho : C17_Open S U cfg J) :
    RdStep S U cfg J := by
  refine ⟨?_, ho.init, ho.initText, ho.refresh, ho.next, ho.reset, ho.pre, ho.susp, ho.nextChar, ho.insert⟩
  intro cmd s hci h hj hp
  have hloc : cfg.vi = false → PopLocal S U cfg := fun hvi =>
    ⟨popLocal_kill S U cfg (killTrueKills_of_reports S U (killReports S U)) hvi, popLocal_yank S U cfg hvi, popLocal_pop S U cfg⟩
  have hpop := popI_execute S U cfg hloc cmd s hci h hp
  rcases C17_covered_cases cmd with ⟨hc, hu⟩ | ⟨n, rfl⟩ | rfl | ⟨n, c, rfl⟩
  · refine wp_and_left (rsafe_of cfg (C17_execute_safe S U cfg hv hnp hind cmd hc s h.1) (keeps_grow_execute S U cfg cmd hu)
      (keeps_inp_execute S U cfg cmd) h) (wp_and_left (ho.other cmd ?_ hci s hj) hpop)
    intro n hn; subst hn; cases hc
  · exact wp_mono (wp_and_left (ho.undo n s h hj) hpop) (fun _ _ h => ⟨h.1.1, h.1.2, h.2⟩) (fun _ _ h => h)
  · exact wp_and_left (rsafe_yankPop S U cfg hnp h (hp hci).1)
      (wp_and_left (ho.other _ (fun _ hn => by cases hn) hci s hj) hpop)
  · exact wp_and_left (rsafe_replaceChar S U cfg hS hnp c n hci h)
      (wp_and_left (ho.other _ (fun _ hn => by cases hn) hci s hj) hpop)

/-- **`ReplaceChar` with a count that fits the code's `RepeatCount`** is safe for a stable
    segmenter: the deleted text has at most `n` clusters, so `RepeatCount::try_from(count).unwrap()`
    cannot fail. -/
theorem C17_replaceChar_safe (S : Segmenter) (U : UData) (cfg : EdCfg) (hS : S.Stable)
    (hnp : cfg.hinterPanicAt = none) (c : Char) (n : Nat) (hn : n ≤ 65535) (s : Ed) (h : RdInv cfg s) :
    RSafe cfg (execute S U cfg (.replaceChar n c)) s :=
  rsafe_replaceChar S U cfg hS hnp c n hn h

/-- **`YankPop` is safe whenever the text of the last yank still stands right before the cursor**
    (`PopOK`: what an emacs-mode `Yank` / `YankPop` leaves behind; the main loop carries it across the
    commands in between: `popI_execute`, `pop_preCmds`). -/
theorem C17_yankPop_safe_of_popOK (S : Segmenter) (U : UData) (cfg : EdCfg) (hnp : cfg.hinterPanicAt = none)
    (s : Ed) (h : RdInv cfg s) (hp : PopOK s) : RSafe cfg (execute S U cfg .yankPop) s :=
  rsafe_yankPop S U cfg hnp h hp

/-- **`Undo` is safe whenever the C05 log invariant holds** (the undo stack replays to the text of
    the line): no panic (`C05_undo_past_text`), the read invariant holds again (cursor on a boundary,
    line growable — `undoLoop_wf_grow`), and so does the log invariant (carried through every other
    command and through the abort paths of the sub-loops by `C17_open_both`). -/
theorem C17_undo_safe_of_log (S : Segmenter) (U : UData) (cfg : EdCfg) (hnp : cfg.hinterPanicAt = none)
    (n : Nat) (s : Ed) (h : RdInv cfg s) (hl : UndoLogInv s) :
    wp (execute S U cfg (.undo n)) (fun _ s' => RdInv cfg s' ∧ UndoLogInv s') PE s :=
  rsafe_undo S U cfg hnp n h hl

/-- **`next_cmd`, emacs and vi** (helpers that do not panic): from a state whose pending numeric
    argument is not negative in vi mode it returns in such a state — so `vi_num_args`'
    `unreachable!()` is unreachable, like the ones of `Cmd::redo` (only repeatable commands are
    re-done) — and its ONLY panic is known finding D43: `RepeatCount::try_from(last_insert.len())
    .unwrap()` when the command re-done is vi's `R` (by `.` or through an application binding) and the
    last insertion is longer than 65535 bytes; the state it exits with then shows such an insertion. -/
theorem C17_next_cmd (S : Segmenter) (U : UData) (cfg : EdCfg) (hnp : cfg.hinterPanicAt = none)
    (fuel : Nat) (sea iep : Bool) (s : Ed) (h : NumI cfg s) :
    (∀ c s', nextCmd S U cfg fuel sea iep s = .ok (c, s') → NumI cfg s') ∧
    (∀ o s', nextCmd S U cfg fuel sea iep s = .error (o, s') → o = .panic → D43 s') := by
  have hn := (npi_nextCmd S U cfg hnp fuel sea iep).h s h
  constructor
  · intro c s' hr; rw [hr] at hn; exact hn
  · intro o s' hr; rw [hr] at hn; exact hn

/-- **what `next_cmd` returns** (both modes, any helper): from an input state whose pending numeric
    argument fits an `i16` and whose remembered command is acceptable (`RI`: true of a fresh read),
    it returns in such a state, and the command it returns is acceptable (`CmdI`):
    a `ReplaceChar(n, _)` has `n ≤ 65535` — so `RepeatCount::try_from` in `edit_replace_char` is
    only ever reached with a count that fits — and in vi mode it is never `YankPop`.  The only
    assumption is on the application's bindings (`BindsI`; it also asks that `Replace` and `ViYankTo`,
    vi's `c`/`s`/`R` and `y` commands, are not bound in emacs mode): a bound `ReplaceChar` carries a count
    that fits its type (`RepeatCount = u16`: every value of the real type does), and `YankPop` is not
    bound in vi mode. -/
theorem C17_next_cmd_returns (S : Segmenter) (U : UData) (cfg : EdCfg) (hb : BindsI cfg)
    (fuel : Nat) (sea iep : Bool) (s s' : Ed) (c : Cmd) (h : RI cfg s)
    (hr : nextCmd S U cfg fuel sea iep s = .ok (c, s')) :
    RI cfg s' ∧ (∀ n ch, c = .replaceChar n ch → n ≤ 65535) ∧ (cfg.vi = true → c ≠ .yankPop) := by
  obtain ⟨h1, h2⟩ := (rt_nextCmd S U cfg hb fuel sea iep).h s h c s' hr
  refine ⟨h1, ?_, ?_⟩
  · intro n ch hc; subst hc; exact h2
  · intro hv hc; subst hc
    have : cfg.vi = false := h2
    rw [hv] at this; cases this

/-- **the default vi keymaps have no key for `YankPop`**: with no custom binding at all, `next_cmd`
    never returns it in vi mode -/
theorem C17_vi_never_yankPop (S : Segmenter) (U : UData) (cfg : EdCfg) (hvi : cfg.vi = true) (hb : cfg.binds = [])
    (fuel : Nat) (sea iep : Bool) (s s' : Ed) (c : Cmd) (h : RI cfg s)
    (hr : nextCmd S U cfg fuel sea iep s = .ok (c, s')) : c ≠ .yankPop :=
  (C17_next_cmd_returns S U cfg (fun b hm => by rw [hb] at hm; cases hm) fuel sea iep s s' c h hr).2.2 hvi

/-- **every command that reaches `execute` is acceptable**: the dispatch loop (completion,
    incremental search) hands back nothing or a command that `next_cmd` returned -/
theorem C17_dispatch_returns (S : Segmenter) (U : UData) (cfg : EdCfg) (hb : BindsI cfg) (fuel : Nat) (cmd0 : Cmd)
    (h0 : CmdI cfg cmd0) (s s' : Ed) (c : Cmd) (h : RI cfg s)
    (hr : preCmds S U cfg fuel cmd0 s = .ok (some c, s')) : RI cfg s' ∧ CmdI cfg c := by
  obtain ⟨h1, h2⟩ := (rt_preCmds S U cfg hb fuel cmd0 h0).h s h _ s' hr
  exact ⟨h1, h2 c rfl⟩

/-- **The only panic of a whole read is D43** — for helpers that do not panic, an indent size that
    fits the code's `u8`, a completer that reports a start on a character boundary at or before the
    cursor, acceptable bindings (`BindsI`), and GIVEN `C17_Open` for some cross-step invariant `J`
    (`C17_open_both` supplies it with `J := UndoLogInv`).  If the read ends with the panic outcome, the state it ends in has a last insertion longer than 65535
    bytes (and the panic was the re-do of vi's `R`).  Covers `next_cmd` in both modes, every other
    command, circular and list completion, incremental search, the dispatch loop, quoted insert,
    suspend, the main loop (by induction on the fuel; running out of fuel is the outcome `fuel`, not
    `panic`), the initial text and the final cursor move. -/
theorem C17_editor_no_panic_partial (S : Segmenter) (U : UData) (cfg : EdCfg) (left right : Text) (inp : Input)
    (hv : ∀ t, cfg.validator t ≠ .panic) (hnp : cfg.hinterPanicAt = none)
    (hcomp : ∀ t p, IsBoundary t (cfg.completer t p).1 ∧ (cfg.completer t p).1 ≤ p)
    (hind : cfg.indentSize ≤ 255) (hS : S.Stable) (hb : BindsI cfg) {J : Ed → Prop} (ho : C17_Open S U cfg J) :
    (readline S U cfg (KillRing.new 60) left right inp).1 = .panic →
      D43 (readline S U cfg (KillRing.new 60) left right inp).2 :=
  readline_panic_only_D43 S U cfg ⟨hnp, hb, hcomp⟩ (C17_exec_safe S U cfg hS hv hnp hind ho) _ (RingOK.new 60) _ _ _

/-- the same as a no-panic statement: a read that does not end in a D43 state does not panic -/
theorem C17_editor_no_panic_of_no_D43 (S : Segmenter) (U : UData) (cfg : EdCfg) (left right : Text) (inp : Input)
    (hv : ∀ t, cfg.validator t ≠ .panic) (hnp : cfg.hinterPanicAt = none)
    (hcomp : ∀ t p, IsBoundary t (cfg.completer t p).1 ∧ (cfg.completer t p).1 ≤ p)
    (hind : cfg.indentSize ≤ 255) (hS : S.Stable) (hb : BindsI cfg) {J : Ed → Prop} (ho : C17_Open S U cfg J)
    (hd : ¬ D43 (readline S U cfg (KillRing.new 60) left right inp).2) :
    (readline S U cfg (KillRing.new 60) left right inp).1 ≠ .panic :=
  fun hp => hd (C17_editor_no_panic_partial S U cfg left right inp hv hnp hcomp hind hS hb ho hp)

/-- `C17_Open` holds of `J := UndoLogInv` as soon as the dispatch loop keeps it (`hpre`; `C17_vi_pre_keeps`), in
    both modes ("the undo stack, replayed oldest change first from some text, gives the text of the
    line"): `Undo` is safe from it and re-establishes it (`rsafe_undo`, C05_undo_past_text); every other
    command keeps it (`logK_execute`: every line-buffer call reports exactly what it did — `Replays` — and
    the listener logs what it is told — `C05_log_replay`; group markers change nothing —
    `C05_log_markers`); `next_cmd` only adds markers (`logK_nextCmd`, both modes); the dispatch loop keeps
    it (the hypothesis `hpre`); the other steps do not touch line or log. -/
theorem C17_open_of_pre (S : Segmenter) (U : UData) (cfg : EdCfg) (hnp : cfg.hinterPanicAt = none)
    (hpre : ∀ fuel cmd s, RdInv cfg s → UndoLogInv s →
      wp (preCmds S U cfg fuel cmd) (fun _ s' => UndoLogInv s') (fun _ _ => True) s) :
    C17_Open S U cfg UndoLogInv where
  undo := fun n _ h hj => rsafe_undo S U cfg hnp n h hj
  other := fun cmd hne _ s hj => (logK_execute S U cfg cmd (isUndo_false_of_ne hne)).h s hj
  init := fun _ _ => ⟨[], rfl⟩
  initText := fun b p => (logK_lb S U (Replays.update S U b p)).h
  refresh := (LogK.of_core (keeps_refreshLine S U cfg)).h
  next := fun fuel => (logK_nextCmd S U cfg fuel false false).h
  reset := fun _ hj => hj
  pre := hpre
  susp := fun _ hj => hj
  nextChar := (LogK.of_core keeps_nextChar).h
  insert := fun c => (logK_editInsert S U cfg c 1).h

/-- the dispatch loop (a completion or an incremental search, whatever is typed inside it, aborted or not)
    keeps the undo-log invariant; `C17_vi_pre_keeps` proves it for both modes.  The delicate case is the abort after a key
    that left insert mode: `end()` has popped the sub-loop's `Begin`, so the listener may MERGE what the
    sub-loop logs into the entry below the mark (finding D49: `x y Backspace C-r C-s a a Alt-X C-r Alt-X
    C-g u` gives "xyx", not "xy"); the remaining log then replays to a proper PREFIX of the line (here to
    "" with the line "x"), which still satisfies `UndoLogInv` because replay is invariant under a suffix
    of the start text (`BotGood`, Lemmas/EditorLogViLoops.lean). -/
def ViPreKeeps (S : Segmenter) (U : UData) (cfg : EdCfg) : Prop :=
  ∀ fuel cmd s, RdInv cfg s → UndoLogInv s →
    wp (preCmds S U cfg fuel cmd) (fun _ s' => UndoLogInv s') (fun _ _ => True) s

/-- **`ViPreKeeps` holds**: the dispatch loop — a circular or list completion, an
    incremental search, whatever is typed inside them, aborted or not — keeps the undo-log invariant
    `UndoLogInv` in BOTH modes, for a hinter that does not panic, acceptable bindings (`BindsI`) and a
    completer that reports a start on a character boundary at or before the cursor (the three facts the
    read invariant `RdInv` needs to get through the sub-loops; no assumption on the mode, on what `Abort`
    or `Esc` are bound to, or on the segmenter).  The proof is mode-generic (`logJ_preCmds_both`):
    `next_cmd` changes the log by group-marker operations only (`mkK_nextCmd`); the search carries "the
    bottom `mark` entries replay some text to a PREFIX of the backed-up line" (`BotGood`: kept by the
    markers and by `mark.min(len)`; `update`'s `Delete(0, line)` can merge into the entry below the mark
    only when nothing lies above it, and then the bottom replays to the empty text — finding D49 is exactly
    this case; `botGood_update`), so after the abort's cut the log replays to a prefix of the restored line
    (`undoLogInv_of_prefix`); the completion logs its first `replace` before it reads a key, so `end()` never
    finds the loop's `Begin` on top (`AboveNB`), the mark is never lowered and the abort's cut restores
    exactly the log before the loop. -/
theorem C17_vi_pre_keeps (S : Segmenter) (U : UData) (cfg : EdCfg)
    (hnp : cfg.hinterPanicAt = none) (hb : BindsI cfg)
    (hcomp : ∀ t p, IsBoundary t (cfg.completer t p).1 ∧ (cfg.completer t p).1 ≤ p) :
    ViPreKeeps S U cfg :=
  logJ_preCmds_both S U cfg ⟨hnp, hb, hcomp⟩

/-- `C17_Open` holds of `J := UndoLogInv` in both modes -/
theorem C17_open_both (S : Segmenter) (U : UData) (cfg : EdCfg)
    (hnp : cfg.hinterPanicAt = none) (hb : BindsI cfg)
    (hcomp : ∀ t p, IsBoundary t (cfg.completer t p).1 ∧ (cfg.completer t p).1 ≤ p) :
    C17_Open S U cfg UndoLogInv :=
  C17_open_of_pre S U cfg hnp (C17_vi_pre_keeps S U cfg hnp hb hcomp)

/-- `C17_open_both` with the mode fixed (`hvi` is not used) -/
theorem C17_open_emacs (S : Segmenter) (U : UData) (cfg : EdCfg) (hvi : cfg.vi = false)
    (hnp : cfg.hinterPanicAt = none) (hb : BindsI cfg)
    (hcomp : ∀ t p, IsBoundary t (cfg.completer t p).1 ∧ (cfg.completer t p).1 ≤ p) :
    C17_Open S U cfg UndoLogInv :=
  C17_open_both S U cfg hnp hb hcomp

/-- **The only panic of a whole read is D43 — emacs AND vi mode**:
    for a validator and a hinter that do not panic, an indent size that fits the code's `u8`, a completer
    that reports a start on a character boundary at or before the cursor, a stable segmenter and acceptable
    bindings (`BindsI`: a bound `ReplaceChar` count fits `u16`, `YankPop` is not bound in vi mode, `Replace`
    / `ViYankTo` are not bound in emacs mode), if `readline` (initial text `left`/`right`, any input, a fresh
    kill ring of 60 slots, the size `Editor::with_history` gives it in src/lib.rs) ends with the panic outcome then its final state has a last insertion longer
    than 65535 bytes (known finding D43: the re-do of vi's `R`). -/
theorem C17_editor_no_panic_both (S : Segmenter) (U : UData) (cfg : EdCfg) (left right : Text) (inp : Input)
    (hv : ∀ t, cfg.validator t ≠ .panic) (hnp : cfg.hinterPanicAt = none)
    (hcomp : ∀ t p, IsBoundary t (cfg.completer t p).1 ∧ (cfg.completer t p).1 ≤ p)
    (hind : cfg.indentSize ≤ 255) (hS : S.Stable) (hb : BindsI cfg) :
    (readline S U cfg (KillRing.new 60) left right inp).1 = .panic →
      D43 (readline S U cfg (KillRing.new 60) left right inp).2 :=
  C17_editor_no_panic_partial S U cfg left right inp hv hnp hcomp hind hS hb (C17_open_both S U cfg hnp hb hcomp)

/-- `C17_editor_no_panic_both` with `ViPreKeeps` as a hypothesis for vi mode; the hypothesis is not used
    (`C17_vi_pre_keeps` proves it from the others). -/
theorem C17_editor_no_panic (S : Segmenter) (U : UData) (cfg : EdCfg) (left right : Text) (inp : Input)
    (hv : ∀ t, cfg.validator t ≠ .panic) (hnp : cfg.hinterPanicAt = none)
    (hcomp : ∀ t p, IsBoundary t (cfg.completer t p).1 ∧ (cfg.completer t p).1 ≤ p)
    (hind : cfg.indentSize ≤ 255) (hS : S.Stable) (hb : BindsI cfg)
    (hvi : cfg.vi = true → ViPreKeeps S U cfg) :
    (readline S U cfg (KillRing.new 60) left right inp).1 = .panic →
      D43 (readline S U cfg (KillRing.new 60) left right inp).2 :=
  C17_editor_no_panic_both S U cfg left right inp hv hnp hcomp hind hS hb

/-- **In emacs mode the only panic of a whole read is D43**: `C17_editor_no_panic_both` with the mode
    fixed (the re-do of vi's `R` is reachable in emacs mode only through a binding). -/
theorem C17_editor_no_panic_emacs (S : Segmenter) (U : UData) (cfg : EdCfg) (left right : Text) (inp : Input)
    (hvi : cfg.vi = false) (hv : ∀ t, cfg.validator t ≠ .panic) (hnp : cfg.hinterPanicAt = none)
    (hcomp : ∀ t p, IsBoundary t (cfg.completer t p).1 ∧ (cfg.completer t p).1 ≤ p)
    (hind : cfg.indentSize ≤ 255) (hS : S.Stable) (hb : BindsI cfg) :
    (readline S U cfg (KillRing.new 60) left right inp).1 = .panic →
      D43 (readline S U cfg (KillRing.new 60) left right inp).2 :=
  C17_editor_no_panic_both S U cfg left right inp hv hnp hcomp hind hS hb

/-- every command but vi's `R` (`Replace(ForwardChar 0, None)`, whose redo converts the length of
    the last insertion to a `RepeatCount`) can be re-done whatever the last insertion was -/
theorem C17_bindOK (c : Cmd) (h : c ≠ .replace (.forwardChar 0) none) : BindOK c := by
  intro new li hr
  cases c
  case replace m t =>
    cases t with
    | some t => exact ⟨_, rfl⟩
    | none =>
      unfold Cmd.redo
      simp only []
      by_cases hm : (m == Movement.forwardChar 0) = true
      · have : m = .forwardChar 0 := by simpa using hm
        subst this
        exact absurd rfl h
      · rw [if_neg hm]; exact ⟨_, rfl⟩
  case selfInsert n ch => cases li <;> exact ⟨_, rfl⟩
  -- the other repeatable commands are re-done by their own constructor
  case dedent | indent | insert | kill | move | replaceChar | viYankTo | yank => exact ⟨_, rfl⟩
  all_goals cases hr

/-- **kill-ring frame** (what carries `PopOK` through the read):
    every command other than `Kill`, `Replace`, `ViYankTo`, `Yank`, `YankPop` leaves the kill ring exactly
    as it was, whether `execute` returns or exits; so do `next_cmd` and the dispatch loop (completion and
    incremental search, for every key sequence typed inside them).  Hence between a `Yank` and a `YankPop`
    only the main loop's own reset and those five commands can change `last_action`. -/
theorem C17_ring_frame (S : Segmenter) (U : UData) (cfg : EdCfg) :
    (∀ cmd s s' st, cmd.usesRing = false → execute S U cfg cmd s = .ok (st, s') → s'.ring = s.ring) ∧
    (∀ fuel sea iep s s' c, nextCmd S U cfg fuel sea iep s = .ok (c, s') → s'.ring = s.ring) ∧
    (∀ fuel cmd s s' r, preCmds S U cfg fuel cmd s = .ok (r, s') → s'.ring = s.ring) :=
  ⟨fun cmd _ _ _ hc hr => (keeps_ring_execute S U cfg cmd hc).ok hr,
   fun fuel sea iep _ _ _ hr => (keeps_ring_nextCmd S U cfg fuel sea iep).ok hr,
   fun fuel cmd _ _ _ hr => (keeps_ring_preCmds S U cfg fuel cmd).ok hr⟩

/-- **`next_cmd` never panics at all in emacs mode** when the binding table does not bind vi's `R`
    command (then not even D43 is reachable through `next_cmd`) -/
theorem C17_next_safe_emacs (S : Segmenter) (U : UData) (cfg : EdCfg) (hvi : cfg.vi = false)
    (hnp : cfg.hinterPanicAt = none) (hb : ∀ b ∈ cfg.binds, b.2 ≠ .replace (.forwardChar 0) none) :
    ∀ fuel sea iep s o s', nextCmd S U cfg fuel sea iep s = .error (o, s') → o ≠ .panic :=
  nextSafe_emacs S U cfg hvi hnp (fun b hm => C17_bindOK b.2 (hb b hm))

/-- the completer contract of the full statement (`start ≤ cursor`) is not enough: a start inside a
    character makes `line.replace(start..pos, …)` panic (String::replace_range off a boundary) -/
theorem C17_completer_start_inside_char_panics (S : Segmenter) (U : UData) :
    LB.replace S U 1 2 ['a'] { buf := ['é'], pos := 2, cap := 8, canGrow := true } = .error .panic := by
  rfl

/-- a panic source that is really reachable: a completer that reports a start offset beyond the
    cursor makes list-mode completion underflow (`pos - start`, lib.rs) — excluded by hypothesis in
    the full statement -/
theorem C17_completer_start_beyond_cursor_panics (S : Segmenter) (U : UData) (fuel : Nat) (s : Ed)
    (hl : s.line = { buf := [], pos := 0, cap := 8, canGrow := true }) :
    ∃ s', completeLine S U { vi := false, listCompletion := true, completer := fun _ _ => (1, [['a']]) } fuel s
      = .error (.panic, s') := by
  unfold completeLine
  simp only [EM.bind_apply, getLine, hl, lcpChars]
  exact ⟨_, rfl⟩

/-- non-vacuity: a concrete multi-byte escape sequence decodes to Ctrl-Right and consumes 6 bytes -/
example :
    (({ buf := [], avail := [], future := [[0x1b, 0x5b, 0x31, 0x3b, 0x35, 0x43], [0x61]] } : Input).nextKey false).toOption.map
      (fun r => (r.1, r.2.size)) = some (⟨.right, 8⟩, 1) := by decide

/-- the same as a no-panic statement, both modes: a read that does not end in a D43 state does not panic -/
theorem C17_editor_no_panic_both_of_no_D43 (S : Segmenter) (U : UData) (cfg : EdCfg) (left right : Text)
    (inp : Input) (hv : ∀ t, cfg.validator t ≠ .panic) (hnp : cfg.hinterPanicAt = none)
    (hcomp : ∀ t p, IsBoundary t (cfg.completer t p).1 ∧ (cfg.completer t p).1 ≤ p)
    (hind : cfg.indentSize ≤ 255) (hS : S.Stable) (hb : BindsI cfg)
    (hd : ¬ D43 (readline S U cfg (KillRing.new 60) left right inp).2) :
    (readline S U cfg (KillRing.new 60) left right inp).1 ≠ .panic :=
  fun hp => hd (C17_editor_no_panic_both S U cfg left right inp hv hnp hcomp hind hS hb hp)

/-- non-vacuity: the configuration hypotheses of `C17_editor_no_panic_both` hold for the default vi-mode
    configuration (no helper, no custom bindings) -/
example :
    (∀ t, ({ vi := true } : EdCfg).validator t ≠ .panic) ∧ ({ vi := true } : EdCfg).hinterPanicAt = none ∧
    (∀ t p, IsBoundary t (({ vi := true } : EdCfg).completer t p).1 ∧ (({ vi := true } : EdCfg).completer t p).1 ≤ p) ∧
    ({ vi := true } : EdCfg).indentSize ≤ 255 ∧ BindsI { vi := true } :=
  ⟨fun _ h => (by cases h), rfl, fun t p => ⟨⟨[], t, rfl, rfl⟩, Nat.zero_le p⟩, (by decide),
   fun b hm => (by cases hm)⟩

/-- non-vacuity of the D49 case of the search invariant (`botGood_update`): with the log
    `[Delete(1,"y"), Insert(0,"xy")]`, the line "x" and the mark at the top of the log, `update("a")` merges
    its `Delete(0,"x")` into the entry below the mark; the two bottom entries then replay "" to "" — a
    proper prefix of the backed-up line "x" -/
example :
    let S : Segmenter := charSeg
    let c : Changeset := { level := 0, undos := [.delete 1 ['y'], .insert 0 ['x', 'y']], redos := [] }
    let c' := c.onNotifs S (fun _ => true) (updNotifs ['x'] ['a'])
    c'.undos = [.insert 0 ['a'], .delete 0 ['x', 'y'], .insert 0 ['x', 'y']] ∧
    replayLog (c'.undos.drop (c'.undos.length - 2)).reverse [] = some [] := by
  decide

