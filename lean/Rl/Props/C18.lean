/-
  Property C18 — reading from a pipe or file returns the input lines exactly, one per call — and the
  non-terminal clause of C13 (theorems `C18_validator…`).
  Model: Rl/Direct.lean (transliteration of `apply_backspace_direct`, `readline_direct`,
  `validate_brackets`; cluster sizes are `usize` (D12), a CR counts as half of a CRLF only
  when it belongs to the line just read (D25)).  Spec: Rl/Spec/Direct.lean (from the property text).  Lemmas:
  Rl/Lemmas/Direct.lean, Rl/Lemmas/DirectGap.lean.  Every theorem holds for every lawful grapheme
  segmenter `S` and every validator function `V`.
-/
import Rl.Direct
import Rl.Spec.Direct
import Rl.Lemmas.Direct
import Rl.Lemmas.DirectGap
open Rl Rl.Direct Rl.Spec.Direct

/-- `apply_backspace_direct` never panics and returns the stack evaluation of the cluster sequence:
    the byte arithmetic on the output string (`truncate(len - size)`) removes exactly the cluster
    that the popped size belongs to. -/
theorem C18_backspace (S : Segmenter) (t : Text) :
    applyBackspace S t = some (stackEval (S.seg t)).flatten :=
  applyBackspace_eq S t

/-- meaning of the stack evaluation: a cluster that is not a backspace is appended … -/
theorem C18_backspace_push (gs : List Text) (g : Text) (hg : g ≠ [bs]) :
    stackEval (gs ++ [g]) = stackEval gs ++ [g] :=
  stackEval_push gs g hg

/-- … and each backspace removes exactly one cluster, the one before it (none if there is none). -/
theorem C18_backspace_pop (gs : List Text) :
    stackEval (gs ++ [[bs]]) = (stackEval gs).dropLast :=
  stackEval_pop gs

/-- a line without a backspace cluster is returned unchanged -/
theorem C18_backspace_id (S : Segmenter) (t : Text) (h : ∀ g ∈ S.seg t, g ≠ [bs]) :
    applyBackspace S t = some t := by
  rw [C18_backspace, stackEval_no_bs _ h, S.flatten_eq]

/-- D12, sizes stored `as u8` (`applyBackspaceU8`): the statement only holds when every
    cluster is shorter than 256 bytes. -/
theorem C18_backspace_u8_partial (S : Segmenter) (t : Text) (h : ∀ g ∈ S.seg t, blen g < 256) :
    applyBackspaceU8 S t = some (stackEval (S.seg t)).flatten :=
  applyGo_nil (· % 256) (S.seg t) (fun g hg => Nat.mod_eq_of_lt (h g hg))

/-- a segmenter that glues U+0301 to what precedes it (enough for the witnesses below) -/
def C18_markSeg : Segmenter :=
  Segmenter.ofGroup (fun (_ : Unit) c => c == Char.ofNat 769) (fun _ _ => ()) (fun _ => ())

/-- the D12 witness: `ab` + `e` + 130 × U+0301 (a cluster of 261 bytes) + BS + `Z` -/
def C18_d12_input : Text := 'a' :: 'b' :: 'e' :: (List.replicate 130 (Char.ofNat 769) ++ [bs, 'Z'])

/-- D12: with `u8` sizes the read panics (`String::truncate` off a character boundary) -/
theorem C18_u8_counterexample : applyBackspaceU8 C18_markSeg C18_d12_input = none := by
  decide +kernel

/-- D12, second face: a cluster of exactly 256 bytes is silently not removed -/
theorem C18_u8_silent :
    applyBackspaceU8 C18_markSeg ('a' :: 'é' :: (List.replicate 127 (Char.ofNat 769) ++ [bs])) =
      some ('a' :: 'é' :: List.replicate 127 (Char.ofNat 769)) ∧
    removeBackspaces C18_markSeg ('a' :: 'é' :: (List.replicate 127 (Char.ofNat 769) ++ [bs])) = ['a'] := by
  decide +kernel

set_option maxRecDepth 100000 in
/-- with `usize` sizes the D12 witness loses exactly the 261-byte cluster -/
example : applyBackspace C18_markSeg C18_d12_input = some ['a', 'b', 'Z'] := by decide +kernel

/-- `read_line` cuts the stream into the spec's lines: stripping each raw line gives
    (content, terminator) exactly as the declarative `lines` says. -/
theorem C18_read_lines (stream : Text) : (readLines stream).map lineOf = lines stream := by
  rw [readLines_eq, map_lineOf_rawLines]

/-- meaning of `lines`: the contents followed by their terminators are the stream … -/
theorem C18_lines_join (stream : Text) : unlines (lines stream) = stream :=
  unlines_lines stream

/-- … and a final piece without LF is a line of its own, without terminator. -/
theorem C18_lines_unterminated (pre last : Text) (hp : pre = [] ∨ pre.getLast? = some '\n')
    (h1 : last ≠ []) (h2 : '\n' ∉ last) :
    lines (pre ++ last) = lines pre ++ [(last, .none)] :=
  lines_append_unterminated pre last hp h1 h2

/-- … and no line content holds a line feed -/
theorem C18_lines_no_lf (stream : Text) : ∀ l ∈ lines stream, '\n' ∉ l.1 :=
  lines_no_lf stream

/-- every line but possibly the last carries a terminator; an unterminated last line is not empty -/
theorem C18_lines_shape (stream : Text) :
    ∃ a tail, lines stream = a ++ tail ∧ (∀ x ∈ a, x.2 ≠ .none) ∧
      (tail = [] ∨ ∃ last, last ≠ [] ∧ tail = [(last, .none)]) :=
  lines_shape stream

/-- Successive reads return the successive lines of the input without their LF / CRLF terminator,
    backspaces applied, then end of file. -/
theorem C18_kth_line (S : Segmenter) (stream : Text) :
    session S none stream =
      (lines stream).map (fun l => .line (removeBackspaces S l.1)) ++ [.eof] := by
  unfold session
  rw [sessionW_none S _ (readLines_ne_nil stream) _ (Nat.lt_succ_self _),
    ← C18_read_lines, List.map_map]
  rfl

/-- the `k`-th call returns the `k`-th line, backspaces applied -/
theorem C18_kth_line_get (S : Segmenter) (stream : Text) (k : Nat) (hk : k < (lines stream).length) :
    (session S none stream)[k]? = some (.line (removeBackspaces S ((lines stream)[k]).1)) := by
  rw [C18_kth_line, List.getElem?_append_left (by simpa using hk)]
  simp [hk]

/-- the call after the last line reports end of file, and nothing follows -/
theorem C18_eof_after (S : Segmenter) (stream : Text) :
    (session S none stream)[(lines stream).length]? = some .eof ∧
    (session S none stream).length = (lines stream).length + 1 := by
  rw [C18_kth_line]
  constructor
  · rw [List.getElem?_append_right (by simp)]; simp
  · simp

/-- A final unterminated line is returned too (as the last line, before end of file). -/
theorem C18_last_line (S : Segmenter) (pre last : Text) (hp : pre = [] ∨ pre.getLast? = some '\n')
    (h1 : last ≠ []) (h2 : '\n' ∉ last) :
    session S none (pre ++ last) =
      (lines pre).map (fun l => .line (removeBackspaces S l.1)) ++ [.line (removeBackspaces S last), .eof] := by
  rw [C18_kth_line, C18_lines_unterminated pre last hp h1 h2]
  simp

/-- A read that returns a line returns a text the validator judged Valid, and that text is the
    accumulation of exactly the lines consumed: every earlier verdict was Incomplete (the line's
    terminator was kept) or Invalid (the text was left unchanged), see `Accum`. -/
theorem C18_validator (S : Segmenter) (V : Text → Verdict) (ls : List Text) (hne : ∀ l ∈ ls, l ≠ [])
    (l : Text) (rest : List Text) (h : readlineDirect S (some V) ls = (.line l, rest)) :
    V l = .valid ∧ ∃ used, ls = used ++ rest ∧ Accum S V [] (used.map lineOf) l := by
  have hv := readlineDirectW_some S V ls hne []
  obtain ⟨used, h3⟩ := readlineDirectW_suffix S V ls hne []
  unfold readlineDirect at h
  rw [h] at hv h3
  obtain ⟨hval, used', hu, hacc⟩ := readV_line S V [] _ l _ hv
  refine ⟨hval, used, h3, ?_⟩
  rw [h3, List.map_append] at hu
  rw [List.append_cancel_right hu]; exact hacc

/-- the raw lines of a stream are never empty, so `C18_validator` applies to every call of a session -/
theorem C18_validator_lines_ne (stream : Text) : ∀ l ∈ readLines stream, l ≠ [] :=
  readLines_ne_nil stream

/-- A validator error is returned as an error (never as a line): an `err` result comes from an
    error verdict, and a `line` result from a Valid one. -/
theorem C18_validator_error (S : Segmenter) (V : Text → Verdict) (ls : List Text) (hne : ∀ l ∈ ls, l ≠ [])
    (rest : List Text) (h : readlineDirect S (some V) ls = (.err, rest)) : ∃ x, V x = .error := by
  have hv := readlineDirectW_some S V ls hne []
  unfold readlineDirect at h
  rw [h] at hv
  exact readV_err S V [] _ _ hv

/-- The whole session, with or without validator, is the one the declarative spec prescribes
    (this is the oracle the check evaluates on the implementation's output). -/
theorem C18_session_eq_spec (S : Segmenter) (V : Option (Text → Verdict)) (stream : Text) :
    session S V stream = expected S V stream := by
  cases V with
  | none => rw [C18_kth_line]; simp [expected, results]
  | some V =>
    unfold session expected
    rw [sessionW_some S V _ _ (C18_validator_lines_ne stream), C18_read_lines]
    simp [← C18_read_lines]

/-- the shipped validator is the bracket matcher of its documentation -/
theorem C18_validator_brackets (t : Text) : validateBrackets t = brackets [] t :=
  bracketsGo_eq [] t

/-- no read on the non-terminal path panics -/
theorem C18_no_panic_read (S : Segmenter) (V : Option (Text → Verdict)) (ls : List Text)
    (hne : ∀ l ∈ ls, l ≠ []) : (readlineDirect S V ls).1 ≠ .panic :=
  readlineDirectW_ne_panic S V ls hne []

/-- no call of a session panics, and the session ends with end of file -/
theorem C18_no_panic (S : Segmenter) (V : Option (Text → Verdict)) (stream : Text) :
    DResult.panic ∉ session S V stream ∧ (session S V stream).getLast? = some .eof := by
  rw [C18_session_eq_spec]
  cases V with
  | none => simp [expected, results]
  | some V =>
    constructor
    · exact results_some_no_panic S V _ _
    · exact results_some_last S V _ _ (Nat.lt_succ_self _)

/-- `uaxSeg` (UAX #29 rules over the class column reported by the harness) is a lawful segmenter:
    its clusters are non-empty and concatenate to the text. -/
theorem C18_segmenter_lawful (cls : Char → String) (t : Text) :
    ((uaxSeg cls).seg t).flatten = t ∧ ∀ g ∈ (uaxSeg cls).seg t, g ≠ [] :=
  ⟨(uaxSeg cls).flatten_eq t, (uaxSeg cls).ne_nil t⟩

example : session charSeg none "ab\x08c\r\nd".toList = [.line "ac".toList, .line "d".toList, .eof] := by decide +kernel
example : session charSeg (some validateBrackets) "(a\n)\nb".toList =
    [.line "(a\n)".toList, .line "b".toList, .eof] := by decide +kernel
example : lines "a\r\n\nb".toList = [("a".toList, .crlf), ([], .lf), ("b".toList, .none)] := by decide +kernel

/-- `apply_backspace_direct` is a left fold over the clusters of the input, for every input and every
    lawful segmenter: starting from nothing kept, a cluster that is exactly U+0008 drops the last
    cluster kept (and drops nothing when nothing is kept), every other cluster is appended
    (`bsStep`); the result is the concatenation of what is kept.  This covers every interleaving of
    text and backspaces. -/
theorem C18_backspace_fold (S : Segmenter) (t : Text) :
    applyBackspace S t = some ((S.seg t).foldl bsStep []).flatten := by
  rw [C18_backspace, stackEval_fold]

/-- What a read keeps is made of whole clusters of the input, in their original order, and none of
    them is a backspace: a backspace never cuts a cluster in two, never reorders, never survives. -/
theorem C18_backspace_keeps_clusters (S : Segmenter) (t : Text) :
    ∃ kept : List Text, applyBackspace S t = some kept.flatten ∧ kept.Sublist (S.seg t) ∧ ∀ g ∈ kept, g ≠ [bs] :=
  ⟨stackEval (S.seg t), C18_backspace S t, stackEval_sublist _, stackEval_no_bs_mem _⟩

/-- `k` plain clusters followed by a run of `n` backspaces leave exactly the first `k - n` clusters
    (nothing when `n ≥ k`: the extra backspaces remove nothing and do not panic). -/
theorem C18_backspace_run (S : Segmenter) (t : Text) (gs : List Text) (n : Nat)
    (h : S.seg t = gs ++ List.replicate n [bs]) (hgs : ∀ g ∈ gs, g ≠ [bs]) :
    applyBackspace S t = some (gs.take (gs.length - n)).flatten := by
  rw [C18_backspace, h, stackEval_bs_run, stackEval_no_bs gs hgs]

/-- A run of backspaces at least as long as everything before it (in clusters, backspaces included)
    erases all of it and nothing more: the read returns what the rest of the line alone would give.
    With `gs = []` this is "backspaces at the start of the line remove nothing". -/
theorem C18_backspace_overrun (S : Segmenter) (t : Text) (gs more : List Text) (n : Nat)
    (h : S.seg t = gs ++ List.replicate n [bs] ++ more) (hn : gs.length ≤ n) :
    applyBackspace S t = some (stackEval more).flatten := by
  rw [C18_backspace, h, stackEval_overrun gs more n (Nat.le_trans (stackEval_length_le gs) hn)]

/-- the same two facts on the loop of `apply_backspace_direct` itself, for an arbitrary cluster
    sequence (no segmenter involved) -/
theorem C18_backspace_loop_run (gs more : List Text) (n : Nat) (hn : gs.length ≤ n) :
    applyGo id (gs ++ List.replicate n [bs] ++ more) [] [] = applyGo id more [] [] := by
  rw [applyGo_id, applyGo_id, stackEval_overrun gs more n (Nat.le_trans (stackEval_length_le gs) hn)]

example : Rl.charSeg.seg "ab\x08\x08\x08c".toList =
    [['a'], ['b']] ++ List.replicate 3 [bs] ++ [['c']] ∧ [['a'], ['b']].length ≤ 3 := by decide +kernel
example : applyBackspace Rl.charSeg "ab\x08\x08\x08c".toList = some ['c'] := by decide +kernel
example : Rl.charSeg.seg "abc\x08\x08".toList = [['a'], ['b'], ['c']] ++ List.replicate 2 [bs] ∧
    ∀ g ∈ [['a'], ['b'], ['c']], g ≠ [bs] := by decide +kernel

/-- "With a validator, lines are accumulated (terminators kept) until the validator accepts", as an
    equation on the model's read of the raw lines `pre`, `l`, `rest` (raw = with their terminators, as
    `read_line` returns them; no backspace in `pre` and `l`): if the validator says Incomplete up to the
    content of each line of `pre` and Valid up to the content of `l`, the read returns the input consumed
    byte for byte (`pre.flatten`: LF and CRLF terminators kept as they were) followed by `l` without its
    own terminator, and leaves exactly `rest` for the next call. -/
theorem C18_validator_accumulates (S : Segmenter) (V : Text → Verdict) (pre : List Text) (l : Text)
    (rest : List Text) (hne : ∀ x ∈ pre, x ≠ []) (hl : l ≠ []) (hbs : bs ∉ pre.flatten ++ l)
    (hinc : ∀ p x q, pre = p ++ x :: q → V (p.flatten ++ (lineOf x).1) = .incomplete)
    (hval : V (pre.flatten ++ (lineOf l).1) = .valid) :
    readlineDirect S (some V) (pre ++ l :: rest) = (.line (pre.flatten ++ (lineOf l).1), rest) :=
  readlineDirectW_accum S V pre l rest [] hne hl hbs hinc hval

/-- `C18_validator_accumulates` for the first read of a session over a stream -/
theorem C18_validator_accumulates_session (S : Segmenter) (V : Text → Verdict) (stream : Text)
    (pre : List Text) (l : Text) (rest : List Text) (hs : readLines stream = pre ++ l :: rest)
    (hbs : bs ∉ pre.flatten ++ l)
    (hinc : ∀ p x q, pre = p ++ x :: q → V (p.flatten ++ (lineOf x).1) = .incomplete)
    (hval : V (pre.flatten ++ (lineOf l).1) = .valid) :
    (session S (some V) stream).head? = some (.line (pre.flatten ++ (lineOf l).1)) := by
  have hne := C18_validator_lines_ne stream
  rw [hs] at hne
  have h := C18_validator_accumulates S V pre l rest (fun x hx => hne x (List.mem_append_left _ hx))
    (hne l (List.mem_append_right _ (List.mem_cons_self ..))) hbs hinc hval
  unfold session
  rw [sessionW_succ, hs, show readlineDirectW id S (some V) [] (pre ++ l :: rest) = _ from h,
    if_neg nofun, if_neg nofun]
  rfl

/-- a raw line is its content followed by its terminator (so `pre.flatten` above is the contents
    joined by the terminators that were in the input) -/
theorem C18_raw_line (l : Text) : (lineOf l).1 ++ (lineOf l).2.text = l := lineOf_text l

example : readlineDirect charSeg (some validateBrackets) ["(a\r\n".toList, "b\n".toList, ")\n".toList, "c".toList] =
    (.line "(a\r\nb\n)".toList, ["c".toList]) := by decide +kernel

/-- An input the validator never accepts (and never fails on) is lost: the only thing the
    application sees is end of file, whatever was accumulated is dropped. -/
theorem C18_validator_never_accepts (S : Segmenter) (V : Text → Verdict)
    (hV : ∀ x, V x ≠ .valid ∧ V x ≠ .error) (stream : Text) :
    session S (some V) stream = [.eof] := by
  unfold session
  rcases readlineDirectW_never_valid S V hV (readLines stream) [] with h | ⟨r, _, p, hp⟩
  · simp [sessionW, h]
  · exact absurd rfl (C18_validator_lines_ne stream [] (by rw [hp]; simp))

example : session charSeg (some validateBrackets) "(a\nb\n".toList = [.eof] := by decide +kernel

/-- With a validator a backspace at the start of a continuation line is applied to the accumulated
    text, so it removes the line break that was kept (model = spec). -/
example : session charSeg (some validateBrackets) "(\n\x08)\n".toList = [.line "()".toList, .eof] := by decide +kernel

/-- `n` successive calls of `readline` on the non-terminal path, NOT stopping at end of file
    (`session` stops at the first one): results in order -/
def C18_reads (S : Segmenter) (V : Option (Text → Verdict)) : Nat → List Text → List DResult
  | 0, _ => []
  | n + 1, ls => (readlineDirect S V ls).1 :: C18_reads S V n (readlineDirect S V ls).2

/-- on an exhausted input every call returns end of file -/
theorem C18_reads_nil (S : Segmenter) (V : Option (Text → Verdict)) (n : Nat) :
    C18_reads S V n [] = List.replicate n .eof := by
  induction n with
  | zero => rfl
  | succ n ih => simp [C18_reads, readlineDirect, readlineDirectW, ih, List.replicate_succ]

/-- An application that keeps calling `readline` after the input is exhausted: the first calls
    return the lines (one each, terminator stripped, backspaces applied), the final unterminated
    line included exactly once, and every later call — however many — reports end of file. -/
theorem C18_eof_forever (S : Segmenter) (stream : Text) (m : Nat) :
    C18_reads S none ((lines stream).length + m) (readLines stream) =
      (lines stream).map (fun l => .line (removeBackspaces S l.1)) ++ List.replicate m .eof := by
  have key : ∀ ls : List Text, (∀ l ∈ ls, l ≠ []) →
      C18_reads S none (ls.length + m) ls =
        ls.map (fun l => .line (removeBackspaces S (lineOf l).1)) ++ List.replicate m .eof := by
    intro ls hne
    induction ls with
    | nil => rw [List.length_nil, Nat.zero_add]; exact C18_reads_nil S none m
    | cons l ls ih =>
      rw [List.length_cons, Nat.add_right_comm, C18_reads, readlineDirect,
        readlineDirectW_none S [] l ls (hne l (List.mem_cons_self ..)),
        ih (fun x hx => hne x (List.mem_cons_of_mem _ hx))]
      rfl
  have := key (readLines stream) (C18_validator_lines_ne stream)
  rw [← C18_read_lines, List.length_map, List.map_map]
  exact this

/-- With or without a validator: once a read has reported end of file, every later read reports
    end of file too. -/
theorem C18_eof_final (S : Segmenter) (V : Option (Text → Verdict)) (ls : List Text)
    (hne : ∀ l ∈ ls, l ≠ []) (h : (readlineDirect S V ls).1 = .eof) (n : Nat) :
    C18_reads S V n (readlineDirect S V ls).2 = List.replicate n .eof := by
  rw [show (readlineDirect S V ls).2 = [] from readlineDirectW_eof_rest S V ls hne [] h]
  exact C18_reads_nil S V n

example : C18_reads charSeg none 5 (readLines "a\r\nb".toList) =
    [.line ['a'], .line ['b'], .eof, .eof, .eof] := by decide +kernel

/-! ## backspace CHARACTERS under the UAX #29 segmenter

The theorems above speak of clusters that are exactly U+0008, for every lawful segmenter (a lawful
segmenter may glue U+0008 to a neighbour, and then the code does not treat it as a backspace).
For the segmenter the driver runs (`uaxSeg`, extended grapheme clusters) with U+0008 classified
Control — its Grapheme_Cluster_Break value — every backspace character is a cluster of its own
(GB4/GB5), so the statements become statements about characters. -/

/-- a backspace character is always a cluster by itself, and the text before it and the text after
    it are segmented as if they stood alone -/
theorem C18_uax_backspace_alone (cls : Char → String) (hc : gcbBase (cls bs) = "Control") (a b : Text) :
    (uaxSeg cls).seg (a ++ bs :: b) = (uaxSeg cls).seg a ++ [bs] :: (uaxSeg cls).seg b :=
  uaxSeg_split cls bs hc a b

/-- A text without backspace followed by `n` backspace characters: the read returns the text
    without its last `n` extended grapheme clusters — whole clusters, whatever their byte length —
    and returns the empty text (no panic) when `n` exceeds the number of clusters. -/
theorem C18_uax_backspace_run (cls : Char → String) (hc : gcbBase (cls bs) = "Control") (a : Text)
    (ha : bs ∉ a) (n : Nat) :
    applyBackspace (uaxSeg cls) (a ++ List.replicate n bs) =
      some (((uaxSeg cls).seg a).take (((uaxSeg cls).seg a).length - n)).flatten := by
  cases n with
  | zero =>
    simp only [List.replicate_zero, List.append_nil, Nat.sub_zero, List.take_length]
    rw [C18_backspace_id _ _ (seg_ne_bs _ a ha), (uaxSeg cls).flatten_eq]
  | succ n =>
    have h := uaxSeg_split_run cls bs hc a [] n
    simp only [List.append_nil, uaxSeg_nil] at h
    exact C18_backspace_run _ _ _ _ h (seg_ne_bs _ a ha)

/-- A run of backspace characters at least as long as the text before it (counted in clusters)
    erases exactly that text: the read returns what the rest of the line alone gives.  With
    `a = []`: backspaces at the start of a line remove nothing. -/
theorem C18_uax_backspace_overrun (cls : Char → String) (hc : gcbBase (cls bs) = "Control") (a b : Text)
    (n : Nat) (hn : ((uaxSeg cls).seg a).length ≤ n + 1) :
    applyBackspace (uaxSeg cls) (a ++ List.replicate (n + 1) bs ++ b) = applyBackspace (uaxSeg cls) b := by
  rw [C18_backspace_overrun _ _ _ _ _ (uaxSeg_split_run cls bs hc a b n) hn, C18_backspace]

-- The hypothesis `gcbBase (cls bs) = "Control"` is met by the driver, whose `cls` is the `gcb` column
-- of the `charinfo` lines (`Control` for U+0008); `String.splitOn` inside `gcbBase` does not reduce in
-- the kernel, so no `example` evaluates it.

/-- Each backspace character removes exactly the cluster kept last before it, for an arbitrary text
    `t` in front (which may itself contain backspaces): if the read of `t` keeps the clusters
    `kept`, the read of `t` followed by one backspace keeps `kept` without its last element. -/
theorem C18_uax_backspace_step (cls : Char → String) (hc : gcbBase (cls bs) = "Control") (t : Text) :
    applyBackspace (uaxSeg cls) t = some (stackEval ((uaxSeg cls).seg t)).flatten ∧
    applyBackspace (uaxSeg cls) (t ++ [bs]) = some (stackEval ((uaxSeg cls).seg t)).dropLast.flatten := by
  refine ⟨C18_backspace _ t, ?_⟩
  have h := uaxSeg_split cls bs hc t []
  rw [uaxSeg_nil] at h
  rw [C18_backspace, h, C18_backspace_pop]
