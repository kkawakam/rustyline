/-
  Property C19 — messages from other threads appear exactly once and never corrupt the line.

  Model: Rl/Printer.lean — a labelled transition system of the external-printer protocol at the
  granularity of its atomic steps (`ExternalPrinter::print`: load flag, direct write | lock, send,
  wake-up byte, unlock; `PosixRawReader::select`: tty first, then pipe byte, `try_recv`;
  `external_print`; the raw-mode flag stores of `enable_raw_mode` / `disable_raw_mode`; sub-loops
  reading with `next_key`).  Spec: Rl/Spec/Printer.lean.  Helper lemmas: Rl/Lemmas/Printer.lean, Rl/Lemmas/PrinterLive.lean.

  Every theorem below quantifies over ALL reachable states (`Reach`): any number of printer threads
  (`pr : Nat → Printer`), any number of messages, any interleaving of the steps, any key and read
  pattern of the environment.  Trusted: SeqCst atomics, `sync_channel(1)`, mutex and pipe behave as
  the steps say; one `write` of a message to the terminal is atomic.
-/
import Rl.Printer
import Rl.Lemmas.Printer
import Rl.Lemmas.PrinterLive
open Rl.Printer

/-! ## exactly once -/

/-- Every message thread `t` has handed to `print` (`hist`, in call order) is in exactly one place:
    shown by the editor, in the editor's hand, in the channel, in the printer's hand on the channel
    route, written directly, or in the printer's hand on the direct route — the concatenation of
    these places is a permutation of the call history (so: as often as it was handed over, never more). -/
theorem C19_exactly_once (s : Sys) (h : Reach s) (t : Nat) :
    (shownOf t s.out ++ edHandOf t s ++ chanOf t s ++ rawHandOf (s.pr t)
      ++ (directOf t s.out ++ cookedHandOf (s.pr t))).Perm (s.pr t).hist := by
  have hc := (reach_inv h).1.count t
  rw [List.perm_iff_count]
  intro a
  have := hc a
  simp only [chanSeq, directSeq] at this
  simp only [List.count_append] at this ⊢
  omega

/-- … in particular the terminal never carries a message more often than it was handed to `print`;
    with distinct messages: never twice. -/
theorem C19_never_twice (s : Sys) (h : Reach s) (t : Nat) (hd : (s.pr t).hist.Nodup) :
    (shownOf t s.out ++ directOf t s.out).Nodup := by
  have hp := C19_exactly_once s h t
  rw [List.nodup_iff_count] at hd ⊢
  intro a
  have h1 := hd a
  have h2 := List.Perm.count_eq hp a
  simp only [List.count_append] at h2 ⊢
  omega

/-- nothing appears that was not handed to `print` by that thread -/
theorem C19_only_sent (s : Sys) (h : Reach s) (t id : Nat)
    (hm : id ∈ shownOf t s.out ∨ id ∈ directOf t s.out) : id ∈ (s.pr t).hist := by
  have hp := C19_exactly_once s h t
  apply hp.subset
  simp only [List.mem_append]
  rcases hm with hm | hm
  · exact Or.inl (Or.inl (Or.inl (Or.inl hm)))
  · exact Or.inr (Or.inl hm)

/-- `pipe + [a printer is between send and the wake-up byte] + [the editor is between reading the
    byte and try_recv] = [the channel holds a message]` -/
theorem C19_pipe_chan (s : Sys) (h : Reach s) :
    s.pipe + sentFlag s + gotFlag s = chanFlag s :=
  (reach_inv h).2.count

/-- a wake-up always finds its message: when the editor has read the wake-up byte, `try_recv`
    cannot come back empty (so no byte is ever consumed without its message, and no message is
    left behind with an empty pipe while nobody is about to write the byte) -/
theorem C19_wakeup_finds_message (s : Sys) (h : Reach s) (hg : s.epc = .gotByte) :
    s.chan.isSome = true := by
  have := C19_pipe_chan s h
  simp only [gotFlag, chanFlag, hg] at this
  by_cases hc : s.chan.isSome = true
  · exact hc
  · simp [hc] at this

/-- the pipe never holds more than one byte, and `select` reporting it readable is never wrong -/
theorem C19_pipe_le_one (s : Sys) (h : Reach s) : s.pipe ≤ 1 ∧ (s.epc = .woken → s.pipe = 1) := by
  have h1 := C19_pipe_chan s h
  have h2 := (reach_inv h).2.woken
  have : chanFlag s ≤ 1 := by unfold chanFlag; split <;> omega
  exact ⟨by omega, fun hw => by have := h2 hw; omega⟩

/-- no lost wake-up: a message in the channel whose sender has released the mutex has its byte in
    the pipe, so a reader waiting in the main loop with no key pending is not blocked — `select`
    returns and the message is taken -/
theorem C19_message_wakes_reader (s : Sys) (h : Reach s) (he : s.epc = .waiting) (hk : s.keys = [])
    (hl : s.wlock = none) (hc : s.chan.isSome = true) :
    s.pipe = 1 ∧ (step s .eWake).isSome = true := by
  have h1 := C19_pipe_chan s h
  simp only [sentFlag, gotFlag, chanFlag, hl, he, hc] at h1
  have hp : s.pipe = 1 := by simpa using h1
  exact ⟨hp, (Step.eWake 0 he hk hp).enabled⟩

/-- the writer mutex is held exactly by the printer between `lock` and `unlock` -/
theorem C19_lock (s : Sys) (h : Reach s) (t : Nat) : holds (s.pr t) = true ↔ s.wlock = some t :=
  (reach_inv h).2.lock t

/-! ## order -/

/-- Per thread, the messages shown by the editor appear in the order of the `print` calls, and so
    do the directly written ones (each is a sub-sequence of the call history). -/
theorem C19_thread_order (s : Sys) (h : Reach s) (t : Nat) :
    (shownOf t s.out).Sublist (s.pr t).hist ∧ (directOf t s.out).Sublist (s.pr t).hist := by
  have hi := (reach_inv h).1
  constructor
  · refine List.Sublist.trans ?_ (hi.chanSub t)
    simp only [chanSeq, List.append_assoc]
    exact List.sublist_append_left _ _
  · refine List.Sublist.trans ?_ (hi.directSub t)
    exact List.sublist_append_left _ _

/-- The two routes are not ordered with respect to each other: a message that took the channel
    route just before the read ended (it waits there for the next read) is overtaken by the same
    thread's next message, written directly.  The property only orders messages sent during one
    wait, so this is recorded, not claimed as a defect. -/
def C19_inversion_run : List Label :=
  [.cmdRead, .eStoreTrue, .eMarkOn, .ePrompt, .issue 0 1, .issue 0 2, .pLoad 0,
   .keyWrite .enter, .keyArrive, .eKey, .eMarkOff, .eStoreFalse,
   .pLock 0, .pSend 0, .pByte 0, .pUnlock 0, .pLoad 0, .pDirect 0,
   .cmdRead, .eStoreTrue, .eMarkOn, .ePrompt, .eWake, .eReadByte, .eRecv, .eShow]

theorem C19_cross_route_inversion :
    ∃ s, Reach s ∧ (s.pr 0).hist = [1, 2] ∧
      s.out = [.rawOn, .prompt, .rawOff, .direct ⟨0, 2⟩, .rawOn, .prompt, .shown ⟨0, 1⟩] := by
  have h : (run init C19_inversion_run).map (fun s => ((s.pr 0).hist, s.out)) =
      some ([1, 2], [.rawOn, .prompt, .rawOff, .direct ⟨0, 2⟩, .rawOn, .prompt, .shown ⟨0, 1⟩]) := by decide +kernel
  obtain ⟨s, hr, hv⟩ := reach_of_run_map h
  exact ⟨s, hr, (Prod.mk.inj hv).1, (Prod.mk.inj hv).2⟩

/-! ## shown at the latest when the read waits -/

/-- When the editing thread is blocked in `select` (main loop, no key pending, pipe empty) and no
    printer is between `lock` and `unlock`, the channel is empty, and for every thread whose `print`
    calls have all returned, every message it ever handed over is on the terminal — exactly once
    (the terminal's messages of that thread are a permutation of its call history). -/
theorem C19_blocked_clean (s : Sys) (h : Reach s) (hb : s.blocked = true) (hl : s.wlock = none) :
    s.chan = none ∧
    ∀ t, (s.pr t).pc = .idle → (shownOf t s.out ++ directOf t s.out).Perm (s.pr t).hist := by
  obtain ⟨he, hk, hp⟩ := (blocked_iff s).1 hb
  -- a message in the channel would have its byte in the pipe
  have hch : s.chan = none := Option.not_isSome_iff_eq_none.1 fun hc =>
    absurd ((C19_message_wakes_reader s h he hk hl hc).1.symm.trans hp) Nat.one_ne_zero
  refine ⟨hch, fun t ht => ?_⟩
  have := C19_exactly_once s h t
  simpa [edHandOf, chanOf, rawHandOf, cookedHandOf, he, hch, ht] using this

/-- `blocked` is exactly "no step of the editing thread is enabled" in the main loop -/
theorem C19_blocked_iff (s : Sys) (he : s.epc = .waiting) :
    s.blocked = true ↔ step s .eKey = none ∧ step s .eWake = none := by
  simp only [Sys.blocked, he, step]
  cases hk : s.keys <;> cases hp : s.pipe <;> simp

/-- D21 (finding): the conclusion fails when the thread waits in a sub-loop (`next_key` instead of
    `wait_for_input`): reader asleep with no key pending, every `print` returned, the message still
    in the channel and not on the terminal. -/
def C19_d21_run : List Label :=
  [.cmdRead, .eStoreTrue, .eMarkOn, .ePrompt, .keyWrite .sub, .keyArrive, .eKey,
   .issue 0 7, .pLoad 0, .pLock 0, .pSend 0, .pByte 0, .pUnlock 0]

/-- the state after `C19_d21_run` is reachable, and no step of the editing thread is enabled in it -/
theorem C19_D21_reachable :
    ∃ s, Reach s ∧ s.epc = .sub ∧ s.keys = [] ∧ s.typing = none ∧ s.wlock = none ∧
      (s.pr 0).pc = .idle ∧ (s.pr 0).hist = [7] ∧ s.chan = some ⟨0, 7⟩ ∧ s.out = [.rawOn, .prompt] ∧
      (∀ l ∈ [Label.eKey, .eWake, .eReadByte, .eRecv, .eShow], step s l = none) := by
  have h : (run init C19_d21_run).map (fun s => (s.epc, s.keys, s.typing, s.wlock, (s.pr 0).pc, (s.pr 0).hist, s.chan, s.out,
        [Label.eKey, .eWake, .eReadByte, .eRecv, .eShow].all (fun l => (step s l).isNone))) =
      some (.sub, [], none, none, .idle, [7], some ⟨0, 7⟩, [.rawOn, .prompt], true) := by rfl
  obtain ⟨s, hr, hv⟩ := reach_of_run_map h
  simp only [Prod.mk.injEq] at hv
  obtain ⟨h1, h2, h3, h4, h5, h6, h7, h8, h9⟩ := hv
  exact ⟨s, hr, h1, h2, h3, h4, h5, h6, h7, h8,
    fun l hl => Option.isNone_iff_eq_none.1 (List.all_eq_true.1 h9 l hl)⟩

/-! ## never corrupts the line -/

/-- `external_print` (step `eShow`) does not touch the edited text, the typed keys or the results. -/
theorem C19_text_unaffected (s s' : Sys) (h : step s .eShow = some s') :
    s'.line = s.line ∧ s'.results = s.results ∧ s'.keys = s.keys :=
  have ⟨h1, h2, h3⟩ := step_text (l := .eShow) nofun h
  ⟨h1, h2, h3 nofun⟩

/-- no printer step touches the edited text either -/
theorem C19_printers_leave_text (s s' : Sys) (t : Nat) (l : Label)
    (hl : l ∈ [Label.pLoad t, .pDirect t, .pLock t, .pSend t, .pByte t, .pUnlock t])
    (h : step s l = some s') : s'.line = s.line ∧ s'.results = s.results ∧ s'.keys = s.keys := by
  have hne : l ≠ .eKey ∧ l ≠ .keyArrive := by
    simp only [List.mem_cons, List.not_mem_nil, or_false] at hl
    rcases hl with rfl | rfl | rfl | rfl | rfl | rfl <;> exact ⟨nofun, nofun⟩
  have ⟨h1, h2, h3⟩ := step_text hne.1 h
  exact ⟨h1, h2, h3 hne.2⟩

/-- Full statement of "never corrupts the line" for direct writes: a message is written directly
    only while no read has its prompt on the terminal.  False — D18. -/
def C19_no_direct_write_inside_read_statement : Prop :=
  ∀ (s s' : Sys) (t : Nat), Reach s → step s (.pDirect t) = some s' →
    s.epc = .outside ∨ s.epc = .enabling ∨ s.epc = .drawing ∨ s.epc = .disabling

/-- what does hold: a direct write happens only for a flag value `false` that the printer loaded
    (check-then-act: the flag may have changed since) -/
theorem C19_no_direct_write_inside_read_partial (s s' : Sys) (t : Nat)
    (h : step s (.pDirect t) = some s') : ∃ id, (s.pr t).pc = .cooked id := by
  cases step_iff.1 h with
  | pDirect _ id hpc => exact ⟨id, hpc⟩

/-- D18 (finding): a print that loaded `raw = false` just before the read stored `true` writes its
    message after the prompt has been drawn; the editor is waiting and repaints nothing. -/
def C19_d18_run : List Label :=
  [.cmdRead, .issue 0 7, .pLoad 0, .eStoreTrue, .eMarkOn, .ePrompt, .pDirect 0]

/-- the state after `C19_d18_run` is reachable: reader waiting, flag `true`, the direct write after
    the prompt -/
theorem C19_D18_reachable :
    ∃ s, Reach s ∧ s.epc = .waiting ∧ s.raw = true ∧ s.out = [.rawOn, .prompt, .direct ⟨0, 7⟩] := by
  have h : (run init C19_d18_run).map (fun s => (s.epc, s.raw, s.out)) =
      some (.waiting, true, [.rawOn, .prompt, .direct ⟨0, 7⟩]) := by decide +kernel
  obtain ⟨s, hr, hv⟩ := reach_of_run_map h
  simp only [Prod.mk.injEq] at hv
  exact ⟨s, hr, hv⟩

theorem C19_no_direct_write_inside_read_counterexample : ¬ C19_no_direct_write_inside_read_statement := by
  intro hst
  have h : (run init (C19_d18_run.take 6)).map (fun s => (s.epc, (step s (.pDirect 0)).isSome)) =
      some (.waiting, true) := by decide +kernel
  obtain ⟨s, hr, hv⟩ := reach_of_run_map h
  obtain ⟨he, hen⟩ := Prod.mk.inj hv
  obtain ⟨s', hs'⟩ := Option.isSome_iff_exists.mp hen
  have := hst s s' 0 hr hs'
  simp [he] at this

/-- a run in which a message sent during the wait is shown, after which the reader is blocked with
    the channel empty (the premises of `C19_blocked_clean` are satisfiable with a shown message) -/
example :
    (run init [.cmdRead, .eStoreTrue, .eMarkOn, .ePrompt, .issue 0 7, .pLoad 0, .pLock 0, .pSend 0, .pByte 0,
        .pUnlock 0, .eWake, .eReadByte, .eRecv, .eShow]).map
      (fun s => (s.blocked, s.wlock, s.chan, s.out, (s.pr 0).hist)) =
    some (true, none, none, [.rawOn, .prompt, .shown ⟨0, 7⟩], [7]) := by rfl

/-- `send` blocks while the channel is full: the second printer cannot proceed -/
example :
    (run init [.cmdRead, .eStoreTrue, .issue 0 1, .issue 1 2, .pLoad 0, .pLoad 1, .pLock 0, .pSend 0, .pByte 0,
        .pUnlock 0, .pLock 1]).bind (fun s => step s (.pSend 1)) |>.isNone := by decide

/-- In every reachable state the shared raw-mode flag is `true` exactly while the editing thread is
    between the two flag stores of a read (`epc ≠ outside`): the flag a printer loads tells it
    truthfully whether a read is active AT THE MOMENT OF THE LOAD. -/
theorem C19_raw_flag_tracks_read (s : Sys) (h : Reach s) : s.raw = true ↔ s.epc ≠ .outside :=
  reach_rawInv h

/-- Messages printed when no read is active go straight to the terminal, exactly once: in every
    reachable state with no read in progress (`epc = outside`), an idle printer thread `t` (any `t`)
    whose next message is `id` can run its whole `print` call (`pLoad`, `pDirect`) without waiting
    for anybody; the call appends exactly `direct ⟨t,id⟩` to the terminal and touches neither the
    channel, the wake-up pipe, the mutex, the editor nor the edited text. -/
theorem C19_print_between_reads_goes_direct (s : Sys) (h : Reach s) (t id : Nat) (q : List Nat)
    (he : s.epc = .outside) (hpc : (s.pr t).pc = .idle) (hq : (s.pr t).queue = id :: q) :
    ∃ s', run s [.pLoad t, .pDirect t] = some s' ∧ s'.out = s.out ++ [.direct ⟨t, id⟩] ∧
      s'.chan = s.chan ∧ s'.pipe = s.pipe ∧ s'.wlock = s.wlock ∧ s'.epc = s.epc ∧ s'.line = s.line ∧
      (s'.pr t).pc = .idle ∧ (s'.pr t).queue = q ∧ (s'.pr t).hist = (s.pr t).hist ++ [id] := by
  have hr : s.raw = false := Bool.eq_false_iff.2 fun hh => (C19_raw_flag_tracks_read s h).1 hh he
  simp [run, step, hpc, hq, hr, Sys.setPr]

/-- D18 stated precisely: the route of a `print` call is decided by its flag load alone.  A load
    made while no read is active (`epc = outside`) takes the direct route, a load made at any moment
    of a read (from the `raw := true` store up to the `raw := false` store) takes the channel route.
    With `C19_no_direct_write_inside_read_partial` (a direct write needs a loaded `false`) and
    `C19_cooked_print_never_blocked` (the loaded value is kept until the write): the ONLY direct writes
    that can land inside a read (D18) are those of `print` calls whose flag load preceded that
    read's `raw := true` store. -/
theorem C19_load_route (s s' : Sys) (h : Reach s) (t : Nat) (hs : step s (.pLoad t) = some s') :
    (s.epc = .outside → ∃ id, (s'.pr t).pc = .cooked id) ∧
    (s.epc ≠ .outside → ∃ id, (s'.pr t).pc = .rawSeen id) := by
  have hr := C19_raw_flag_tracks_read s h
  cases step_iff.1 hs with | pLoad _ id q hpc hq => ?_
  constructor
  · intro he
    have : s.raw = false := Bool.eq_false_iff.2 fun hh => hr.1 hh he
    exact ⟨id, by simp [this]⟩
  · intro he
    exact ⟨id, by simp [hr.2 he]⟩

/-- The invariant "reader blocked in the main read with no key pending ⇒ no message pending", without
    the side condition `wlock = none` of `C19_blocked_clean`: in every reachable state in which the
    editing thread is blocked in `select` (main loop, no key pending, pipe empty) and a message IS in
    the channel, the mutex is held by a printer that is exactly between its `send` and its wake-up
    byte, and that printer's next step (`pByte`) is enabled — it wakes the reader.  So the only
    blocked-with-pending states are this transient one. -/
theorem C19_blocked_pending_only_mid_print (s : Sys) (h : Reach s) (hb : s.blocked = true) (m : Msg)
    (hc : s.chan = some m) :
    ∃ t, s.wlock = some t ∧ (s.pr t).pc = .sent ∧ (step s (.pByte t)).isSome = true := by
  obtain ⟨he, _, hp⟩ := (blocked_iff s).1 hb
  have h1 := C19_pipe_chan s h
  simp only [gotFlag, chanFlag, he, hp, hc] at h1
  unfold sentFlag at h1
  cases hl : s.wlock with
  | none => simp [hl] at h1
  | some t =>
    simp only [hl] at h1
    by_cases hs : (s.pr t).pc = .sent
    · exact ⟨t, rfl, hs, (Step.pByte t hs).enabled⟩
    · simp [hs] at h1

/-- No deadlock with a message pending, and D21 named as the only in-read exception: in every
    reachable state whose channel holds a message, some step of the protocol itself (editing thread
    or a printer — not the application, not the keyboard) is enabled, EXCEPT in exactly two kinds of
    quiescent states: the reader waits in a sub-loop with no key pending (finding D21), or no read is
    in progress and none has been requested (the message waits for the next read, as the property
    allows). -/
theorem C19_pending_message_no_deadlock (s : Sys) (h : Reach s) (hc : s.chan.isSome = true) :
    (∃ l, l.isEnv = false ∧ (step s l).isSome = true) ∨
    (s.epc = .sub ∧ s.keys = []) ∨ (s.epc = .outside ∧ s.reads = 0) := by
  rcases ed_enabled_or s (reach_inv h).2.woken with ⟨e, he, hen⟩ | hb | hq
  · exact .inl ⟨e, by cases e <;> first | rfl | (cases he), hen⟩
  · obtain ⟨m, hm⟩ := Option.isSome_iff_exists.mp hc
    obtain ⟨t, _, _, hs⟩ := C19_blocked_pending_only_mid_print s h hb m hm
    exact .inl ⟨.pByte t, rfl, hs⟩
  · exact .inr hq

/-- The next reader steps show the pending message: in every reachable state where the reader is in
    the main loop with no key pending, a message `m` is in the channel and its `print` call has
    released the mutex, the editing thread's next four steps (`select` returns, byte read, `try_recv`,
    `external_print`) are all enabled in a row; they append exactly `shown m`, leave channel and pipe
    empty, the reader blocked again, and the edited text, the typed keys, the returned lines and all
    printer threads untouched. -/
theorem C19_pending_message_shown_by_next_reader_steps (s : Sys) (h : Reach s) (he : s.epc = .waiting)
    (hk : s.keys = []) (hl : s.wlock = none) (m : Msg) (hc : s.chan = some m) :
    ∃ s', run s [.eWake, .eReadByte, .eRecv, .eShow] = some s' ∧ s'.out = s.out ++ [.shown m] ∧
      s'.chan = none ∧ s'.pipe = 0 ∧ s'.epc = .waiting ∧ s'.blocked = true ∧
      s'.line = s.line ∧ s'.keys = s.keys ∧ s'.results = s.results ∧ s'.pr = s.pr := by
  have hp := (C19_message_wakes_reader s h he hk hl (by simp [hc])).1
  simp [run, step, he, hk, hp, hc, Sys.blocked]

/-- Nobody but the keyboard can take the delivery away from the reader: a step of any other thread
    (any printer, the application; `l ∉ edLabels`) never disables an enabled delivery step of the
    editing thread (`eWake`, `eReadByte`, `eRecv`, `eShow`); the single exception is a key ARRIVING
    while the reader is still in `select` ("tty first": the key is handled before the message). -/
theorem C19_delivery_not_disabled (s s1 : Sys) (l e : Label) (hs : step s l = some s1)
    (hl : l ∉ edLabels) (he : e ∈ [Label.eWake, .eReadByte, .eRecv, .eShow])
    (hk : e = .eWake → l ≠ .keyArrive) (hen : (step s e).isSome = true) :
    (step s1 e).isSome = true := by
  have hed : l.isEd = false := by
    cases l <;> first | rfl | exact absurd (by decide) hl
  obtain ⟨h1, _, h2, h3⟩ := step_notEd hed hs
  have h4 := (step_text (fun e => by rw [e] at hed; cases hed) hs).2.2
  obtain ⟨s2, hs2⟩ := Option.isSome_iff_exists.1 hen
  have en : ∀ {s' : Sys}, Step s1 e s' → (step s1 e).isSome = true := Step.enabled
  have pos : ∀ {p : Nat}, s.pipe = p + 1 → ∃ p', s1.pipe = p' + 1 := fun hp =>
    Nat.exists_eq_add_one.2 (Nat.lt_of_lt_of_le (hp ▸ Nat.succ_pos _) h2)
  simp only [List.mem_cons, List.not_mem_nil, or_false] at he
  rcases he with rfl | rfl | rfl | rfl
  · cases step_iff.1 hs2 with | eWake p he hk' hp => ?_
    obtain ⟨p', hp'⟩ := pos hp
    exact en (.eWake p' (h1.trans he) ((h4 (hk rfl)).trans hk') hp')
  · cases step_iff.1 hs2 with | eReadByte p he hp => ?_
    obtain ⟨p', hp'⟩ := pos hp
    exact en (.eReadByte p' (h1.trans he) hp')
  · cases step_iff.1 hs2 with
    | eRecv m he hc => exact en (.eRecv m (h1.trans he) ((h3 (by rw [hc]; rfl)).trans hc))
    | eRecvNone he hc =>
      cases hc1 : s1.chan with
      | none => exact en (.eRecvNone (h1.trans he) hc1)
      | some m => exact en (.eRecv m (h1.trans he) hc1)
  · cases step_iff.1 hs2 with | eShow m he => ?_
    exact en (.eShow m (h1.trans he))

/-- The direct route is wait-free and keeps its message: a printer that loaded `raw = false` for
    message `id` can always perform its write (no lock, no channel), the write appends exactly
    `direct ⟨t,id⟩` and changes nothing else of the protocol state; and no step of any other thread
    or of the editor takes the message out of its hand before that. -/
theorem C19_cooked_print_never_blocked (s : Sys) (t id : Nat) (hpc : (s.pr t).pc = .cooked id) :
    (∃ s', step s (.pDirect t) = some s' ∧ s'.out = s.out ++ [.direct ⟨t, id⟩] ∧ (s'.pr t).pc = .idle ∧
        s'.chan = s.chan ∧ s'.pipe = s.pipe ∧ s'.line = s.line ∧ s'.epc = s.epc) ∧
    (∀ l s1, l ≠ .pDirect t → step s l = some s1 → (s1.pr t).pc = .cooked id) := by
  constructor
  · exact ⟨_, step_iff.2 (.pDirect t id hpc), rfl, by rw [setPr_pr, if_pos rfl], rfl, rfl, rfl, rfl⟩
  · intro l s1 hne hs
    by_cases ht : l.thread = some t
    · -- of its own steps only `issue` (which keeps the program counter) and `pDirect` are enabled
      have hpc' : ∀ {pc : PPc}, (s.pr t).pc = pc → pc = .cooked id := fun h => h.symm.trans hpc
      cases step_iff.1 hs with
      | issue => cases ht; rw [setPr_pr, if_pos rfl]; exact hpc
      | pDirect => cases ht; exact absurd rfl hne
      | pLoad _ _ _ h | pLock _ _ h | pSend _ _ h | pByte _ h | pUnlock _ h => cases ht; cases hpc' h
      | _ => cases ht
    · rw [step_pr_other ht hs]; exact hpc

/-- D21 as the ONLY exception to "shown at the latest when a read next waits with no key pending":
    in every reachable state in which a message is in the channel, its `print` call has released the
    mutex, and the editing thread is asleep (none of its steps is enabled), either the thread sits in
    a sub-loop with no key pending (finding D21), or no read is in progress and none is requested.
    In particular a reader asleep in the MAIN loop never has a returned `print`'s message pending. -/
theorem C19_reader_asleep_with_pending_message_only_D21 (s : Sys) (h : Reach s)
    (hc : s.chan.isSome = true) (hl : s.wlock = none)
    (hs : ∀ e : Label, e.isEd = true → step s e = none) :
    (s.epc = .sub ∧ s.keys = []) ∨ (s.epc = .outside ∧ s.reads = 0) := by
  rcases ed_enabled_or s (reach_inv h).2.woken with ⟨e, he, hen⟩ | hb | hq
  · rw [hs e he] at hen; cases hen
  · obtain ⟨he, hk, _⟩ := (blocked_iff s).1 hb
    have := (C19_message_wakes_reader s h he hk hl hc).2
    rw [hs .eWake rfl] at this; cases this
  · exact hq

/-- Liveness in the model, over ALL interleavings: start in any reachable state where the reader is
    in the main loop with no key pending, message `m` is in the channel and its `print` call has
    released the mutex.  Let the system run ANY sequence of steps `ls` — any number of printer threads
    making progress or starting new `print` calls, the application issuing messages and read requests,
    keys being written — in which no key ARRIVES.  Then
    (1) until `shown m` is on the terminal the editing thread always has a step enabled (it is never
        blocked and nobody can disable it), and
    (2) as soon as `ls` contains four steps of the editing thread, `shown m` has been appended to the
        terminal output (it is among the events written since the start state).
    (If a key does arrive first, `select` hands the key over first; the property allows that: "at the
    latest when a read next waits with no key pending".) -/
theorem C19_pending_message_shown_under_any_interleaving (s : Sys) (h : Reach s) (he : s.epc = .waiting)
    (hk : s.keys = []) (hl : s.wlock = none) (m : Msg) (hc : s.chan = some m)
    (ls : List Label) (s' : Sys) (hr : run s ls = some s') (hna : Label.keyArrive ∉ ls) :
    (Ev.shown m ∈ s'.out.drop s.out.length ∨ ∃ e : Label, e.isEd = true ∧ (step s' e).isSome = true) ∧
    (4 ≤ (ls.filter Label.isEd).length → Ev.shown m ∈ s'.out.drop s.out.length) := by
  have hp := (C19_message_wakes_reader s h he hk hl (by simp [hc])).1
  have hd : Deliv m s := Or.inl ⟨he, hk, by omega, hc⟩
  rcases deliv_run ls s s' hd hna hr with ⟨hd', hph⟩ | hsh
  · refine ⟨Or.inr (deliv_enabled hd'), fun h4 => ?_⟩
    have := dphase_le s
    have h0 : 1 ≤ dphase s' := by
      rcases hd' with ⟨e, _⟩ | ⟨e, _⟩ | ⟨e, _⟩ | e <;> simp [dphase, e]
    omega
  · exact ⟨Or.inl hsh, fun _ => hsh⟩

/-- The edited text is unaffected by the whole printer machinery, over arbitrary interleavings: along
    ANY run in which the editing thread reads no key (no `eKey` step) — whatever any number of printer
    threads do, however many messages are shown (`eWake`/`eReadByte`/`eRecv`/`eShow`), reads starting
    or ending — the line being edited and the lines returned so far stay exactly as they were; only
    keys typed by the user change the text. -/
theorem C19_text_changes_only_by_keys : ∀ (ls : List Label) (s s' : Sys), run s ls = some s' →
    Label.eKey ∉ ls → s'.line = s.line ∧ s'.results = s.results :=
  fun ls _ _ h hk =>
    run_rel (R := fun a b => b.line = a.line ∧ b.results = a.results) (P := (· ≠ .eKey)) (fun _ => ⟨rfl, rfl⟩)
      (fun h1 h2 => ⟨h2.1.trans h1.1, h2.2.trans h1.2⟩) (fun hl h => ⟨(step_text hl h).1, (step_text hl h).2.1⟩)
      ls (fun _ hl e => hk (e ▸ hl)) h

/-- premises of `C19_pending_message_shown_under_any_interleaving` / `…_shown_by_next_reader_steps`
    hold after this run (reader waiting, no key, mutex free, message 7 of thread 0 in the channel);
    continuing with an interleaving of a second and third printer thread, a key being written (not yet
    arrived) and the four editor steps shows the message. -/
example :
    (run init [.cmdRead, .eStoreTrue, .eMarkOn, .ePrompt, .issue 0 7, .pLoad 0, .pLock 0, .pSend 0, .pByte 0,
        .pUnlock 0]).map (fun s => (s.epc, s.keys, s.wlock, s.chan)) =
      some (.waiting, [], none, some ⟨0, 7⟩) ∧
    (run init ([.cmdRead, .eStoreTrue, .eMarkOn, .ePrompt, .issue 0 7, .pLoad 0, .pLock 0, .pSend 0, .pByte 0,
        .pUnlock 0] ++
        [.issue 1 8, .eWake, .pLoad 1, .issue 2 9, .pLock 1, .eReadByte, .keyWrite .enter, .pLoad 2, .eRecv,
         .pSend 1, .eShow])).map (fun s => s.out) =
      some [.rawOn, .prompt, .shown ⟨0, 7⟩] := by
  constructor <;> rfl

/-- premises of `C19_blocked_pending_only_mid_print`: reader blocked, message in the channel, the
    printer between `send` and the wake-up byte -/
example :
    (run init [.cmdRead, .eStoreTrue, .eMarkOn, .ePrompt, .issue 3 7, .pLoad 3, .pLock 3, .pSend 3]).map
      (fun s => (s.blocked, s.chan, s.wlock)) = some (true, some ⟨3, 7⟩, some 3) := by rfl

/-- premises of `C19_print_between_reads_goes_direct` (after a complete read, thread 5) -/
example :
    (run init [.cmdRead, .eStoreTrue, .eMarkOn, .ePrompt, .keyWrite .enter, .keyArrive, .eKey, .eMarkOff,
        .eStoreFalse, .issue 5 1]).map (fun s => (s.epc, (s.pr 5).pc, (s.pr 5).queue)) =
      some (.outside, .idle, [1]) := by rfl

/-- both branches of `C19_load_route` occur: a load outside a read, a load inside one -/
example :
    (run init [.issue 0 1, .pLoad 0]).map (fun s => (s.pr 0).pc) = some (.cooked 1) ∧
    (run init [.cmdRead, .eStoreTrue, .issue 0 1, .pLoad 0]).map (fun s => (s.pr 0).pc) = some (.rawSeen 1) := by
  constructor <;> rfl

/-- the two exceptional states of `C19_reader_asleep_with_pending_message_only_D21` are both reachable:
    D21 is `C19_D21_reachable`; "between reads" is the state after the first 16 steps of
    `C19_inversion_run` (message 1 in the channel, no read active, none requested) -/
example :
    (run init (C19_inversion_run.take 16)).map (fun s => (s.epc, s.reads, s.chan, s.wlock)) =
      some (.outside, 0, some ⟨0, 1⟩, none) := by rfl
