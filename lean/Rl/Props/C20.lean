/-
  Property C20 — the SQLite history stores entries durably in order and its searches are safe.
  Model: Rl/Sqlite.lean (transliteration of src/sqlite_history.rs and HistoryHinter).
  Spec: Rl/Spec/Sqlite.lean (written from the property text).
  Lemmas: Rl/Lemmas/Sqlite.lean (the model alone: searches, the walk, `Inv`),
  Rl/Lemmas/SqliteRefine.lean (the model against the declarative store: `Hist.abs`, `Good2`, `Sim`,
  `step_sim`).
-/
import Rl.Sqlite
import Rl.Spec.Sqlite
import Rl.Lemmas.Sqlite
import Rl.Lemmas.SqliteRefine
import Rl.Lemmas.History
open Rl Rl.Sq

/-- The refusal rule is the default history's without the consecutive-duplicate clause: a line is
    refused iff it is empty, the size limit is zero, or it starts with a blank while ignore-space
    is on. -/
theorem C20_refusal (ws : Char → Bool) (h : Hist) (l : Text) :
    (h.add ws l).2 = false ↔
      (l = [] ∨ h.maxLen = 0 ∨ (h.ignoreSpace = true ∧ ∃ c t, l = c :: t ∧ ws c = true)) := by
  unfold Hist.add Hist.ignore
  cases l with
  | nil => simp
  | cons c t =>
    by_cases hm : h.maxLen = 0
    · simp [hm]
    · cases hsp : h.ignoreSpace <;> cases hw : ws c <;> simp [hm, hw, Hist.addEntry]

/-- Over every sequence of public operations (adds, limits, toggles, reopenings, abrupt
    terminations, reads, searches) on a freshly created database file, the table stays in rowid
    order, rowids start at 1 and `len` (the cached largest rowid) bounds every rowid — the
    invariant `Inv` the walk relies on. Holds for every FTS oracle. -/
theorem C20_sorted (ws : Char → Bool) (fts : Text → Text → Bool) (c : Cfg) (ops : List QOp) :
    Inv ((Hist.openDb c {}).run ws fts ops).1 :=
  run_inv ws fts (fresh_inv c) ops

/-- The editor's walk — previous-history from the line being edited (index `len`) until it stops,
    then next-history until it is back — shows every stored row exactly once on the way down,
    newest first, and every row but the oldest exactly once on the way back, oldest first; the
    index shown for a row is `rowid - 1`. Gaps in the rowids do not matter. -/
theorem C20_walk (h : Hist) (hi : Inv h) (fuel : Nat) (hf : h.db.rows.length < fuel) :
    walk h fuel = (h.db.rows.reverse.map shown, h.db.rows.tail.map shown) :=
  walk_eq hi hf

/-- … in particular after any operation sequence from a fresh database. -/
theorem C20_walk_run (ws : Char → Bool) (fts : Text → Text → Bool) (c : Cfg) (ops : List QOp) (fuel : Nat)
    (hf : ((Hist.openDb c {}).run ws fts ops).1.db.rows.length < fuel) :
    walk ((Hist.openDb c {}).run ws fts ops).1 fuel =
      (((Hist.openDb c {}).run ws fts ops).1.db.rows.reverse.map shown,
       ((Hist.openDb c {}).run ws fts ops).1.db.rows.tail.map shown) :=
  walk_eq (C20_sorted ws fts c ops) hf

/-- An accepted line becomes the newest row: it gets a rowid above every stored one, all other
    rows keep their order, and with ignore-dups on the older occurrence of the same line *in the
    same session* (and only that) is gone — a line re-entered in a session counts as its newest
    occurrence. The session is the connection's, created on its first accepted line. -/
theorem C20_order (ws : Char → Bool) (h : Hist) (l : Text) (hi : Inv h) (hidx : h.db.index = h.ignoreDups)
    (ha : (h.add ws l).2 = true) :
    ∃ sid rid, sid = (if h.sessionId = 0 then h.db.sessions + 1 else h.sessionId) ∧
      (h.add ws l).1.db.rows =
        (if h.ignoreDups then h.db.rows.filter (fun r => !(r.entry == l && r.session == sid)) else h.db.rows)
          ++ [{ rowid := rid, session := sid, entry := l }] ∧
      (∀ r ∈ h.db.rows, r.rowid < rid) ∧ (h.add ws l).1.len = rid := by
  obtain ⟨e1, e2, e3, _⟩ := createSession_full hi.init hidx
  unfold Hist.add at ha ⊢
  split at ha
  · simp at ha
  · rename_i hig
    simp only [hig, Bool.false_eq_true, if_false]
    refine ⟨h.createSession.sessionId, maxRowid h.db.rows + 1, e3, ?_, ?_, ?_⟩
    · simp only [Hist.addEntry, e1, e2, sameKey]
    · intro r hr
      have := le_maxRowid hi.sorted hr
      omega
    · simp [Hist.addEntry, Hist.len, e1]

/-- Closing and reopening the file (any configuration) keeps the table, provided turning
    ignore-dups on does not have to collapse same-session duplicates recorded while it was off;
    hence the walk after reopening shows the same rows in the same order. Durability of the
    committed rows themselves is SQLite's (trusted, exercised by the harness). -/
theorem C20_reopen (h : Hist) (hi : Inv h) (c : Cfg)
    (hnd : c.ignoreDups = true → h.db.index = false → hasDup h.db.rows = false)
    (fuel : Nat) (hf : h.db.rows.length < fuel) :
    (Hist.openDb c h.db).db.rows = h.db.rows ∧ walk (Hist.openDb c h.db) fuel = walk h fuel := by
  have hr := openDb_rows c hi.init hnd
  have hi' : Inv (Hist.openDb c h.db) := openDb_inv c hi
  refine ⟨hr, ?_⟩
  rw [walk_eq hi' (by rw [hr]; exact hf), walk_eq hi hf, hr]

/-- When same-session duplicates were recorded with ignore-dups off, turning it on (by
    `ignore_dups(true)` or by reopening with it) keeps exactly the newest occurrence of every
    (line, session) and still succeeds. -/
theorem C20_dedupe (h : Hist) (hoff : h.db.index = false) (hdup : hasDup h.db.rows = true) :
    ({ h with ignoreDups := true } : Hist).setIgnoreDupsIndex.db.rows = dedupe h.db.rows ∧
    ({ h with ignoreDups := true } : Hist).setIgnoreDupsIndex.db.index = true := by
  simp [Hist.setIgnoreDupsIndex, hoff, hdup]

/-- The text never reaches the FTS query parser as syntax: the query is one quoted phrase whose
    body holds only token characters and blanks, an optional leading `^` (prefix search) and an
    optional final `*` — no quote, parenthesis, operator or column filter can come from the text;
    a text without token characters is not sent at all. -/
theorem C20_phrase_inert (t : Text) (sw : Bool) (q : Text) (h : ftsPhrase t sw = some q) :
    ∃ body, q = ['"'] ++ (if sw then ['^'] else []) ++ body
                ++ (if (t.getLast?.map isTok).getD false then ['*'] else []) ++ ['"'] ∧
      body.length = t.length ∧ (∀ c ∈ body, isTok c = true ∨ c = ' ') ∧ (∃ c ∈ t, isTok c = true) := by
  unfold ftsPhrase at h
  split at h
  · simp at h
  · rename_i hany
    simp at h
    refine ⟨t.map (fun c => if isTok c then c else ' '), by rw [← h]; simp, by simp, ?_, ?_⟩
    · intro c hc
      rw [List.mem_map] at hc
      obtain ⟨x, _, rfl⟩ := hc
      by_cases hx : isTok x = true <;> simp [hx]
    · simpa using hany

/-- A substring search answers nothing, or a stored entry (on the requested side of `start`)
    that really contains the text ignoring ASCII case, at a byte offset on a character boundary
    with the whole occurrence inside the entry. There is no error outcome. -/
theorem C20_search_safe (fts : Text → Text → Bool) (h : Hist) (t : Text) (s : Nat) (d : Dir)
    (i : Nat) (e : Text) (pos : Nat) (hs : (h.search fts t s d).2 = some (i, e, pos)) :
    t ≠ [] ∧
    (∃ r, r ∈ h.db.rows ∧ r.entry = e ∧ i = r.rowid - 1 ∧
      (d = .forward → s + 1 ≤ r.rowid) ∧ (d = .reverse → r.rowid ≤ s + 1)) ∧
    (∃ a b, e = a ++ b ∧ pos = blen a ∧ lower t <+: lower b) ∧
    pos + blen t ≤ blen e ∧ Spec.Sq.containsAt t e pos = true := by
  obtain ⟨ht, r, hr, he, hi, hp, hf, hrv⟩ := searchMatch_some hs
  obtain ⟨a, b, hab, hpos, hpre⟩ := matchPos_search hp
  refine ⟨ht, ⟨r, hr, he, hi, hf, hrv⟩, ⟨a, b, hab, hpos, hpre⟩, ?_, ?_⟩
  · obtain ⟨k, hk⟩ := hpre
    have : blen b = blen t + blen k := by
      rw [← blen_lower b, ← hk, blen_append, blen_lower]
    rw [hab, hpos, blen_append]; omega
  · rw [hab, hpos]; exact containsAt_append hpre

/-- A prefix search answers nothing, or a stored entry that really starts with the text ignoring
    ASCII case; the offset is the length of the text, which is a character boundary inside the entry. -/
theorem C20_starts_with_safe (fts : Text → Text → Bool) (h : Hist) (t : Text) (s : Nat) (d : Dir)
    (i : Nat) (e : Text) (pos : Nat) (hs : (h.startsWith fts t s d).2 = some (i, e, pos)) :
    t ≠ [] ∧
    (∃ r, r ∈ h.db.rows ∧ r.entry = e ∧ i = r.rowid - 1 ∧
      (d = .forward → s + 1 ≤ r.rowid) ∧ (d = .reverse → r.rowid ≤ s + 1)) ∧
    (∃ a b, e = a ++ b ∧ pos = blen a ∧ lower a = lower t) ∧
    pos = blen t ∧ pos ≤ blen e ∧ IsBoundary e pos ∧ Spec.Sq.startsAt t e pos = true := by
  obtain ⟨ht, r, hr, he, hi, hp, hf, hrv⟩ := searchMatch_some hs
  obtain ⟨a, b, hab, hpos, hlo⟩ := matchPos_startsWith hp
  refine ⟨ht, ⟨r, hr, he, hi, hf, hrv⟩, ⟨a, b, hab, hpos, hlo⟩, ?_, ?_, ⟨a, b, hab, hpos⟩, ?_⟩
  · rw [hpos]; exact blen_eq_of_lower_eq hlo
  · rw [hab, hpos, blen_append]; omega
  · rw [hab, hpos]; exact startsAt_append hlo

/-- `HistoryHinter` on the SQLite history cannot panic: the slice `entry[pos..]` it takes is at
    the end of a prefix of the entry. -/
theorem C20_hint_no_panic (fts : Text → Text → Bool) (h : Hist) (line : Text) :
    (h.hint fts line (blen line)).2 ≠ none := by
  rcases hint_cases fts h line with e | ⟨_, _, _, _, _, _, e⟩ <;> rw [e] <;> exact Option.some_ne_none _

/-- D20, as a counter-example to the same statement: had the offset been
    taken from the text alone (`pos = len(text)`) for the candidate FTS proposes for `ls!!!!!!!!`,
    the slice would be out of range. -/
example : splitAtByte "ls".toList (blen "ls!!!!!!!!".toList) = none := by decide

/-- rowids become sparse after a duplicate and a trim; the walk still shows each line once -/
example :
    let h := ((Hist.openDb ⟨100, false, true⟩ {}).run (fun c => c == ' ') ftsSimple
      [.add "a".toList, .add "b".toList, .add "a".toList, .add "c".toList, .setMax 2]).1
    h.db.rows.map (·.rowid) = [3, 4] ∧
    walk h 10 = ([(3, "c".toList), (2, "a".toList)], [(3, "c".toList)]) := by decide

/-- the D20 witnesses: no error outcome exists, `-l` does not find `ls`,
    `ls!!!!!!!!` finds nothing and the hinter answers "no hint" -/
example :
    let h := ((Hist.openDb ⟨100, false, true⟩ {}).run (fun c => c == ' ') ftsSimple [.add "ls".toList]).1
    (h.search ftsSimple "-l".toList 0 .forward).2 = none ∧
    (h.search ftsSimple "\"".toList 0 .forward).2 = none ∧
    (h.startsWith ftsSimple "ls!!!!!!!!".toList 0 .forward).2 = none ∧
    (h.hint ftsSimple "ls!!!!!!!!".toList 10).2 = some none ∧
    (h.startsWith ftsSimple "L".toList 0 .reverse).2 = some (0, "ls".toList, 1) := by decide

/-- The refusal rules are those of the default (in-memory) history: with ignore-dups off the two
    `add`s give the same verdict on every line whenever size limit and ignore-space agree; with
    ignore-dups on the default history additionally refuses a repeat of its newest entry (the
    SQLite history accepts it and keeps the newest occurrence only, see `C20_order`). No
    hypothesis on either history's content. -/
theorem C20_refusal_eq_default (ws : Char → Bool) (h : Hist) (m : MemHist) (l : Text)
    (hm : m.maxLen = h.maxLen) (hs : m.ignoreSpace = h.ignoreSpace) :
    (m.ignoreDups = false → (h.add ws l).2 = (m.add ws l).2) ∧
    ((m.add ws l).2 = false ↔
      ((h.add ws l).2 = false ∨ (m.ignoreDups = true ∧ m.entries.getLast? = some l))) := by
  have key : (m.add ws l).2 = false ↔
      ((h.add ws l).2 = false ∨ (m.ignoreDups = true ∧ m.entries.getLast? = some l)) := by
    rw [C20_refusal, add_refused_iff, hm, hs]
    simp only [or_assoc]
  refine ⟨fun hd => ?_, key⟩
  rw [hd] at key
  cases hh : (h.add ws l).2 <;> cases hmm : (m.add ws l).2 <;> simp [hh, hmm] at key ⊢

example : (MemHist.new 5 true false).maxLen = (Hist.openDb ⟨5, true, false⟩ {}).maxLen := rfl

/-- Over every sequence of public operations on a freshly created database file the unique index
    exists exactly when ignore-dups is on (together with `Inv`). This discharges the hypothesis
    `h.db.index = h.ignoreDups` of `C20_order` for every reachable connection. -/
theorem C20_index_follows_setting (ws : Char → Bool) (fts : Text → Text → Bool) (c : Cfg) (ops : List QOp) :
    Good ((Hist.openDb c {}).run ws fts ops).1 :=
  (run_sim ws fts (fresh_good2 c) (fresh_sim c) ops).1.good

/-- Refinement, one step: on a connection whose table is in rowid order and whose index follows the
    setting (every reachable connection, `C20_index_follows_setting`), `add` does to the content
    of the table — the rows as (session, line) pairs in order, rowids and their holes forgotten —
    exactly what the declarative store `Spec.Sq.addLine` prescribes, with the same verdict. -/
theorem C20_add_refines (ws : Char → Bool) (h : Hist) (hg : Good h) (l : Text) :
    (h.add ws l).1.abs = (Spec.Sq.addLine ws h.abs l).1 ∧
    (h.add ws l).2 = (Spec.Sq.addLine ws h.abs l).2 :=
  ⟨(add_abs ws hg l).1, (add_abs ws hg l).2.1⟩

/-- Refinement, a whole session: after ANY sequence of public operations on a fresh database file,
    entering any list of lines gives the verdicts and the table content (as (session, line) pairs
    in order) that the declarative store `Spec.Sq.addLines` computes from the content before —
    refusals, order of entry, and same-session re-entries counting as their newest occurrence. -/
theorem C20_session_refines (ws : Char → Bool) (fts : Text → Text → Bool) (c : Cfg) (ops : List QOp)
    (ls : List Text) :
    let h := ((Hist.openDb c {}).run ws fts ops).1
    (addAll ws h ls).1.abs = (Spec.Sq.addLines ws h.abs ls).1 ∧
    (addAll ws h ls).2 = (Spec.Sq.addLines ws h.abs ls).2 := by
  intro h
  have := addAll_abs ws (C20_index_follows_setting ws fts c ops) ls
  exact ⟨this.1, this.2.1⟩

/-- Durability in order, for arbitrary histories: take the connection after ANY sequence of public
    operations on a fresh database file, enter any list of lines `ls`, close, and reopen with any
    configuration `c'` (if `c'` turns ignore-dups on, the table must not hold same-session
    duplicates recorded while it was off — otherwise `C20_dedupe` applies). Then walking from the
    newest entry to the oldest shows exactly the lines of the declarative store
    (`Spec.Sq.addLines` on the content before), each stored line once, newest first, and the walk
    back shows the same rows but the oldest, oldest first. -/
theorem C20_session_walk_reopen (ws : Char → Bool) (fts : Text → Text → Bool) (c : Cfg) (ops : List QOp)
    (ls : List Text) (c' : Cfg) (fuel : Nat) :
    let h := ((Hist.openDb c {}).run ws fts ops).1
    let h' := (addAll ws h ls).1
    (c'.ignoreDups = true → h'.db.index = false → hasDup h'.db.rows = false) →
    h'.db.rows.length < fuel →
    ((walk (Hist.openDb c' h'.db) fuel).1.map (·.2) =
        (Spec.Sq.lines (Spec.Sq.addLines ws h.abs ls).1).reverse ∧
     (walk (Hist.openDb c' h'.db) fuel).2 = (walk (Hist.openDb c' h'.db) fuel).1.reverse.drop 1) := by
  intro h h' hnd hf
  obtain ⟨a1, _, a3⟩ := addAll_abs ws (C20_index_follows_setting ws fts c ops) ls
  have hw := (C20_reopen h' a3.inv c' hnd fuel hf).2
  rw [hw, C20_walk h' a3.inv fuel hf]
  refine ⟨?_, ?_⟩
  · rw [← a1]
    simp only [Spec.Sq.lines, Hist.abs, List.map_reverse, List.map_map]
    congr 1
  · simp only [← List.map_reverse, List.reverse_reverse, ← List.map_drop, List.drop_one]

/-- non-vacuity: a run with a duplicate, a trim and a reopening, then a session re-entering a line -/
example :
    let h := ((Hist.openDb ⟨100, true, true⟩ {}).run (fun c => c == ' ') ftsSimple
      [.add "a".toList, .add "b".toList, .add "a".toList, .setMax 2, .reopen ⟨100, true, true⟩]).1
    let h' := (addAll (fun c => c == ' ') h ["a".toList, " x".toList, "c".toList, "a".toList]).1
    hasDup h'.db.rows = false ∧ h'.db.rows.map (·.rowid) = [2, 3, 5, 6] ∧
    (walk (Hist.openDb ⟨100, false, true⟩ h'.db) 10).1.map (·.2) =
      ["a".toList, "c".toList, "a".toList, "b".toList] := by decide

/-- the declarative store's initial state for a configuration (the one the driver judges with) -/
def C20_spec0 (c : Cfg) : Spec.Sq.SState :=
  { max := c.maxLen, ignoreSpace := c.ignoreSpace, ignoreDups := c.ignoreDups }

/-- Refinement over arbitrary operation histories: for EVERY sequence of public operations (adds,
    limits, both toggles, reopenings, abrupt terminations, reads, searches, hints) on a fresh
    database file and every FTS oracle, the lines stored in the table, in rowid order, are exactly
    the lines of the declarative store of Rl/Spec/Sqlite.lean run over the same operations
    (`specAfter`: the state component of `judge`), and the settings agree. The model's session
    ids (one per connection that stored something) and the spec's epochs (one per open) are
    related by a renaming, so "same session" means the same on both sides; holes in the rowids
    play no role. -/
theorem C20_run_refines (ws : Char → Bool) (fts : Text → Text → Bool) (c : Cfg) (ops : List QOp) :
    let r := (Hist.openDb c {}).run ws fts ops
    let s := specAfter ws (C20_spec0 c) ops r.2
    r.1.db.rows.map (·.entry) = Spec.Sq.lines s ∧
    r.1.maxLen = s.max ∧ r.1.ignoreSpace = s.ignoreSpace ∧ r.1.ignoreDups = s.ignoreDups := by
  intro r s
  obtain ⟨_, hs⟩ := run_sim ws fts (fresh_good2 c) (fresh_sim c) ops
  have hl := hs.lines
  refine ⟨?_, hs.max, hs.space, hs.dups⟩
  refine Eq.trans ?_ hl
  simp [Spec.Sq.lines, Hist.abs, key, List.map_map, Function.comp_def, r]

/-- The walk shows exactly the accepted lines, for arbitrary operation histories: after EVERY
    sequence of public operations on a fresh database file, previous-history from the line being
    edited down to the oldest entry shows the lines of the declarative store, newest first, each
    stored line once, and next-history back shows the same entries but the oldest in the opposite
    order — the first and third checks of the spec's `walk` verdict. (`fuel` only bounds the
    loop of the model's walk.) -/
theorem C20_walk_shows_spec_lines (ws : Char → Bool) (fts : Text → Text → Bool) (c : Cfg) (ops : List QOp)
    (fuel : Nat) (hf : ((Hist.openDb c {}).run ws fts ops).1.db.rows.length < fuel) :
    let r := (Hist.openDb c {}).run ws fts ops
    let s := specAfter ws (C20_spec0 c) ops r.2
    (walk r.1 fuel).1.map (·.2) = (Spec.Sq.lines s).reverse ∧
    (walk r.1 fuel).2 = (walk r.1 fuel).1.reverse.drop 1 := by
  intro r s
  have h1 := (C20_run_refines ws fts c ops).1
  rw [C20_walk_run ws fts c ops fuel hf]
  refine ⟨?_, ?_⟩
  · show _ = (Spec.Sq.lines (specAfter ws (C20_spec0 c) ops ((Hist.openDb c {}).run ws fts ops).2)).reverse
    rw [← h1]
    simp only [List.map_reverse, List.map_map]
    congr 1
  · simp only [← List.map_reverse, List.reverse_reverse, ← List.map_drop, List.drop_one]

/-- The model satisfies the declarative spec on the whole store fragment: for EVERY sequence of
    add / set_max_len / ignore_dups / ignore_space / reopen / abrupt-termination / len operations
    on a fresh database file, the spec's judge accepts every answer of the model (`judgeAll` is
    the function the driver runs on the implementation's answers) — in particular every `add`
    verdict, also those of a child that is gone without closing, is the one the refusal rules
    prescribe. -/
theorem C20_store_ops_judged (ws : Char → Bool) (fts : Text → Text → Bool) (c : Cfg) (ops : List QOp)
    (hall : ops.all isStore = true) :
    Spec.Sq.judgeAll ws (C20_spec0 c) 0 (ops.zip ((Hist.openDb c {}).run ws fts ops).2) = none :=
  run_judge ws fts (fresh_good2 c) (fresh_sim c) ops (fun n hn => absurd hn (not_walk_of_all rfl hall n)) 0

example : [QOp.add "a".toList, .dups false, .add "a".toList, .crash ⟨3, true, true⟩ [" b".toList, "c".toList],
    .setMax 1, .len].all isStore = true := by decide

/-- Observation (not a violation of C20 as stated, but a difference to the default history): the
    size limit is enforced by `set_max_len` only — `add` never trims, so the number of stored
    lines may exceed `max_len`. -/
theorem C20_limit_not_enforced_on_add :
    let h := ((Hist.openDb ⟨1, false, true⟩ {}).run (fun c => c == ' ') ftsSimple
      [.add "a".toList, .add "b".toList]).1
    h.maxLen = 1 ∧ h.db.rows.length = 2 := by decide

/-- The model satisfies the declarative spec on every run: for EVERY sequence of public
    operations on a fresh database file — add, set_max_len, both toggles, reopen, abrupt
    termination, len, get, walk, search, starts_with, hint — and every FTS oracle, the spec's
    judge (`Spec.Sq.judgeAll`, the function the driver applies to the real crate's answers)
    accepts every answer of the model: add verdicts follow the refusal rules; `get` returns a
    stored line; the walk shows exactly the accepted lines newest→oldest with strictly decreasing
    indices and the same entries but the oldest on the way back; a search / prefix search answers
    nothing or a stored line that contains / starts with the text ignoring case at the reported
    offset; the hinter does not panic and its hint completes the typed text to a stored line.
    Only hypothesis: the table never holds `walkFuel` = 10000 rows or more (the bound of the walk
    loops in model and harness). -/
theorem C20_model_satisfies_spec (ws : Char → Bool) (fts : Text → Text → Bool) (c : Cfg) (ops : List QOp)
    (hfuel : ∀ n, ((Hist.openDb c {}).run ws fts (ops.take n)).1.db.rows.length < walkFuel) :
    Spec.Sq.judgeAll ws (C20_spec0 c) 0 (ops.zip ((Hist.openDb c {}).run ws fts ops).2) = none :=
  run_judge ws fts (fresh_good2 c) (fresh_sim c) ops (fun n _ => hfuel n) 0

/-- … without any hypothesis when the run contains no `walk`. -/
theorem C20_model_satisfies_spec_nowalk (ws : Char → Bool) (fts : Text → Text → Bool) (c : Cfg) (ops : List QOp)
    (hall : ops.all (fun op => isStore op || isRead op) = true) :
    Spec.Sq.judgeAll ws (C20_spec0 c) 0 (ops.zip ((Hist.openDb c {}).run ws fts ops).2) = none :=
  run_judge ws fts (fresh_good2 c) (fresh_sim c) ops (fun n hn => absurd hn (not_walk_of_all rfl hall n)) 0

example : [QOp.add "ls".toList, .search "\"".toList 0 .forward, .hint "l".toList, .get 0 .reverse,
    .startsWith "L".toList 0 .reverse].all (fun op => isStore op || isRead op) = true := by decide

/-- … and the 10000-row hypothesis is discharged by counting: if fewer than `walkFuel` = 10000
    lines are offered to `add` in the whole run (`offeredAll`: one per `add`, the length of the
    list for an abruptly terminated child), the judge accepts every answer of the model, for
    EVERY operation sequence on a fresh database file and every FTS oracle. -/
theorem C20_model_satisfies_spec_bounded (ws : Char → Bool) (fts : Text → Text → Bool) (c : Cfg) (ops : List QOp)
    (hb : offeredAll ops < walkFuel) :
    Spec.Sq.judgeAll ws (C20_spec0 c) 0 (ops.zip ((Hist.openDb c {}).run ws fts ops).2) = none := by
  apply C20_model_satisfies_spec
  intro n
  have h1 := run_len ws fts (fresh_good2 c) (fresh_sim c) (ops.take n)
  have h2 := offeredAll_take ops n
  have h3 : (Hist.openDb c {}).db.rows.length = 0 := by rw [openDb_fresh]; rfl
  omega

example : offeredAll [QOp.add "a".toList, .walk, .crash ⟨3, true, true⟩ ["b".toList, "c".toList], .walk] < walkFuel := by
  decide
