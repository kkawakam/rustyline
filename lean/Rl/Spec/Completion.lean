/-
  Declarative side of property C15, written from the property text:

  * how a typed line is read: the partial path before the cursor is bare (a backslash makes
    the next character literal, an unescaped word-break character starts a new word), or
    inside an open double quote (backslash makes the next character literal), or inside an
    open single quote (no escape exists)                                  — `lex`
  * "offers exactly the entries of the addressed directory whose names start with the typed
    partial name (directories with a trailing separator)"                  — `expectedEntries`
  * "each replacement, once inserted, is parsed back by the same rules to the same file;
    completing again from the inserted text offers that entry again"       — `fsVerdict`
  * "escaping then unescaping any name is the identity"                     — `escVerdict`
  * "the reported longest common prefix of candidates is a common prefix ending on a
    character boundary" (and is the longest such)                           — `lcpVerdict`

  Nothing here looks at the model's functions; only the data types `Quote`, `Entry` are shared.
-/
import Rl.Text
import Rl.Completion
namespace Rl.Spec.Completion
open Rl.Completion (Quote Entry Listing)

inductive LMode | bare | bareEsc | dq | dqEsc | sq
deriving DecidableEq, Repr

/-- reading of the text before the cursor -/
structure Lexed where
  /-- byte index at which the typed form of the partial path starts -/
  start : Nat := 0
  mode : LMode := .bare
  /-- the partial path that is meant: quotes and escape characters removed -/
  path : Text := []
  /-- no bare backslash stands before a character that needs no escape (the typed text
      escapes the way the completer itself does; other spellings are not claimed) -/
  plain : Bool := true
deriving Repr

def Lexed.ctx (l : Lexed) : Quote :=
  match l.mode with
  | .bare | .bareEsc => .none
  | .dq | .dqEsc => .double
  | .sq => .single

/-- the text ends right after a bare escape character -/
def Lexed.dangling (l : Lexed) : Bool := l.mode = .bareEsc

def lexStep (isBreak : Char → Bool) (st : Lexed) (i : Nat) (c : Char) : Lexed :=
  let after := i + c.utf8Size
  match st.mode with
  | .bare =>
    if c = '\\' then { st with mode := .bareEsc }
    else if c = '"' then { st with mode := .dq, start := after, path := [] }
    else if c = '\'' then { st with mode := .sq, start := after, path := [] }
    else if isBreak c then { st with start := after, path := [] }
    else { st with path := st.path ++ [c] }
  | .bareEsc => { st with mode := .bare, path := st.path ++ [c], plain := st.plain && isBreak c }
  | .dq =>
    if c = '"' then { st with mode := .bare, start := after, path := [] }
    else if c = '\\' then { st with mode := .dqEsc }
    else { st with path := st.path ++ [c] }
  | .dqEsc => { st with mode := .dq, path := st.path ++ [c] }
  | .sq =>
    if c = '\'' then { st with mode := .bare, start := after, path := [] }
    else { st with path := st.path ++ [c] }

def lexGo (isBreak : Char → Bool) : Text → Nat → Lexed → Lexed
  | [], _, st => st
  | c :: t, i, st => lexGo isBreak t (i + c.utf8Size) (lexStep isBreak st i c)

def lex (isBreak : Char → Bool) (t : Text) : Lexed := lexGo isBreak t 0 {}

/-! ### escape / unescape -/

def openQuote : Quote → Text
  | .double => ['"']
  | .single => ['\'']
  | .none => []

/-- `escaped` is what the code wrote for `s` in context `q`, `unescaped` what it read back.
    Read back intact: the unescape function returns `s`, and the reading of the typed line
    `open-quote ++ escaped` is "still in context `q`, path `s`, started right after the quote".
    Inside single quotes names containing a single quote are not considered. -/
def escVerdict (isBreak : Char → Bool) (q : Quote) (s escaped unescaped : Text) : String :=
  if q = .single ∧ s.contains '\'' then "ok"
  else if unescaped ≠ s then "fail:unescape"
  else
    let l := lex isBreak (openQuote q ++ escaped)
    if l.ctx ≠ q ∨ l.dangling then "fail:context"
    else if l.start ≠ blen (openQuote q) then "fail:start"
    else if l.path ≠ s then "fail:reads-back-differently"
    else "ok"

/-! ### the word before the cursor (bare context) -/

/-- the word the completer must find for the text `l` before the cursor: defined when the text
    is bare at its end, not cut after an escape, and plain -/
def expectedWord (isBreak : Char → Bool) (l : Text) : Option (Nat × Text) :=
  let r := lex isBreak l
  if r.ctx = .none ∧ !r.dangling ∧ r.plain then
    (splitAtByte l r.start).map (fun p => (r.start, p.2))
  else none

/-! ### the public helper `extract_word`

  `extract_word` is a public, general-purpose function (third-party completers call it on ordinary
  text); its documented contract knows word-break characters and the escape character only.  A
  quote is an ordinary break character for it (`don't foo` has the word `foo`), so it is judged
  against a reader that does not interpret quotes.  The quote-aware reading above (`lex`,
  `expectedWord`) is what the property demands of the file name completer, and is judged there
  (`fsVerdict`); the two readers differ exactly on lines like `'\'a` (finding D26, repaired in the
  completer). -/

def helperStep (isBreak : Char → Bool) (st : Lexed) (i : Nat) (c : Char) : Lexed :=
  match st.mode with
  | .bareEsc => { st with mode := .bare, path := st.path ++ [c], plain := st.plain && isBreak c }
  | _ =>
    if c = '\\' then { st with mode := .bareEsc }
    else if isBreak c then { st with start := i + c.utf8Size, path := [] }
    else { st with path := st.path ++ [c] }

def helperGo (isBreak : Char → Bool) : Text → Nat → Lexed → Lexed
  | [], _, st => st
  | c :: t, i, st => helperGo isBreak t (i + c.utf8Size) (helperStep isBreak st i c)

/-- the word the public `extract_word` must report for the text `l` before the cursor when a
    backslash escapes: defined when the text is not cut after an escape and is plain -/
def expectedWordHelper (isBreak : Char → Bool) (l : Text) : Option (Nat × Text) :=
  let r := helperGo isBreak l 0 {}
  if !r.dangling ∧ r.plain then
    (splitAtByte l r.start).map (fun p => (r.start, p.2))
  else none

/-- without an escape character: the word starts after the last word-break character -/
def expectedWordNoEsc (isBreak : Char → Bool) (l : Text) : Nat × Text :=
  let w := (l.reverse.takeWhile (fun c => !isBreak c)).reverse
  (blen l - blen w, w)

/-! ### longest common prefix -/

def isPrefix (p t : Text) : Bool := p.isPrefixOf t

/-- `r` = reported prefix.  It must be a prefix (as a sequence of characters, hence ending on a
    character boundary) of every candidate, and no candidate-wide prefix may be one character
    longer.  Nothing reported: allowed only if the candidates share no first character
    (or there is no candidate). -/
def lcpVerdict (cs : List Text) (r : Option Text) : String :=
  match r with
  | some p =>
    if cs.isEmpty then "fail:prefix-of-nothing"
    else if !(cs.all (isPrefix p)) then "fail:not-common"
    else
      match cs.head? with
      | some c0 =>
        match (c0.drop p.length).head? with
        | some x => if cs.all (isPrefix (p ++ [x])) then "fail:not-longest" else "ok"
        | none => "ok"
      | none => "ok"
  | none =>
    match cs.head? with
    | none => "ok"
    | some c0 =>
      match c0.head? with
      | some x => if cs.all (isPrefix [x]) then "fail:missed" else "ok"
      | none => "ok"

/-! ### completion in a directory -/

/-- (directory part including its separator, partial name) -/
def splitLast (path : Text) : Text × Text :=
  let name := (path.reverse.takeWhile (· ≠ '/')).reverse
  (path.take (path.length - name.length), name)

/-- the directory a directory part addresses, as the `dir`/`full` key of the listing; `none`
    when the spelling is outside what is claimed (absolute, empty or dot components) -/
def dirKey (dirPart : Text) : Option Text :=
  if dirPart.isEmpty then some []
  else
    let key := dirPart.dropLast
    let comps := key.splitOn '/'
    if comps.any (fun c => c.isEmpty ∨ c = ['.'] ∨ c = ['.', '.'] ∨ c = ['~']) then none else some key

def textLt : Text → Text → Bool
  | _, [] => false
  | [], _ :: _ => true
  | a :: s, b :: t => a.toNat < b.toNat || (a = b && textLt s t)

def strictlySorted : List Text → Bool
  | [] => true
  | [_] => true
  | a :: b :: t => textLt a b && strictlySorted (b :: t)

/-- entries of the addressed directory whose names start with the partial name -/
def expectedEntries (fs : Listing) (key partial_ : Text) : List Entry :=
  if key.isEmpty ∨ fs.any (fun e => e.isDir ∧ e.full = key) then
    fs.filter (fun e => e.dir = key ∧ partial_.isPrefixOf e.name)
  else []

/-- one candidate as observed: display, replacement, and the re-completion made from
    `line[..start] ++ replacement` (trailing separator removed): (start, displays) -/
structure Cand where
  display : Text
  replacement : Text
  reStart : Nat
  reDisplays : List Text

/-- Verdict on an observed completion `(start, cands)` for the text `l` before the cursor in a
    directory tree `fs`.  `-` = the line is outside the claim (see `lex`). -/
def fsVerdict (isBreak : Char → Bool) (fs : Listing) (l : Text) (start : Nat) (cands : List Cand) :
    String :=
  let r := lex isBreak l
  if r.dangling ∨ (r.ctx = .none ∧ !r.plain) then "-"
  else
    let (dirPart, partial_) := splitLast r.path
    match dirKey dirPart with
    | none => "-"
    | some key =>
      -- inside single quotes names containing a single quote are not considered
      let considered := fun (n : Text) => !(r.ctx = .single ∧ n.contains '\'')
      let exp := (expectedEntries fs key partial_).filter (fun e => considered e.name)
      let cands := cands.filter (fun c => considered c.display)
      if start ≠ r.start then s!"fail:start-{start}-expected-{r.start}"
      else if !(cands.all (fun c => exp.any (fun e => e.name = c.display))) then "fail:offers-a-non-match"
      else if !(exp.all (fun e => cands.any (fun c => c.display = e.name))) then "fail:misses-a-match"
      else if !(strictlySorted (cands.map (·.display))) then "fail:order-or-duplicate"
      else
        match splitAtByte l start with
        | none => "fail:start-off-boundary"
        | some (pre, _) =>
          let bad := cands.findIdx? (fun c =>
            match exp.find? (fun e => e.name = c.display) with
            | none => true
            | some e =>
              let r2 := lex isBreak (pre ++ c.replacement)
              let want := dirPart ++ e.name ++ (if e.isDir then ['/'] else [])
              r2.dangling ∨ r2.start ≠ start ∨ r2.ctx ≠ r.ctx ∨ r2.path ≠ want)
          match bad with
          | some k => s!"fail:replacement-{k}-reads-back-differently"
          | none =>
            match cands.findIdx? (fun c => c.reStart ≠ start ∨ !(c.reDisplays.contains c.display)) with
            | some k => s!"fail:candidate-{k}-not-offered-again"
            | none => "ok"

end Rl.Spec.Completion
