/-
  Declarative specification of the history hinter (attached to property C09), written from the
  documentation of `HistoryHinter` ("suggestion based on previous history entries matching current
  user input") and of `Hinter::hint`, not from the code.  It reuses the declarative `nearest` of
  the store spec (first hit walking down from the start index).
-/
import Rl.Text
import Rl.History
import Rl.Spec.History
namespace Rl.Spec

/-- Expected hint for a context positioned at `idx ≤ es.length` (`idx = es.length`: a fresh line
    being typed).  No hint unless the line is non-empty and the cursor is at its end.  Otherwise
    walk from entry `min idx (es.length - 1)` towards older entries; the first one that starts with
    `line` decides: the hint is its remainder after `line` — unless it *is* the line, then there is
    no hint (the code does not look further back for a longer entry:
    `C09_hinter_stops_at_equal_entry`). -/
def hint (es : List Text) (idx : Nat) (line : Text) (pos : Nat) : Option Text :=
  if line = [] ∨ pos ≠ blen line then none
  else
    match nearest (fun e => line.isPrefixOf e) es (min idx (es.length - 1)) .reverse with
    | some i =>
      match es[i]? with
      | some e => if e = line then none else some (e.drop line.length)
      | none => none
    | none => none

/-- the stored entries after `add`ing the lines in order, by the declarative store spec -/
def addAll (ws : Char → Bool) (s : HState) : List Text → HState
  | [] => s
  | l :: ls => addAll ws (step ws s (.add l)).1 ls

end Rl.Spec
